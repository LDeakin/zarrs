import ZarrsModel.Model.IterApi
import ZarrsModel.Lemmas.Index
import ZarrsModel.Lemmas.IndexApi
import ZarrsModel.Props.C09
/-
C09, the rest of the public API — exactness of the entry points beside those of Props/C09:
explicit index ranges (`Indices::new_with_start_end`, every `RangeBounds` form), the `_unchecked` twins of the checked
operations, the inclusive/exclusive constructors and `to_ranges`/`new_with_ranges`.
-/
namespace Zarrs.C09Api
open Zarrs

/-- EVERY range, of every bound kind and with ends at or beyond the length: the ranged iterator enumerates exactly
the slice `[lo, min(hi, len))` of the C-order enumeration of the subset -/
theorem newBounds_items (s : Subset) (lo hi : Bnd) :
    (Iter.newBounds s lo hi).items = s.indicesRange lo.lo (hi.hi s.numElements) := by
  simp only [Iter.newBounds, Subset.indicesRange]
  exact Iter.items_slice s _ _ (Bnd.hi_le _ hi)

example : (Iter.newBounds ⟨[1, 5], [2, 2]⟩ (.incl 1) (.excl 4)).items = [[1, 6], [2, 5], [2, 6]] := by decide +kernel

/-- `a..b` (`Range`): positions `a ≤ k < b` of the enumeration, whatever `b` (beyond the length: to the end) -/
theorem range_excl (s : Subset) (a b : Nat) :
    (Iter.newBounds s (.incl a) (.excl b)).items = (s.indices.take b).drop a := by
  rw [newBounds_items]
  exact s.indicesRange_min a b

example : (Iter.newBounds ⟨[1, 5], [2, 2]⟩ (.incl 1) (.excl 9)).items = [[1, 6], [2, 5], [2, 6]] := by decide +kernel

/-- `a..=b` (`RangeInclusive`): positions `a ≤ k ≤ b`; an inclusive end at or beyond the number of elements is
the end of the enumeration — no item past it -/
theorem range_incl (s : Subset) (a b : Nat) :
    (Iter.newBounds s (.incl a) (.incl b)).items = (s.indices.take (b + 1)).drop a := by
  rw [newBounds_items]
  exact s.indicesRange_min a (b + 1)

example : (Iter.newBounds ⟨[1, 5], [2, 2]⟩ (.incl 2) (.incl 4)).items = [[2, 5], [2, 6]] ∧
    (Iter.newBounds ⟨[1, 5], [2, 2]⟩ (.unb) (.incl 0)).items = [[1, 5]] := by decide +kernel

/-- `a..` (`RangeFrom`) -/
theorem range_from (s : Subset) (a : Nat) :
    (Iter.newBounds s (.incl a) .unb).items = s.indices.drop a := by
  rw [newBounds_items]
  exact s.indicesRange_end a

/-- `..` (`RangeFull`): the whole enumeration, i.e. `Indices::new` -/
theorem range_full (s : Subset) : (Iter.newBounds s .unb .unb).items = s.indices ∧
    Iter.newBounds s .unb .unb = Iter.new s := by
  refine ⟨?_, rfl⟩
  rw [newBounds_items]
  exact s.indicesRange_end 0

/-- `..b` / `..=b` (`RangeTo`, `RangeToInclusive`) -/
theorem range_to (s : Subset) (b : Nat) :
    (Iter.newBounds s .unb (.excl b)).items = s.indices.take b ∧
    (Iter.newBounds s .unb (.incl b)).items = s.indices.take (b + 1) := by
  rw [newBounds_items, newBounds_items]
  exact ⟨s.indicesRange_min 0 b, s.indicesRange_min 0 (b + 1)⟩

/-- an excluded start (`(Bound::Excluded(a), _)`) is the included start `a + 1` -/
theorem range_excl_start (s : Subset) (a : Nat) (hi : Bnd) :
    Iter.newBounds s (.excl a) hi = Iter.newBounds s (.incl (a + 1)) hi := rfl

/-- the reported `len()` is the exact number of items, for every range; explicitly
`min(end, n) − start` (zero for a reversed or out-of-range range) -/
theorem newBounds_len (s : Subset) (lo hi : Bnd) :
    (Iter.newBounds s lo hi).len = (Iter.newBounds s lo hi).items.length ∧
    (Iter.newBounds s lo hi).len = hi.hi s.numElements - lo.lo ∧
    (Iter.newBounds s lo hi).len ≤ s.numElements := by
  refine ⟨(Iter.items_length _).symm, rfl, ?_⟩
  have := Bnd.hi_le s.numElements hi
  simp only [Iter.len, Iter.newBounds]; omega

example : (Iter.newBounds ⟨[1, 5], [2, 2]⟩ (.incl 5) (.excl 1)).len = 0 ∧
    (Iter.newBounds ⟨[1, 5], [2, 2]⟩ (.incl 1) (.incl 7)).len = 3 := by decide +kernel

/-- a ranged iterator visits only elements of the subset, each at most once, in C order -/
theorem newBounds_sound (s : Subset) (h : s.wf = true) (lo hi : Bnd) :
    (Iter.newBounds s lo hi).items.Pairwise (fun a b => lexLt a b = true) ∧
    ∀ i ∈ (Iter.newBounds s lo hi).items, s.contains i = true := by
  rw [newBounds_items]
  refine ⟨((s.indices_pairwise h).sublist (List.drop_sublist ..)).sublist (List.take_sublist ..), ?_⟩
  intro i hi'
  exact (s.mem_indices h i).mp (List.mem_of_mem_drop (List.mem_of_mem_take hi'))

example : (Subset.mk [1, 5] [2, 2]).wf = true := by decide +kernel

/-- consumption in any direction and rayon splitting of a ranged iterator are the generic `Iter` facts of
Props/C09 (`iter_any_direction`, `split_tree`) applied to the slice: fronts ++ rest ++ reversed backs = the slice -/
theorem newBounds_any_direction (s : Subset) (lo hi : Bnd) (dirs : List Bool) :
    let it := Iter.newBounds s lo hi
    (it.run dirs).1 ++ (it.run dirs).2.2.items ++ (it.run dirs).2.1.reverse =
      s.indicesRange lo.lo (hi.hi s.numElements) := by
  intro it
  rw [← newBounds_items]
  exact (C09.iter_any_direction it dirs).1

theorem newBounds_split (s : Subset) (lo hi : Bnd) (t : SplitTree)
    (h : t.fits (Iter.newBounds s lo hi).len = true) :
    (t.leaves (Iter.newBounds s lo hi)).flatMap Iter.items = s.indicesRange lo.lo (hi.hi s.numElements) := by
  rw [← newBounds_items]
  exact C09.split_tree t _ h

example : (SplitTree.node 1 .leaf (.node 1 .leaf .leaf)).fits
    (Iter.newBounds ⟨[1, 5], [2, 2]⟩ (.incl 1) (.incl 9)).len = true := by decide +kernel

/-- `byte_ranges_unchecked` computes the same list as the body of `byte_ranges`, for every input -/
theorem byteRangesUnchecked_eq (s : Subset) (arr : Shape) (es : Nat) :
    s.byteRangesUnchecked arr es = s.byteRanges arr es := rfl

/-- on an encapsulating array shape the checked function succeeds with exactly the unchecked result (and fails
otherwise) -/
theorem byteRanges_checked_unchecked (s : Subset) (arr : Shape) (es : Nat) :
    s.byteRangesChecked arr es = (if s.inboundsShape arr then some (s.byteRangesUnchecked arr es) else none) := rfl

/-- hence the unchecked byte ranges of an in-bounds subset cover exactly the bytes of its elements, in order, with
the element size as the scale of both offset and length -/
theorem byteRangesUnchecked_exact (s : Subset) (arr : Shape) (es : Nat) (h : s.wf = true)
    (hb : s.inboundsShape arr = true) :
    (s.byteRangesUnchecked arr es).flatMap (fun p => List.range' p.1 p.2) =
    (s.linearised arr).flatMap (fun k => List.range' (k * es) es) := by
  rw [byteRangesUnchecked_eq]; exact C09.byteRanges_exact s arr es h hb

example : (Subset.mk [1, 0, 0] [2, 2, 5]).wf = true ∧
    (Subset.mk [1, 0, 0] [2, 2, 5]).inboundsShape [4, 3, 5] = true ∧
    (Subset.mk [1, 1] [2, 2]).byteRangesUnchecked [4, 4] 3 = [(15, 6), (27, 6)] := by decide +kernel

/-- every range has the same length: `contiguous_elements * element_size`, and starts at a multiple of the element size -/
theorem byteRangesUnchecked_shape (s : Subset) (arr : Shape) (es : Nat) :
    ∀ p ∈ s.byteRangesUnchecked arr es, p.2 = (s.contiguous arr).run * es ∧ ∃ k, p.1 = k * es := by
  intro p hp
  simp only [Subset.byteRangesUnchecked, List.map_map, List.mem_map, Function.comp] at hp
  obtain ⟨i, _, rfl⟩ := hp
  exact ⟨rfl, _, rfl⟩

/-- `extract_elements` = guard + `extract_elements_unchecked`, which is the element-by-element gather -/
theorem extractChecked_exact {α} (s : Subset) (arr : Shape) (xs : List α) (h : s.wf = true) :
    (s.extractChecked arr xs).map (·.map some) =
      (if xs.length == prod arr && s.inboundsShape arr then some (s.gather arr xs) else none) := by
  simp only [Subset.extractChecked]
  split
  · rename_i hc
    simp only [Bool.and_eq_true, beq_iff_eq] at hc
    simp only [Option.map_some, C09.extract_exact s arr xs h hc.2 hc.1]
  · rfl

/-- `new_with_start_end_inc(start, end)` (when accepted: equal lengths, `start ≤ end`) contains exactly the indices
between `start` and `end`, both inclusive; the exclusive constructor with `end + 1` builds the same subset -/
theorem ofStartEndInc_mem (st e : Idx) (h : Subset.startEndOk st e = true) (i : Idx) :
    ((Subset.ofStartEndInc st e).contains i = true ↔
      (Subset.allLe st i = true ∧ Subset.allLe i e = true ∧ i.length = st.length)) ∧
    Subset.ofStartEndInc st e = Subset.ofStartEndExc st (e.map (· + 1)) := by
  simp only [Subset.startEndOk, Bool.and_eq_true, beq_iff_eq, Bool.not_eq_true'] at h
  have hle := allLe_of_zipUnderflow h.2
  refine ⟨mem_ofStartEndInc i st e h.1 hle, ?_⟩
  exact congrArg (Subset.mk st) (zipSub_map_succ st e hle)

example : Subset.startEndOk [1, 2] [3, 2] = true ∧
    Subset.ofStartEndInc [1, 2] [3, 2] = ⟨[1, 2], [3, 1]⟩ := by decide +kernel

/-- `to_ranges` / `new_with_ranges` round-trip -/
theorem ofRanges_toRanges (s : Subset) (h : s.wf = true) : Subset.ofRanges s.toRanges = s := by
  rw [Subset.wf_iff] at h
  obtain ⟨st, sh⟩ := s
  have := zip_toRanges st sh h
  simp only [Subset.ofRanges, Subset.toRanges, this.1, this.2]

example : (Subset.mk [1, 2] [3, 0]).wf = true ∧ (Subset.mk [1, 2] [3, 0]).toRanges = [(1, 4), (2, 2)] := by decide +kernel

end Zarrs.C09Api
