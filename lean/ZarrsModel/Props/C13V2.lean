import ZarrsModel.Model.MetaV2
import ZarrsModel.Lemmas.MetaV2
import ZarrsModel.Lemmas.MetaV2Parse
import ZarrsModel.Lemmas.MetaV2Wf
import ZarrsModel.Lemmas.MetaV2ConvWf
import ZarrsModel.Props.C13V2Conv
import ZarrsModel.Props.C13
/-
C13 (V2 part) — Zarr V2 metadata documents persist faithfully.

Documents: `MetaV2`, `DType`, `FillV2`, `ArrayDocV2`, `GroupDocV2` (`Model/MetaV2.lean`) model what `serde` reads and
writes for `zarrs_metadata::v2::{ArrayMetadataV2, GroupMetadataV2}`; storing is `toText` (print of `toJ`), opening
is `ofText` (parse, then `ofJ`); `storeTexts`/`openTexts` add the `.zattrs` split of `Array::store_metadata` /
`Array::open`.  The V2 -> V3 interpretation comes first, in `Props/C13V2Conv.lean`, which this file imports: the
example documents `exV2` / `exV3` are defined there.
-/
namespace Zarrs.C13V2
open Zarrs Zarrs.Json Zarrs.Meta Zarrs.MetaV2

/-- a V2 array document in the form the round trip needs (`ArrayDocV2.shapeOk`: `u64` / non-zero `u64` tokens; every
    structured data type field has a shape; a string fill value is not one of `NaN`/`Infinity`/`-Infinity`;
    configurations without an `id` key; filters not the empty list; additional fields sorted by key, outside the named
    fields, objects without `must_understand`, none of them the `"node_type": "array"` tag) holding well-formed JSON
    (`ArrayDocV2.wfParts`: number tokens match the grammar, strings are UTF-8, object keys are distinct) -/
def ArrayDocV2.ok (d : ArrayDocV2) : Prop := d.shapeOk ∧ d.wfParts

def GroupDocV2.ok (d : GroupDocV2) : Prop := d.shapeOk ∧ d.wfParts

/-- no additional field is called `node_type` (such a field is written next to the tag: a repeated key in the text) -/
def noNodeTypeField (d : ArrayDocV2) : Prop := ∀ kv ∈ d.extra, kv.1 ≠ kNodeType

def exField : AField := ⟨.obj [(ascii "a", .num ['1'])], false⟩

def exV2x : ArrayDocV2 := { exV2 with extra := [(ascii "my_ext", exField), (ascii "zz", ⟨.str (ascii "v"), true⟩)] }

theorem exV2x_ok : ArrayDocV2.ok exV2x := by
  have hs : exV2x.shapeOk := by
    refine ⟨by decide +kernel, by decide +kernel, trivial, ?_, trivial, ⟨(by intro e; cases e), ?_⟩, by decide +kernel, ?_,
      by unfold sortedKeys; decide +kernel, ?_⟩
    · intro m hm; cases hm; exact (lookup_eq_none_iff _ _).2 (by decide +kernel)
    · intro fs hfs f hf
      cases hfs
      simp only [List.mem_cons, List.not_mem_nil, or_false] at hf
      subst hf
      exact (lookup_eq_none_iff _ _).2 (by decide +kernel)
    · intro kv hkv
      simp only [exV2x, List.mem_cons, List.not_mem_nil, or_false] at hkv
      rcases hkv with rfl | rfl
      · exact (lookup_eq_none_iff _ _).2 (by decide +kernel)
      · rfl
    · intro kv hkv
      simp only [exV2x, List.mem_cons, List.not_mem_nil, or_false] at hkv
      rcases hkv with rfl | rfl <;> rfl
  exact ⟨hs, arrayDocV2_ofJ_wfParts _ (J.wf_of_check _ (by decide +kernel)) _ (arrayDocV2_ofJ_toJ _ hs)⟩

theorem exV2x_conv : v2ToV3 exV2x = .ok { exV3 with extra := exV2x.extra } := v2ToV3_exV2_extra _

theorem exV2x_noNodeType : noNodeTypeField exV2x := by
  intro kv hkv
  simp only [exV2x, List.mem_cons, List.not_mem_nil, or_false] at hkv
  rcases hkv with rfl | rfl <;> decide

def exGroupV2 : GroupDocV2 :=
  ⟨[(ascii "title", .str (ascii "demo"))], [(ascii "my_ext", exField), (ascii "node_type", ⟨.str (ascii "group"), true⟩)]⟩

theorem exGroupV2_ok : GroupDocV2.ok exGroupV2 := by
  have hs : exGroupV2.shapeOk := by
    refine ⟨by decide +kernel, ?_, by unfold sortedKeys; decide +kernel⟩
    intro kv hkv
    simp only [exGroupV2, List.mem_cons, List.not_mem_nil, or_false] at hkv
    rcases hkv with rfl | rfl
    · exact (lookup_eq_none_iff _ _).2 (by decide +kernel)
    · rfl
  exact ⟨hs, groupDocV2_ofJ_wfParts _ (J.wf_of_check _ (by decide +kernel)) _ (groupDocV2_ofJ_toJ _ hs)⟩

/-- **what is written for a `MetadataV2` reads back as the same value**: the `id` and the configuration keys in order -/
theorem metaV2_roundtrip (m : MetaV2) (h : lookup m.config kId = none) : MetaV2.ofJ m.toJ = some m := by
  exact metaV2_ofJ_toJ m h
example : lookup (⟨ascii "zlib", [(ascii "level", .num ['1'])]⟩ : MetaV2).config kId = none := by decide
/-- parsing leaves a configuration without `id`, so re-serialising a parsed `MetadataV2` is a fixed point -/
theorem metaV2_fixed (j : J) (m : MetaV2) (h : MetaV2.ofJ j = some m) : MetaV2.ofJ m.toJ = some m := by
  exact metaV2_ofJ_toJ m (metaV2_ofJ_shapeOk j m h)
example : ∃ j m, MetaV2.ofJ j = some m :=
  ⟨.obj [(ascii "level", .num ['1']), (ascii "id", .str (ascii "zlib"))], ⟨ascii "zlib", [(ascii "level", .num ['1'])]⟩, by rfl⟩

/-- **storing then opening gives the same V2 array metadata** (at the JSON level): shape, chunks, data type,
compressor and filters with their configurations in order, fill value, order, separator, attributes in order,
additional fields -/
theorem arrayDocV2_roundtrip (d : ArrayDocV2) (h : ArrayDocV2.ok d) : ArrayDocV2.ofJ d.toJ = some d := by
  exact arrayDocV2_ofJ_toJ d h.1
example : ArrayDocV2.ok exV2x := exV2x_ok

/-- **the same through the stored bytes** (when no additional field is called `node_type`) -/
theorem arrayDocV2_text_roundtrip (d : ArrayDocV2) (h : ArrayDocV2.ok d) (hn : noNodeTypeField d) :
    ArrayDocV2.ofText d.toText = some d := by
  exact arrayDocV2_ofText_toText d h.1 h.2 hn
example : ArrayDocV2.ok exV2x ∧ noNodeTypeField exV2x := ⟨exV2x_ok, exV2x_noNodeType⟩

/-- **parsing yields a well-formed document** (up to the empty filter list, which is written as `null`) when every
structured data type field has a shape -/
theorem arrayDocV2_ofJ_ok (j : J) (hj : j.wf) (d : ArrayDocV2) (h : ArrayDocV2.ofJ j = some d) (hs : d.dtype.hasShapes) :
    ArrayDocV2.ok d.norm := by
  exact ⟨arrayDocV2_ofJ_shapeOk j d h hs, ArrayDocV2.wfParts_norm d (arrayDocV2_ofJ_wfParts j hj d h)⟩
example : ∃ j d, j.wf ∧ ArrayDocV2.ofJ j = some d ∧ d.dtype.hasShapes :=
  ⟨exV2x.toJ, exV2x, arrayDocV2_toJ_wf exV2x exV2x_ok.1 exV2x_ok.2 exV2x_noNodeType, arrayDocV2_roundtrip exV2x exV2x_ok, trivial⟩

/-- **re-serialising a parsed V2 array document is a fixed point**, for every JSON value the reader accepts (also one
with a `node_type` additional field, where the written object repeats the key) whose structured data type fields all
have a shape: what is written reads back (as the document with `filters: []` normalised to no filters) and is written
as the same JSON again -/
theorem arrayDocV2_fixed (j : J) (d : ArrayDocV2) (h : ArrayDocV2.ofJ j = some d) (hs : d.dtype.hasShapes) :
    ArrayDocV2.ofJ d.toJ = some d.norm ∧ d.norm.toJ = d.toJ ∧
    (∀ d', ArrayDocV2.ofJ d.toJ = some d' → d'.toJ = d.toJ) := by
  have hr := arrayDocV2_ofJ_toJ d.norm (arrayDocV2_ofJ_shapeOk j d h hs)
  rw [ArrayDocV2.toJ_norm] at hr
  refine ⟨hr, ArrayDocV2.toJ_norm d, ?_⟩
  intro d' hd'
  rw [hr] at hd'
  cases hd'
  exact ArrayDocV2.toJ_norm d
example : ∃ j d, ArrayDocV2.ofJ j = some d ∧ d.dtype.hasShapes :=
  ⟨exV2x.toJ, exV2x, arrayDocV2_roundtrip exV2x exV2x_ok, trivial⟩

/-- **the same through the stored bytes**: the text written for a parsed document reads back and is written as the
same text again -/
theorem arrayDocV2_text_fixed (j : J) (hj : j.wf) (d : ArrayDocV2) (h : ArrayDocV2.ofJ j = some d) (hs : d.dtype.hasShapes)
    (hn : noNodeTypeField d) :
    ArrayDocV2.ofText d.toText = some d.norm ∧ d.norm.toText = d.toText := by
  have hok := arrayDocV2_ofJ_ok j hj d h hs
  have ht : d.norm.toText = d.toText := by unfold ArrayDocV2.toText; rw [ArrayDocV2.toJ_norm]
  refine ⟨?_, ht⟩
  rw [← ht]
  exact arrayDocV2_text_roundtrip d.norm hok hn
example : ∃ j d, j.wf ∧ ArrayDocV2.ofJ j = some d ∧ d.dtype.hasShapes ∧ noNodeTypeField d :=
  ⟨exV2x.toJ, exV2x, arrayDocV2_toJ_wf exV2x exV2x_ok.1 exV2x_ok.2 exV2x_noNodeType, arrayDocV2_roundtrip exV2x exV2x_ok, trivial,
    exV2x_noNodeType⟩

/-- the reader's treatment of structured data types is NOT a fixed point outside that hypothesis: a field written with
a `null` shape is accepted, written back with two elements, and the two-element form is rejected (as is the usual
two-element form on input).  The document
`{"zarr_format":2,"shape":[2],"chunks":[1],"dtype":[["a","<i4",null]],"fill_value":0,"order":"C"}` -/
theorem arrayDocV2_null_shape_not_reread :
    ∃ j d, j.wf ∧ ArrayDocV2.ofJ j = some d ∧ ArrayDocV2.ofJ d.toJ = none := by
  refine ⟨.obj [(ascii "zarr_format", .num ['2']), (ascii "shape", .arr [.num ['2']]), (ascii "chunks", .arr [.num ['1']]),
      (ascii "dtype", .arr [.arr [.str (ascii "a"), .str (ascii "<i4"), .null]]), (ascii "fill_value", .num ['0']),
      (ascii "order", .str (ascii "C"))],
    ⟨[['2']], [['1']], .structured [⟨ascii "a", ascii "<i4", none⟩], none, .num ['0'], .C, none, .dot, [], []⟩,
    J.wf_of_check _ (by decide +kernel), by rfl, by rfl⟩

/-- **what a parsed V2 array document holds is what the text said**: shape and chunks are the lists under their keys,
every additional field comes from a key outside the named fields, and the `"node_type": "array"` tag is never one -/
theorem arrayDocV2_fields (o : Obj) (d : ArrayDocV2) (h : ArrayDocV2.ofJ (.obj o) = some d) :
    lookup o (ascii "zarr_format") = some (.num ['2']) ∧
    lookup o (ascii "shape") = some (.arr (d.shape.map .num)) ∧
    lookup o (ascii "chunks") = some (.arr (d.chunks.map .num)) ∧
    (∀ t ∈ d.chunks, ∃ n, asU64 t = some n ∧ n ≠ 0) ∧
    (∀ k a, (k, a) ∈ d.extra → ∃ v, (k, v) ∈ o ∧ k ∉ arrayKeysV2 ∧ a = AField.ofJ v) ∧
    (∀ kv ∈ d.extra, isArrayTag kv = false) := by
  have hi := arrayDocV2_ofJ_inv o d h
  refine ⟨hi.zf, ((numList_iff isU64Tok _ _).1 hi.shape).1, ((numList_iff isNzU64Tok _ _).1 hi.chunks).1, ?_, ?_, ?_⟩
  · intro t ht
    have := ((numList_iff isNzU64Tok _ _).1 hi.chunks).2 t ht
    unfold isNzU64Tok at this
    cases hn : asU64 t with
    | none => rw [hn] at this; cases this
    | some n => rw [hn] at this; exact ⟨n, rfl, by simpa using this⟩
  · intro k a hka
    rw [hi.extra] at hka
    have hm := (List.mem_filter.1 hka).1
    rw [extrasV2_eq] at hm
    obtain ⟨v, hv, hk, e⟩ := mem_extrasOf arrayKeysV2 o (k, a) hm
    exact ⟨v, hv, hk, e⟩
  · rw [hi.extra]; exact noArrayTag_dropArrayTag _
example : ∃ o d, ArrayDocV2.ofJ (.obj o) = some d := ⟨_, exV2x, by rw [← ArrayDocV2.toJ_eq]; exact arrayDocV2_roundtrip exV2x exV2x_ok⟩

/-- **rejection**: an unknown top-level field (not called `node_type`) without `"must_understand": false` makes the V2
array unopenable (`Array::validate_metadata`), whatever the rest of the document -/
theorem unknown_field_rejected_v2 (o : Obj) (d : ArrayDocV2) (h : ArrayDocV2.ofJ (.obj o) = some d)
    (hd : keysDistinct o) (k : Str) (v : J) (hk : (k, v) ∈ o) (hu : k ∉ arrayKeysV2) (hnt : k ≠ kNodeType)
    (hv : ¬ ∃ o', v = .obj o' ∧ lookup o' kMustUnderstand = some (.bool false)) :
    openOkV2 d = false := by
  have hi := arrayDocV2_ofJ_inv o d h
  have hm0 : (k, AField.ofJ v) ∈ extrasV2 arrayKeysV2 o := by
    rw [extrasV2_eq]; exact extrasOf_mem arrayKeysV2 o hd k v hk hu
  have hm : (k, AField.ofJ v) ∈ d.extra := by
    rw [hi.extra]
    unfold dropArrayTag
    rw [List.mem_filter]
    refine ⟨hm0, ?_⟩
    have : (k == kNodeType) = false := by simpa using hnt
    simp [isArrayTag, this]
  have hmu : (AField.ofJ v).mu = true := by rwa [← Bool.not_eq_false, afield_ofJ_mu_false_iff]
  exact Bool.eq_false_iff.2 fun h => absurd (((openOkV2_iff d).1 h).2.1 _ hm) (by simp [hmu])
example : ∃ o d k v, ArrayDocV2.ofJ (.obj o) = some d ∧ keysDistinct o ∧ (k, v) ∈ o ∧ k ∉ arrayKeysV2 ∧ k ≠ kNodeType ∧
    ¬ ∃ o', v = .obj o' ∧ lookup o' kMustUnderstand = some (.bool false) :=
  ⟨_, exV2x, ascii "zz", .str (ascii "v"),
    by rw [← ArrayDocV2.toJ_eq]; exact arrayDocV2_roundtrip exV2x exV2x_ok,
    ((obj_wf_iff _).1 (by rw [← ArrayDocV2.toJ_eq]; exact arrayDocV2_toJ_wf exV2x exV2x_ok.1 exV2x_ok.2 exV2x_noNodeType)).2,
    List.mem_append_right _ (by simp [extraKVs, exV2x, AField.toJ]), by decide, by decide, by rintro ⟨o', h, _⟩; cases h⟩

/-- **storing then opening a V2 array** (`Array::store_metadata`, `Array::open`): the attributes travel through
`.zattrs` (written only when there are any), everything else through `.zarray`, and opening puts them together again -/
theorem arrayDocV2_store_open (d : ArrayDocV2) (h : ArrayDocV2.ok d) (hn : noNodeTypeField d) :
    ArrayDocV2.openTexts d.storeTexts.1 d.storeTexts.2 = some d := by
  exact arrayDocV2_openTexts_storeTexts d h.1 h.2 hn
example : ArrayDocV2.ok exV2x ∧ noNodeTypeField exV2x := ⟨exV2x_ok, exV2x_noNodeType⟩
example : exV2x.stored.2 = some (.obj [(ascii "title", .str (ascii "demo"))]) := by rfl

/-- **what the V2 -> V3 conversion produces from a well-formed V2 document is a well-formed V3 document**, so the V3
theorems of `Props/C13.lean` apply to it: stored as `zarr.json` it reads back as the same metadata.  The hypothesis
`hk` excludes V2 additional fields named like a V3 array field (`codecs`, `node_type`, `dimension_names`, …): the
conversion carries them over and the V3 document would hold that key twice. -/
theorem v2ToV3_persists (d : ArrayDocV2) (h : ArrayDocV2.ok d) (v3 : ArrayDoc) (hc : v2ToV3 d = .ok v3)
    (hk : ∀ kv ∈ d.extra, kv.1 ∉ arrayKeys) :
    C13.ArrayDoc.ok v3 ∧ ArrayDoc.ofJ v3.toJ = some v3 ∧ ArrayDoc.ofText v3.toText = some v3 := by
  have hg := v2ToV3_good d h.1 h.2 v3 hc hk
  exact ⟨(C13.arrayDoc_ok_iff v3).2 hg, arrayDoc_ofJ_toJ v3 hg.shapeOk, arrayDoc_ofText_toText v3 hg⟩
example : ArrayDocV2.ok exV2x ∧ (∃ v3, v2ToV3 exV2x = .ok v3) ∧ ∀ kv ∈ exV2x.extra, kv.1 ∉ arrayKeys :=
  ⟨exV2x_ok, ⟨_, exV2x_conv⟩, by
    intro kv hkv
    simp only [exV2x, List.mem_cons, List.not_mem_nil, or_false] at hkv
    rcases hkv with rfl | rfl <;> decide⟩

theorem groupDocV2_roundtrip (d : GroupDocV2) (h : GroupDocV2.ok d) : GroupDocV2.ofJ d.toJ = some d := by
  exact groupDocV2_ofJ_toJ d h.1
example : GroupDocV2.ok exGroupV2 := exGroupV2_ok
theorem groupDocV2_text_roundtrip (d : GroupDocV2) (h : GroupDocV2.ok d) : GroupDocV2.ofText d.toText = some d := by
  exact groupDocV2_ofText_toText d h.1 h.2
example : GroupDocV2.ok exGroupV2 := exGroupV2_ok
theorem groupDocV2_ofJ_ok (j : J) (hj : j.wf) (d : GroupDocV2) (h : GroupDocV2.ofJ j = some d) : GroupDocV2.ok d := by
  exact ⟨groupDocV2_ofJ_shapeOk j d h, groupDocV2_ofJ_wfParts j hj d h⟩
example : ∃ j d, j.wf ∧ GroupDocV2.ofJ j = some d :=
  ⟨exGroupV2.toJ, exGroupV2, groupDocV2_toJ_wf exGroupV2 exGroupV2_ok.1 exGroupV2_ok.2, groupDocV2_roundtrip exGroupV2 exGroupV2_ok⟩
/-- **re-serialising a parsed V2 group document is a fixed point**, for every JSON value the reader accepts -/
theorem groupDocV2_fixed (j : J) (d : GroupDocV2) (h : GroupDocV2.ofJ j = some d) :
    GroupDocV2.ofJ d.toJ = some d ∧ (∀ d', GroupDocV2.ofJ d.toJ = some d' → d'.toJ = d.toJ) := by
  have hr := groupDocV2_ofJ_toJ d (groupDocV2_ofJ_shapeOk j d h)
  refine ⟨hr, ?_⟩
  intro d' hd'
  rw [hr] at hd'
  cases hd'
  rfl
example : ∃ j d, GroupDocV2.ofJ j = some d := ⟨exGroupV2.toJ, exGroupV2, groupDocV2_roundtrip exGroupV2 exGroupV2_ok⟩
/-- through the stored bytes -/
theorem groupDocV2_text_fixed (j : J) (hj : j.wf) (d : GroupDocV2) (h : GroupDocV2.ofJ j = some d) :
    GroupDocV2.ofText d.toText = some d := by
  exact groupDocV2_text_roundtrip d (groupDocV2_ofJ_ok j hj d h)
example : ∃ j d, j.wf ∧ GroupDocV2.ofJ j = some d :=
  ⟨exGroupV2.toJ, exGroupV2, groupDocV2_toJ_wf exGroupV2 exGroupV2_ok.1 exGroupV2_ok.2, groupDocV2_roundtrip exGroupV2 exGroupV2_ok⟩
/-- the conversion to V3 carries attributes and additional fields over, and what it gives opens exactly when no
additional field must be understood -/
theorem groupV2ToV3_carried (d : GroupDocV2) :
    (groupV2ToV3 d).attrs = d.attrs ∧ (groupV2ToV3 d).extra = d.extra ∧
    (groupOk (groupV2ToV3 d) = true ↔ ∀ kv ∈ d.extra, kv.2.mu = false) := by
  refine ⟨rfl, rfl, ?_⟩
  unfold groupOk groupV2ToV3
  simp [List.all_eq_true]
example : groupOk (groupV2ToV3 exGroupV2) = false := by decide +kernel

end Zarrs.C13V2
