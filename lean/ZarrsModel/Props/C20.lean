import ZarrsModel.Model.Fault
import ZarrsModel.Model.Cache
import ZarrsModel.Lemmas.Fault
import ZarrsModel.Lemmas.InterleaveArray
import ZarrsModel.Props.C01
import ZarrsModel.Props.C06
/-
C20 — store failures surface as errors and leave chunk-granular state.
-/
namespace Zarrs.C20
open Zarrs

variable {α : Type} [DecidableEq α]

def exRegion : Subset := ⟨[1, 2], [3, 4]⟩
def exData : List Nat := [0, 1, 2, 3, 4, 5, 6, 7, 8, 9, 10, 11]
def exChunks : Subset := ⟨[0, 0], [2, 2]⟩
def exStore : KV := [(C01.exKey [0, 0], [1, 2, 3, 4, 5, 6]), (C01.exKey [2, 2], [9, 9, 9, 9, 9, 9])]
def exFull : KV :=
  [(C01.exKey [0, 0], [1, 2, 3, 4, 5, 0]), (C01.exKey [0, 1], [0, 0, 0, 1, 2, 3]),
   (C01.exKey [1, 0], [0, 0, 4, 0, 0, 8]), (C01.exKey [1, 1], [5, 6, 7, 9, 10, 11]),
   (C01.exKey [2, 2], [9, 9, 9, 9, 9, 9])]
def exDone : List Idx := [[0, 1], [1, 0]]
def exPartial : KV :=
  [(C01.exKey [0, 0], [1, 2, 3, 4, 5, 6]), (C01.exKey [0, 1], [0, 0, 0, 1, 2, 3]),
   (C01.exKey [1, 0], [0, 0, 4, 0, 0, 8]), (C01.exKey [2, 2], [9, 9, 9, 9, 9, 9])]

theorem exChunks_val : C01.exCfg.grid.chunksInArraySubset exRegion C01.exCfg.shape = some exChunks := by
  decide +kernel
theorem exFull_val :
    ArrCfg.foldOpt (C01.exCfg.storeArraySubsetChunk exRegion exData) exStore exChunks.indices = some exFull := by
  decide +kernel
theorem exPartial_val :
    ArrCfg.foldOpt (C01.exCfg.storeArraySubsetChunk exRegion exData) exStore exDone = some exPartial := by
  decide +kernel

/-- **a failing store operation makes the method fail**: if the per-chunk step of any chunk that is reached fails,
the fold (the method) returns an error, never success -/
theorem fault_is_error {σ} (F : Idx → Bool) (step : σ → Idx → Option σ) (s : σ) (chunks : List Idx)
    (h : ∃ c ∈ chunks, F c = true) : ArrCfg.foldOpt (withFaults F step) s chunks = none := by
  induction chunks generalizing s with
  | nil =>
    obtain ⟨c, hc, _⟩ := h
    cases hc
  | cons b bs ih =>
    simp only [ArrCfg.foldOpt, withFaults]
    by_cases hb : F b = true
    · rw [if_pos hb]
    · rw [if_neg hb]
      cases step s b with
      | none => rfl
      | some s1 =>
        apply ih
        obtain ⟨c, hc, hF⟩ := h
        rcases List.mem_cons.1 hc with rfl | hc'
        · exact absurd hF hb
        · exact ⟨c, hc', hF⟩
example : (∃ c ∈ exChunks.indices, (fun c => c == [1, 0]) c = true) ∧
    ArrCfg.foldOpt (withFaults (fun c => c == [1, 0]) (C01.exCfg.storeArraySubsetChunk exRegion exData))
      exStore exChunks.indices = none :=
  ⟨⟨[1, 0], by decide +kernel, by decide +kernel⟩, by decide +kernel⟩

theorem no_fault_same {σ} (step : σ → Idx → Option σ) (s : σ) (chunks : List Idx) :
    ArrCfg.foldOpt (withFaults (fun _ => false) step) s chunks = ArrCfg.foldOpt step s chunks :=
  ArrCfg.foldOpt_congr _ _ chunks (fun _ _ _ => by simp [withFaults]) s

/-- the multi-chunk branch of `store_array_subset` is the fold of its per-chunk step -/
theorem storeArraySubset_is_fold (cfg : ArrCfg α) (st : KV) (region : Subset) (data : List α) (chunks : Subset)
    (hr : region.rank = cfg.shape.length) (hc : cfg.grid.chunksInArraySubset region cfg.shape = some chunks)
    (hn : chunks.numElements ≠ 1) (hd : data.length = region.numElements) :
    cfg.storeArraySubset st region data = ArrCfg.foldOpt (cfg.storeArraySubsetChunk region data) st chunks.indices := by
  unfold ArrCfg.storeArraySubset
  rw [if_neg (by simp [hr]), hc]
  simp only
  rw [if_neg (by simp [hn]), if_neg (by simp [hd])]
  rfl
example : exRegion.rank = C01.exCfg.shape.length ∧
    C01.exCfg.grid.chunksInArraySubset exRegion C01.exCfg.shape = some exChunks ∧
    exChunks.numElements ≠ 1 ∧ exData.length = exRegion.numElements :=
  ⟨rfl, exChunks_val, by decide +kernel, rfl⟩

-- (`hw`, `hc` are kept from the stated property; the proof needs only `hcw`)
set_option linter.unusedVariables false in
/-- **chunk-granular state**: after the per-chunk steps of ANY sub-list `done` of the chunks (whatever was reached
before the failure), every chunk key holds its previous value or its intended new value (the value in the
fault-free final state) -/
theorem chunk_granular (cfg : ArrCfg α) (hK : cfg.KeysInjective) (st stFull st' : KV) (region : Subset) (data : List α)
    (chunks : Subset) (hw : region.wf = true)
    (hc : cfg.grid.chunksInArraySubset region cfg.shape = some chunks) (hcw : chunks.wf = true)
    (hfull : ArrCfg.foldOpt (cfg.storeArraySubsetChunk region data) st chunks.indices = some stFull)
    (done : List Idx) (hsub : done.Sublist chunks.indices)
    (hpart : ArrCfg.foldOpt (cfg.storeArraySubsetChunk region data) st done = some st') :
    ∀ k : Key, st'.get k = st.get k ∨ st'.get k = stFull.get k := by
  rw [ArrCfg.storeArraySubsetChunk_eq_kvStep] at hfull hpart
  have hnd := chunks.indices_nodup hcw
  exact ArrCfg.foldOpt_kvStep_partial cfg.keyOf _ _ (ArrCfg.keys_nodup hK _ hnd) st stFull st' hfull done
    (ArrCfg.keys_nodup hK _ (hnd.sublist hsub)) (fun _ hc => hsub.subset hc) hpart
example : C01.exCfg.KeysInjective ∧ exRegion.wf = true ∧
    C01.exCfg.grid.chunksInArraySubset exRegion C01.exCfg.shape = some exChunks ∧ exChunks.wf = true ∧
    ArrCfg.foldOpt (C01.exCfg.storeArraySubsetChunk exRegion exData) exStore exChunks.indices = some exFull ∧
    exDone.Sublist exChunks.indices ∧
    ArrCfg.foldOpt (C01.exCfg.storeArraySubsetChunk exRegion exData) exStore exDone = some exPartial :=
  ⟨C01.exKey_inj, rfl, exChunks_val, rfl, exFull_val, by decide +kernel, exPartial_val⟩
example : exPartial ≠ exStore ∧ exPartial ≠ exFull := by decide +kernel

-- (`hc` is kept from the stated property; the proof does not need it)
set_option linter.unusedVariables false in
/-- **retry converges**: re-running the whole method, fault-free, from any such partial state gives the
fault-free final state -/
theorem retry_converges (cfg : ArrCfg α) (hL : cfg.Lossless) (hK : cfg.KeysInjective) (st stFull st' : KV) (hs : st.sorted)
    (region : Subset) (data : List α) (chunks : Subset) (hw : region.wf = true)
    (hc : cfg.grid.chunksInArraySubset region cfg.shape = some chunks) (hcw : chunks.wf = true)
    (hfull : ArrCfg.foldOpt (cfg.storeArraySubsetChunk region data) st chunks.indices = some stFull)
    (done : List Idx) (hsub : done.Sublist chunks.indices)
    (hpart : ArrCfg.foldOpt (cfg.storeArraySubsetChunk region data) st done = some st') :
    ArrCfg.foldOpt (cfg.storeArraySubsetChunk region data) st' chunks.indices = some stFull := by
  rw [ArrCfg.storeArraySubsetChunk_eq_kvStep] at hfull hpart ⊢
  have hndC := ArrCfg.keys_nodup hK _ (chunks.indices_nodup hcw)
  have hndD := ArrCfg.keys_nodup hK _ ((chunks.indices_nodup hcw).sublist hsub)
  exact ArrCfg.foldOpt_kvStep_retry cfg.keyOf _ (ArrCfg.storeArraySubsetChunkW_idem hL region data hw) _ hndC st stFull st' hs
    (ArrCfg.foldOpt_kvStep_sorted cfg.keyOf _ done st st' hs hpart) hfull
    (ArrCfg.foldOpt_kvStep_partial cfg.keyOf _ _ hndC st stFull st' hfull done hndD (fun _ hc => hsub.subset hc) hpart)
example : C01.exCfg.Lossless ∧ C01.exCfg.KeysInjective ∧ exStore.sorted ∧ exRegion.wf = true ∧
    C01.exCfg.grid.chunksInArraySubset exRegion C01.exCfg.shape = some exChunks ∧ exChunks.wf = true ∧
    ArrCfg.foldOpt (C01.exCfg.storeArraySubsetChunk exRegion exData) exStore exChunks.indices = some exFull ∧
    exDone.Sublist exChunks.indices ∧
    ArrCfg.foldOpt (C01.exCfg.storeArraySubsetChunk exRegion exData) exStore exDone = some exPartial :=
  ⟨fun _ => rfl, C01.exKey_inj, by unfold KV.sorted; decide +kernel, rfl, exChunks_val, rfl, exFull_val, by decide +kernel,
    exPartial_val⟩
example : ArrCfg.foldOpt (C01.exCfg.storeArraySubsetChunk exRegion exData) exPartial exChunks.indices = some exFull := by
  decide +kernel
/-- elision does not break the retry: writing fill over the last non-fill element of chunk (0,0) erases its key;
the retry from the state where only that step ran reads the chunk back as fill and erases again -/
example :
    ArrCfg.foldOpt (C01.exCfg.storeArraySubsetChunk exRegion (List.replicate 12 0))
      [(C01.exKey [0, 0], [0, 0, 0, 0, 0, 6])] [[0, 0]] = some [] ∧
    ArrCfg.foldOpt (C01.exCfg.storeArraySubsetChunk exRegion (List.replicate 12 0))
      [(C01.exKey [0, 0], [0, 0, 0, 0, 0, 6])] exChunks.indices = some [] ∧
    ArrCfg.foldOpt (C01.exCfg.storeArraySubsetChunk exRegion (List.replicate 12 0)) [] exChunks.indices = some [] := by
  decide +kernel
/-- `hL` matters: with a codec chain that cannot decode what it encoded the first run succeeds (the chunks it
creates are never read) but the retry fails on the chunk already written -/
example :
    let cfg : ArrCfg Nat := { C01.exCfg with dec := fun _ => none }
    (ArrCfg.foldOpt (cfg.storeArraySubsetChunk exRegion exData) [] exChunks.indices).isSome = true ∧
    (ArrCfg.foldOpt (cfg.storeArraySubsetChunk exRegion exData) [] [[0, 1]]).isSome = true ∧
    ∀ st', ArrCfg.foldOpt (cfg.storeArraySubsetChunk exRegion exData) [] [[0, 1]] = some st' →
      ArrCfg.foldOpt (cfg.storeArraySubsetChunk exRegion exData) st' exChunks.indices = none := by
  have h2 : ArrCfg.foldOpt (({ C01.exCfg with dec := fun _ => none } : ArrCfg Nat).storeArraySubsetChunk
      exRegion exData) [] [[0, 1]] = some [(C01.exKey [0, 1], [0, 0, 0, 1, 2, 3])] := by decide +kernel
  refine ⟨by decide +kernel, by decide +kernel, fun st' h => ?_⟩
  cases h2.symm.trans h
  decide +kernel

/-- a whole-chunk write is one store operation on the chunk's key: every other key keeps its value -/
theorem store_chunk_atomic (cfg : ArrCfg α) (st st' : KV) (c : Idx) (d : List α) (h : cfg.storeChunk st c d = some st') :
    ∀ k : Key, k ≠ cfg.keyOf c → st'.get k = st.get k :=
  fun k hk => ArrCfg.storeChunk_frame st st' c d h k hk
example : ∃ st', C01.exCfg.storeChunk exStore [0, 1] [1, 2, 3, 4, 5, 6] = some st' ∧
    C01.exKey [2, 2] ≠ C01.exCfg.keyOf [0, 1] :=
  ⟨_, rfl, by decide +kernel⟩

/-- failed reads are not cached (`C06.failed_read_not_cached`, which C20 claims too) -/
theorem failed_read_not_cached (cfg : ArrCfg α) (st : KV) (kind : CacheKind) (evict : Cache α → Cache α)
    (cache : Cache α) (c : Idx) (hmiss : cache.lookup c = none) (hfail : cfg.cacheFill st kind c = none) :
    (cfg.cachedRetrieveChunk st kind evict cache c).2 = cache :=
  C06.failed_read_not_cached cfg st kind evict cache c hmiss hfail
example : Cache.lookup ([([2, 2], CacheEntry.decoded [9, 9, 9, 9, 9, 9])] : Cache Nat) [0, 0] = none ∧
    C01.exCfg.cacheFill [(C01.exKey [0, 0], [1, 2, 3])] .decoded [0, 0] = none := by decide +kernel

end Zarrs.C20
