import ZarrsModel.Model.Lossy
import ZarrsModel.Lemmas.Lossy
/- C03, continued: the value a lossy codec's definition prescribes (`bitround`) -/
namespace Zarrs.C03
open Zarrs Zarrs.Lossy

/-- **the rounded pattern has its low bits cleared** -/
theorem roundBits_multiple (width keep maxbits x : Nat) (hk : keep < maxbits) :
    roundBits width keep maxbits x % 2 ^ (maxbits - keep) = 0 := by
  rw [roundBits_eq_roundQ _ _ _ _ hk]
  exact roundQ_mod _ _ _ _

/-- **and is the nearest such pattern**: within half a quantum of the input (unless the addition saturates) -/
theorem roundBits_near (width keep maxbits x : Nat) (hk : keep < maxbits)
    (hs : x + 2 ^ (maxbits - keep - 1) < 2 ^ width) :
    roundBits width keep maxbits x ≤ x + 2 ^ (maxbits - keep - 1) ∧
    x ≤ roundBits width keep maxbits x + 2 ^ (maxbits - keep - 1) := by
  rw [roundBits_eq_roundQ _ _ _ _ hk]
  exact roundQ_near _ _ _ _ (pow_quantum keep maxbits hk) (Nat.pow_pos (by omega)) (by omega)

/-- **ties go to the even multiple** -/
theorem roundBits_tie_even (width keep maxbits x : Nat) (hk : keep < maxbits)
    (hs : x + 2 ^ (maxbits - keep - 1) < 2 ^ width)
    (htie : x % 2 ^ (maxbits - keep) = 2 ^ (maxbits - keep - 1)) :
    roundBits width keep maxbits x / 2 ^ (maxbits - keep) % 2 = 0 := by
  rw [roundBits_eq_roundQ _ _ _ _ hk]
  exact roundQ_tie_even _ _ _ _ (pow_quantum keep maxbits hk) (Nat.pow_pos (by omega)) (by omega) htie

-- (`hx`, `hm` are not needed: a rounded value is a multiple of the quantum below the saturation bound)
set_option linter.unusedVariables false in
/-- **rounding is idempotent** (decoding is the identity, so re-encoding a decoded chunk changes nothing) -/
theorem roundBits_idem (width keep maxbits x : Nat) (hx : x < 2 ^ width) (hm : maxbits ≤ width) :
    roundBits width keep maxbits (roundBits width keep maxbits x) = roundBits width keep maxbits x := by
  by_cases hk : keep < maxbits
  · rw [roundBits_eq_roundQ _ _ _ _ hk, roundBits_eq_roundQ _ _ _ _ hk]
    exact roundQ_idem _ _ _ _ (pow_quantum keep maxbits hk) (Nat.pow_pos (by omega))
  · simp only [roundBits, if_neg hk]

/-- a representable value is unchanged -/
theorem roundBits_fixed (width keep maxbits x : Nat) (hx : x < 2 ^ width) (hk : keep < maxbits)
    (h : x % 2 ^ (maxbits - keep) = 0) : roundBits width keep maxbits x = x := by
  rw [roundBits_eq_roundQ _ _ _ _ hk]
  exact roundQ_fixed _ _ _ _ (pow_quantum keep maxbits hk) (Nat.pow_pos (by omega)) (by omega) h

/-- 0x3f9e0652 is float32 1.23456789; 0x3f804000 / 0x3f80c000 (8 bits kept) and bfloat16 0x3fc8 (3 of 7 kept) are ties -/
example : bitround 32 23 7 0x3f9e0652 = 0x3f9e0000 ∧ bitround 32 23 8 0x3f804000 = 0x3f800000 ∧
    bitround 32 23 8 0x3f80c000 = 0x3f810000 ∧ bitround 8 0 0 200 = 0 ∧ bitround 16 7 3 0x3fc8 = 0x3fc0 := by
  decide +kernel

end Zarrs.C03
