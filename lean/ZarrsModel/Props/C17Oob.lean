import ZarrsModel.Model.WriteMapOob
import ZarrsModel.Lemmas.WriteMapOob
/-
C17, out-of-bounds part — a multi-chunk read of a region that OVERHANGS the array still writes every byte of
its output exactly once (regular chunk grid, region inside the extent `grid_shape * chunk_shape`).

Code: `Array::retrieve_array_subset_opt` (zarrs/src/array/array_sync_readable.rs, fixed-size multi-chunk
branch, with `retrieve_chunk_subset_into`) and `retrieve_array_subset_opt_cached`
(zarrs/src/array/chunk_cache/array_chunk_cache_ext_sync.rs): view of chunk `c` =
`chunk_subset(c).overlap(array_subset).relative_to(array_subset.start())`, `chunk_subset` unclamped.
-/
namespace Zarrs.C17Oob
open Zarrs

/-- **the per-chunk writes of a multi-chunk read tile the output even when the region overhangs the array**:
for a regular grid (every chunk size positive), any array shape with grid shape `G`, a non-empty region with
`start_d + shape_d ≤ G_d * c_d` in every dimension (`inboundsShape (gridExtent G cs)`; the region may exceed the
array shape) and any element size, the byte ranges written through the per-chunk views (overlap of the region
with the UNCLAMPED chunk subsets) cover `[0, region.numElements * es)` with every byte written exactly once;
moreover every chunk `chunks_in_array_subset` hands to a task is a chunk of the grid (`inB c G`).
On regular grids this is `C17.writes_tile` with `region.inboundsShape cfg.shape` weakened to "inside the grid's
extent". -/
theorem writes_tile_overhang {α} (cfg : ArrCfg α) (cs G : Shape) (hg : cfg.grid = Grid.regular cs)
    (hwf : cfg.grid.wf = true) (hG : cfg.grid.gridShape cfg.shape = some G) (hlen : cfg.shape.length = cs.length)
    (region : Subset) (hr : region.wf = true) (hb : region.inboundsShape (gridExtent G cs) = true)
    (hne : region.isEmpty = false) (es : Nat) :
    ∃ m box, cfg.writeMap region es = some m ∧ tiles (region.numElements * es) m = true ∧
      cfg.grid.chunksInArraySubset region cfg.shape = some box ∧ ∀ c, box.contains c = true → inB c G = true := by
  exact writeMap_overhang cfg cs G hg hwf hG hlen region hr hb hne es

example : ∃ (cfg : ArrCfg Nat) (cs G : Shape) (region : Subset) (es : Nat),
    cfg.grid = Grid.regular cs ∧ cfg.grid.wf = true ∧ cfg.grid.gridShape cfg.shape = some G ∧
    cfg.shape.length = cs.length ∧ region.wf = true ∧ region.inboundsShape (gridExtent G cs) = true ∧
    region.isEmpty = false ∧ region.inboundsShape cfg.shape = false ∧ gridExtent G cs = [6, 9] ∧
    region.endExc = [6, 9] ∧
    (match cfg.writeMap region es with
     | some m => tiles (region.numElements * es) m
     | none => false) = true :=
  ⟨⟨[5, 7], Grid.regular [2, 3], 0, fun _ => [], fun _ => [], fun _ => none, false⟩,
    [2, 3], [3, 3], ⟨[1, 2], [5, 7]⟩, 2, by decide +kernel⟩

/-- **the seeded variant leaves a gap**: with the copied part taken against the region CLAMPED to the array
shape (`chunk_subset.overlap(&array_subset.bound(self.shape())?)`), for the array 6×6 with chunks 4×4 and the
region `[0..8, 0..8]` (inside the extent 8×8) the views do not tile the 64-byte output: byte 6 (row 0, column 6)
is written by no view, whereas the unclamped views of the code do tile it -/
theorem clamped_views_leave_gap :
    let cfg : ArrCfg Nat := ⟨[6, 6], Grid.regular [4, 4], 0, fun _ => [], fun _ => [], fun _ => none, false⟩
    let region : Subset := ⟨[0, 0], [8, 8]⟩
    (match cfg.writeMapClamped region 1 with
     | some m => !tiles 64 m && !byteWritten 6 m
     | none => false) = true ∧
    (match cfg.writeMap region 1 with
     | some m' => tiles 64 m' && byteWritten 6 m'
     | none => false) = true := by
  decide +kernel

/-- bytes 10..11 are element `[0, 5]` of the output, array column 7: beyond the array -/
example :
    let cfg : ArrCfg Nat := ⟨[5, 7], Grid.regular [2, 3], 0, fun _ => [], fun _ => [], fun _ => none, false⟩
    let region : Subset := ⟨[1, 2], [5, 7]⟩
    (match cfg.writeMapClamped region 2 with
     | some m => !tiles 70 m && !byteWritten 10 m && !byteWritten 11 m && byteWritten 9 m
     | none => false) = true ∧
    (match cfg.writeMap region 2 with
     | some m' => tiles 70 m' && byteWritten 10 m'
     | none => false) = true := by
  decide +kernel

/-- **the hypothesis "inside the grid's extent" is needed**: array 6×6, chunks 4×4 (grid 2×2, extent 8×8), region
`[0..9, 0..9]`: the element `[8, 8]` of the region lies in the subset of NO chunk of the grid, so no choice of
views of grid chunks can write its output byte; and `chunks_in_array_subset` reports a chunk (`[2, 2]`) that is
not a chunk of the grid -/
theorem overhang_needs_grid_extent :
    let g : Grid := Grid.regular [4, 4]
    let region : Subset := ⟨[0, 0], [9, 9]⟩
    g.gridShape [6, 6] = some [2, 2] ∧ region.inboundsShape (gridExtent [2, 2] [4, 4]) = false ∧
    region.contains [8, 8] = true ∧
    (boxIndices [2, 2]).all (fun c => match g.subset c with
      | some s => !s.contains [8, 8]
      | none => true) = true ∧
    (match g.chunksInArraySubset region [6, 6] with
     | some box => box.contains [2, 2] && !inB [2, 2] [2, 2]
     | none => false) = true := by
  decide +kernel

example :
    let g : Grid := Grid.regular [2, 3]
    let region : Subset := ⟨[1, 2], [6, 8]⟩
    g.gridShape [5, 7] = some [3, 3] ∧ region.inboundsShape (gridExtent [3, 3] [2, 3]) = false ∧
    region.contains [6, 9] = true ∧
    (boxIndices [3, 3]).all (fun c => match g.subset c with
      | some s => !s.contains [6, 9]
      | none => true) = true ∧
    (match g.chunksInArraySubset region [5, 7] with
     | some box => box.contains [3, 3] && !inB [3, 3] [3, 3]
     | none => false) = true := by
  decide +kernel

end Zarrs.C17Oob

section audit
open Zarrs.C17Oob
#print axioms writes_tile_overhang
#print axioms clamped_views_leave_gap
#print axioms overhang_needs_grid_extent
#print axioms Zarrs.writeMap_overhang
end audit
