import ZarrsModel.Props.C12
/-
C12, second DEFLATE flavour — the hypothesis `DeflateOk` of the layout theorems of `Props/C12.lean` also holds when
the specification writer emits one fixed-Huffman block of literals (`Layout.deflate ≠ 0`), so every round-trip
theorem there applies to both flavours the writer can choose.
-/
namespace Zarrs.C12
open Zarrs Zarrs.Codec Zarrs.Inflate Zarrs.Conform

/-- **a fixed-Huffman literal block inflates to the data**, whatever follows the stream -/
theorem inflate_fixed (bs rest : Bytes) (hb : wfBytes bs) (hr : wfBytes rest) :
    inflate (deflateFixed bs ++ rest) = some (bs, rest) :=
  have _ := hr
  (deflateFixed_deflates hb).inflate rest

theorem deflateOk_fixed (l : Layout) (h : l.deflate ≠ 0) : DeflateOk l :=
  have _ := h
  ⟨fun _ rest hb _ => (deflateOf_deflates l hb).inflate rest, fun _ hb => deflateOf_wf l hb⟩

/-- both flavours: the hypothesis of the layout theorems holds for every layout -/
theorem deflateOk_all (l : Layout) : DeflateOk l := by
  by_cases h : l.deflate = 0
  · exact deflateOk_stored l h
  · exact deflateOk_fixed l h

theorem gunzip_gzip_fixed (l : Layout) (h : l.deflate ≠ 0) (bs : Bytes) (hb : wfBytes bs) :
    gunzip (gzipWith (deflateOf l) l.gzipExtra bs) = some bs :=
  gunzip_gzip l (deflateOk_fixed l h) bs hb
theorem unzlib_zlib_fixed (l : Layout) (h : l.deflate ≠ 0) (bs : Bytes) (hb : wfBytes bs) :
    unzlib (zlibWith (deflateOf l) bs) = some bs :=
  unzlib_zlib l (deflateOk_fixed l h) bs hb

example : DeflateOk { deflate := 1 } := deflateOk_fixed _ (by decide)
example : DeflateOk { deflate := 1, gzipExtra := true, reverseInner := true, pad := 2 } :=
  deflateOk_fixed _ (by decide)

end Zarrs.C12
