import ZarrsModel.Lemmas.VlenArrMerge
import ZarrsModel.Lemmas.VlenArrChain
import ZarrsModel.Props.C01Chain
import ZarrsModel.Props.C03Vlen
/-
C01 / C02 / C04 for VARIABLE-LENGTH arrays (`string`, `bytes`), end to end.

Part 1 — byte ↔ element agreement.  zarrs keeps a decoded variable-length chunk as `ArrayBytes::Variable(bytes,
offsets)` (`VArr`) and the array methods work on it with `update_bytes_vlen` (partial chunk writes),
`merge_chunks_vlen` (multi-chunk reads), `extract_array_subset` (chunk subsets, array caches), `is_fill_value`
(elision of empty chunks) and `transpose_vlen` (the transpose codec).  The array model (`Model/Array.lean`) works on
lists of elements with `updateRuns`, `Subset.extract`, `ArrCfg.isFill`, `transposeEnc/Dec`.  The theorems of part 1 say
that on valid values each byte-level function succeeds, returns a valid value, and has the element-level meaning.

Part 2 — chains `ChainV` (transposes / squeeze / caches, then `vlen_v2` | `zarrs.vlen`, then bytes-to-bytes stages):
the full decoder undoes the encoder and the partial decoder (decode everything, then extract, through every stage's
partial decoder) answers every in-bounds list of regions with exactly the regions of the chunk = full decode followed
by `extract_array_subset`; an absent value reads as fill.

Part 3 — the array theorems C01 (`read_after_history`) and C04 (`key_present_iff`) instantiated for arrays whose
chunks are encoded by any lawful `ChainV` (`read_after_history_vlen`, `key_present_iff_vlen`): the decoder returns every
chunk of bounded strings that the chain has encoded (`rok_chainV`), which is what the refinement of
`Lemmas/ArrayRead.lean` asks of a codec (`ArrCfg.ROk`).
-/
namespace Zarrs.VlenArr
open Zarrs Zarrs.Codec Zarrs.Vlen Zarrs.Partial

/-- `vlen_v2` needs nothing: its encoder checks the 2^32 guards itself -/
def VCodec.ok : VCodec → VArr → Bytes → Prop
  | .v2, _, _ => True
  | .vlen c, w, e => C03.vlenLawful c ∧ w.data.length < 2 ^ 64 ∧ e.length < 2 ^ 64

private theorem codec_dec_enc (codec : VCodec) (n : Nat) (w : VArr) (e : Bytes) (he : codec.enc n w = some e)
    (hok : codec.ok w e) : ∃ w', codec.dec n e = some w' ∧ Sim n w w' := by
  cases codec with
  | v2 =>
    have he' := ok_of_toOption he
    obtain ⟨h1, _, _⟩ := C03.vlenV2_dec_enc_valid n w e he'
    refine ⟨VArr.ofElems w.elems, ?_, sim_ofElems n w ((vlenV2Enc_eq_ok_iff n w e).mp he').1⟩
    simp only [VCodec.dec, h1]; rfl
  | vlen c =>
    have he' := ok_of_toOption he
    obtain ⟨hl, h64, he64⟩ := hok
    have := C03.vlen_dec_enc c hl n w e h64 he64 he'
    refine ⟨w, ?_, ((vlenEnc_eq_ok_iff c n w e).mp he').1, rfl, fun hc => ⟨rfl, hc⟩⟩
    simp only [VCodec.dec, this]; rfl

def ChainV.ok (c : ChainV) (sh : Shape) (v : VArr) : Prop :=
  ∀ w e', encodeA2AV c.a2a sh v = some w → c.codec.enc (prod (shapesOf c.a2a sh)) w = some e' → c.codec.ok w e'

theorem ChainV.ok.roundTrips {c : ChainV} {sh : Shape} {v : VArr} (hok : c.ok sh v) : c.RoundTrips sh v :=
  fun w e' hw he' => codec_dec_enc c.codec _ w e' he' (hok w e' hw he')

end Zarrs.VlenArr

namespace Zarrs.C01Vlen
open Zarrs Zarrs.Codec Zarrs.Vlen Zarrs.Partial Zarrs.VlenArr Zarrs.C02 ArrCfg

/-! ## Part 1: byte ↔ element agreement -/

/-- the output loop of every helper builds the canonical value of the elements it pushes -/
theorem build_canonical (xs : List Bytes) :
    build xs = VArr.ofElems xs ∧ (build xs).valid xs.length = true ∧ (build xs).elems = xs := by
  rw [build_eq]; exact ⟨rfl, ofElems_valid xs, elems_ofElems xs⟩

example : build [[97], [], [98, 99]] = ⟨[97, 98, 99], [0, 1, 1, 3]⟩ := by decide +kernel

/-- the 2×3 string chunk `["a", "", "bc", "", "", "xyz"]` -/
private def exChunk : List Bytes := [[97], [], [98, 99], [], [], [120, 121, 122]]
private def exV : VArr := ⟨[97, 98, 99, 120, 121, 122], [0, 1, 1, 3, 3, 3, 6]⟩
private theorem exV_valid : exV.valid (prod [2, 3]) = true := by decide +kernel
private theorem exV_elems : exV.elems = exChunk := by decide +kernel

/-- **`extract_array_subset` / `extract_decoded_regions_vlen` = `Subset.extract` on the elements** of a valid value,
for an in-bounds region; the result is valid and canonical -/
theorem extractVlen_elems (r : Subset) (sh : Shape) (v : VArr) (hr : r.wf = true) (hb : r.inboundsShape sh = true)
    (hv : v.valid (prod sh) = true) :
    ∃ w, extractVlen r sh v = some w ∧ w.elems = r.extract sh v.elems ∧ w.valid r.numElements = true ∧
      w = VArr.ofElems (r.extract sh v.elems) := by
  refine ⟨_, extractVlen_spec r sh v hr hb hv, elems_ofElems _, ?_, rfl⟩
  exact ofElems_valid_of_length _ _ (extract_spec r sh v.elems hr hb (elems_length _ v hv)).1

/-- a region that is not inside the shape is an error, never a truncation -/
theorem extractVlen_rejects (r : Subset) (sh : Shape) (v : VArr) (hb : r.inboundsShape sh = false) :
    extractVlen r sh v = none := by
  simp [extractVlen, hb]

example : (⟨[0, 1], [2, 2]⟩ : Subset).wf = true ∧ (⟨[0, 1], [2, 2]⟩ : Subset).inboundsShape [2, 3] = true ∧
    exV.valid (prod [2, 3]) = true := ⟨by decide +kernel, by decide +kernel, exV_valid⟩
example : extractVlen ⟨[0, 1], [2, 2]⟩ [2, 3] exV = some ⟨[98, 99, 120, 121, 122], [0, 0, 2, 2, 5]⟩ ∧
    (⟨[0, 1], [2, 2]⟩ : Subset).extract [2, 3] exChunk = [[], [98, 99], [], [120, 121, 122]] := by decide +kernel
example : extractVlen ⟨[0, 2], [2, 2]⟩ [2, 3] exV = none := by decide +kernel

/-- **`update_bytes_vlen` = `updateRuns` on the elements** (the read–modify–write of
`Array::store_chunk_subset_opt` on a variable-length chunk) -/
theorem updateBytesVlen_elems (v : VArr) (sh : Shape) (u : VArr) (r : Subset) (hr : r.wf = true)
    (hb : r.inboundsShape sh = true) (hv : v.valid (prod sh) = true) (hu : u.valid r.numElements = true) :
    ∃ w, updateBytesVlen v sh u r = some w ∧ w.elems = updateRuns sh r v.elems u.elems ∧
      w.valid (prod sh) = true ∧ w = VArr.ofElems (updateRuns sh r v.elems u.elems) := by
  refine ⟨_, updateBytesVlen_spec v sh u r hr hb hv hu, elems_ofElems _, ?_, rfl⟩
  exact ofElems_valid_of_length _ _ (updateRuns_length sh r v.elems u.elems hr hb (elems_length _ v hv) (elems_length _ u hu))

theorem updateBytesVlen_rejects (v : VArr) (sh : Shape) (u : VArr) (r : Subset) (hb : r.inboundsShape sh = false) :
    updateBytesVlen v sh u r = none := by
  simp [updateBytesVlen, hb]

example : (⟨[1, 1], [2, 2]⟩ : Subset).inboundsShape [2, 3] = false ∧
    updateBytesVlen ⟨[97, 98, 99, 120, 121, 122], [0, 1, 1, 3, 3, 3, 6]⟩ [2, 3] ⟨[81, 82, 83, 84], [0, 1, 1, 3, 4]⟩
      ⟨[1, 1], [2, 2]⟩ = none := by decide +kernel

/-- `["Q", "", "RS", "T"]` -/
private def exU : VArr := ⟨[81, 82, 83, 84], [0, 1, 1, 3, 4]⟩
example : (⟨[0, 1], [2, 2]⟩ : Subset).wf = true ∧ (⟨[0, 1], [2, 2]⟩ : Subset).inboundsShape [2, 3] = true ∧
    exV.valid (prod [2, 3]) = true ∧ exU.valid (⟨[0, 1], [2, 2]⟩ : Subset).numElements = true :=
  ⟨by decide +kernel, by decide +kernel, exV_valid, by decide +kernel⟩
example : updateBytesVlen exV [2, 3] exU ⟨[0, 1], [2, 2]⟩ =
      some ⟨[97, 81, 82, 83, 84], [0, 1, 2, 2, 2, 4, 5]⟩ ∧
    updateRuns [2, 3] ⟨[0, 1], [2, 2]⟩ exChunk exU.elems = [[97], [81], [], [], [82, 83], [84]] := by decide +kernel

/-- **`is_fill_value` (variable branch) is element-wise**: on a valid value it is true exactly when every element
equals the fill value; it is `ArrCfg.isFill` of the element model -/
theorem isFillVlen_iff (n : Nat) (v : VArr) (hv : v.valid n = true) (fill : Bytes) :
    (isFillVlen v fill = true ↔ ∀ e ∈ v.elems, e = fill) ∧ isFillVlen v fill = v.elems.all (· == fill) := by
  have h : isFillVlen v fill = v.elems.all (· == fill) := by
    have hw := windows_le n v hv
    unfold isFillVlen VArr.elems
    rw [List.all_map]
    apply Bool.eq_iff_iff.mpr
    simp only [List.all_eq_true, Function.comp]
    refine forall₂_congr fun w hwm => ?_
    rw [getRange_eq_slice _ _ _ (hw w hwm).1 (hw w hwm).2]
    simp
  refine ⟨?_, h⟩
  rw [h, List.all_eq_true]
  exact forall₂_congr fun e _ => by simp

/-- the chunk `["abab", ""]` with fill value `"ab"`: the concatenated bytes ARE the fill value repeated twice, the
elements are not the fill value (the byte-wise test that `isFillVlen` replaces, see there, calls it a fill chunk) -/
example : (VArr.ofElems [[97, 98, 97, 98], []]).valid 2 = true ∧
    (VArr.ofElems [[97, 98, 97, 98], []]).data = (List.replicate 2 [97, 98]).flatten ∧
    isFillVlen (VArr.ofElems [[97, 98, 97, 98], []]) [97, 98] = false ∧
    isFillVlen (VArr.ofElems [[97, 98], [97, 98]]) [97, 98] = true := by decide +kernel
/-- fill value `""`: only the all-empty chunk is a fill chunk -/
example : isFillVlen exV [] = false ∧ isFillVlen ⟨[], [0, 0, 0, 0, 0, 0, 0]⟩ [] = true := by decide +kernel
/-- `new_fill_value` is the canonical all-fill value, and passes the test -/
theorem fillVArr_elems (n : Nat) (fill : Bytes) :
    fillVArr n fill = VArr.ofElems (List.replicate n fill) ∧ (fillVArr n fill).valid n = true ∧
    isFillVlen (fillVArr n fill) fill = true := by
  have hv : (fillVArr n fill).valid n = true := by rw [fillVArr_eq]; exact ofElems_valid_of_length _ _ (by simp)
  refine ⟨fillVArr_eq n fill, hv, ?_⟩
  rw [(isFillVlen_iff n _ hv fill).1, fillVArr_eq, elems_ofElems]
  intro e he
  exact List.eq_of_mem_replicate he
example : fillVArr 3 [97, 98] = ⟨[97, 98, 97, 98, 97, 98], [0, 2, 4, 6]⟩ := by decide +kernel

/-- **`transpose_vlen` = `transposeEnc` / `transposeDec` on the elements**: encode direction
(`transpose_vlen(.., shape, order)`) and decode direction (`transpose_vlen(.., permute(shape, order), order_decode)`,
with `order_decode` as the Rust loop computes it) -/
theorem transposeVlen_elems (v : VArr) (sh : Shape) (order : List Nat) (ho : validOrder order sh.length = true)
    (hv : v.valid (prod sh) = true) :
    (∃ w, transposeVlen v sh order = some w ∧ w.elems = transposeEnc order sh v.elems ∧
      w.valid (prod (permute sh order)) = true) ∧
    (∃ w, transposeVlen v (permute sh order) (orderDecode order) = some w ∧ w.elems = transposeDec order sh v.elems ∧
      w.valid (prod sh) = true) ∧
    orderDecode order = inverseOrder order := by
  refine ⟨⟨_, transposeVlen_enc v sh order ho hv, elems_ofElems _, ?_⟩,
    ⟨_, transposeVlen_dec v sh order ho hv, elems_ofElems _, ?_⟩, orderDecode_eq ho⟩
  · exact ofElems_valid_of_length _ _ (transposeEnc_length _ _ _)
  · exact ofElems_valid_of_length _ _ (transposeDec_length _ _ _)

/-- an order that is no permutation of the axes is rejected (`permuted_axes` panics) -/
theorem transposeVlen_rejects (v : VArr) (sh : Shape) (order : List Nat) (ho : validOrder order sh.length = false) :
    transposeVlen v sh order = none := by
  simp [transposeVlen, ho]

example : validOrder [1, 1] [2, 3].length = false ∧ transposeVlen exV [2, 3] [1, 1] = none ∧
    validOrder [0] [2, 3].length = false := by decide +kernel
example : validOrder [1, 0] [2, 3].length = true ∧ exV.valid (prod [2, 3]) = true := ⟨by decide +kernel, exV_valid⟩
example : transposeVlen exV [2, 3] [1, 0] = some ⟨[97, 98, 99, 120, 121, 122], [0, 1, 1, 1, 1, 3, 6]⟩ ∧
    (transposeVlen exV [2, 3] [1, 0]).bind (fun w => transposeVlen w [3, 2] (orderDecode [1, 0])) = some exV ∧
    orderDecode [2, 0, 1] = [1, 2, 0] := by decide +kernel

/-- **`merge_chunks_vlen` = the element-level gather of `ArrCfg.retrieveArraySubset`**: for pairwise disjoint in-bounds
chunks, each valid for its subset, the merge is valid, canonical, and holds the fold of `updateRuns` over the chunks
from empty elements; when the chunks cover the output (always so in `retrieve_array_subset_opt`) the start value is
irrelevant: it may be the fill value the array model starts from -/
theorem mergeChunksVlen_elems (parts : List (VArr × Subset)) (sh : Shape) (hok : ∀ p ∈ parts, PartOk sh p)
    (hd : PartsDisjoint parts) :
    ∃ w, mergeChunksVlen parts sh = some w ∧ w.valid (prod sh) = true ∧
      w.elems = parts.foldl (fun out p => updateRuns sh p.2 out p.1.elems) (List.replicate (prod sh) []) ∧
      ((∀ i, inB i sh = true → ∃ p ∈ parts, p.2.contains i = true) → ∀ fill : Bytes,
        w.elems = parts.foldl (fun out p => updateRuns sh p.2 out p.1.elems) (List.replicate (prod sh) fill)) := by
  have hlen : (parts.foldl (fun out p => updateRuns sh p.2 out p.1.elems) (List.replicate (prod sh) [])).length =
      prod sh := by
    rw [merged_eq_foldl_set sh parts _ hok (by simp), length_foldl_set, List.length_replicate]
  refine ⟨_, mergeChunksVlen_spec parts sh hok hd, ofElems_valid_of_length _ _ hlen, elems_ofElems _, ?_⟩
  intro hcover fill
  rw [elems_ofElems]
  exact merged_init_irrelevant sh parts hok hcover _ _ (by simp) (by simp)

/-- two chunks of a 2×3 output, column 0 and columns 1–2: their elements interleave in the output -/
private def exParts : List (VArr × Subset) :=
  [(⟨[1, 2, 2], [0, 1, 3]⟩, ⟨[0, 0], [2, 1]⟩), (⟨[3, 3, 3, 4, 5], [0, 3, 3, 4, 5]⟩, ⟨[0, 1], [2, 2]⟩)]
example : (∀ p ∈ exParts, PartOk [2, 3] p) ∧ PartsDisjoint exParts := by
  refine ⟨?_, ?_⟩
  · intro p hp
    simp only [exParts, List.mem_cons, List.not_mem_nil, or_false] at hp
    rcases hp with rfl | rfl <;> exact ⟨rfl, rfl, rfl⟩
  · simp only [PartsDisjoint, exParts, List.pairwise_cons, List.mem_singleton, forall_eq, List.not_mem_nil,
      false_imp_iff, implies_true, List.Pairwise.nil, and_true]
    intro i ⟨h1, h2⟩
    exact (by decide +kernel : ∀ i ∈ (⟨[0, 0], [2, 1]⟩ : Subset).indices, (⟨[0, 1], [2, 2]⟩ : Subset).contains i ≠ true) i
      ((Subset.mem_indices _ rfl i).mpr h1) h2
example : ∀ i, inB i [2, 3] = true → ∃ p ∈ exParts, p.2.contains i = true :=
  fun i hi => (by decide +kernel : ∀ i ∈ boxIndices [2, 3], ∃ p ∈ exParts, p.2.contains i = true) i
    ((mem_boxIndices i [2, 3]).mpr hi)
example : mergeChunksVlen exParts [2, 3] = some ⟨[1, 3, 3, 3, 2, 2, 4, 5], [0, 1, 4, 4, 6, 7, 8]⟩ := by decide +kernel
/-- overlapping chunks with different element sizes make `copy_from_slice` panic -/
example : mergeChunksVlen [(⟨[1], [0, 1]⟩, ⟨[0], [1]⟩), (⟨[2, 2], [0, 2]⟩, ⟨[0], [1]⟩)] [1] = none := by decide +kernel

/-! ## Part 2: chains -/

/-- what a chain needs of the value it encodes (`VCodec.ok`): nothing for `vlen_v2`; for `zarrs.vlen` lawful index and
data chains and bytes / encoding shorter than 2^64 -/
abbrev chainVOk (c : ChainV) (sh : Shape) (v : VArr) : Prop := c.ok sh v

/-- **the full decoder undoes the encoder** for any transposes / squeezes / caches, either codec, any lawful
bytes-to-bytes stages: the decoded value is valid, has the encoded elements, and is the encoded value itself when that
one is canonical (first offset 0 — every value zarrs builds) -/
theorem chainV_dec_enc (c : ChainV) (sh : Shape) (v : VArr) (e : Bytes) (ha : aStagesOk c.a2a sh)
    (hb : ∀ st ∈ c.b2b, bStageOk st) (hok : chainVOk c sh v) (he : c.encode sh v = some e) :
    ∃ v', c.decode sh e = some v' ∧ v'.valid (prod sh) = true ∧ v'.elems = v.elems ∧
      (v.offsets.head? = some 0 → v' = v) := by
  obtain ⟨v', hd, hs⟩ := decode_encode c sh v e (aStagesOk_aOk c.a2a sh ha)
    (fun st hst => C03Chain.bStageOk_BDec st (hb st hst)) hok.roundTrips he
  exact ⟨v', hd, hs.valid, hs.elems, fun h => (hs.same h).1⟩

/-- an invalid value is an encoder error: `CodecChain::encode` validates first (on valid values the codec's own guards
decide, `fitsV_v2` / `fitsV_vlen_plain`) -/
theorem chainV_encode_invalid (c : ChainV) (sh : Shape) (v : VArr) (hv : v.valid (prod sh) = false) :
    c.encode sh v = none := by
  simp [ChainV.encode, hv]

example : (⟨[1, 2, 3], [0, 1, 3]⟩ : VArr).valid (prod [2, 3]) = false ∧
    (⟨[], .v2, []⟩ : ChainV).encode [2, 3] ⟨[1, 2, 3], [0, 1, 3]⟩ = none := by decide +kernel

/-- **C02 for vlen chains: partial decoding = full decoding followed by `extract_array_subset`.**  For every chain,
encoded value and list of in-bounds regions, the chain's partial decoder on the stored encoding (bytes-to-bytes partial
decoders, decode-all vlen partial decoder, array-to-array partial decoders incl. the variable-length transposition of
every answer and the array cache's `extract_array_subset`) returns, region by region, the canonical value of the
region's elements of the encoded chunk -/
theorem chainV_partial_eq_full_slice (c : ChainV) (sh : Shape) (fill : Bytes) (v : VArr) (e : Bytes)
    (ha : aStagesOk c.a2a sh) (hb : ∀ st ∈ c.b2b, bStageOk st) (hok : chainVOk c sh v) (he : c.encode sh v = some e)
    (rs : List Subset) (hrs : ∀ r ∈ rs, r.wf = true ∧ r.inboundsShape sh = true) :
    c.partialDecoder sh fill (storeHandle (some e)) rs = some (rs.map (fun r => VArr.ofElems (r.extract sh v.elems))) ∧
    c.partialDecoder sh fill (storeHandle (some e)) rs = (c.decode sh e).bind (extractRegionsVlen rs sh) ∧
    (c.partialDecoder sh fill (storeHandle (some e))).elems rs = some (rs.map (fun r => r.extract sh v.elems)) := by
  have hao := aStagesOk_aOk c.a2a sh ha
  have hvv := (c.encode_eq_some he).1
  obtain ⟨e', w', hee, hdw, hvw, helw, -⟩ := encode_stored c sh v e hao hok.roundTrips he
  obtain ⟨v', hd, hs⟩ :=
    decode_encode c sh v e hao (fun st hst => C03Chain.bStageOk_BDec st (hb st hst)) hok.roundTrips he
  have h1 : c.partialDecoder sh fill (storeHandle (some e)) rs =
      some (rs.map (fun r => VArr.ofElems (r.extract sh v.elems))) := by
    refine aChainV_ok c.a2a sh v.elems _ hao (elems_length _ v hvv) ?_ rs hrs
    rw [← helw, hee]
    exact vlenPD_ok c.codec _ fill _ e' w' hdw hvw
      (bChain_ok c.b2b (fun st hst b g hg => bStage_ok st (hb st hst) b g hg) _ _ (storeHandle_some_ok _))
  refine ⟨h1, ?_, ?_⟩
  · rw [h1, hd, Option.bind_some, extractRegionsVlen_spec rs sh v' hrs hs.valid, hs.elems]
  · simp only [VHandle.elems, h1, Option.map_some, List.map_map, Function.comp_def, elems_ofElems]

/-- … and an absent value reads as fill -/
theorem chainV_partial_absent (c : ChainV) (sh : Shape) (fill : Bytes) (ha : aStagesOk c.a2a sh)
    (rs : List Subset) (hrs : ∀ r ∈ rs, r.wf = true ∧ r.inboundsShape sh = true) :
    c.partialDecoder sh fill (storeHandle none) rs =
      some (rs.map (fun r => VArr.ofElems (List.replicate r.numElements fill))) := by
  have hao := aStagesOk_aOk c.a2a sh ha
  rw [ChainV.partialDecoder, aChainV_ok c.a2a sh (List.replicate (prod sh) fill) _ hao (by simp) (by
    rw [aEnc_fill fill c.a2a sh hao]
    exact vlenPD_absent _ _ _ _ (bChain_absent c.b2b _ storeHandle_none_absent)) rs hrs]
  exact congrArg some (List.map_congr_left fun r hr =>
    congrArg VArr.ofElems (extract_replicate r sh fill (hrs r hr).1 (hrs r hr).2))

/-- `.cache` is the array cache `CodecChain::new` inserts above a vlen codec; the `zarrs.vlen` example has a `uint32`
little-endian index and crc32c on the data -/
private def exChainV2 : ChainV := ⟨[.transpose [1, 0], .cache], .v2, [.stripSuffix 4 crc32c]⟩
private def exCfg : Vlen.Cfg := ⟨false, false, [], [crc32cCodec]⟩
private def exChainVlen : ChainV := ⟨[.transpose [1, 0], .cache], .vlen exCfg, [.stripSuffix 4 crc32c]⟩
private def exRegions : List Subset := [⟨[0, 1], [2, 2]⟩, ⟨[1, 0], [1, 3]⟩, ⟨[0, 0], [2, 3]⟩, ⟨[1, 1], [0, 1]⟩]

private theorem exA : aStagesOk exChainV2.a2a [2, 3] := ⟨by decide +kernel, trivial, trivial⟩
private theorem exB : ∀ st ∈ exChainV2.b2b, bStageOk st := by
  intro st hst
  simp only [exChainV2, List.mem_singleton] at hst
  subst hst; rfl
private theorem exCfg_lawful : C03.vlenLawful exCfg := by
  constructor
  · intro x hx; simp [exCfg] at hx
  · intro x hx
    simp only [exCfg, List.mem_singleton] at hx
    subst hx
    exact C03.crc32c_lawful

private def exEncV2 : Bytes :=
  [6, 0, 0, 0,  1, 0, 0, 0, 97,  0, 0, 0, 0,  0, 0, 0, 0,  0, 0, 0, 0,  2, 0, 0, 0, 98, 99,  3, 0, 0, 0, 120, 121, 122,
   213, 18, 101, 137]
private theorem exEncV2_eq : exChainV2.encode [2, 3] exV = some exEncV2 := by decide +kernel

example : aStagesOk exChainV2.a2a [2, 3] ∧ (∀ st ∈ exChainV2.b2b, bStageOk st) ∧ chainVOk exChainV2 [2, 3] exV ∧
    exChainV2.encode [2, 3] exV = some exEncV2 ∧ (∀ r ∈ exRegions, r.wf = true ∧ r.inboundsShape [2, 3] = true) :=
  ⟨exA, exB, fun _ _ _ _ => trivial, exEncV2_eq, by decide +kernel⟩
example : exChainV2.decode [2, 3] exEncV2 = some exV := by decide +kernel
example : exChainV2.partialDecoder [2, 3] [] (storeHandle (some exEncV2)) exRegions =
    some [⟨[98, 99, 120, 121, 122], [0, 0, 2, 2, 5]⟩, ⟨[120, 121, 122], [0, 0, 0, 3]⟩, exV, ⟨[], [0]⟩] := by
  decide +kernel
example : exRegions.map (fun r => r.extract [2, 3] exChunk) =
    [[[], [98, 99], [], [120, 121, 122]], [[], [], [120, 121, 122]], exChunk, []] := by decide +kernel
example : exChainV2.partialDecoder [2, 3] [97, 98] (storeHandle none) [⟨[0, 1], [2, 1]⟩, ⟨[1, 1], [0, 1]⟩] =
    some [⟨[97, 98, 97, 98], [0, 2, 4]⟩, ⟨[], [0]⟩] := by decide +kernel
example : aStagesOk exChainV2.a2a [2, 3] ∧ ∀ r ∈ [(⟨[0, 1], [2, 1]⟩ : Subset), ⟨[1, 1], [0, 1]⟩],
    r.wf = true ∧ r.inboundsShape [2, 3] = true := ⟨exA, by decide +kernel⟩

private def exEncVlen : Bytes :=
  [28, 0, 0, 0, 0, 0, 0, 0,  0, 0, 0, 0,  1, 0, 0, 0,  1, 0, 0, 0,  1, 0, 0, 0,  1, 0, 0, 0,  3, 0, 0, 0,  6, 0, 0, 0,
   97, 98, 99, 120, 121, 122,  254, 83, 215, 52,  82, 205, 173, 40]
private theorem exEncVlen_eq : exChainVlen.encode [2, 3] exV = some exEncVlen := by decide +kernel

private theorem exVlen_ok : chainVOk exChainVlen [2, 3] exV := by
  intro w e' hw he'
  obtain rfl : (⟨[97, 98, 99, 120, 121, 122], [0, 1, 1, 1, 1, 3, 6]⟩ : VArr) = w :=
    Option.some.inj ((by decide +kernel : encodeA2AV exChainVlen.a2a [2, 3] exV = some _).symm.trans hw)
  obtain rfl : exEncVlen.take 46 = e' :=
    Option.some.inj ((by decide +kernel : exChainVlen.codec.enc (prod (shapesOf exChainVlen.a2a [2, 3])) _ = some _).symm.trans he')
  exact ⟨exCfg_lawful, by decide +kernel, by decide +kernel⟩

example : aStagesOk exChainVlen.a2a [2, 3] ∧ (∀ st ∈ exChainVlen.b2b, bStageOk st) ∧ chainVOk exChainVlen [2, 3] exV ∧
    exChainVlen.encode [2, 3] exV = some exEncVlen :=
  ⟨exA, exB, exVlen_ok, exEncVlen_eq⟩
example : exChainVlen.decode [2, 3] exEncVlen = some exV := by decide +kernel
example : exChainVlen.partialDecoder [2, 3] [] (storeHandle (some exEncVlen)) exRegions =
    some [⟨[98, 99, 120, 121, 122], [0, 0, 2, 2, 5]⟩, ⟨[120, 121, 122], [0, 0, 0, 3]⟩, exV, ⟨[], [0]⟩] := by
  decide +kernel

/-! ## Part 3: the array theorems for variable-length arrays -/

/-- `BEq` on elements as in `C01` (from `DecidableEq`; it agrees with the list `==`) -/
local instance (priority := high) instBEqElem : BEq Bytes := instBEqOfDecidableEq

/-- the CAPPED array configuration (`arrCfgV` is the one without the cap): the chunk codec is the chain `c` applied to
chunks of shape `sh`; elements are the byte strings of the `string` / `bytes` values.
`enc` = `Element::into_array_bytes` (the canonical `ArrayBytes::Variable` of the elements) then `CodecChain::encode`
(`[]` stands for an encoder error: `lossless_of_chainV` is about the chunks on which the encoder succeeds);
`dec` = `CodecChain::decode` then the element view, made an error when an element is longer than `L` (think `isize::MAX`,
the longest `Vec<u8>`), so that this decoder returns well-formed elements on ALL byte strings.
`read_after_history_vlen` / `key_present_iff_vlen` do not need that: they are about `arrCfgV`, where `L` bounds the strings
of the history only. -/
def arrCfgOfChainV (c : ChainV) (sh : Shape) (fill : Bytes) (L : Nat) (shape : Shape) (grid : Grid)
    (keyOf : Idx → Key) (storeEmpty : Bool) : ArrCfg Bytes :=
  { shape := shape, grid := grid, fill := fill, keyOf := keyOf,
    enc := fun xs => (c.encode sh (VArr.ofElems xs)).getD [],
    dec := fun b => (c.decode sh b).bind (fun v =>
      if v.elems.all (fun e => decide (e.length ≤ L)) then some v.elems else none),
    storeEmpty := storeEmpty }

def goodChunkV (L : Nat) (sh : Shape) (xs : List Bytes) : Bool :=
  xs.length == prod sh && xs.all (fun e => decide (e.length ≤ L))

/-- the encoder's size guards pass on every well-formed chunk (`fitsV_v2`, `fitsV_vlen_plain` give it) -/
def fitsV (c : ChainV) (sh : Shape) (L : Nat) : Prop :=
  ∀ xs, goodChunkV L sh xs = true → (c.encode sh (VArr.ofElems xs)).isSome = true ∧ c.ok sh (VArr.ofElems xs)

example : isFillVlen (VArr.ofElems [[97, 98, 97, 98], []]) [97, 98] = false ∧
    isFillVlen (VArr.ofElems [[97, 98], [97, 98]]) [97, 98] = true := by decide +kernel

private theorem chainV_roundtrip (c : ChainV) (sh : Shape) (L : Nat) (ha : aStagesOk c.a2a sh)
    (hb : ∀ st ∈ c.b2b, bStageOk st) (hfits : fitsV c sh L) (x : List Bytes) (hx : goodChunkV L sh x = true) :
    ∃ e v', c.encode sh (VArr.ofElems x) = some e ∧ c.decode sh e = some v' ∧ v'.elems = x := by
  obtain ⟨hsome, hok⟩ := hfits x hx
  obtain ⟨e, he⟩ := Option.isSome_iff_exists.mp hsome
  obtain ⟨v', hd, _, hel, _⟩ := chainV_dec_enc c sh _ e ha hb hok he
  exact ⟨e, v', he, hd, hel.trans (elems_ofElems x)⟩

/-- **the chain is lossless on well-formed chunks** (`chainV_dec_enc`) -/
theorem lossless_of_chainV (c : ChainV) (sh : Shape) (fill : Bytes) (L : Nat) (shape : Shape) (grid : Grid)
    (keyOf : Idx → Key) (storeEmpty : Bool) (ha : aStagesOk c.a2a sh) (hb : ∀ st ∈ c.b2b, bStageOk st)
    (hfits : fitsV c sh L) :
    (arrCfgOfChainV c sh fill L shape grid keyOf storeEmpty).LosslessOn (goodChunkV L sh) := by
  intro x hx
  obtain ⟨e, v', he, hd, hel⟩ := chainV_roundtrip c sh L ha hb hfits x hx
  simp only [goodChunkV, Bool.and_eq_true] at hx
  simp only [arrCfgOfChainV, he, Option.getD_some, hd, Option.bind_some, hel, hx.2, if_true]

/-- the array-to-array stages accept every valid value and only rearrange its elements, so a chain fits once its codec
encodes every valid canonical value of the innermost shape whose elements have at most `L` bytes -/
private theorem fitsV_of_codec (a2a : List AStage) (codec : VCodec) (b2b : List BStage) (sh : Shape) (L : Nat)
    (ha : aStagesOk a2a sh)
    (hc : ∀ w : VArr, w.valid (prod (shapesOf a2a sh)) = true → canon w → (∀ y ∈ w.elems, y.length ≤ L) →
      ∃ e', codec.enc (prod (shapesOf a2a sh)) w = some e' ∧ codec.ok w e') :
    fitsV ⟨a2a, codec, b2b⟩ sh L := by
  intro xs hx
  simp only [goodChunkV, Bool.and_eq_true, beq_iff_eq, List.all_eq_true, decide_eq_true_eq] at hx
  have hv := ofElems_valid_of_length xs (prod sh) hx.1
  have hao := aStagesOk_aOk a2a sh ha
  obtain ⟨w, h1, hv1, he1, hc1, _⟩ := encodeA2AV_spec a2a sh _ hao hv
  obtain ⟨e', he', hok⟩ := hc w hv1 (hc1 (canon_ofElems xs)) fun y hy => by
    rw [he1, elems_ofElems] at hy
    exact hx.2 y (aEnc_mem a2a sh xs hao hx.1 y hy)
  refine ⟨?_, fun w2 e2 hw2 he2 => ?_⟩
  · simp only [ChainV.encode, hv, Bool.not_true, Bool.false_eq_true, if_false, h1, Option.bind_some, he']
    rfl
  · obtain rfl : w = w2 := Option.some.inj (h1.symm.trans hw2)
    obtain rfl : e' = e2 := Option.some.inj (he'.symm.trans he2)
    exact hok

/-- `vlen_v2` chains fit every chunk of fewer than 2^32 elements of fewer than 2^32 bytes each -/
theorem fitsV_v2 (a2a : List AStage) (b2b : List BStage) (sh : Shape) (L : Nat) (ha : aStagesOk a2a sh)
    (hn : prod (shapesOf a2a sh) < 2 ^ 32) (hL : L < 2 ^ 32) : fitsV ⟨a2a, .v2, b2b⟩ sh L :=
  fitsV_of_codec a2a .v2 b2b sh L ha fun w hv _ hy =>
    ⟨_, congrArg Except.toOption (C03.vlenV2_enc_valid _ w hv
      ⟨by rw [elems_length _ w hv]; exact hn, fun y h => Nat.lt_of_le_of_lt (hy y h) hL⟩), trivial⟩

private theorem flatten_length_le (L : Nat) : ∀ (xs : List Bytes), (∀ x ∈ xs, x.length ≤ L) →
    xs.flatten.length ≤ xs.length * L := by
  intro xs h
  rw [List.length_flatten, ← List.length_map (f := List.length)]
  exact sum_le_of_bound _ L fun n hn => by
    obtain ⟨x, hx, rfl⟩ := List.mem_map.mp hn
    exact h x hx

/-- `zarrs.vlen` chains without codecs inside the index and data chains (beyond `bytes`) fit every chunk whose index
and data stay below 2^32 bytes (either index type) -/
theorem fitsV_vlen_plain (a2a : List AStage) (b2b : List BStage) (c : Vlen.Cfg) (sh : Shape) (L : Nat)
    (hi : c.idxChain = []) (hd : c.dataChain = []) (ha : aStagesOk a2a sh)
    (hsz : 8 + (prod (shapesOf a2a sh) + 1) * 8 + prod (shapesOf a2a sh) * L < 2 ^ 32) :
    fitsV ⟨a2a, .vlen c, b2b⟩ sh L := by
  refine fitsV_of_codec a2a (.vlen c) b2b sh L ha fun w hv hcan hy => ?_
  -- the bytes of a canonical value are its elements, each of at most `L` bytes
  have hdata : w.data.length ≤ prod (shapesOf a2a sh) * L := by
    rw [← congrArg VArr.data (ofElems_elems _ w hv hcan), ← elems_length _ w hv]
    exact flatten_length_le L _ hy
  have hdata32 : w.data.length < 2 ^ 32 := by omega
  have henc := (vlenEnc_eq_ok_iff c _ w _).mpr ⟨hv, fun _ o ho => Nat.lt_of_le_of_lt (valid_offsets_le _ w hv o ho) hdata32,
    vlenPack_plain c hi hd _ _⟩
  have hlen := C03.vlen_size_plain c hi hd _ w _ henc
  have hw8 : c.w ≤ 8 := by unfold Vlen.Cfg.w; split <;> omega
  have hmul : (prod (shapesOf a2a sh) + 1) * c.w ≤ (prod (shapesOf a2a sh) + 1) * 8 := Nat.mul_le_mul_left _ hw8
  refine ⟨_, congrArg Except.toOption henc, ⟨?_, ?_⟩, Nat.lt_trans hdata32 (by decide), by omega⟩
  · rw [hi]; intro x hx; cases hx
  · rw [hd]; intro x hx; cases hx

/-- the array configuration with the decoder as it is, `CodecChain::decode` then the element view: `arrCfgOfChainV`
without the cap (`arrCfgV_eq`) -/
def arrCfgV (c : ChainV) (sh : Shape) (fill : Bytes) (shape : Shape) (grid : Grid) (keyOf : Idx → Key)
    (storeEmpty : Bool) : ArrCfg Bytes :=
  { shape := shape, grid := grid, fill := fill, keyOf := keyOf,
    enc := fun xs => (c.encode sh (VArr.ofElems xs)).getD [],
    dec := fun b => (c.decode sh b).map VArr.elems,
    storeEmpty := storeEmpty }

theorem arrCfgV_eq (c : ChainV) (sh : Shape) (fill : Bytes) (L : Nat) (shape : Shape) (grid : Grid) (keyOf : Idx → Key)
    (storeEmpty : Bool) :
    arrCfgV c sh fill shape grid keyOf storeEmpty =
      (arrCfgOfChainV c sh fill L shape grid keyOf storeEmpty).withDec (fun b => (c.decode sh b).map VArr.elems) := rfl

/-- the real decoder returns every chunk of strings of at most `L` bytes that the chain has encoded: what the refinement
asks of a codec (`ArrCfg.ROk`) -/
private theorem rok_chainV (c : ChainV) (sh : Shape) (fill : Bytes) (L : Nat) (shape : Shape) (grid : Grid)
    (keyOf : Idx → Key) (storeEmpty : Bool) (G : Shape)
    (ha : aStagesOk c.a2a sh) (hb : ∀ st ∈ c.b2b, bStageOk st) (hfits : fitsV c sh L) (hfill : fill.length ≤ L)
    (hreg : ∀ i s, (arrCfgV c sh fill shape grid keyOf storeEmpty).chunkShape i = some s → s = sh)
    (hkeys : ∀ a b, keyOf a = keyOf b → a = b) (hgn : ∃ gcfg, grid = Grid.new gcfg) (hgw : grid.wf = true)
    (hgs : grid.gridShape shape = some G) (hrank : shape.length = grid.length) :
    (arrCfgV c sh fill shape grid keyOf storeEmpty).ROk (fun e => decide (e.length ≤ L)) G where
  decEnc := by
    intro i s x hs hl he
    rw [hreg i s hs] at hl
    have hx : goodChunkV L sh x = true := by
      simp only [goodChunkV, Bool.and_eq_true, beq_iff_eq, List.all_eq_true]
      exact ⟨hl, he⟩
    obtain ⟨e, v', he', hd, hel⟩ := chainV_roundtrip c sh L ha hb hfits x hx
    simp only [arrCfgV, he', Option.getD_some, hd, Option.map_some, hel]
  fillGood := decide_eq_true hfill
  keysInj := hkeys
  gridNew := hgn
  gridWf := hgw
  gridShape := hgs
  rank := hrank

/-- **C01 for variable-length arrays.**  The array whose chunks (all of shape `sh`) are encoded by ANY lawful vlen
chain — transposes / squeezes / caches, `vlen_v2` (= `vlen-utf8`, `vlen-bytes`, `vlen-array`) or `zarrs.vlen`,
checksums / invertible compressors — with any injective key encoding, decoded by `CodecChain::decode` itself: after any
in-bounds history of writes of strings of at most `L` bytes from the empty store, every read route
(`retrieve_array_subset`, `retrieve_chunk`, `retrieve_chunk_subset`, `retrieve_chunks`) returns the abstract array's
elements.  The byte-level steps the real methods take on `ArrayBytes::Variable` are the element-level steps of the model
by Part 1.  The length bound `L` is a hypothesis on the HISTORY (the strings written and the fill value have at most `L`
bytes, and the chain can encode chunks of such strings), not a test in the decoder.  Proof: the refinement
(`ArrCfg.run_inv_nil`, `Inv.reads`) with `rok_chainV`. -/
theorem read_after_history_vlen (c : ChainV) (sh : Shape) (fill : Bytes) (L : Nat) (shape : Shape) (grid : Grid)
    (keyOf : Idx → Key) (storeEmpty : Bool) (G : Shape)
    (ha : aStagesOk c.a2a sh) (hb : ∀ st ∈ c.b2b, bStageOk st) (hfits : fitsV c sh L) (hfill : fill.length ≤ L)
    (hreg : ∀ i s, (arrCfgV c sh fill shape grid keyOf storeEmpty).chunkShape i = some s → s = sh)
    (hkeys : ∀ a b, keyOf a = keyOf b → a = b) (hgn : ∃ gcfg, grid = Grid.new gcfg) (hgw : grid.wf = true)
    (hgs : grid.gridShape shape = some G) (hrank : shape.length = grid.length)
    (ops : List (WriteOp Bytes))
    (hops : ∀ op ∈ ops, C01.opInBounds (arrCfgV c sh fill shape grid keyOf storeEmpty) G op)
    (hdata : ∀ op ∈ ops, ∀ e ∈ opData op, e.length ≤ L) :
    let cfg := arrCfgV c sh fill shape grid keyOf storeEmpty
    ∃ st, cfg.run [] ops = some st ∧
      (∀ r : Subset, r.wf = true → r.inboundsShape cfg.shape = true →
        cfg.retrieveArraySubset st r = some (AArr.read (cfg.absRun ops) r)) ∧
      (∀ i, inB i G = true → ∃ cs, cfg.chunkSubset i = some cs ∧
        cfg.retrieveChunk st i = some (AArr.read (cfg.absRun ops) cs)) ∧
      (∀ i r, inB i G = true → r.wf = true →
        (∃ s, cfg.chunkShape i = some s ∧ r.inboundsShape s = true) →
        ∃ cs, cfg.chunkSubset i = some cs ∧
          cfg.retrieveChunkSubset st i r = some (AArr.read (cfg.absRun ops) ⟨addIdx r.start cs.start, r.shape⟩)) ∧
      (∀ b : Subset, b.wf = true → b.inboundsShape G = true →
        ∃ region, cfg.grid.chunksSubset b = some region ∧
          cfg.retrieveChunks st b = some (AArr.read (cfg.absRun ops) region)) := by
  have hrok := rok_chainV c sh fill L shape grid keyOf storeEmpty G ha hb hfits hfill hreg hkeys hgn hgw hgs hrank
  obtain ⟨st, hrun, hinv, _⟩ := run_inv_nil hrok ops fun op hop =>
    ⟨hops op hop, fun e he => decide_eq_true (hdata op hop e he)⟩
  exact ⟨st, hrun, hinv.reads hrok⟩

/-- **C04 (elision on) for variable-length arrays**: a chunk key is present exactly when its chunk holds a non-fill
element (with the element-wise `is_fill_value`: a chunk like `["abab", ""]` under the fill value `"ab"` is stored) -/
theorem key_present_iff_vlen (c : ChainV) (sh : Shape) (fill : Bytes) (L : Nat) (shape : Shape) (grid : Grid)
    (keyOf : Idx → Key) (G : Shape)
    (ha : aStagesOk c.a2a sh) (hb : ∀ st ∈ c.b2b, bStageOk st) (hfits : fitsV c sh L) (hfill : fill.length ≤ L)
    (hreg : ∀ i s, (arrCfgV c sh fill shape grid keyOf false).chunkShape i = some s → s = sh)
    (hkeys : ∀ a b, keyOf a = keyOf b → a = b) (hgn : ∃ gcfg, grid = Grid.new gcfg) (hgw : grid.wf = true)
    (hgs : grid.gridShape shape = some G) (hrank : shape.length = grid.length)
    (ops : List (WriteOp Bytes))
    (hops : ∀ op ∈ ops, C01.opInBounds (arrCfgV c sh fill shape grid keyOf false) G op)
    (hdata : ∀ op ∈ ops, ∀ e ∈ opData op, e.length ≤ L) :
    let cfg := arrCfgV c sh fill shape grid keyOf false
    ∃ st, cfg.run [] ops = some st ∧
      ∀ i, inB i G = true → ∃ cs, cfg.chunkSubset i = some cs ∧
        (cfg.keyOf i ∈ st.keys ↔ ∃ j, cs.contains j = true ∧ cfg.absRun ops j ≠ cfg.fill) := by
  have hrok := rok_chainV c sh fill L shape grid keyOf false G ha hb hfits hfill hreg hkeys hgn hgw hgs hrank
  obtain ⟨st, hrun, hinv, _⟩ := run_inv_nil hrok ops fun op hop =>
    ⟨hops op hop, fun e he => decide_eq_true (hdata op hop e he)⟩
  refine ⟨st, hrun, fun i hi => ?_⟩
  obtain ⟨cs, hcs, _⟩ := hrok.chunk_def i hi
  exact ⟨cs, hcs, hinv.elide rfl i hi cs hcs⟩

/-- fill value `""` -/
private def exArr : ArrCfg Bytes :=
  arrCfgOfChainV exChainV2 [2, 3] [] 1000 [4, 6] (Grid.new ([2, 3].map DimCfg.fixed)) C01.exKey false
/-- fill value `"ab"` -/
private def exArrAb : ArrCfg Bytes :=
  arrCfgOfChainV exChainV2 [2, 3] [97, 98] 1000 [4, 6] (Grid.new ([2, 3].map DimCfg.fixed)) C01.exKey false

/-- the chunk `["a", "", "bc", "", "", "xyz"]`, a write straddling all four chunks (rows 1–2 × columns 2–3, with an
empty string), an all-empty chunk (elided), an erase, a partial-chunk write (read–modify–write through
`update_bytes_vlen`) -/
private def exOps : List (WriteOp Bytes) :=
  [ .storeChunk [0, 0] exChunk,
    .storeArraySubset ⟨[1, 2], [2, 2]⟩ [[80], [], [81, 82], [83, 84, 85]],
    .storeChunk [1, 0] (List.replicate 6 []),
    .eraseChunk [0, 1],
    .storeChunkSubset [1, 1] ⟨[0, 1], [2, 1]⟩ [[90, 90], [91]] ]

/-- fill `"ab"`: the chunk `["abab", "", "ab", "ab", "ab", "ab"]` — its bytes are `"ab"` six times — and an all-fill
chunk -/
private def exOpsAb : List (WriteOp Bytes) :=
  [ .storeChunk [0, 0] [[97, 98, 97, 98], [], [97, 98], [97, 98], [97, 98], [97, 98]],
    .storeChunk [0, 1] (List.replicate 6 [97, 98]),
    .storeArraySubset ⟨[1, 2], [2, 2]⟩ [[80], [], [97, 98], [83, 84, 85]] ]

private theorem exFits : fitsV exChainV2 [2, 3] 1000 := fitsV_v2 _ _ [2, 3] 1000 exA (by decide +kernel) (by decide +kernel)

/-- non-vacuity of `fitsV_vlen_plain` (`uint64` big-endian index) -/
example : (⟨true, true, [], []⟩ : Vlen.Cfg).idxChain = [] ∧ (⟨true, true, [], []⟩ : Vlen.Cfg).dataChain = [] ∧
    aStagesOk [.transpose [1, 0], .cache] [2, 3] ∧
    8 + (prod (shapesOf [.transpose [1, 0], .cache] [2, 3]) + 1) * 8 +
      prod (shapesOf [.transpose [1, 0], .cache] [2, 3]) * 1000 < 2 ^ 32 :=
  ⟨rfl, rfl, exA, by decide +kernel⟩

private theorem exOps_inBounds : ∀ op ∈ exOps, C01.opInBounds exArr [2, 2] op := by
  intro op hop
  simp only [exOps, List.mem_cons, List.not_mem_nil, or_false] at hop
  rcases hop with rfl | rfl | rfl | rfl | rfl
  · exact ⟨rfl, [2, 3], rfl, rfl⟩
  · exact ⟨rfl, rfl, rfl⟩
  · exact ⟨rfl, [2, 3], rfl, rfl⟩
  · exact (rfl : inB [0, 1] [2, 2] = true)
  · exact ⟨rfl, rfl, ⟨[2, 3], rfl, rfl⟩, rfl⟩

private theorem exOpsAb_inBounds : ∀ op ∈ exOpsAb, C01.opInBounds exArrAb [2, 2] op := by
  intro op hop
  simp only [exOpsAb, List.mem_cons, List.not_mem_nil, or_false] at hop
  rcases hop with rfl | rfl | rfl
  · exact ⟨rfl, [2, 3], rfl, rfl⟩
  · exact ⟨rfl, [2, 3], rfl, rfl⟩
  · exact ⟨rfl, rfl, rfl⟩

/-- non-vacuity of `lossless_of_chainV` / `fitsV_v2` on both examples (capped decoder) -/
example : aStagesOk exChainV2.a2a [2, 3] ∧ (∀ st ∈ exChainV2.b2b, bStageOk st) ∧ fitsV exChainV2 [2, 3] 1000 ∧
    ([] : Bytes).length ≤ 1000 ∧ (∀ i s, exArr.chunkShape i = some s → s = [2, 3]) ∧
    (∀ a b, C01.exKey a = C01.exKey b → a = b) ∧ (Grid.new ([2, 3].map DimCfg.fixed)).wf = true ∧
    (Grid.new ([2, 3].map DimCfg.fixed)).gridShape [4, 6] = some [2, 2] ∧
    (∀ op ∈ exOps, C01.opInBounds exArr [2, 2] op) ∧ (∀ op ∈ exOps, ∀ e ∈ opData op, e.length ≤ 1000) ∧
    (∀ op ∈ exOpsAb, C01.opInBounds exArrAb [2, 2] op) ∧ (∀ op ∈ exOpsAb, ∀ e ∈ opData op, e.length ≤ 1000) :=
  ⟨exA, exB, exFits, by decide +kernel, fun i s h => arr_regular_chunkShape _ [2, 3] rfl i s h, C01.exKey_inj, by decide +kernel,
    by decide +kernel, exOps_inBounds, by decide +kernel, exOpsAb_inBounds, by decide +kernel⟩

/-- what the two histories leave in the store (chunks (0,0) and (1,1); chunks (0,0), (0,1) and (1,1)); each history
is run once, the examples below read from its store -/
private def exStore : KV :=
  [(['/', '/'], [6, 0, 0, 0,  1, 0, 0, 0, 97,  0, 0, 0, 0,  0, 0, 0, 0,  0, 0, 0, 0,  2, 0, 0, 0, 98, 99,  1, 0, 0, 0, 80,
     68, 104, 78, 102]),
   (['a', '/', 'a', '/'], [6, 0, 0, 0,  3, 0, 0, 0, 83, 84, 85,  0, 0, 0, 0,  2, 0, 0, 0, 90, 90,  1, 0, 0, 0, 91,
     0, 0, 0, 0,  0, 0, 0, 0,  65, 211, 185, 101])]
private def exStoreAb : KV :=
  [(['/', '/'], [6, 0, 0, 0,  4, 0, 0, 0, 97, 98, 97, 98,  2, 0, 0, 0, 97, 98,  0, 0, 0, 0,  2, 0, 0, 0, 97, 98,
     2, 0, 0, 0, 97, 98,  1, 0, 0, 0, 80,  155, 115, 202, 37]),
   (['/', 'a', '/'], [6, 0, 0, 0,  2, 0, 0, 0, 97, 98,  0, 0, 0, 0,  2, 0, 0, 0, 97, 98,  2, 0, 0, 0, 97, 98,
     2, 0, 0, 0, 97, 98,  2, 0, 0, 0, 97, 98,  171, 143, 132, 56]),
   (['a', '/', 'a', '/'], [6, 0, 0, 0,  3, 0, 0, 0, 83, 84, 85,  2, 0, 0, 0, 97, 98,  2, 0, 0, 0, 97, 98,
     2, 0, 0, 0, 97, 98,  2, 0, 0, 0, 97, 98,  2, 0, 0, 0, 97, 98,  0, 168, 18, 234])]
private theorem exRun : exArr.run [] exOps = some exStore := by decide +kernel
private theorem exRunAb : exArrAb.run [] exOpsAb = some exStoreAb := by decide +kernel

example : (exArr.run [] exOps).bind (fun st => exArr.retrieveArraySubset st ⟨[0, 0], [4, 6]⟩) =
    some (AArr.read (exArr.absRun exOps) ⟨[0, 0], [4, 6]⟩) := by rw [exRun]; decide +kernel
/-- a region straddling the four chunks (rows 1–3 × columns 1–4): `"QR"` written by the straddling write was
overwritten by the all-empty chunk, `""` at (1,3) by the erase -/
example : (exArr.run [] exOps).bind (fun st => exArr.retrieveArraySubset st ⟨[1, 1], [3, 4]⟩) =
    some [[], [80], [], [],  [], [], [83, 84, 85], [90, 90],  [], [], [], [91]] := by rw [exRun]; decide +kernel
/-- keys: chunk (0,0) stored, (0,1) erased, (1,0) all empty hence elided (even though part of it was written by the
straddling write before), (1,1) present -/
example : (exArr.run [] exOps).map (fun st => [[0, 0], [0, 1], [1, 0], [1, 1]].map (fun i => decide (C01.exKey i ∈ st.keys))) =
    some [true, false, false, true] := by rw [exRun]; decide +kernel
/-- fill `"ab"`: the chunk whose bytes are `"ab"` × 6 but whose elements are not all `"ab"` IS stored and reads back
element by element; the all-fill chunk (0,1) is stored only once the straddling write puts `""` into it (at (1,3)) -/
example : (exArrAb.run [] (exOpsAb.take 2)).map (fun st => [[0, 0], [0, 1], [1, 0], [1, 1]].map (fun i => decide (C01.exKey i ∈ st.keys))) =
    some [true, false, false, false] := by decide +kernel
example : (exArrAb.run [] exOpsAb).bind (fun st => exArrAb.retrieveArraySubset st ⟨[0, 0], [2, 4]⟩) =
    some [[97, 98, 97, 98], [], [97, 98], [97, 98], [97, 98], [97, 98], [80], []] := by rw [exRunAb]; decide +kernel
example : (exArrAb.run [] exOpsAb).bind (fun st => exArrAb.retrieveArraySubset st ⟨[0, 0], [4, 6]⟩) =
    some (AArr.read (exArrAb.absRun exOpsAb) ⟨[0, 0], [4, 6]⟩) := by rw [exRunAb]; decide +kernel

/-- the same arrays without the cap, for `read_after_history_vlen` / `key_present_iff_vlen`: `L = 1000` only bounds the
strings of the history -/
private def exArrV : ArrCfg Bytes := arrCfgV exChainV2 [2, 3] [] [4, 6] (Grid.new ([2, 3].map DimCfg.fixed)) C01.exKey false
private def exArrVAb : ArrCfg Bytes :=
  arrCfgV exChainV2 [2, 3] [97, 98] [4, 6] (Grid.new ([2, 3].map DimCfg.fixed)) C01.exKey false
example : fitsV exChainV2 [2, 3] 1000 ∧ (∀ i s, exArrV.chunkShape i = some s → s = [2, 3]) ∧
    (∀ op ∈ exOps, C01.opInBounds exArrV [2, 2] op) ∧ (∀ op ∈ exOps, ∀ e ∈ opData op, e.length ≤ 1000) ∧
    (∀ op ∈ exOpsAb, C01.opInBounds exArrVAb [2, 2] op) :=
  ⟨exFits, fun i s h => arr_regular_chunkShape _ [2, 3] rfl i s h,
    fun op hop => by have := exOps_inBounds op hop; cases op <;> exact this, by decide +kernel,
    fun op hop => by have := exOpsAb_inBounds op hop; cases op <;> exact this⟩
private theorem exRunV : exArrV.run [] exOps = some exStore := by decide +kernel
private theorem exRunVAb : exArrVAb.run [] exOpsAb = some exStoreAb := by decide +kernel
example : (exArrV.run [] exOps).bind (fun st => exArrV.retrieveArraySubset st ⟨[0, 0], [4, 6]⟩) =
    some (AArr.read (exArrV.absRun exOps) ⟨[0, 0], [4, 6]⟩) := by rw [exRunV]; decide +kernel
example : (exArrV.run [] exOps).map (fun st => [[0, 0], [0, 1], [1, 0], [1, 1]].map (fun i => decide (C01.exKey i ∈ st.keys))) =
    some [true, false, false, true] := by rw [exRunV]; decide +kernel
example : (exArrVAb.run [] exOpsAb).bind (fun st => exArrVAb.retrieveArraySubset st ⟨[0, 0], [2, 4]⟩) =
    some [[97, 98, 97, 98], [], [97, 98], [97, 98], [97, 98], [97, 98], [80], []] := by rw [exRunVAb]; decide +kernel

end Zarrs.C01Vlen
