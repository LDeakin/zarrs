import ZarrsModel.Model.FixedScaleOffset
import ZarrsModel.Lemmas.Fso
/-
C03, continued: `numcodecs.fixedscaleoffset` (Model/FixedScaleOffset.lean).

* the SPECIFICATION on exact rationals is within half a quantum, exactly half only at ties, and idempotent
  (`fso_within_tolerance`, `fso_idempotent`);
* the CODE (each `f32`/`f64` step = exact operation followed by `rnd p`) equals the specification whenever the explicit
  predicate `encExact` / `decExact` ("every intermediate is exactly representable and survives the casts") holds
  (`fso_exact_when_representable`); integers below `2^24` / `2^53` are such (`rnd_intCast`), which gives the integer
  class a closed form (`fso_int_formula`) and its exact lossless condition (`fso_int_lossless`, `fso_int_lossless_iff`);
  inputs OUTSIDE the predicate (e.g. almost every value under a scale that is not a power of two: `n / 10` is not a
  binary fraction; 64-bit integers above `2^53`) are not covered by a theorem: the driver judges them with
  `0.5 / scale` plus a float slack; infinities, NaN, overflow and subnormal results are outside the model altogether;
* what the codec ADVERTISES for its encoded representation is what encoding produces (`fso_fill_mapping`), and the
  all-fill test may be done on either side exactly when the codec is injective on the chunk's values (`fso_all_fill_iff`).
-/
namespace Zarrs.C03
open Zarrs Zarrs.Fso

/-- **the decoded value is within half a quantum of the original**, `|decodeQ (encodeQ x) - x| ≤ 1 / (2 * scale)`, for
every rational `x` and every positive scale, **with equality exactly at the ties** (`(x - offset) * scale` has fractional
part one half) -/
theorem fso_within_tolerance (off sc x : Rat) (hs : 0 < sc) :
    (decodeQ off sc (encodeQ off sc x) - x).abs ≤ 1 / (2 * sc) ∧
    ((decodeQ off sc (encodeQ off sc x) - x).abs = 1 / (2 * sc) ↔ isTie ((x - off) * sc)) := by
  have hn := roundHalfAway_near ((x - off) * sc)
  rw [← roundHalfAway_tie_iff, decodeQ_sub off sc x hs]
  unfold encodeQ
  generalize (roundHalfAway ((x - off) * sc) : Rat) - (x - off) * sc = d at *
  -- `|d| ≤ 1/2`, scaled by `t = 1 / sc`
  have hi : 0 < sc⁻¹ := Rat.inv_pos.mpr hs
  rw [Rat.div_def, show 1 / (2 * sc) = 1 / 2 * sc⁻¹ by grind]
  generalize sc⁻¹ = t at hi ⊢
  have a1 : -(1/2) * t ≤ d * t := Rat.mul_le_mul_of_nonneg_right hn.1 (Rat.le_of_lt hi)
  have a2 : d * t ≤ 1/2 * t := Rat.mul_le_mul_of_nonneg_right hn.2 (Rat.le_of_lt hi)
  refine ⟨abs_le_of _ _ (by grind) a2, ?_⟩
  rw [abs_eq_iff _ _ (by grind), ← mul_right_inj_pos d (1/2) t hi, ← mul_right_inj_pos d (-(1/2)) t hi]
  grind

/-- offset -3, scale 10: 11363.2 is an ordinary value (error 0 < 1/20); 11363.25 is a tie (113662.5), rounded AWAY from zero
to 113663, error exactly 1/20; so is -3.25 (a tie at -2.5, rounded to -3) -/
example : encodeQ (-3) 10 (113632 / 10) = 113662 ∧ decodeQ (-3) 10 113662 = 113632 / 10 ∧
    isTie ((11363.25 - (-3)) * 10 : Rat) ∧ encodeQ (-3) 10 11363.25 = 113663 ∧
    (decodeQ (-3) 10 113663 - 11363.25 : Rat).abs = 1 / (2 * 10) ∧
    encodeQ (-3) 10 (-3.25) = -3 ∧ ¬ isTie ((11363.2 - (-3)) * 10 : Rat) := by decide +kernel

/-- ties go away from zero (Rust `f32::round` / `f64::round`, not ties-to-even) -/
theorem fso_tie_away (off sc x : Rat) (h : isTie ((x - off) * sc)) :
    (0 ≤ (x - off) * sc → (encodeQ off sc x : Rat) = (x - off) * sc + 1 / 2) ∧
    ((x - off) * sc < 0 → (encodeQ off sc x : Rat) = (x - off) * sc - 1 / 2) :=
  roundHalfAway_tie_away _ h

example : encodeQ 0 1 (5 / 2) = 3 ∧ encodeQ 0 1 (-5 / 2) = -3 ∧ encodeQ 0 2 (1 / 4) = 1 := by decide +kernel

theorem encodeQ_decodeQ (off sc : Rat) (n : Int) (hs : sc ≠ 0) : encodeQ off sc (decodeQ off sc n) = n := by
  unfold encodeQ decodeQ
  have : ((n : Rat) / sc + off - off) * sc = n := by grind
  rw [this, roundHalfAway_intCast]

/-- **encode ∘ decode ∘ encode = encode** -/
theorem fso_idempotent (off sc x : Rat) (hs : sc ≠ 0) :
    encodeQ off sc (decodeQ off sc (encodeQ off sc x)) = encodeQ off sc x :=
  encodeQ_decodeQ off sc _ hs

example : encodeQ 1000 100 (decodeQ 1000 100 (encodeQ 1000 100 (12345678 / 1000))) = 1134568 := by decide +kernel

/-- **under the explicit exactness predicate the floating computation IS the specification**: the encoded element is
`encodeQ x`; the decoded element is `decodeQ (encodeQ x)` passed through the final `as $ty` (the identity for a float
element type, truncation and saturation for an integer one).  `encExact` / `decExact` are decidable and are what the
driver evaluates to decide whether a line is predicted exactly or judged with tolerance. -/
theorem fso_exact_when_representable (c : Cfg) (x : Rat)
    (he : encExact c x = true) (hd : decExact c (encodeQ c.off c.sc x) = true) :
    encodeElem c x = (encodeQ c.off c.sc x : Rat) ∧
    decodeElem c (encodeElem c x) = fromF c.dtype (decodeQ c.off c.sc (encodeQ c.off c.sc x)) := by
  have h1 := encodeElem_exact c x he
  exact ⟨h1, by rw [h1]; exact decodeElem_exact c _ hd⟩

/-- **hence, for a float element type, the code is within the tolerance** (a consequence for this input class, not a
convention), with equality only at ties -/
theorem fso_float_within_tolerance (c : Cfg) (w : Nat) (x : Rat) (hT : c.dtype = .flt w) (hs : 0 < c.sc)
    (he : encExact c x = true) (hd : decExact c (encodeQ c.off c.sc x) = true) :
    (decodeElem c (encodeElem c x) - x).abs ≤ 1 / (2 * c.sc) ∧
    ((decodeElem c (encodeElem c x) - x).abs = 1 / (2 * c.sc) ↔ isTie ((x - c.off) * c.sc)) := by
  have h := (fso_exact_when_representable c x he hd).2
  have hf : fromF c.dtype (decodeQ c.off c.sc (encodeQ c.off c.sc x)) = decodeQ c.off c.sc (encodeQ c.off c.sc x) := by
    rw [hT]; rfl
  rw [h, hf]
  exact fso_within_tolerance c.off c.sc x hs

/-- float64 with offset -3, scale 2, stored as int32: 11363.25 and the tie 0.25 (pre-rounding value 6.5) are inside the
predicate; with scale 10 the ENCODING of 11363.25 is still exact but the decoding is not (113663 / 10 is no binary fraction):
such a line is judged with tolerance -/
example : encExact ⟨-3, 2, .flt 64, some (.int true 32)⟩ 11363.25 = true ∧
    decExact ⟨-3, 2, .flt 64, some (.int true 32)⟩ (encodeQ (-3) 2 11363.25) = true ∧
    encodeElem ⟨-3, 2, .flt 64, some (.int true 32)⟩ 11363.25 = 22733 ∧
    decodeElem ⟨-3, 2, .flt 64, some (.int true 32)⟩ 22733 = 11363.5 ∧
    encodeElem ⟨-3, 2, .flt 64, some (.int true 32)⟩ 0.25 = 7 ∧
    encExact ⟨-3, 10, .flt 64, some (.int true 32)⟩ 11363.25 = true ∧
    decExact ⟨-3, 10, .flt 64, some (.int true 32)⟩ 113663 = false := by decide +kernel

/-- float32 2^24 + 2 behind offset 1: `x - offset` needs 25 bits; the predicate fails and indeed the code does not compute
the specification (16777216 instead of 16777217) -/
example : encExact ⟨1, 1, .flt 32, none⟩ 16777218 = false ∧ encodeElem ⟨1, 1, .flt 32, none⟩ 16777218 = 16777216 ∧
    encodeQ 1 1 16777218 = 16777217 := by decide +kernel

/-- the integer class of the predicate: **a float element type holding integers, integer offset, scale 1, every magnitude
below `2^p`** (`2^24` for float32, `2^53` for float64) **is carried exactly** -/
theorem fso_float_integers_lossless (w : Nat) (o x : Int)
    (hx : -(2 : Int) ^ (Ty.flt w).prec < x ∧ x < (2 : Int) ^ (Ty.flt w).prec)
    (hxo : -(2 : Int) ^ (Ty.flt w).prec < x - o ∧ x - o < (2 : Int) ^ (Ty.flt w).prec) :
    encodeElem ⟨o, 1, .flt w, none⟩ x = ((x - o : Int) : Rat) ∧
    decodeElem ⟨o, 1, .flt w, none⟩ (encodeElem ⟨o, 1, .flt w, none⟩ x) = x := by
  have he : encodeElem ⟨o, 1, .flt w, none⟩ x = ((x - o : Int) : Rat) := scaleElem_scale1 (.flt w) o x hx hxo
  refine ⟨he, ?_⟩
  rw [he]
  have hd := unscaleElem_scale1 (.flt w) o (x - o) hxo (by rw [Int.sub_add_cancel]; exact hx)
  rw [Int.sub_add_cancel] at hd
  exact hd

example : encodeElem ⟨1000, 1, .flt 32, none⟩ (-16776000) = -16777000 ∧
    decodeElem ⟨1000, 1, .flt 32, none⟩ (-16777000) = -16776000 := by decide +kernel

/-- **closed form of the code on an integer element type with scale 1**: as long as `x`, the offset and `x - offset` are
below `2^p` in magnitude (`p = 24` for the 8/16-bit types, which compute in `f32`; `p = 53` for the 32/64-bit types, which
compute in `f64`), encoding is `x - offset` SATURATED into the element type and then into `astype`; decoding saturates
back into the element type, adds the offset and saturates once more.  (For the 8/16/32-bit types the magnitude condition on
`x` always holds; for int64/uint64 it is a genuine restriction: larger values are rounded to 53 bits by `as f64`.) -/
theorem fso_int_formula (s : Bool) (b : Nat) (A : Option (Bool × Nat)) (o x : Int)
    (hx : -(2 : Int) ^ (Ty.int s b).prec < x ∧ x < (2 : Int) ^ (Ty.int s b).prec)
    (ho : -(2 : Int) ^ (Ty.int s b).prec < o ∧ o < (2 : Int) ^ (Ty.int s b).prec)
    (hxo : -(2 : Int) ^ (Ty.int s b).prec < x - o ∧ x - o < (2 : Int) ^ (Ty.int s b).prec) :
    encodeElem (intCfg s b A o) x = (satA A (satT (.int s b) (x - o)) : Int) ∧
    decodeElem (intCfg s b A o) (encodeElem (intCfg s b A o) x)
      = (satT (.int s b) (satT (.int s b) (satA A (satT (.int s b) (x - o))) + o) : Int) := by
  have hpow := int_two_pow_le (prec_le_53 (Ty.int s b))
  have t1 := tow_satT (.int s b) (x - o)
  have t2 := t1.trans (tow_satA A _)
  have t3 := t2.trans (tow_satT (.int s b) _)
  have b1 := t1.bound hxo.1 hxo.2
  have b2 := t2.bound hxo.1 hxo.2
  have b3 := t3.bound hxo.1 hxo.2
  have b4 := t3.bound_add hx ho
  have hs := (scaleElem_scale1 (.int s b) o x hx hxo).trans (fromF_int s b _)
  have hu := (unscaleElem_scale1 (.int s b) o _ b3 b4).trans (fromF_int s b _)
  cases A with
  | none =>
    simp only [satA, satT_idem] at hu ⊢
    exact ⟨hs, (congrArg _ hs).trans hu⟩
  | some a =>
    have hc := castElem_int s b a.1 a.2 (satT (.int s b) (x - o)) (by omega) (by omega)
    have hc' := castElem_int a.1 a.2 s b (satA (some a) (satT (.int s b) (x - o))) (by omega) (by omega)
    simp only [encodeElem, decodeElem, intCfg, Option.map, hs, hc]
    exact ⟨rfl, (congrArg _ hc').trans hu⟩

/-- **`fso_int_lossless`: with scale 1 and any integer offset, `decode (encode x) = x` for every `x` of the element type
whose shifted value `x - offset` fits BOTH the element type (the scaling macro casts back `as $ty` before `astype` is
applied) and `astype`** (the magnitude conditions are those of `fso_int_formula`) -/
theorem fso_int_lossless (s : Bool) (b : Nat) (A : Option (Bool × Nat)) (o x : Int)
    (hx : -(2 : Int) ^ (Ty.int s b).prec < x ∧ x < (2 : Int) ^ (Ty.int s b).prec)
    (ho : -(2 : Int) ^ (Ty.int s b).prec < o ∧ o < (2 : Int) ^ (Ty.int s b).prec)
    (hxo : -(2 : Int) ^ (Ty.int s b).prec < x - o ∧ x - o < (2 : Int) ^ (Ty.int s b).prec)
    (hT : (Ty.int s b).lo ≤ x ∧ x ≤ (Ty.int s b).hi)
    (hTo : (Ty.int s b).lo ≤ x - o ∧ x - o ≤ (Ty.int s b).hi) (hA : fitsA A (x - o)) :
    encodeElem (intCfg s b A o) x = ((x - o : Int) : Rat) ∧
    decodeElem (intCfg s b A o) (encodeElem (intCfg s b A o) x) = x := by
  have h := fso_int_formula s b A o x hx ho hxo
  have e1 : satT (.int s b) (x - o) = x - o := (clamp_eq_self_iff _ _ _).2 hTo
  have e2 : satA A (x - o) = x - o := (satA_eq_self_iff A _).2 hA
  have e3 : satT (.int s b) x = x := (clamp_eq_self_iff _ _ _).2 hT
  have e4 : x - o + o = x := by omega
  rw [e1, e2, e1, e4, e3] at h
  exact h

/-- **for the 8-, 16- and 32-bit element types the magnitude conditions are automatic**: `x` of the type and `x - offset`
fitting the type and `astype` is all that is needed (every magnitude is below `2^17` resp. `2^33`, far below `2^24` resp.
`2^53`) -/
theorem fso_int_lossless_le32 (s : Bool) (b : Nat) (hb : b = 8 ∨ b = 16 ∨ b = 32) (A : Option (Bool × Nat)) (o x : Int)
    (hT : (Ty.int s b).lo ≤ x ∧ x ≤ (Ty.int s b).hi)
    (hTo : (Ty.int s b).lo ≤ x - o ∧ x - o ≤ (Ty.int s b).hi) (hA : fitsA A (x - o)) :
    encodeElem (intCfg s b A o) x = ((x - o : Int) : Rat) ∧
    decodeElem (intCfg s b A o) (encodeElem (intCfg s b A o) x) = x := by
  obtain ⟨h1, h2⟩ := Ty.int_range s b
  have h3 := Ty.range_lt_prec s b (by omega)
  exact fso_int_lossless s b A o x (by omega) (by omega) (by omega) hT hTo hA

example : decodeElem (intCfg true 16 (some (false, 8)) (-32768)) (encodeElem (intCfg true 16 (some (false, 8)) (-32768)) (-32600)) = -32600 ∧
    encodeElem (intCfg true 16 (some (false, 8)) (-32768)) (-32600) = 168 := by decide +kernel

/-- **and the exact characterisation of when it is NOT lossless**: `decode (encode x) = x` iff `x - offset` fits the
element type and `astype`, or a first saturation is undone by a second one at the very end of the range
(`x` is the smallest / largest value of the type and the decoded sum falls below / above it) -/
theorem fso_int_lossless_iff (s : Bool) (b : Nat) (A : Option (Bool × Nat)) (o x : Int)
    (hx : -(2 : Int) ^ (Ty.int s b).prec < x ∧ x < (2 : Int) ^ (Ty.int s b).prec)
    (ho : -(2 : Int) ^ (Ty.int s b).prec < o ∧ o < (2 : Int) ^ (Ty.int s b).prec)
    (hxo : -(2 : Int) ^ (Ty.int s b).prec < x - o ∧ x - o < (2 : Int) ^ (Ty.int s b).prec)
    (hT : (Ty.int s b).lo ≤ x ∧ x ≤ (Ty.int s b).hi) :
    decodeElem (intCfg s b A o) (encodeElem (intCfg s b A o) x) = x ↔
      (((Ty.int s b).lo ≤ x - o ∧ x - o ≤ (Ty.int s b).hi) ∧ fitsA A (x - o)) ∨
      (x = (Ty.int s b).lo ∧ satT (.int s b) (satA A (satT (.int s b) (x - o))) + o < (Ty.int s b).lo) ∨
      (x = (Ty.int s b).hi ∧ (Ty.int s b).hi < satT (.int s b) (satA A (satT (.int s b) (x - o))) + o) := by
  rw [(fso_int_formula s b A o x hx ho hxo).2, Rat.intCast_inj, ← sat_chain_eq_iff]
  show clamp _ _ _ = x ↔ _
  rw [clamp_eq_iff _ _ _ x hT.1 hT.2]
  generalize satT (.int s b) (satA A (satT (.int s b) (x - o))) = m
  rw [show m + o = x ↔ m = x - o by omega]

/-- **the value the code cannot carry: int32 `MIN` behind offset 1** (`x - 1` saturates at `MIN`, decoding gives `MIN + 1`);
every other int32 value round-trips under this configuration (`fso_int_lossless`) -/
theorem fso_int32_min_offset1_not_lossless :
    encodeElem (intCfg true 32 none 1) (-2147483648) = -2147483648 ∧
    decodeElem (intCfg true 32 none 1) (encodeElem (intCfg true 32 none 1) (-2147483648)) = -2147483647 ∧
    ∀ x : Int, -2147483648 < x → x ≤ 2147483647 →
      decodeElem (intCfg true 32 none 1) (encodeElem (intCfg true 32 none 1) (x : Rat)) = x := by
  refine ⟨by decide +kernel, by decide +kernel, ?_⟩
  intro x h1 h2
  have hlo : (Ty.int true 32).lo = -2147483648 := by decide +kernel
  have hhi : (Ty.int true 32).hi = 2147483647 := by decide +kernel
  exact (fso_int_lossless_le32 true 32 (.inr (.inr rfl)) none 1 x (by rw [hlo, hhi]; omega) (by rw [hlo, hhi]; omega)
    trivial).2

/-- uint8 200 behind offset -100 (shifted value 300 does not fit uint8): saturates, decodes to 155;
uint8 200 behind offset 100 stored as int8 (100 fits): lossless; stored as int8 behind offset 50 (150 > 127): decodes to 177;
uint8 0 behind offset -300: the third disjunct of `fso_int_lossless_iff` (255 - 300 saturates back to 0);
uint16 behind offset 2^24 + 1 is not what the configuration says: the `f32` field holds 2^24 (`cfgOfIntToken`) -/
example : decodeElem (intCfg false 8 none (-100)) (encodeElem (intCfg false 8 none (-100)) 200) = 155 ∧
    decodeElem (intCfg false 8 (some (true, 8)) 100) (encodeElem (intCfg false 8 (some (true, 8)) 100) 200) = 200 ∧
    encodeElem (intCfg false 8 (some (true, 8)) 50) 200 = 127 ∧
    decodeElem (intCfg false 8 (some (true, 8)) 50) 127 = 177 ∧
    decodeElem (intCfg false 8 none (-300)) (encodeElem (intCfg false 8 none (-300)) 0) = 0 ∧
    cfgOfIntToken 16777217 = 16777216 := by decide +kernel

/-- int64: 2^53 + 1 is outside `fso_int_formula` (`as f64` rounds it to 2^53), and indeed does not round-trip with offset 0 -/
example : decodeElem (intCfg true 64 none 0) (encodeElem (intCfg true 64 none 0) 9007199254740993) = 9007199254740992 := by
  decide +kernel

/-- **`fso_fill_mapping`: the representation the codec advertises is the one encoding produces.**  If
`encoded_representation` succeeds: the advertised fill value is the ENCODING of the fill value, the advertised data type is
`astype` (or the unchanged data type), the shape is unchanged and maps back to itself; and every chunk of that
representation encodes (no error) to as many elements, each a value of the advertised data type, a chunk of fill values to
a chunk of advertised fill values. -/
theorem fso_fill_mapping (c : Cfg) (r r' : ChunkRep) (h : encodedRep c r = some r') :
    r'.fill = encodeElem c r.fill ∧ r'.dtype = encodedDataType c r.dtype ∧ r'.shape = r.shape ∧
    decodedShape r'.shape = some r.shape ∧
    ∀ xs : List Rat, ∃ ys, encodeChunk c r.dtype xs = some ys ∧ ys.length = xs.length ∧
      (∀ y ∈ ys, inTy r'.dtype y) ∧
      (∀ n, xs = List.replicate n r.fill → ys = List.replicate n r'.fill) := by
  unfold encodedRep encodedFill encodeChunk at h
  by_cases hu : usable c r.dtype = true
  · simp only [hu, if_true, List.map_cons, List.map_nil, Option.some.injEq] at h
    subst h
    have hd : c.dtype = r.dtype := by
      unfold usable at hu; simp only [Bool.and_eq_true, beq_iff_eq] at hu; exact hu.1.1
    refine ⟨rfl, rfl, rfl, rfl, ?_⟩
    intro xs
    refine ⟨xs.map (encodeElem c), by simp only [encodeChunk, hu, if_true], List.length_map _, ?_, ?_⟩
    · intro y hy
      obtain ⟨x, _, rfl⟩ := List.mem_map.mp hy
      exact hd ▸ encodeElem_inTy c x
    · intro n hn
      rw [hn, List.map_replicate]
  · simp only [hu] at h
    exact absurd h (by simp)

/-- the advertised representation fails exactly when encoding any chunk of that data type fails (wrong data type for the
configuration, or a data type the macros do not list: float16, bfloat16, complex) -/
theorem fso_rep_error_iff (c : Cfg) (r : ChunkRep) :
    encodedRep c r = none ↔ ∀ xs, encodeChunk c r.dtype xs = none := by
  unfold encodedRep encodedFill encodeChunk
  by_cases hu : usable c r.dtype = true
  · simp only [hu, if_true, List.map_cons, List.map_nil]
    constructor
    · intro h; exact absurd h (by simp)
    · intro h; exact absurd (h []) (by simp)
  · simp only [hu]
    simp

/-- uint16 fill 10 behind offset 3, scale 2, stored as int8: advertised fill 14 of type int8, shape unchanged; a chunk
`[10, 10, 60, 70]` encodes to `[14, 14, 114, 127]` (the last one saturated); float16 is refused -/
example : encodedRep ⟨3, 2, .int false 16, some (.int true 8)⟩ ⟨[2, 2], .int false 16, 10⟩ = some ⟨[2, 2], .int true 8, 14⟩ ∧
    encodeChunk ⟨3, 2, .int false 16, some (.int true 8)⟩ (.int false 16) [10, 10, 60, 70] = some [14, 14, 114, 127] ∧
    encodedRep ⟨3, 2, .int false 16, some (.int true 8)⟩ ⟨[2, 2], .int true 16, 10⟩ = none ∧
    encodedRep ⟨0, 1, .unsupported, none⟩ ⟨[4], .unsupported, 0⟩ = none := by decide +kernel

/-- **`fso_all_fill_iff`: a chunk is all fill iff its encoding is all ENCODED fill, provided the codec is injective on the
chunk's values against the fill value** - the hypothesis under which the all-fill test of the default partial encoder
(`array_to_array_partial_encoder_default.rs`: `decoded_value.is_fill_value(decoded_representation.fill_value())`) may be
done on either side, each side against ITS OWN fill value -/
theorem fso_all_fill_iff (c : Cfg) (fill : Rat) (xs : List Rat)
    (hinj : ∀ x ∈ xs, encodeElem c x = encodeElem c fill → x = fill) :
    allFill (encodeElem c fill) (xs.map (encodeElem c)) = allFill fill xs := by
  unfold allFill
  rw [List.all_map, Bool.eq_iff_iff, List.all_eq_true, List.all_eq_true]
  refine forall_congr' fun x => forall_congr' fun hx => ?_
  simp only [Function.comp, beq_iff_eq]
  exact ⟨hinj x hx, fun h => by rw [h]⟩

/-- uint8, offset 3, fill 10 (advertised fill 7).
* the decoded chunk compared against the ENCODED fill value (the seeded defect): `[7, 7]` is taken for all-fill although it is
  not (it would be erased), and the genuinely all-fill chunk `[10, 10]` is not recognised;
* the right comparisons agree on both sides: `[10, 10]` ~ `[7, 7]` encoded;
* without injectivity the encoded side may NOT be used: float32 with scale 1, fill 10: `[10.25, 10]` is not all fill, but its
  encoding `[10, 10]` is all encoded fill -/
example : allFill (encodeElem (intCfg false 8 none 3) 10) [7, 7] = true ∧ allFill 10 [7, 7] = false ∧
    allFill (encodeElem (intCfg false 8 none 3) 10) [10, 10] = false ∧ allFill 10 [10, 10] = true ∧
    allFill (encodeElem (intCfg false 8 none 3) 10) ([10, 10].map (encodeElem (intCfg false 8 none 3))) = true ∧
    allFill 10 [10.25, 10] = false ∧
    allFill (encodeElem ⟨0, 1, .flt 32, none⟩ 10) ([10.25, 10].map (encodeElem ⟨0, 1, .flt 32, none⟩)) = true := by
  decide +kernel

end Zarrs.C03
