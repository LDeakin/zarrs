import ZarrsModel.Lemmas.MultiGet
/-
C08: the multi-key ranged get (`get_partial_values`, batched by key) is the single-key ranged get, request by request.
Model: `Model/MultiGet.lean` (the loop as written, with `last_key` / `byte_ranges_key` / `out`).  Tie: verb `getpm` of the
C08 harness on every store kind; the driver predicts with `MultiGet.batched` and cross-checks `reqwise`.
-/
namespace Zarrs.MultiGet
open Zarrs

/-- **`get_partial_values_batched_by_key` answers request by request**: for every store content and every request list —
any keys in any order, present or absent, repeated, runs of any length — the batched loop returns exactly one answer per
request, each the single-key ranged get of the specification, and fails iff some range reaches outside its value -/
theorem batched_eq_reqwise (m : KV) (reqs : List Req) : batched m reqs = reqwise m reqs := by
  unfold batched
  cases reqs with
  | nil => rfl
  | cons q rest =>
    rw [loop, Option.getD_none, if_neg (by simp), loop_pending_eq_reqwise]
    exact Option.map_id'

/-- one answer per request -/
theorem batched_length (m : KV) (reqs : List Req) (out : List (Option Bytes)) (h : batched m reqs = some out) :
    out.length = reqs.length := by
  rw [batched_eq_reqwise] at h; exact reqwise_length m reqs out h

def exM : KV := [("g/a".toList, [0, 1, 2, 3]), ("g/c".toList, [20, 21, 22, 23])]
def exReqs : List Req := [("g/a".toList, .fromStart 1 (some 2)), ("g/b".toList, .fromStart 0 (some 1)), ("g/b".toList, .suffix 1),
  ("g/c".toList, .fromStart 2 none)]

/-- the seeded variant `C08_m9` (`flushTaken`: the batch of an absent key is taken before it is counted) told apart:
the loop as written answers 4 requests with 4 answers; the variant answers with 2, the bytes of `g/c` standing in the
position of the absent `g/b` -/
theorem seeded_take_loses_answers :
    batched exM exReqs = some [some [1, 2], none, none, some [22, 23]] ∧
    batchedSeeded exM exReqs = some [some [1, 2], some [22, 23]] := by decide +kernel

end Zarrs.MultiGet
