import ZarrsModel.Model.Meta
import ZarrsModel.Model.Hier
import ZarrsModel.Lemmas.Json
import ZarrsModel.Lemmas.Meta
import ZarrsModel.Lemmas.MetaWf
import ZarrsModel.Lemmas.JsonCheck
import ZarrsModel.Lemmas.Hier
/-
C13 — metadata and hierarchy persist faithfully.

Documents: `MetaV3`, `AField`, `ArrayDoc`, `GroupDoc` model what `serde` reads and writes; storing is `toText`
(print of `toJ`), opening is `ofText` (parse, then `ofJ`).  Hierarchy: `Hier.children` / `Hier.openNode` model
`Group::children` / `Node::open` over the ordered-map store model of C08.
-/
namespace Zarrs.C13
open Zarrs Zarrs.Json Zarrs.Meta Zarrs.Hier

/-! ### well-formed values (what parsing produces and what the builders create) -/

def objOk (o : Obj) : Prop := wfKVs o ∧ keysDistinct o

def MetaV3.ok (m : MetaV3) : Prop :=
  strOk m.name ∧ (match m.config with | some c => objOk c | none => True)

/-- an additional field as parsing leaves it: an object no longer has a `must_understand` key; anything that is
    not an object must be understood -/
def AField.ok (a : AField) : Prop :=
  a.field.wf ∧ (match a.field with
    | .obj o => lookup o kMustUnderstand = none
    | _ => a.mu = true)

def extraSorted (e : List (Str × AField)) : Prop := (e.map (·.1)).Pairwise (fun a b => strLt a b = true)

def ArrayDoc.ok (d : ArrayDoc) : Prop :=
  (∀ t ∈ d.shape, isU64Tok t = true ∧ tokOk t) ∧ MetaV3.ok d.dataType ∧ MetaV3.ok d.chunkGrid ∧ MetaV3.ok d.cke ∧
  d.fill.wf ∧ (∀ c ∈ d.codecs, MetaV3.ok c) ∧ objOk d.attrs ∧ (∀ c ∈ d.st, MetaV3.ok c) ∧
  (match d.dimNames with | some ns => ∀ n ∈ ns, ∀ s, n = some s → strOk s | none => True) ∧
  (∀ kv ∈ d.extra, strOk kv.1 ∧ AField.ok kv.2 ∧ kv.1 ∉ arrayKeys) ∧ extraSorted d.extra

def GroupDoc.ok (d : GroupDoc) : Prop :=
  objOk d.attrs ∧ (∀ kv ∈ d.extra, strOk kv.1 ∧ AField.ok kv.2 ∧ kv.1 ∉ groupKeys) ∧ extraSorted d.extra

theorem metaV3_ok_iff (m : MetaV3) : MetaV3.ok m ↔ MetaV3.good m := by
  obtain ⟨n, c, mu⟩ := m
  cases c with
  | none => simp [MetaV3.ok, MetaV3.good]
  | some c => simp [MetaV3.ok, MetaV3.good, objOk]

theorem afield_ok_iff (a : AField) : AField.ok a ↔ AField.good a := by
  obtain ⟨f, mu⟩ := a
  cases f <;> exact Iff.rfl

theorem arrayDoc_ok_iff (d : ArrayDoc) : ArrayDoc.ok d ↔ ArrayDoc.good d := by
  constructor
  · rintro ⟨h1, h2, h3, h4, h5, h6, h7, h8, h9, h10, h11⟩
    refine ⟨h1, (metaV3_ok_iff _).1 h2, (metaV3_ok_iff _).1 h3, (metaV3_ok_iff _).1 h4, h5,
      fun c hc => (metaV3_ok_iff _).1 (h6 c hc), h7, fun c hc => (metaV3_ok_iff _).1 (h8 c hc), ?_,
      fun kv hkv => ⟨(h10 kv hkv).1, (afield_ok_iff _).1 (h10 kv hkv).2.1, (h10 kv hkv).2.2⟩, h11⟩
    intro ns hns
    rw [hns] at h9
    exact h9
  · intro h
    refine ⟨h.shape, (metaV3_ok_iff _).2 h.dt, (metaV3_ok_iff _).2 h.cg, (metaV3_ok_iff _).2 h.ck, h.fill,
      fun c hc => (metaV3_ok_iff _).2 (h.codecs c hc), h.attrs, fun c hc => (metaV3_ok_iff _).2 (h.st c hc), ?_,
      fun kv hkv => ⟨(h.extra kv hkv).1, (afield_ok_iff _).2 (h.extra kv hkv).2.1, (h.extra kv hkv).2.2⟩, h.sorted⟩
    cases hdn : d.dimNames with
    | none => trivial
    | some ns => exact h.dn ns hdn

theorem groupDoc_ok_iff (d : GroupDoc) : GroupDoc.ok d ↔ GroupDoc.good d := by
  constructor
  · rintro ⟨h1, h2, h3⟩
    exact ⟨h1, fun kv hkv => ⟨(h2 kv hkv).1, (afield_ok_iff _).1 (h2 kv hkv).2.1, (h2 kv hkv).2.2⟩, h3⟩
  · intro h
    exact ⟨h.attrs, fun kv hkv => ⟨(h.extra kv hkv).1, (afield_ok_iff _).2 (h.extra kv hkv).2.1, (h.extra kv hkv).2.2⟩,
      h.sorted⟩

def exMeta : MetaV3 := ⟨ascii "regular", some [(ascii "chunk_shape", .arr [.num ['2'], .num ['3']])], false⟩
theorem exMeta_ok : MetaV3.ok exMeta :=
  ⟨strOk_ascii _ (by decide +kernel), obj_single_wf _ _ (strOk_ascii _ (by decide +kernel))
    ⟨NumTok.tokOk_natTok 2, NumTok.tokOk_natTok 3, trivial⟩⟩

def exField : AField := ⟨.obj [(ascii "a", .num ['1'])], false⟩
theorem exField_ok : AField.ok exField :=
  ⟨obj_single_wf _ _ (strOk_ascii _ (by decide +kernel)) (NumTok.tokOk_natTok 1),
    (lookup_eq_none_iff _ _).2 (by decide +kernel)⟩

theorem exKeys_extra : ∀ k ∈ [ascii "my_ext", ascii "zz"], k ∉ arrayKeys ∧ k ∉ groupKeys := by decide +kernel

def exDoc : ArrayDoc :=
  { shape := [['4'], ['6']], dataType := ⟨ascii "uint8", none, true⟩, chunkGrid := exMeta,
    cke := ⟨ascii "default", none, true⟩, fill := .num ['0'], codecs := [⟨ascii "bytes", none, false⟩],
    attrs := [(ascii "title", .str (ascii "demo"))], st := [],
    dimNames := some [some (ascii "y"), none],
    extra := [(ascii "my_ext", exField), (ascii "zz", ⟨.str (ascii "v"), true⟩)] }

theorem exExtra_shapeOk :
    ∀ kv ∈ [(ascii "my_ext", exField), (ascii "zz", (⟨.str (ascii "v"), true⟩ : AField))], AField.shapeOk kv.2 :=
  List.forall_mem_cons.2 ⟨exField_ok.2, List.forall_mem_cons.2 ⟨rfl, nofun⟩⟩

theorem exDoc_ok : ArrayDoc.ok exDoc :=
  (arrayDoc_ok_iff _).2 (arrayDoc_ofJ_good _ (J.wf_of_check _ (by decide +kernel)) _
    (arrayDoc_ofJ_toJ exDoc ⟨by decide +kernel, fun _ hkv => (exKeys_extra _ (List.mem_map_of_mem hkv)).1, exExtra_shapeOk,
      by unfold sortedKeys; decide +kernel⟩))

def exGroup : GroupDoc := ⟨[(ascii "title", .str (ascii "demo"))], [(ascii "my_ext", exField), (ascii "zz", ⟨.str (ascii "v"), true⟩)]⟩

theorem exGroup_ok : GroupDoc.ok exGroup :=
  (groupDoc_ok_iff _).2 (groupDoc_ofJ_good _ (J.wf_of_check _ (by decide +kernel)) _
    (groupDoc_ofJ_toJ exGroup ⟨fun _ hkv => (exKeys_extra _ (List.mem_map_of_mem hkv)).2, exExtra_shapeOk,
      by unfold sortedKeys; decide +kernel⟩))

-- (`h` is kept from the stated property; the proof does not need it)
set_option linter.unusedVariables false in
/-- **what is written for a `MetadataV3` reads back as the same value** — name as given, configuration (absent,
empty or not) and `must_understand` included -/
theorem metaV3_roundtrip (m : MetaV3) (h : MetaV3.ok m) : MetaV3.ofJ m.toJ = some m := by
  exact metaV3_ofJ_toJ m
example : MetaV3.ok exMeta := exMeta_ok
-- (`h`, `hj` are kept from the stated property; the proof does not need them)
set_option linter.unusedVariables false in
/-- **re-serialising a parsed `MetadataV3` is a fixed point** -/
theorem metaV3_fixed (j : J) (m : MetaV3) (h : MetaV3.ofJ j = some m) (hj : j.wf) :
    MetaV3.ofJ m.toJ = some m := by
  exact metaV3_ofJ_toJ m
example : ∃ j m, MetaV3.ofJ j = some m ∧ j.wf :=
  ⟨exMeta.toJ, exMeta, metaV3_ofJ_toJ exMeta, metaV3_toJ_wf exMeta ((metaV3_ok_iff _).1 exMeta_ok)⟩
/-- `must_understand: false` survives, with a configuration or without (such a name is written as an object, never as the
bare string) -/
theorem metaV3_mu_survives (n : Str) (c : Option Obj) :
    MetaV3.ofJ (MetaV3.toJ ⟨n, c, false⟩) = some ⟨n, c, false⟩ := by
  exact metaV3_ofJ_toJ _

/-- **an additional field reads back as written**, with its keys in the same order -/
theorem afield_roundtrip (a : AField) (h : AField.ok a) : AField.ofJ a.toJ = a := by
  exact afield_ofJ_toJ a ((afield_ok_iff a).1 h).2
example : AField.ok exField := exField_ok
/-- parsing leaves additional fields in that form, so re-serialising is a fixed point -/
theorem afield_ofJ_ok (j : J) (h : j.wf) : AField.ok (AField.ofJ j) := by
  exact (afield_ok_iff _).2 (afield_ofJ_good j h)
example : (AField.toJ exField).wf := afield_toJ_wf exField ((afield_ok_iff _).1 exField_ok)
/-- a field is exempt from understanding exactly when it is an object carrying `"must_understand": false` -/
theorem afield_mu_false_iff (j : J) :
    (AField.ofJ j).mu = false ↔ ∃ o, j = .obj o ∧ lookup o kMustUnderstand = some (.bool false) := by
  exact afield_ofJ_mu_false_iff j

/-- **storing then opening gives the same array metadata** (at the JSON level): shape, data type / chunk grid /
chunk key encoding / codec / storage transformer names and configurations as given, fill value, attributes in
order, dimension names, additional fields -/
theorem arrayDoc_roundtrip (d : ArrayDoc) (h : ArrayDoc.ok d) : ArrayDoc.ofJ d.toJ = some d := by
  exact arrayDoc_ofJ_toJ d ((arrayDoc_ok_iff d).1 h).shapeOk
example : ArrayDoc.ok exDoc := exDoc_ok
/-- **the same through the stored bytes** -/
theorem arrayDoc_text_roundtrip (d : ArrayDoc) (h : ArrayDoc.ok d) : ArrayDoc.ofText d.toText = some d := by
  exact arrayDoc_ofText_toText d ((arrayDoc_ok_iff d).1 h)
example : ArrayDoc.ok exDoc := exDoc_ok
/-- **parsing yields a well-formed document**, hence **re-serialising a parsed document is a fixed point** -/
theorem arrayDoc_ofJ_ok (j : J) (hj : j.wf) (d : ArrayDoc) (h : ArrayDoc.ofJ j = some d) : ArrayDoc.ok d := by
  exact (arrayDoc_ok_iff d).2 (arrayDoc_ofJ_good j hj d h)
example : ∃ j d, j.wf ∧ ArrayDoc.ofJ j = some d :=
  ⟨exDoc.toJ, exDoc, arrayDoc_toJ_wf exDoc ((arrayDoc_ok_iff _).1 exDoc_ok), arrayDoc_roundtrip exDoc exDoc_ok⟩
theorem arrayDoc_fixed (j : J) (hj : j.wf) (d : ArrayDoc) (h : ArrayDoc.ofJ j = some d) :
    ArrayDoc.ofJ d.toJ = some d ∧ (∀ d', ArrayDoc.ofJ d.toJ = some d' → d'.toJ = d.toJ) := by
  have hr := arrayDoc_ofJ_toJ d (arrayDoc_ofJ_good j hj d h).shapeOk
  refine ⟨hr, ?_⟩
  intro d' hd'
  rw [hr] at hd'
  cases hd'
  rfl
example : ∃ j d, j.wf ∧ ArrayDoc.ofJ j = some d :=
  ⟨exDoc.toJ, exDoc, arrayDoc_toJ_wf exDoc ((arrayDoc_ok_iff _).1 exDoc_ok), arrayDoc_roundtrip exDoc exDoc_ok⟩

theorem groupDoc_roundtrip (d : GroupDoc) (h : GroupDoc.ok d) : GroupDoc.ofJ d.toJ = some d := by
  exact groupDoc_ofJ_toJ d ((groupDoc_ok_iff d).1 h).extras
example : GroupDoc.ok exGroup := exGroup_ok
theorem groupDoc_text_roundtrip (d : GroupDoc) (h : GroupDoc.ok d) : GroupDoc.ofText d.toText = some d := by
  exact groupDoc_ofText_toText d ((groupDoc_ok_iff d).1 h)
example : GroupDoc.ok exGroup := exGroup_ok
theorem groupDoc_ofJ_ok (j : J) (hj : j.wf) (d : GroupDoc) (h : GroupDoc.ofJ j = some d) : GroupDoc.ok d := by
  exact (groupDoc_ok_iff d).2 (groupDoc_ofJ_good j hj d h)
example : ∃ j d, j.wf ∧ GroupDoc.ofJ j = some d :=
  ⟨exGroup.toJ, exGroup, groupDoc_toJ_wf exGroup ((groupDoc_ok_iff _).1 exGroup_ok), groupDoc_roundtrip exGroup exGroup_ok⟩

/-- **what a parsed array document holds is what the text said**: shape, fill value and attributes are the values under
their keys, and the additional fields are exactly the other keys with their values -/
theorem arrayDoc_fields (o : Obj) (d : ArrayDoc) (h : ArrayDoc.ofJ (.obj o) = some d) :
    lookup o (ascii "shape") = some (.arr (d.shape.map .num)) ∧
    lookup o (ascii "fill_value") = some d.fill ∧
    (lookup o (ascii "attributes") = some (.obj d.attrs) ∨ (lookup o (ascii "attributes") = none ∧ d.attrs = [])) ∧
    (∀ k v, (k, v) ∈ o → k ∉ arrayKeys → keysDistinct o → (k, AField.ofJ v) ∈ d.extra) ∧
    (∀ k a, (k, a) ∈ d.extra → ∃ v, (k, v) ∈ o ∧ k ∉ arrayKeys ∧ a = AField.ofJ v) := by
  have hi := arrayDoc_ofJ_inv o d h
  refine ⟨hi.shape, hi.fill, ?_, ?_, ?_⟩
  · rcases hi.attrs with ⟨h1, h2⟩ | h1
    · exact Or.inr ⟨h1, h2⟩
    · exact Or.inl h1
  · intro k v hkv hk hd
    rw [hi.extra]
    exact extrasOf_mem arrayKeys o hd k v hkv hk
  · intro k a hka
    rw [hi.extra] at hka
    obtain ⟨v, hv, hk, e⟩ := mem_extrasOf arrayKeys o (k, a) hka
    exact ⟨v, hv, hk, e⟩
example : ∃ o d, ArrayDoc.ofJ (.obj o) = some d := ⟨_, exDoc, ArrayDoc.toJ_eq exDoc ▸ arrayDoc_roundtrip exDoc exDoc_ok⟩

/-- **rejection**: a document is opened only if no additional field must be understood, and shape, chunk grid and
dimension names agree in rank -/
theorem open_demands (d : ArrayDoc) (gridRank : Nat) (h : structOk d gridRank = true) :
    (∀ kv ∈ d.extra, kv.2.mu = false) ∧ gridRank = d.shape.length ∧
    (∀ ns, d.dimNames = some ns → ns.length = d.shape.length) := by
  unfold structOk at h
  simp only [Bool.and_eq_true, List.all_eq_true, Bool.not_eq_true', beq_iff_eq] at h
  obtain ⟨⟨h1, h2⟩, h3⟩ := h
  refine ⟨h1, h2, ?_⟩
  intro ns hns
  rw [hns] at h3
  simpa using h3
example : structOk { exDoc with extra := [(ascii "my_ext", exField)] } 2 = true := by decide +kernel
/-- an unknown top-level field without `"must_understand": false` makes the document unopenable -/
theorem unknown_field_rejected (o : Obj) (d : ArrayDoc) (gridRank : Nat) (h : ArrayDoc.ofJ (.obj o) = some d)
    (hd : keysDistinct o) (k : Str) (v : J) (hk : (k, v) ∈ o) (hu : k ∉ arrayKeys)
    (hv : ¬ ∃ o', v = .obj o' ∧ lookup o' kMustUnderstand = some (.bool false)) :
    structOk d gridRank = false := by
  unfold structOk
  rw [(arrayDoc_ofJ_inv o d h).extra, extrasOf_all_mu arrayKeys o hd k v hk hu hv]
  rfl
example : ∃ o d k v, ArrayDoc.ofJ (.obj o) = some d ∧ keysDistinct o ∧ (k, v) ∈ o ∧ k ∉ arrayKeys ∧
    ¬ ∃ o', v = .obj o' ∧ lookup o' kMustUnderstand = some (.bool false) :=
  ⟨_, exDoc, ascii "zz", .str (ascii "v"), ArrayDoc.toJ_eq exDoc ▸ arrayDoc_roundtrip exDoc exDoc_ok,
    ((obj_wf_iff _).1 (ArrayDoc.toJ_eq exDoc ▸ arrayDoc_toJ_wf exDoc ((arrayDoc_ok_iff _).1 exDoc_ok))).2,
    List.mem_append_right _ (by simp [extraKVs, exDoc, AField.toJ]), (exKeys_extra _ (.tail _ (.head _))).1, by rintro ⟨o', h, _⟩; cases h⟩
theorem group_unknown_field_rejected (o : Obj) (d : GroupDoc) (h : GroupDoc.ofJ (.obj o) = some d)
    (hd : keysDistinct o) (k : Str) (v : J) (hk : (k, v) ∈ o) (hu : k ∉ groupKeys)
    (hv : ¬ ∃ o', v = .obj o' ∧ lookup o' kMustUnderstand = some (.bool false)) :
    groupOk d = false := by
  unfold groupOk
  rw [(groupDoc_ofJ_inv o d h).extra]
  exact extrasOf_all_mu groupKeys o hd k v hk hu hv
example : ∃ o d k v, GroupDoc.ofJ (.obj o) = some d ∧ keysDistinct o ∧ (k, v) ∈ o ∧ k ∉ groupKeys ∧
    ¬ ∃ o', v = .obj o' ∧ lookup o' kMustUnderstand = some (.bool false) :=
  ⟨_, exGroup, ascii "zz", .str (ascii "v"), GroupDoc.toJ_eq exGroup ▸ groupDoc_roundtrip exGroup exGroup_ok,
    ((obj_wf_iff _).1 (GroupDoc.toJ_eq exGroup ▸ groupDoc_toJ_wf exGroup ((groupDoc_ok_iff _).1 exGroup_ok))).2,
    List.mem_append_right _ (by simp [extraKVs, exGroup, AField.toJ]), (exKeys_extra _ (.tail _ (.head _))).2, by rintro ⟨o', h, _⟩; cases h⟩

/-- no prefix holds metadata that fails to read (the theorems below ask in addition for sorted, hierarchy-shaped keys) -/
def readable (r : Reader) (m : KV) : Prop := ∀ pre, getMeta r m pre ≠ .invalid

def exStore : KV :=
  [("a/b/c/0".toList, [2]), ("a/b/zarr.json".toList, [1]), ("a/c/.zgroup".toList, [1]), ("a/c/d/.zarray".toList, [2]),
   ("a/x/file".toList, [1]), ("a/zarr.json".toList, [1]), ("zarr.json".toList, [1])]
def exReader : Reader :=
  { cls := fun v => if v == [1] then some true else if v == [2] then some false else none,
    okA := fun _ => true, okG := fun _ => true, okAttrs := fun _ => true }
theorem exStore_ok : exStore.sorted ∧ hierarchyShaped exStore.keys ∧ readable exReader exStore ∧
    validPrefixB "a/".toList = true :=
  ⟨by unfold KV.sorted; decide +kernel, by unfold hierarchyShaped; decide +kernel,
    readable_of_metaValues exReader exStore (by decide +kernel), by decide +kernel⟩

-- (`hs` is kept from the stated property; the proof does not need it)
set_option linter.unusedVariables false in
/-- **children**: the direct children reported for a prefix are exactly the child prefixes (whose store prefix does not start with the reserved `__`) at
which metadata is stored, each with the kind its metadata has -/
theorem children_exact (r : Reader) (m : KV) (hs : m.sorted) (hh : hierarchyShaped m.keys) (hr : readable r m)
    (pre : Key) (hp : validPrefixB pre = true) :
    ∃ ns, children r m false pre = some ns ∧
      ∀ q k, (q, k) ∈ ns ↔ (isChildPrefix pre q = true ∧ ¬ ("__".toList.isPrefixOf q = true) ∧
        getMeta r m q = .node k) := by
  obtain ⟨ns, h1, h2⟩ := children_false r m hh.1 hr pre (validPrefixB_dirShaped pre hp)
  refine ⟨ns, h1, ?_⟩
  intro q k
  rw [h2, isChildPrefix_iff]
example : exStore.sorted ∧ hierarchyShaped exStore.keys ∧ readable exReader exStore ∧
    validPrefixB "a/".toList = true := exStore_ok

example : ∃ ns, children exReader exStore false "a/".toList = some ns ∧
    ("a/b/".toList, Kind.group3) ∈ ns ∧ ("a/c/".toList, Kind.group2) ∈ ns ∧ ∀ k, ("a/x/".toList, k) ∉ ns := by
  obtain ⟨ns, h1, h2⟩ := children_exact exReader exStore exStore_ok.1 exStore_ok.2.1 exStore_ok.2.2.1 _ exStore_ok.2.2.2
  refine ⟨ns, h1, (h2 _ _).2 (by decide), (h2 _ _).2 (by decide), fun k hk => ?_⟩
  have := ((h2 _ _).1 hk).2.2
  revert this; cases k <;> decide

/-- every prefix strictly between `pre` and `q` holds group metadata -/
def groupsBetween (r : Reader) (m : KV) (pre q : Key) : Prop :=
  ∀ mid : Key, pre.isPrefixOf mid = true → mid.isPrefixOf q = true → mid ≠ q → mid.length > pre.length →
    mid.getLast? = some '/' → ∃ k, getMeta r m mid = .node k ∧ k.isGroup = true

/-- the store prefix does not start with the reserved `__` (the code tests the whole prefix) -/
def noReserved (_pre q : Key) : Prop := ¬ ("__".toList.isPrefixOf q = true)

-- (`hs` is kept from the stated property; the proof does not need it)
set_option linter.unusedVariables false in
/-- **the whole tree**: the recursive listing beneath a prefix is exactly the set of prefixes with stored metadata
that are reachable through groups, each with its kind and its full prefix -/
theorem tree_exact (r : Reader) (m : KV) (hs : m.sorted) (hh : hierarchyShaped m.keys) (hr : readable r m)
    (pre : Key) (hp : validPrefixB pre = true) :
    ∃ ns, children r m true pre = some ns ∧
      ∀ q k, (q, k) ∈ ns ↔ (pre.isPrefixOf q = true ∧ q ≠ pre ∧ validPrefixB q = true ∧ getMeta r m q = .node k ∧
        groupsBetween r m pre q ∧ noReserved pre q) := by
  obtain ⟨ns, h1, h2⟩ := children_true r m hh.1 hr pre (validPrefixB_dirShaped pre hp)
  refine ⟨ns, h1, ?_⟩
  intro q k
  rw [h2]
  exact below_iff_tuple r m pre q k
example : exStore.sorted ∧ hierarchyShaped exStore.keys ∧ readable exReader exStore ∧
    validPrefixB "a/".toList = true := exStore_ok

-- (`hs` is kept from the stated property; the proof does not need it)
set_option linter.unusedVariables false in
/-- **`Node::open`** fails when there is no metadata; where a node is stored it returns a list that holds the node, and
for an array nothing else (for a group the list goes on with the `children … true` of `tree_exact`: that is the definition
of `openNode`, not part of this statement) -/
theorem openNode_exact (r : Reader) (m : KV) (hs : m.sorted) (hh : hierarchyShaped m.keys) (hr : readable r m)
    (pre : Key) (hp : validPrefixB pre = true) :
    (getMeta r m pre = .missing → openNode r m pre = none) ∧
    (∀ k, getMeta r m pre = .node k → ∃ ns, openNode r m pre = some ns ∧ (pre, k) ∈ ns ∧
      (k.isGroup = false → ns = [(pre, k)])) := by
  refine ⟨?_, ?_⟩
  · intro h; unfold openNode; rw [h]
  · intro k h
    unfold openNode
    rw [h]
    cases hg : k.isGroup with
    | false => exact ⟨[(pre, k)], by simp [hg], by simp, fun _ => rfl⟩
    | true =>
      obtain ⟨ns, hns, _⟩ := children_true r m hh.1 hr pre (validPrefixB_dirShaped pre hp)
      exact ⟨(pre, k) :: ns, by simp [hg, hns], List.mem_cons_self .., fun hc => by cases hc⟩
example : exStore.sorted ∧ hierarchyShaped exStore.keys ∧ readable exReader exStore ∧
    validPrefixB "a/".toList = true := exStore_ok
example : getMeta exReader exStore "a/".toList = .node .group3 ∧ getMeta exReader exStore "a/x/".toList = .missing := by decide +kernel

/-- **existence**: `node_exists` (one of the three metadata keys is present) answers true exactly where the metadata
reads as a node -/
theorem nodeExists_iff (r : Reader) (m : KV) (pre : Key) (hr : readable r m) :
    nodeExists m pre = true ↔ ∃ k, getMeta r m pre = .node k := by
  exact nodeExists_iff_node r m pre (hr pre)
example : readable exReader exStore := exStore_ok.2.2.1

/-- erasing a node's prefix removes it and everything beneath from every listing (`erase_prefix_gone`: no metadata is
found there), and nothing else (here: what is found at any prefix outside is unchanged) -/
theorem erase_prefix_exact (r : Reader) (m : KV) (p q : Key) (hp : p.getLast? = some '/') (hq : ¬ (p.isPrefixOf q = true)) :
    getMeta r (Spec.step m (.erasePrefix p)).1 q = getMeta r m q := by
  apply getMeta_congr
  intro s hs
  rw [Spec.erasePrefix_get]
  have : hasPrefix (q ++ s) p = false := by
    rw [Bool.eq_false_iff]
    intro hc
    unfold hasPrefix at hc
    rw [List.isPrefixOf_iff_prefix] at hc hq
    exact hq (prefix_of_append_noSlash p q s hp (slash_notin_suffixes s hs) hc)
  rw [this]; rfl
example : ("a/b/".toList : Key).getLast? = some '/' ∧ ¬ (("a/b/".toList : Key).isPrefixOf "a/c/".toList = true) := by decide +kernel
theorem erase_prefix_gone (r : Reader) (m : KV) (p q : Key) (hq : p.isPrefixOf q = true) :
    getMeta r (Spec.step m (.erasePrefix p)).1 q = .missing := by
  have hg : ∀ s, (Spec.step m (.erasePrefix p)).1.get (q ++ s) = none := fun s => by
    have : hasPrefix (q ++ s) p = true := by
      unfold hasPrefix
      rw [List.isPrefixOf_iff_prefix] at hq ⊢
      exact hq.trans (List.prefix_append q s)
    rw [Spec.erasePrefix_get, this]; rfl
  rw [getMeta_missing_iff, nodeExists, hg, hg, hg]; rfl
example : ("a/".toList : Key).isPrefixOf "a/b/".toList = true := by decide +kernel


/-- **unknown storage transformers**: a document naming a storage transformer that must be understood (the default) is
rejected on open; transformers marked `must_understand: false` do not stand in the way -/
theorem unknown_transformer_rejected (d : ArrayDoc) (gridRank : Nat) (m : MetaV3) (hm : m ∈ d.st) (hmu : m.mu = true) :
    openOk d gridRank = false := by
  have : transformersOk d = false := by
    simp only [transformersOk, List.all_eq_false]
    exact ⟨m, hm, by simp [hmu]⟩
  simp [openOk, this]

theorem skippable_transformers_open (d : ArrayDoc) (gridRank : Nat) (h : structOk d gridRank = true)
    (hs : ∀ m ∈ d.st, m.mu = false) : openOk d gridRank = true := by
  have : transformersOk d = true := by
    simp only [transformersOk, List.all_eq_true]
    intro m hm; simp [hs m hm]
  simp [openOk, h, this]

theorem openOk_structOk (d : ArrayDoc) (gridRank : Nat) (h : openOk d gridRank = true) : structOk d gridRank = true := by
  simp only [openOk, Bool.and_eq_true] at h; exact h.1

end Zarrs.C13
