import ZarrsModel.Model.Array
import ZarrsModel.Props.C01
import ZarrsModel.Lemmas.Fault
import ZarrsModel.Props.C20
/-
C07 — the async API is observationally equivalent to the sync API.

The two APIs are separate copies of the same algorithms.  In the model both are the array operations of C01
(`ArrCfg`); what distinguishes them is (1) the ORDER in which the per-chunk steps of a multi-chunk operation
complete (the async methods run them as concurrent futures), (2) the encoded form of what they write (the
synchronous path may use an optional write strategy, e.g. partial encoding, the asynchronous path does not
implement) and (3) the store behind them (C08).  The theorems say that (1) and (2) are not observable: any completion
order gives the same store, and two routes that differ in key naming or encoding but share shape, grid and fill
value return the same values for every read after every history.  The correspondence check runs every generated
history through both real APIs and compares each outcome and the final readable contents with each other and with
the model.
-/
namespace Zarrs.C07
open Zarrs

variable {α : Type} [DecidableEq α]

/-- **completion order is unobservable**: the per-chunk steps of a multi-chunk write, run in ANY order (any
permutation of the chunk list — the order in which concurrent futures complete), succeed exactly when the
sequential run does and leave the same store -/
theorem store_any_order (cfg : ArrCfg α) (hK : cfg.KeysInjective) (st stFull : KV) (hs : st.sorted)
    (region : Subset) (data : List α) (chunks : Subset) (hcw : chunks.wf = true)
    (hfull : ArrCfg.foldOpt (cfg.storeArraySubsetChunk region data) st chunks.indices = some stFull)
    (order : List Idx) (hperm : order.Perm chunks.indices) :
    ArrCfg.foldOpt (cfg.storeArraySubsetChunk region data) st order = some stFull := by
  rw [ArrCfg.storeArraySubsetChunk_eq_kvStep] at hfull ⊢
  have hndC := ArrCfg.keys_nodup hK _ (chunks.indices_nodup hcw)
  rw [ArrCfg.foldOpt_kvStep_perm _ _ order chunks.indices hperm hndC st hs]
  exact hfull
example : C01.exCfg.KeysInjective ∧ C20.exStore.sorted ∧ C20.exChunks.wf = true ∧
    ArrCfg.foldOpt (C01.exCfg.storeArraySubsetChunk C20.exRegion C20.exData) C20.exStore C20.exChunks.indices =
      some C20.exFull ∧
    ([[1, 1], [0, 0], [1, 0], [0, 1]] : List Idx).Perm C20.exChunks.indices ∧
    ([[1, 1], [0, 0], [1, 0], [0, 1]] : List Idx) ≠ C20.exChunks.indices :=
  ⟨C01.exKey_inj, by unfold KV.sorted; decide +kernel, rfl, C20.exFull_val, by decide +kernel, by decide +kernel⟩
example : ArrCfg.foldOpt (C01.exCfg.storeArraySubsetChunk C20.exRegion C20.exData) C20.exStore
    [[1, 1], [0, 0], [1, 0], [0, 1]] = some C20.exFull := by decide +kernel

/-- and a failure of the sequential run is a failure of every order -/
theorem store_any_order_fails (cfg : ArrCfg α) (hK : cfg.KeysInjective) (st : KV) (hs : st.sorted)
    (region : Subset) (data : List α) (chunks : Subset) (hcw : chunks.wf = true)
    (hfull : ArrCfg.foldOpt (cfg.storeArraySubsetChunk region data) st chunks.indices = none)
    (order : List Idx) (hperm : order.Perm chunks.indices) :
    ArrCfg.foldOpt (cfg.storeArraySubsetChunk region data) st order = none := by
  rw [ArrCfg.storeArraySubsetChunk_eq_kvStep] at hfull ⊢
  have hndC := ArrCfg.keys_nodup hK _ (chunks.indices_nodup hcw)
  rw [ArrCfg.foldOpt_kvStep_perm _ _ order chunks.indices hperm hndC st hs]
  exact hfull
/-- chunk (1,0) holds a value of the wrong length: its step (a partial update, which decodes the old value) fails -/
example : C01.exCfg.KeysInjective ∧ KV.sorted [(C01.exKey [1, 0], [1, 2, 3])] ∧ C20.exChunks.wf = true ∧
    ArrCfg.foldOpt (C01.exCfg.storeArraySubsetChunk C20.exRegion C20.exData) [(C01.exKey [1, 0], [1, 2, 3])]
      C20.exChunks.indices = none ∧
    ([[1, 1], [0, 0], [1, 0], [0, 1]] : List Idx).Perm C20.exChunks.indices ∧
    ArrCfg.foldOpt (C01.exCfg.storeArraySubsetChunk C20.exRegion C20.exData) [(C01.exKey [1, 0], [1, 2, 3])]
      [[1, 1], [0, 0], [1, 0], [0, 1]] = none :=
  ⟨C01.exKey_inj, by unfold KV.sorted; decide +kernel, by decide +kernel, by decide +kernel, by decide +kernel, by decide +kernel⟩

/-- two routes to the same array: same shape, grid and fill value; keys, codec and elision may differ -/
def SameArray (c1 c2 : ArrCfg α) : Prop := c1.shape = c2.shape ∧ c1.grid = c2.grid ∧ c1.fill = c2.fill

/-- **the encoded form is unobservable**: after the same history two routes hold the same readable contents —
every array-subset, chunk and multi-chunk read returns the same elements — although the stored keys and bytes may
differ -/
theorem routes_agree (c1 c2 : ArrCfg α) (G : Shape) (h1 : C01.Ok c1 G) (h2 : C01.Ok c2 G) (hsame : SameArray c1 c2)
    (ops : List (WriteOp α)) (hops : ∀ op ∈ ops, C01.opInBounds c1 G op) :
    ∃ st1 st2, c1.run [] ops = some st1 ∧ c2.run [] ops = some st2 ∧
      (∀ r : Subset, r.wf = true → r.inboundsShape c1.shape = true →
        c1.retrieveArraySubset st1 r = c2.retrieveArraySubset st2 r) ∧
      (∀ c, inB c G = true → c1.retrieveChunk st1 c = c2.retrieveChunk st2 c) ∧
      (∀ b : Subset, b.wf = true → b.inboundsShape G = true → c1.retrieveChunks st1 b = c2.retrieveChunks st2 b) := by
  obtain ⟨hsh, hg, hf⟩ := hsame
  have habs : c1.absRun ops = c2.absRun ops := ArrCfg.absRun_congr hg hf ops
  obtain ⟨st1, hr1, hI1⟩ := C01.run_inv c1 G h1 ops hops
  obtain ⟨st2, hr2, hI2⟩ := C01.run_inv c2 G h2 ops fun op hop => ArrCfg.opInB_congr G hsh hg op (hops op hop)
  refine ⟨st1, st2, hr1, hr2, fun r hr hb => ?_, fun c hc => ?_, fun b hb hbi => ?_⟩
  · rw [ArrCfg.retrieveArraySubset_read h1.cok.rok hI1 r hr hb, ArrCfg.retrieveArraySubset_read h2.cok.rok hI2 r hr (hsh ▸ hb),
      habs]
  · obtain ⟨cs, hcs, _⟩ := h1.cok.rok.chunk_def c hc
    rw [hI1.chunks c hc cs hcs, hI2.chunks c hc cs (ArrCfg.chunkSubset_congr hg ▸ hcs), habs]
  · obtain ⟨r1, hr1', e1⟩ := ArrCfg.retrieveChunks_read h1.cok.rok hI1 b hb hbi
    obtain ⟨r2, hr2', e2⟩ := ArrCfg.retrieveChunks_read h2.cok.rok hI2 b hb hbi
    rw [hg, hr2'] at hr1'
    cases hr1'
    rw [e1, e2, habs]
def exCfg2 : ArrCfg Nat :=
  { C01.exCfg with keyOf := fun c => 'c' :: '/' :: C01.exKey c, enc := List.reverse,
                   dec := fun b => some b.reverse, storeEmpty := true }
theorem exOk2 : C01.Ok exCfg2 [3, 3] where
  lossless := fun x => by simp [exCfg2]
  keysInj := fun a b h => C01.exKey_inj a b (by simpa [exCfg2] using h)
  gridNew := ⟨_, rfl⟩
  gridWf := by decide +kernel
  gridShape := by decide +kernel
  rank := rfl
example : C01.Ok C01.exCfg [3, 3] ∧ C01.Ok exCfg2 [3, 3] ∧ SameArray C01.exCfg exCfg2 ∧
    (∀ op ∈ C01.exOps, C01.opInBounds C01.exCfg [3, 3] op) ∧ C01.exOps.length = 6 :=
  ⟨C01.exOk, exOk2, ⟨rfl, rfl, rfl⟩, C01.exOps_inBounds, rfl⟩
example : C01.exCfg.run [] C01.exOps ≠ exCfg2.run [] C01.exOps ∧
    (C01.exCfg.run [] C01.exOps).bind (fun st => C01.exCfg.retrieveArraySubset st ⟨[0, 0], [5, 7]⟩) =
    (exCfg2.run [] C01.exOps).bind (fun st => exCfg2.retrieveArraySubset st ⟨[0, 0], [5, 7]⟩) := by decide +kernel

/-- the same holds after every prefix of the history: the two routes never diverge -/
theorem routes_agree_always (c1 c2 : ArrCfg α) (G : Shape) (h1 : C01.Ok c1 G) (h2 : C01.Ok c2 G)
    (hsame : SameArray c1 c2) (ops : List (WriteOp α)) (hops : ∀ op ∈ ops, C01.opInBounds c1 G op) (n : Nat) :
    ∃ st1 st2, c1.run [] (ops.take n) = some st1 ∧ c2.run [] (ops.take n) = some st2 ∧
      ∀ r : Subset, r.wf = true → r.inboundsShape c1.shape = true →
        c1.retrieveArraySubset st1 r = c2.retrieveArraySubset st2 r := by
  obtain ⟨st1, st2, hr1, hr2, hA, _, _⟩ := routes_agree c1 c2 G h1 h2 hsame (ops.take n)
    (fun op hop => hops op (List.mem_of_mem_take hop))
  exact ⟨st1, st2, hr1, hr2, hA⟩
example : C01.Ok C01.exCfg [3, 3] ∧ C01.Ok exCfg2 [3, 3] ∧ SameArray C01.exCfg exCfg2 ∧
    (∀ op ∈ C01.exOps, C01.opInBounds C01.exCfg [3, 3] op) ∧ (C01.exOps.take 3).length = 3 :=
  ⟨C01.exOk, exOk2, ⟨rfl, rfl, rfl⟩, C01.exOps_inBounds, rfl⟩
example : (C01.exCfg.run [] (C01.exOps.take 3)).bind (fun st => C01.exCfg.retrieveArraySubset st ⟨[0, 0], [5, 7]⟩) =
    (exCfg2.run [] (C01.exOps.take 3)).bind (fun st => exCfg2.retrieveArraySubset st ⟨[0, 0], [5, 7]⟩) := by decide +kernel

/-- **same keys**: with the same key naming and elision setting the two routes store exactly the same set of keys
(the bytes under them may differ) -/
theorem routes_same_keys (c1 c2 : ArrCfg α) (G : Shape) (h1 : C01.Ok c1 G) (h2 : C01.Ok c2 G) (hsame : SameArray c1 c2)
    (hkeys : c1.keyOf = c2.keyOf) (he1 : c1.storeEmpty = false) (he2 : c2.storeEmpty = false)
    (ops : List (WriteOp α)) (hops : ∀ op ∈ ops, C01.opInBounds c1 G op) :
    ∃ st1 st2, c1.run [] ops = some st1 ∧ c2.run [] ops = some st2 ∧ ∀ k, (st1.get k).isSome = (st2.get k).isSome := by
  obtain ⟨hsh, hg, hf⟩ := hsame
  have habs : c1.absRun ops = c2.absRun ops := ArrCfg.absRun_congr hg hf ops
  obtain ⟨st1, hr1, hI1⟩ := C01.run_inv c1 G h1 ops hops
  obtain ⟨st2, hr2, hI2⟩ := C01.run_inv c2 G h2 ops fun op hop => ArrCfg.opInB_congr G hsh hg op (hops op hop)
  have hchunk : ∀ c, inB c G = true → (c1.keyOf c ∈ st1.keys ↔ c2.keyOf c ∈ st2.keys) := by
    intro c hc
    obtain ⟨cs, hcs, _⟩ := h1.cok.rok.chunk_def c hc
    rw [hI1.elide he1 c hc cs hcs, hI2.elide he2 c hc cs (ArrCfg.chunkSubset_congr hg ▸ hcs), habs, hf]
  refine ⟨st1, st2, hr1, hr2, fun k => ?_⟩
  have hmem : k ∈ st1.keys ↔ k ∈ st2.keys := by
    constructor
    · intro hk
      obtain ⟨c, hc, rfl⟩ := hI1.keys k hk
      exact hkeys ▸ (hchunk c hc).1 hk
    · intro hk
      obtain ⟨c, hc, rfl⟩ := hI2.keys k hk
      exact hkeys ▸ (hchunk c hc).2 hk
  rw [KV.mem_keys_iff_get, KV.mem_keys_iff_get] at hmem
  cases e1 : st1.get k <;> cases e2 : st2.get k <;> simp [e1, e2] at hmem ⊢
def exCfg3 : ArrCfg Nat := { C01.exCfg with enc := List.reverse, dec := fun b => some b.reverse }
theorem exOk3 : C01.Ok exCfg3 [3, 3] where
  lossless := fun x => by simp [exCfg3]
  keysInj := C01.exKey_inj
  gridNew := ⟨_, rfl⟩
  gridWf := by decide +kernel
  gridShape := by decide +kernel
  rank := rfl
example : C01.Ok C01.exCfg [3, 3] ∧ C01.Ok exCfg3 [3, 3] ∧ SameArray C01.exCfg exCfg3 ∧
    C01.exCfg.keyOf = exCfg3.keyOf ∧ C01.exCfg.storeEmpty = false ∧ exCfg3.storeEmpty = false ∧
    (∀ op ∈ C01.exOps, C01.opInBounds C01.exCfg [3, 3] op) ∧ C01.exOps.length = 6 :=
  ⟨C01.exOk, exOk3, ⟨rfl, rfl, rfl⟩, rfl, rfl, rfl, C01.exOps_inBounds, rfl⟩
example : (C01.exCfg.run [] C01.exOps).map KV.keys = (exCfg3.run [] C01.exOps).map KV.keys ∧
    C01.exCfg.run [] C01.exOps ≠ exCfg3.run [] C01.exOps ∧
    ((C01.exCfg.run [] C01.exOps).map KV.keys).map List.length = some 7 := by decide +kernel

end Zarrs.C07
