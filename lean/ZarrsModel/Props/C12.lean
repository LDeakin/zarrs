import ZarrsModel.Model.Conform
import ZarrsModel.Lemmas.Conform
import ZarrsModel.Lemmas.DeflateSimpleWriters
import ZarrsModel.Lemmas.ConformShard
import ZarrsModel.Lemmas.ConformChunk
import ZarrsModel.Lemmas.ConformArray
/-
C12 — stored data conforms to the Zarr specification in both directions.

`Zarrs.Conform` is a specification-level reader and writer that shares no code path with the Rust implementation.
Within Lean its own are the DEFLATE decoder and the gzip/zlib containers (`Model/Inflate`), element (de)serialisation,
the layout of the V2 chunk keys and the chunk grid (`gridOf`, `assemble`, `subBox`, over `ravel`, `inB` and
`boxIndices` of `Model/Index`, `Model/Iter`).  The rest is the Lean models of
zarrs' codecs that C03 and C15 are about: its shard reader is `Shard.decode` and its index writer `Shard.encodeIndex`
(`Model/Shard`), its checksum `Codec.crc32c`, its transposes `Codec.transposeDec`/`transposeEnc` (`Model/Codec`), its
V3 keys `Keys.encode` under `Keys.dataKey` (`Model/Keys`; the V2 keys also end in `Keys.dataKey`).  The correspondence
check runs it against the implementation in both directions.  The theorems here are about that independent
implementation: it reads back what it writes for EVERY layout choice the format allows, so that agreement with it
on the generated layouts is agreement with the format and not with one particular writer.
-/
namespace Zarrs.C12
open Zarrs Zarrs.Codec Zarrs.Inflate Zarrs.Conform

def wfBytes (b : Bytes) : Prop := ∀ x ∈ b, x < 256
def elemsOk (es : Nat) (xs : List Elem) : Prop := ∀ x ∈ xs, x.length = es ∧ wfBytes x

private theorem wfBytes_of_all (b : Bytes) (h : b.all (· < 256) = true) : wfBytes b := by
  intro x hx
  simpa using List.all_eq_true.1 h x hx
private theorem elemsOk_of_all (es : Nat) (xs : List Elem)
    (h : xs.all (fun x => x.length == es && x.all (· < 256)) = true) : elemsOk es xs := by
  intro x hx
  have := List.all_eq_true.1 h x hx
  simp only [Bool.and_eq_true, beq_iff_eq] at this
  exact ⟨this.1, wfBytes_of_all x this.2⟩

/-- **stored blocks inflate to the data**, whatever follows the stream -/
theorem inflate_stored (bs rest : Bytes) (hb : wfBytes bs) (hr : wfBytes rest) :
    inflate (deflateStored bs ++ rest) = some (bs, rest) :=
  have _ := hr   -- not needed: whatever follows the stream is returned untouched
  (deflateStored_deflates hb).inflate rest

example : wfBytes [1, 2, 255] ∧ wfBytes [7] ∧ inflate (deflateStored [1, 2, 255] ++ [7]) = some ([1, 2, 255], [7]) :=
  have h1 : wfBytes [1, 2, 255] := by unfold wfBytes; decide
  have h2 : wfBytes [7] := by unfold wfBytes; decide
  ⟨h1, h2, inflate_stored _ _ h1 h2⟩

/-- a DEFLATE flavour the reader inverts.  The layout theorems take it as a hypothesis and no proof uses it: it
    holds of every layout (`deflateOk_stored` below; `deflateOk_fixed`, `deflateOk_all` in `Props/C12Fixed.lean`),
    and the proofs go through `deflateOf_deflates`. -/
def DeflateOk (l : Layout) : Prop :=
  (∀ bs rest, wfBytes bs → wfBytes rest → inflate (deflateOf l bs ++ rest) = some (bs, rest)) ∧
  (∀ bs, wfBytes bs → wfBytes (deflateOf l bs))
theorem deflateOk_stored (l : Layout) (h : l.deflate = 0) : DeflateOk l :=
  have _ := h   -- not needed: it holds of both flavours a layout can name
  ⟨fun _ rest hb _ => (deflateOf_deflates l hb).inflate rest, fun _ hb => deflateOf_wf l hb⟩

example : DeflateOk { deflate := 0, gzipExtra := true, reverseInner := true, pad := 2 } := deflateOk_stored _ rfl

/-- **gzip and zlib members read back**, with or without the optional gzip header fields -/
theorem gunzip_gzip (l : Layout) (hl : DeflateOk l) (bs : Bytes) (hb : wfBytes bs) :
    gunzip (gzipWith (deflateOf l) l.gzipExtra bs) = some bs :=
  have _ := hl   -- not needed: `DeflateOk` holds of every layout (`deflateOf_deflates`)
  gunzip_gzipWith _ _ (deflateOf_deflates l hb)
theorem unzlib_zlib (l : Layout) (hl : DeflateOk l) (bs : Bytes) (hb : wfBytes bs) :
    unzlib (zlibWith (deflateOf l) bs) = some bs :=
  have _ := hl
  unzlib_zlibWith _ (deflateOf_deflates l hb)

example : gunzip (gzipWith (deflateOf { gzipExtra := true }) true [1, 2, 3, 255]) = some [1, 2, 3, 255] ∧
    unzlib (zlibWith (deflateOf { gzipExtra := true }) [1, 2, 3, 255]) = some [1, 2, 3, 255] :=
  ⟨gunzip_gzip { gzipExtra := true } (deflateOk_stored _ rfl) _ (wfBytes_of_all _ (by decide)),
   unzlib_zlib { gzipExtra := true } (deflateOk_stored _ rfl) _ (wfBytes_of_all _ (by decide))⟩
example : gunzip (gzipWith deflateFixed true [1, 2, 3, 200, 255]) = some [1, 2, 3, 200, 255] ∧
    unzlib (zlibWith deflateStored [9, 8]) = some [9, 8] :=
  fixed_example

/-- **any chain of gzip and crc32c decodes what it encoded** -/
theorem b2b_roundtrip (l : Layout) (hl : DeflateOk l) (cs : List B2BK) (b : Bytes) (hb : wfBytes b) :
    b2bDec cs (b2bEnc l cs b) = some b :=
  have _ := hl
  (b2b_roundtrip' l cs b hb).1

example : b2bDec [.gzip, .crc32c, .gzip] (b2bEnc { gzipExtra := true } [.gzip, .crc32c, .gzip] [5, 6, 7]) = some [5, 6, 7] :=
  b2b_roundtrip { gzipExtra := true } (deflateOk_stored _ rfl) _ _ (wfBytes_of_all _ (by decide))

/-- **a legal shard decodes to its chunks**, wherever the inner chunks lie, in whatever order, with whatever
padding between them, and with the index at either end -/
theorem legal_shard_decodes (c : Shard.Cfg) (v : Bytes) (chunks : List (Option Bytes))
    (h : Shard.Legal c v chunks) : Shard.decode c true v = .ok chunks :=
  Shard.legal_decodes c v chunks h

/-- **the writer's placement is legal for every order/padding choice** -/
theorem placeInner_legal (l : Layout) (c : Shard.Cfg) (chunks : List (Option Bytes)) (hn : chunks.length = c.nChunks)
    (hb : ∀ ch ∈ chunks, ∀ b, ch = some b → wfBytes b)
    (hsmall : ((chunks.filterMap id).map (fun b => b.length + l.pad)).sum + Shard.indexSize c < Shard.sentinel) :
    let base := if c.indexAtEnd then 0 else Shard.indexSize c
    let (data, entries) := placeInner l base chunks
    Shard.Legal c (if c.indexAtEnd then data ++ Shard.encodeIndex c entries else Shard.encodeIndex c entries ++ data) chunks :=
  have _ := hb   -- not needed: the index words are produced by `w64`, the data is only sliced
  shardValue_legal l c chunks hn (by rw [shardValue_length l c chunks hn, placeInner_data_length]; exact hsmall)

private def exChunks : List (Option Bytes) := [some [1, 2, 3], none, some [4]]
private def exLayout : Layout := { reverseInner := true, pad := 2 }
private theorem exChunks_wf : ∀ ch ∈ exChunks, ∀ b, ch = some b → wfBytes b := by
  intro ch hc b hb
  simp only [exChunks, List.mem_cons, List.not_mem_nil, or_false] at hc
  rcases hc with rfl | rfl | rfl <;> cases hb <;> exact wfBytes_of_all _ (by decide)

example : Shard.Legal ⟨3, true, false, true⟩
    ((placeInner exLayout 0 exChunks).1 ++ Shard.encodeIndex ⟨3, true, false, true⟩ (placeInner exLayout 0 exChunks).2)
    exChunks :=
  placeInner_legal exLayout ⟨3, true, false, true⟩ exChunks rfl exChunks_wf (by decide)
example : Shard.Legal ⟨3, false, true, false⟩
    (Shard.encodeIndex ⟨3, false, true, false⟩ (placeInner exLayout 48 exChunks).2 ++ (placeInner exLayout 48 exChunks).1)
    exChunks :=
  placeInner_legal exLayout ⟨3, false, true, false⟩ exChunks rfl exChunks_wf (by decide)
example : (placeInner exLayout 0 exChunks).1 = [0xAA, 0xAA, 4, 0xAA, 0xAA, 1, 2, 3] ∧
    (placeInner exLayout 0 exChunks).2 = [(5, 3), (Shard.sentinel, Shard.sentinel), (2, 1)] := by decide
example : Shard.decode ⟨3, true, false, true⟩ true
    ((placeInner exLayout 0 exChunks).1 ++ Shard.encodeIndex ⟨3, true, false, true⟩ (placeInner exLayout 0 exChunks).2) =
    .ok exChunks :=
  legal_shard_decodes _ _ _ (placeInner_legal exLayout ⟨3, true, false, true⟩ exChunks rfl exChunks_wf (by decide))

def ordersOk (rank : Nat) (ts : List (List Nat)) : Prop := ∀ o ∈ ts, validOrder o rank = true

def Chain.ok (shape : Shape) (c : Chain) : Prop :=
  ordersOk shape.length c.transposes ∧
  match c.a2b with
  | .bytes _ => True
  | .shard ishape inner _ _ _ =>
    ishape.length = shape.length ∧ (∀ d ∈ ishape, 0 < d) ∧
    (∀ p ∈ (encodedShape shape c.transposes).zip ishape, p.1 % p.2 = 0) ∧
    ordersOk shape.length inner.transposes

/-- **a chunk written with any layout choice reads back**: transposes, `bytes` in either byte order, gzip/crc32c in
any order, and a shard with its inner chunks in either order, any padding, either index location/byte order, with
or without index checksum, all-fill inner chunks left out -/
theorem chunk_roundtrip (l : Layout) (hl : DeflateOk l) (es : Nat) (hes : 0 < es) (fill : Elem)
    (hfill : fill.length = es ∧ wfBytes fill) (shape : Shape) (hpos : ∀ d ∈ shape, 0 < d) (c : Chain)
    (hc : Chain.ok shape c) (xs : List Elem) (hx : xs.length = prod shape) (hxe : elemsOk es xs)
    (hsmall : (chunkBody l fill shape c xs).length < Shard.sentinel) :
    chunkDec es fill shape c (chunkEnc l es fill shape c xs) = some xs := by
  have _ := hpos   -- not needed: empty chunks round-trip too
  have _ := hl
  have hc' : ChainOk shape c := by
    refine ⟨hc.1, ?_⟩
    have h2 := hc.2
    cases ha : c.a2b with
    | bytes big => trivial
    | shard ishape inner idxBig idxCrc atEnd =>
      rw [ha] at h2
      exact ⟨h2.1, h2.2.1, h2.2.2.2⟩
  exact chunk_roundtrip' l es hes fill hfill.1 hfill.2 shape c hc' xs hx hxe hsmall

private def exL : Layout := { deflate := 0, gzipExtra := true, reverseInner := true, pad := 2 }
private def exL2 : Layout := { deflate := 0, gzipExtra := false, reverseInner := false, pad := 0 }
private def exChain : Chain :=
  { transposes := [[1, 0]],
    a2b := .shard [1, 2] { transposes := [[1, 0]], big := true, b2b := [.gzip, .crc32c] } true true true,
    b2b := [.crc32c, .gzip] }
private def exXs : List Elem := [[1, 0], [2, 0], [0, 0], [4, 1], [5, 255], [0, 0]]
private theorem exChain_ok : Chain.ok [2, 3] exChain := by
  simp only [Chain.ok, ordersOk, exChain]
  decide
private theorem exBody_small : (chunkBody exL [0, 0] [2, 3] exChain exXs).length < Shard.sentinel := by
  decide +kernel
example : encodedShape [2, 3] exChain.transposes = [3, 2] := by decide
example : chunkDec 2 [0, 0] [2, 3] exChain (chunkEnc exL 2 [0, 0] [2, 3] exChain exXs) = some exXs :=
  chunk_roundtrip exL (deflateOk_stored _ rfl) 2 (by decide) [0, 0] ⟨rfl, wfBytes_of_all _ (by decide)⟩ [2, 3]
    (by decide) exChain exChain_ok exXs (by decide) (elemsOk_of_all _ _ (by decide)) exBody_small
example : (chunkEnc exL 2 [0, 0] [2, 3] exChain exXs).length = 163 ∧
    (chunkEnc exL2 2 [0, 0] [2, 3] exChain exXs).length = 141 := by decide +kernel
example : chunkDec 2 [0, 0] [2, 3] ⟨[[1, 0], [1, 0]], .bytes true, [.gzip]⟩
    (chunkEnc exL 2 [0, 0] [2, 3] ⟨[[1, 0], [1, 0]], .bytes true, [.gzip]⟩ exXs) = some exXs :=
  chunk_roundtrip exL (deflateOk_stored _ rfl) 2 (by decide) [0, 0] ⟨rfl, wfBytes_of_all _ (by decide)⟩ [2, 3]
    (by decide) _ ⟨by simp only [ordersOk]; decide, trivial⟩ exXs (by decide) (elemsOk_of_all _ _ (by decide))
    (by decide +kernel)

/-- the reader does not depend on the layout: two encodings of the same chunk under different choices decode to
the same elements -/
theorem chunk_layout_independent (l1 l2 : Layout) (h1 : DeflateOk l1) (h2 : DeflateOk l2) (es : Nat) (hes : 0 < es)
    (fill : Elem) (hfill : fill.length = es ∧ wfBytes fill) (shape : Shape) (hpos : ∀ d ∈ shape, 0 < d) (c : Chain)
    (hc : Chain.ok shape c) (xs : List Elem) (hx : xs.length = prod shape) (hxe : elemsOk es xs)
    (hs1 : (chunkBody l1 fill shape c xs).length < Shard.sentinel)
    (hs2 : (chunkBody l2 fill shape c xs).length < Shard.sentinel) :
    chunkDec es fill shape c (chunkEnc l1 es fill shape c xs) = chunkDec es fill shape c (chunkEnc l2 es fill shape c xs) := by
  rw [chunk_roundtrip l1 h1 es hes fill hfill shape hpos c hc xs hx hxe hs1,
    chunk_roundtrip l2 h2 es hes fill hfill shape hpos c hc xs hx hxe hs2]

example : chunkDec 2 [0, 0] [2, 3] exChain (chunkEnc exL 2 [0, 0] [2, 3] exChain exXs) =
    chunkDec 2 [0, 0] [2, 3] exChain (chunkEnc exL2 2 [0, 0] [2, 3] exChain exXs) :=
  chunk_layout_independent exL exL2 (deflateOk_stored _ rfl) (deflateOk_stored _ rfl) 2 (by decide) [0, 0]
    ⟨rfl, wfBytes_of_all _ (by decide)⟩ [2, 3] (by decide) exChain exChain_ok exXs (by decide)
    (elemsOk_of_all _ _ (by decide)) exBody_small (by decide +kernel)

/-- **V2 chunks**: C or F order, either byte order, compressor none/zlib/gzip -/
theorem v2_chunk_roundtrip (l : Layout) (hl : DeflateOk l) (a : V2) (hes : 0 < a.es) (hpos : ∀ d ∈ a.chunk, 0 < d)
    (xs : List Elem) (hx : xs.length = prod a.chunk) (hxe : elemsOk a.es xs) :
    a.chunkDec (a.chunkEnc l xs) = some xs :=
  have _ := hpos   -- not needed
  have _ := hl
  v2_chunk_roundtrip' l a hes xs hx hxe

private def exV2 : V2 :=
  { shape := [3, 4], chunk := [2, 3], es := 2, big := true, fill := [0, 0], fOrder := true, sep := '.', comp := .zlib,
    path := "/a/b".toList }
example : exV2.chunkDec (exV2.chunkEnc exL exXs) = some exXs :=
  v2_chunk_roundtrip exL (deflateOk_stored _ rfl) exV2 (by decide) (by decide) exXs (by decide)
    (elemsOk_of_all _ _ (by decide))

def V3.ok (a : V3) : Prop :=
  0 < a.es ∧ a.fill.length = a.es ∧ wfBytes a.fill ∧ a.chunk.length = a.shape.length ∧ (∀ d ∈ a.chunk, 0 < d) ∧
  Chain.ok a.chunk a.chain ∧ (a.sep = '/' ∨ a.sep = '.')

/-- **whole arrays**: what the specification writer stores (chunks that are all fill are not stored at all) is
read back as the array, for regular grids with ragged edges, either key encoding and separator -/
theorem v3_array_roundtrip (l : Layout) (hl : DeflateOk l) (a : V3) (ha : V3.ok a) (xs : List Elem)
    (hx : xs.length = prod a.shape) (hxe : elemsOk a.es xs)
    (hsmall : ∀ c ∈ boxIndices (gridOf a.shape a.chunk),
      (chunkBody l a.fill a.chunk a.chain (subBox a.shape a.chunk xs c a.fill)).length < Shard.sentinel) :
    a.read (a.write l xs) = some xs := by
  obtain ⟨hes, hfl, hfw, hr, hpos, hc, hsep⟩ := ha
  exact array_roundtrip a.shape a.chunk hr hpos a.fill xs hx a.key
    (key_inj a.path a.keyEnc a.sep hsep _)
    (chunkEnc l a.es a.fill a.chunk a.chain) (chunkDec a.es a.fill a.chunk a.chain)
    (fun c hcm => chunk_roundtrip l hl a.es hes a.fill ⟨hfl, hfw⟩ a.chunk hpos a.chain hc _
      (subBox_length _ _ _ _ _) (subBox_elemsOk a.es a.fill hfl hfw a.shape a.chunk xs hxe c) (hsmall c hcm))

private def exV3 : V3 :=
  { shape := [3, 4], chunk := [2, 3], es := 2, fill := [0, 0], keyEnc := .default, sep := '/', chain := exChain,
    path := "/a/b".toList }
private def exArr : List Elem :=
  [[1, 0], [2, 0], [3, 0], [4, 0], [5, 0], [6, 0], [7, 0], [8, 255], [9, 0], [10, 0], [11, 0], [0, 0]]
private theorem exV3_ok : V3.ok exV3 :=
  ⟨by decide, rfl, wfBytes_of_all _ (by decide), rfl, by decide, exChain_ok, Or.inl rfl⟩
example : exV3.read (exV3.write exL exArr) = some exArr :=
  v3_array_roundtrip exL (deflateOk_stored _ rfl) exV3 exV3_ok exArr (by decide) (elemsOk_of_all _ _ (by decide))
    (by decide +kernel)
example : (exV3.write exL exArr).map (·.1) = ["a/b/c/0/0".toList, "a/b/c/0/1".toList, "a/b/c/1/0".toList] := by
  decide +kernel

theorem v2_array_roundtrip (l : Layout) (hl : DeflateOk l) (a : V2) (hes : 0 < a.es)
    (hfill : a.fill.length = a.es ∧ wfBytes a.fill) (hr : a.chunk.length = a.shape.length)
    (hpos : ∀ d ∈ a.chunk, 0 < d) (hsep : a.sep = '/' ∨ a.sep = '.') (xs : List Elem)
    (hx : xs.length = prod a.shape) (hxe : elemsOk a.es xs) :
    a.read (a.write l xs) = some xs :=
  array_roundtrip a.shape a.chunk hr hpos a.fill xs hx a.key
    (key_inj a.path .v2 a.sep hsep _)
    (a.chunkEnc l) a.chunkDec
    (fun c _ => v2_chunk_roundtrip l hl a hes hpos _
      (subBox_length _ _ _ _ _) (subBox_elemsOk a.es a.fill hfill.1 hfill.2 a.shape a.chunk xs hxe c))

example : exV2.read (exV2.write exL exArr) = some exArr :=
  v2_array_roundtrip exL (deflateOk_stored _ rfl) exV2 (by decide) ⟨rfl, wfBytes_of_all _ (by decide)⟩ rfl
    (by decide) (Or.inr rfl) exArr (by decide) (elemsOk_of_all _ _ (by decide))
example : (exV2.write exL exArr).map (·.1) = ["a/b/0.0".toList, "a/b/0.1".toList, "a/b/1.0".toList] := by
  decide +kernel

end Zarrs.C12
