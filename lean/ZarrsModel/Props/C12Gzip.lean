import ZarrsModel.Props.C12Deflate
import ZarrsModel.Lemmas.GzipMulti
/-
C12, read direction, gzip FILES (RFC 1952 §2.2): "A gzip file consists of a series of members (compressed data sets).
… The members simply appear one after another in the file, with no additional information before, between, or after
them."  The reference readers (Python's `gzip` module, hence numcodecs' `GZip`; gzip(1)) return the concatenation of the
members' data, so a conformant writer may store a chunk as several members (e.g. one per appended piece).

`Zarrs.Inflate.gunzipMember` reads one member and returns what follows it; `Zarrs.Inflate.gunzipAll` reads the whole
file.  The theorems: every file of one or more members written by the specification writer (`DeflateSpec.gzipFile`: any
header fields, any conformant DEFLATE stream per member, members with empty data included) is read to the concatenation
of the data; the one-member reader `gunzip` is the first-member reader and agrees with `gunzipAll` on one member;
anything non-empty after the last member that is not itself a sequence of members makes the file invalid.

The Rust side (`zarrs/src/array/codec/bytes_to_bytes/gzip/gzip_codec.rs`, `GzipCodec::decode`:
`flate2::bufread::MultiGzDecoder` as repaired, F-C12-1; the unrepaired ONE-member `GzDecoder` reads as `gunzip`, the first
member's data only) is tied to `gunzipAll` by the `c12 zinflate kind=gzip` lines of `Driver/C12Deflate.lean`, about a
fifth of which are files of 2–4 members.
-/
namespace Zarrs.C12
open Zarrs Zarrs.Inflate Zarrs.DeflateSpec

/-- **`gunzip` is the first-member reader**: it accepts exactly when `gunzipMember` does, returns the same
    data, and ignores what follows the trailer -/
theorem gunzip_eq_gunzipMember (bs : Bytes) : gunzip bs = (gunzipMember bs).map (·.1) := gunzip_eq_map bs

example : gunzipMember (gzipWith deflateStored true [5, 6] ++ [9, 9, 9]) = some ([5, 6], [9, 9, 9]) ∧
    gunzip (gzipWith deflateStored true [5, 6] ++ [9, 9, 9]) = some [5, 6] ∧
    gunzipMember [0x1f, 0x8b, 8] = none ∧ gunzip [0x1f, 0x8b, 8] = none := by decide +kernel

/-- **one member written by the specification, followed by ANYTHING**: the member's data and exactly the bytes after
    its trailer (hypotheses as in `gunzip_stream`) -/
theorem gunzipMember_stream (h : GzHeader) (hh : h.ok = true) (bl : List Block) (fill : Bits)
    (stream data rest : Bytes) (he : encodeStream bl fill = some stream) (hr : renderBlocks bl [] = some data) :
    gunzipMember (gzipMember h stream data ++ rest) = some (data, rest) :=
  gunzipMember_gzipMember h hh (.of_encodeStream he hr) rest

example : gunzipMember (gzipMember exGzHeader
    [29, 192, 1, 9, 0, 0, 0, 128, 160, 173, 254, 63, 17, 164, 5] [97, 97, 97, 97, 97, 97] ++ [0x1f, 0x8b, 7]) =
    some ([97, 97, 97, 97, 97, 97], [0x1f, 0x8b, 7]) :=
  gunzipMember_stream _ (by decide) _ [] _ _ _ exStream_enc exStream_render

/-- an accepted member is at least 18 bytes long (10 of header, 8 of trailer): `gunzipAll` always makes progress, its
    fuel is never the reason for a rejection -/
theorem gunzipMember_progress (bs data rest : Bytes) (h : gunzipMember bs = some (data, rest)) :
    rest.length + 18 ≤ bs.length := gunzipMember_length bs data rest h

/-- **what `gunzipAll` is**, without fuel: the first member, and — when anything follows — the rest of the file read
    the same way; an input that does not start with a member (the empty input included) is rejected -/
theorem gunzipAll_unfold (bs : Bytes) :
    gunzipAll bs = match gunzipMember bs with
      | none => none
      | some (data, rest) => if rest.isEmpty then some data else (gunzipAll rest).map (data ++ ·) := by
  cases hm : gunzipMember bs with
  | none => exact gunzipAll_none bs hm
  | some p => exact gunzipAll_step bs p.1 p.2 hm

example : gunzipAll [] = none := by decide

/-- **THE theorem: a file of one or more members written by the specification is read to the concatenation of the
    members' data.**  `ms`: any NON-EMPTY list of (header, stream, data); every header any combination of the optional
    fields, every stream ANY conformant DEFLATE encoding (`encodeStream` of blocks rendering to the data) — members with
    empty data included. -/
theorem gunzipAll_members (ms : List (GzHeader × Bytes × Bytes)) (hne : ms ≠ [])
    (hms : ∀ m ∈ ms, m.1.ok = true ∧
      ∃ bl fill, encodeStream bl fill = some m.2.1 ∧ renderBlocks bl [] = some m.2.2) :
    gunzipAll (gzipFile ms) = some (ms.map (fun m => m.2.2)).flatten :=
  gunzipAll_gzipFile ms hne hms

/-- **on ANY input that is exactly one accepted member (written by whomever) `gunzipAll` and the one-member reader
    `gunzip` agree** -/
theorem gunzipAll_one_member (bs data : Bytes) (h : gunzipMember bs = some (data, [])) :
    gunzipAll bs = some data ∧ gunzip bs = some data := by
  refine ⟨?_, ?_⟩
  · rw [gunzipAll_step bs data [] h]; rfl
  · rw [gunzip_eq_map, h]; rfl

/-- in particular on a member written by the specification -/
theorem gunzipAll_single (h : GzHeader) (hh : h.ok = true) (bl : List Block) (fill : Bits) (stream data : Bytes)
    (he : encodeStream bl fill = some stream) (hr : renderBlocks bl [] = some data) :
    gunzipAll (gzipMember h stream data) = gunzip (gzipMember h stream data) ∧
    gunzipAll (gzipMember h stream data) = some data := by
  have hm := gunzipMember_stream h hh bl fill stream data [] he hr
  rw [List.append_nil] at hm
  obtain ⟨h1, h2⟩ := gunzipAll_one_member _ data hm
  exact ⟨h1.trans h2.symm, h1⟩

/-- and `gunzip` is always the data of the FIRST member of what `gunzipAll` accepts: when `gunzipAll` accepts, `gunzip`
    accepts too and returns a prefix of the file's data (it silently drops the later members) -/
theorem gunzip_prefix_of_gunzipAll (bs all : Bytes) (h : gunzipAll bs = some all) :
    ∃ first more, gunzip bs = some first ∧ all = first ++ more := by
  rw [gunzipAll_unfold] at h
  cases hm : gunzipMember bs with
  | none => simp [hm] at h
  | some p =>
    obtain ⟨data, rest⟩ := p
    simp only [hm] at h
    refine ⟨data, all.drop data.length, by rw [gunzip_eq_map, hm]; rfl, ?_⟩
    split at h
    · cases h
      simp
    · obtain ⟨more, _, rfl⟩ := Option.map_eq_some_iff.1 h
      simp

/-- **a written file followed by anything non-empty**: the members are read, and the outcome is decided by what
    follows them (`ms = []` allowed) -/
theorem gunzipAll_then (ms : List (GzHeader × Bytes × Bytes))
    (hms : ∀ m ∈ ms, conformantMember m) (g : Bytes) (hg : g ≠ []) :
    gunzipAll (gzipFile ms ++ g) = (gunzipAll g).map ((ms.map (fun m => m.2.2)).flatten ++ ·) :=
  gunzipAll_gzipFile_append ms hms g hg

/-- **trailing garbage is rejected**, general case: a written file followed by a non-empty `g` that does not start
    with a member ("no additional information … after them") -/
theorem gunzipAll_rejects_trailing (ms : List (GzHeader × Bytes × Bytes))
    (hms : ∀ m ∈ ms, conformantMember m) (g : Bytes) (hg : g ≠ []) (hn : gunzipMember g = none) : gunzipAll (gzipFile ms ++ g) = none := by
  rw [gunzipAll_then ms hms g hg, gunzipAll_none g hn]
  rfl

/-- in particular bytes whose first is not the magic 0x1f (zero padding included: the reference reader of Python skips
    zero bytes after a member, RFC 1952 has no such allowance and neither has this reader) -/
theorem gunzipAll_rejects_trailing_garbage (ms : List (GzHeader × Bytes × Bytes))
    (hms : ∀ m ∈ ms, m.1.ok = true ∧
      ∃ bl fill, encodeStream bl fill = some m.2.1 ∧ renderBlocks bl [] = some m.2.2)
    (b : Nat) (g : Bytes) (hb : b ≠ 0x1f) : gunzipAll (gzipFile ms ++ b :: g) = none := by
  refine gunzipAll_rejects_trailing ms hms (b :: g) (by simp) ?_
  unfold gunzipMember
  split
  · rename_i heq
    simp only [List.cons.injEq] at heq
    exact absurd heq.1 hb
  · rfl

def exHdrA : GzHeader := { extra := some [1, 2, 3], name := some [65, 66] }
def exHdrB : GzHeader := { comment := some [], os := 3 }

def exFile : List (GzHeader × Bytes × Bytes) :=
  [(exHdrA, [99, 60, 1, 130, 0], [1, 200, 1, 200, 1, 200]),
   (exHdrB, [41, 0, 0, 255, 255], []),
   (exGzHeader, [29, 192, 1, 9, 0, 0, 0, 128, 160, 173, 254, 63, 17, 164, 5], [97, 97, 97, 97, 97, 97])]

theorem exFile_conformant : ∀ m ∈ exFile, m.1.ok = true ∧
    ∃ bl fill, encodeStream bl fill = some m.2.1 ∧ renderBlocks bl [] = some m.2.2 := by
  intro m hm
  simp only [exFile, List.mem_cons, List.not_mem_nil, or_false] at hm
  rcases hm with rfl | rfl | rfl
  · exact ⟨by decide, [.fixed [.lit 1, .lit 200, .copy 4 2]], [], by decide +kernel, by decide +kernel⟩
  · exact ⟨by decide, [.stored [true, false, true] []], [], by decide +kernel, by decide +kernel⟩
  · exact ⟨by decide, _, [], exStream_enc, exStream_render⟩

theorem gunzip_exFile_append (n : Nat) (g : Bytes) :
    gunzip (gzipFile (exFile.take (n + 1)) ++ g) = some [1, 200, 1, 200, 1, 200] := by
  obtain ⟨hh, bl, fill, he, hr⟩ := exFile_conformant _ List.mem_cons_self
  simp only [exFile, List.take_succ_cons, gzipFile, List.append_assoc]
  rw [gunzip_eq_gunzipMember, gunzipMember_stream _ hh bl fill _ _ _ he hr]
  rfl

example : gunzipAll (gzipFile exFile) = some [1, 200, 1, 200, 1, 200, 97, 97, 97, 97, 97, 97] :=
  gunzipAll_members exFile (by decide) exFile_conformant

example : gunzipAll
    [31, 139, 8, 12, 0, 0, 0, 0, 0, 255, 3, 0, 1, 2, 3, 65, 66, 0, 99, 60, 1, 130, 0, 66, 10, 95, 8, 6, 0, 0, 0,
     31, 139, 8, 16, 0, 0, 0, 0, 0, 3, 0, 41, 0, 0, 255, 255, 0, 0, 0, 0, 0, 0, 0, 0,
     31, 139, 8, 31, 1, 2, 3, 4, 2, 3, 3, 0, 1, 2, 3, 65, 0, 66, 67, 0, 1, 2,
     29, 192, 1, 9, 0, 0, 0, 128, 160, 173, 254, 63, 17, 164, 5, 248, 25, 228, 90, 6, 0, 0, 0] =
      some [1, 200, 1, 200, 1, 200, 97, 97, 97, 97, 97, 97] ∧
    gunzip (gzipFile exFile) = some [1, 200, 1, 200, 1, 200] :=
  ⟨(congrArg gunzipAll (by decide +kernel)).trans (gunzipAll_members exFile (by decide) exFile_conformant),
    gunzip_exFile_append 2 []⟩

example : gzipFile exFile =
    [31, 139, 8, 12, 0, 0, 0, 0, 0, 255, 3, 0, 1, 2, 3, 65, 66, 0, 99, 60, 1, 130, 0, 66, 10, 95, 8, 6, 0, 0, 0,
     31, 139, 8, 16, 0, 0, 0, 0, 0, 3, 0, 41, 0, 0, 255, 255, 0, 0, 0, 0, 0, 0, 0, 0,
     31, 139, 8, 31, 1, 2, 3, 4, 2, 3, 3, 0, 1, 2, 3, 65, 0, 66, 67, 0, 1, 2,
     29, 192, 1, 9, 0, 0, 0, 128, 160, 173, 254, 63, 17, 164, 5, 248, 25, 228, 90, 6, 0, 0, 0] := by decide +kernel

example : gunzipAll (gzipMember exHdrA [99, 60, 1, 130, 0] [1, 200, 1, 200, 1, 200]) =
      gunzip (gzipMember exHdrA [99, 60, 1, 130, 0] [1, 200, 1, 200, 1, 200]) ∧
    gunzipAll (gzipMember exHdrA [99, 60, 1, 130, 0] [1, 200, 1, 200, 1, 200]) = some [1, 200, 1, 200, 1, 200] :=
  have ⟨hh, bl, fill, he, hr⟩ := exFile_conformant _ List.mem_cons_self
  gunzipAll_single exHdrA hh bl fill _ _ he hr

example : gunzipAll (gzipFile exFile ++ [0x55, 1, 2]) = none :=
  gunzipAll_rejects_trailing_garbage exFile exFile_conformant 0x55 [1, 2] (by decide)
example : gunzipAll (gzipFile exFile ++ [0x55, 1, 2]) = none ∧ gunzipAll (gzipFile exFile ++ [0]) = none ∧
    gunzip (gzipFile exFile ++ [0x55, 1, 2]) = some [1, 200, 1, 200, 1, 200] :=
  ⟨gunzipAll_rejects_trailing_garbage exFile exFile_conformant 0x55 [1, 2] (by decide),
    gunzipAll_rejects_trailing_garbage exFile exFile_conformant 0 [] (by decide), gunzip_exFile_append 2 _⟩
example : gunzipAll (gzipFile exFile ++ [0x1f, 0x8b, 8, 0]) = none :=
  gunzipAll_rejects_trailing exFile exFile_conformant _ (by decide) (by decide)
/-- a damaged later member (one bit of the CRC-32 of the third) invalidates the whole file -/
example : gunzipAll ((gzipFile exFile).set 93 249) = none ∧
    gunzip ((gzipFile exFile).set 93 249) = some [1, 200, 1, 200, 1, 200] := by
  -- the first two members are read by the theorem; so is the stream of the third, whose trailer then fails the check
  have e : (gzipFile exFile).set 93 249 = gzipFile (exFile.take 2) ++ (exGzHeader.bytes ++
      ([29, 192, 1, 9, 0, 0, 0, 128, 160, 173, 254, 63, 17, 164, 5] ++ [248, 249, 228, 90, 6, 0, 0, 0])) := by
    decide +kernel
  have hc := fun m hm => exFile_conformant m (List.mem_of_mem_take (i := 2) hm)
  refine ⟨?_, ?_⟩
  · rw [e, gunzipAll_rejects_trailing _ hc _ (by decide)]
    rw [gunzipMember_header _ (by decide), (Deflates.of_encodeStream exStream_enc exStream_render).inflate]
    decide +kernel
  · rw [e]
    exact gunzip_exFile_append 1 _
example : gunzipAll (gzipFile exFile ++ gzipFile exFile) =
    some ([1, 200, 1, 200, 1, 200, 97, 97, 97, 97, 97, 97] ++ [1, 200, 1, 200, 1, 200, 97, 97, 97, 97, 97, 97]) := by
  rw [gunzipAll_then exFile exFile_conformant _ (by decide +kernel),
    gunzipAll_members exFile (by decide) exFile_conformant]
  rfl

end Zarrs.C12
