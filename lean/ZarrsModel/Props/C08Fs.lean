import ZarrsModel.Model.FsStore
import ZarrsModel.Lemmas.FsStoreHist
/-
C08 for `FilesystemStore` (zarrs_filesystem/src/lib.rs): the algorithm over a directory tree
(`Model/FsStore.lean`: `fsStep`) refines the ordered key-value map (`Spec.step`).

* state: `Fs.FsState` = `Option Tree` (base directory absent / its content), directories may be empty;
* abstraction: `absFs` = the files found by the directory walk, as the sorted key -> bytes map;
* invariant: `FsInv` (every directory: plain names, strictly increasing, recursively) - kept by EVERY operation
  (`fs_inv_preserved`);
* hypothesis of the refinement: `opOk s op` - the paths of the KEYS the operation names are free in the tree (no
  directory where a key is to be written/read, no file on the way); prefixes need nothing beyond being modelled
  (`erase_prefix` as repaired, F-C08-9: `fs_erasePrefix_refines`, `fs_erasePrefix_on_key_ok`).  This is stronger than
  "the key set stays prefix-free": `erase` leaves empty directories, and an emptied directory `a/b/` makes a later `set a/b` fail although no key has the prefix
  (`fs_leftover_dir_blocks_key`; confirmed on the implementation).  Over one fixed hierarchy-shaped key universe -
  the way the store is used by arrays and groups and by the harness - `opOk` always holds (`fs_history_refines`).
-/
namespace Zarrs.C08Fs
open Zarrs Zarrs.Fs

def exHistory : List StoreOp :=
  [.set "a/b/c/k".toList [1, 2], .set "a/b/m".toList [3], .set "e".toList [], .erase "a/b/c/k".toList]
def exState : FsState := fsRun (some .nil) exHistory
def exUniverse : List Key := ["a/b/c/k".toList, "a/b/m".toList, "a/n".toList, "e".toList]

theorem exState_eq : exState = some (.dir "a".toList (.dir "b".toList (.dir "c".toList .nil (.file "m".toList [3] .nil)) .nil)
    (.file "e".toList [] .nil)) := by decide +kernel
theorem exState_inv : FsInv exState := fsRun_inv (some .nil) trivial _
theorem exUniverse_ok : univOk exUniverse = true := by decide +kernel
-- elaborating a term against a type that mentions `exState` would run the history to look for a binder
attribute [local irreducible] exState

example : exState = some (.dir "a".toList (.dir "b".toList (.dir "c".toList .nil (.file "m".toList [3] .nil)) .nil)
    (.file "e".toList [] .nil)) := exState_eq
example : absFs exState = [("a/b/m".toList, [3]), ("e".toList, [])] := by rw [exState_eq]; decide +kernel
example : univOk exUniverse = true := exUniverse_ok
example : ∀ op ∈ exHistory, opIn exUniverse op = true := by decide +kernel

/-- every operation keeps the tree well formed - from every well-formed state, also when it fails -/
theorem fs_inv_preserved (s : FsState) (hi : FsInv s) (op : StoreOp) : FsInv (fsStep s op).1 :=
  fsStep_inv s hi op
example : FsInv exState := exState_inv

/-- the keys a directory tree holds are always hierarchy-shaped: valid keys, none a directory prefix of another -/
theorem absFs_hierarchyShaped (s : FsState) (hi : FsInv s) : hierarchyShaped (absFs s).keys := by
  refine ⟨absFs_keys_valid s hi, fun a ha b hb hpre => ?_⟩
  -- the path of `a` holds a file, so nothing is found below it
  obtain ⟨va, hfa⟩ := (mem_absFs_keys s hi a).1 ha
  obtain ⟨vb, hfb⟩ := (mem_absFs_keys s hi b).1 hb
  obtain ⟨rest, hr, hsp⟩ := (dirPrefixOf_iff_append a b).1 hpre
  rw [hsp, kindAt_below_file s _ rest va hr hfa] at hfb
  cases hfb
example : FsInv exState := exState_inv

theorem absFs_is_sorted (s : FsState) : (absFs s).sorted := absFs_sorted s

/-- a key fits the tree when it is plain, no stored key is a directory prefix of it and no directory (with or
without keys beneath) has its name -/
theorem keyOk_of_prefixFree (s : FsState) (hi : FsInv s) (k : Key) (path : List Name) (hk : keyPath k = some path)
    (h1 : ∀ k' ∈ (absFs s).keys, dirPrefixOf k' k = false) (h2 : ∀ c, s.stat path ≠ .dir c) :
    keyOk s k = true := by
  apply keyOk_of hk
  rw [statFree_kindAt]
  cases hs : s.kindAt path with
  | noent => rfl
  | file b => rfl
  | dir => exact absurd ((Tree.kind_dir_iff _).1 hs) fun ⟨c, hc⟩ => h2 c hc
  | notdir =>
    -- ENOTDIR: a file on the way is a stored key and a directory prefix of `k`
    obtain ⟨pp, rest, b, e1, e2, e4⟩ := kindAt_notdir s path hs
    obtain ⟨f1, f2⟩ := file_key s hi pp b e4
    have : dirPrefixOf (joinPath pp) k = true := by
      rw [dirPrefixOf_iff f2 hk, e1]
      exact ⟨⟨rest, rfl⟩, fun e => e2 (List.self_eq_append_right.1 e)⟩
    rw [h1 _ f1] at this
    cases this
example : keyPath "a/n".toList = some ["a".toList, "n".toList] ∧
    (∀ k' ∈ (absFs exState).keys, dirPrefixOf k' "a/n".toList = false) ∧
    (∀ c, exState.stat ["a".toList, "n".toList] ≠ .dir c) := by
  have hs : exState.stat ["a".toList, "n".toList] = .noent := by rw [exState_eq]; decide +kernel
  refine ⟨by decide +kernel, by rw [exState_eq]; decide +kernel, ?_⟩
  intro c h
  rw [hs] at h
  cases h

/-- conversely a key that fits leaves the key set prefix-free -/
theorem keyOk_compat (s : FsState) (hi : FsInv s) (k : Key) (hok : keyOk s k = true) :
    ∀ k' ∈ (absFs s).keys, dirPrefixOf k' k = false ∧ dirPrefixOf k k' = false := by
  obtain ⟨path, hk, hfree⟩ := keyOk_spec hok
  have hpath := keyPath_eq_splitPath hk
  intro k' hk'
  obtain ⟨v, hf⟩ := (mem_absFs_keys s hi k').1 hk'
  constructor
  · -- a stored key above `k` would leave ENOTDIR at the path of `k`
    cases hd : dirPrefixOf k' k with
    | false => rfl
    | true =>
      obtain ⟨rest, hr, e⟩ := (dirPrefixOf_iff_append k' k).1 hd
      rw [statFree_kindAt, hpath, e, kindAt_below_file s _ rest v hr hf] at hfree
      cases hfree
  · -- below the free path of `k` there is no file
    cases hd : dirPrefixOf k k' with
    | false => rfl
    | true =>
      obtain ⟨rest, hr, e⟩ := (dirPrefixOf_iff_append k k').1 hd
      have := fileOf_below s path rest hr (not_dir_of_free hfree)
      rw [hpath, ← e, hf] at this
      cases this
example : keyOk exState "a/n".toList = true := by rw [exState_eq]; decide +kernel

/-- `FilesystemStore` refines the ordered map: from a well-formed tree, for an operation whose paths are free, the
tree stays well formed, the files afterwards are exactly the specified map, and the outcome is the specified one
(`acceptable`: equal; listings compared sorted; for a ranged read reaching outside the value an error or the truncated
slices).  Covers get, ranged get, size, set, set_partial (the generic read-modify-write), erase, erase_values,
erase_prefix, list, list_prefix, list_dir, size_prefix. -/
theorem fs_refines (s : FsState) (hi : FsInv s) (op : StoreOp) (hok : opOk s op = true) :
    FsInv (fsStep s op).1 ∧
    absFs (fsStep s op).1 = (Spec.step (absFs s) op).1 ∧
    acceptable (absFs s) op (Spec.step (absFs s) op).2 (fsStep s op).2 = true :=
  let h := fsStep_refines s hi op hok
  ⟨fsStep_inv s hi op, h.abs, h.accepted⟩
example : FsInv exState ∧
    opOk exState (.setPartial [("a/n".toList, 2, [7]), ("a/b/c/k".toList, 0, [9]), ("a/n".toList, 0, [5])]) = true ∧
    opOk exState (.getPartial "a/b/m".toList [.fromStart 0 (some 1), .suffix 3]) = true ∧
    opOk exState (.erasePrefix "a/b/c/".toList) = true ∧ opOk exState (.listDir "a/b/".toList) = true :=
  ⟨exState_inv, by rw [exState_eq]; decide +kernel⟩
example : absFs (fsStep exState (.setPartial [("a/n".toList, 2, [7]), ("a/b/c/k".toList, 0, [9]), ("a/n".toList, 0, [5])])).1
    = [("a/b/c/k".toList, [9]), ("a/b/m".toList, [3]), ("a/n".toList, [5, 0, 7]), ("e".toList, [])] := by rw [exState_eq]; decide +kernel
example : (fsStep exState (.getPartial "a/b/m".toList [.fromStart 0 (some 1), .suffix 3])).2 = .res .err := by rw [exState_eq]; decide +kernel
-- empty reads from beyond the end err too (F-C08-10: unrepaired they gave the truncated, empty slice)
example : (fsStep exState (.getPartial "a/b/m".toList [.fromStart 4 none])).2 = .res .err ∧
    (fsStep exState (.getPartial "a/b/m".toList [.fromStart 4 (some 0)])).2 = .res .err ∧
    (fsStep exState (.getPartial "a/b/m".toList [.fromStart 1 none, .fromStart 1 (some 0)])).2
      = .res (.parts (some [[], []])) ∧
    (Spec.step (absFs exState) (.getPartial "a/b/m".toList [.fromStart 4 none])).2 = .err := by rw [exState_eq]; decide +kernel

/-- ranged reads as repaired (F-C08-10: all ranges validated against the file length before any seek): the
outcome is EXACTLY the ordered map's - the slices when every range is in bounds, an error otherwise -/
theorem fs_getPartial_exact (s : FsState) (hi : FsInv s) (k : Key) (rs : List ByteRange) (hok : keyOk s k = true) :
    (fsStep s (.getPartial k rs)).2 = .res (Spec.step (absFs s) (.getPartial k rs)).2 :=
  getPartial_exact s hi k rs hok
example : keyOk exState "a/b/m".toList = true := by rw [exState_eq]; decide +kernel

/-- `get` returns what was last set -/
theorem fs_get_after_set (s : FsState) (hi : FsInv s) (k : Key) (v : Bytes) (hok : keyOk s k = true) :
    (fsStep (fsStep s (.set k v)).1 (.get k)).2 = .res (.bytes (some v)) := by
  obtain ⟨path, hk, hfree⟩ := keyOk_spec hok
  obtain ⟨s', h1, w⟩ := set_abs s hi k v path hk hfree
  have e : (fsStep s (.set k v)).1 = s' := by simp only [fsStep, hk, h1]
  have hok' : keyOk s' k = true := w.keeps k hok fun k0 hk0 => by
    cases List.mem_singleton.1 hk0
    exact ⟨dirPrefixOf_self k, dirPrefixOf_self k⟩
  rw [e, fsStep_get s' w.inv k hok', w.abs, KV.get_put_same]
example : keyOk exState "a/b/c/k".toList = true := by rw [exState_eq]; decide +kernel

/-- `erase` removes exactly the named key (its directories stay) -/
theorem fs_erase_leaves_no_key (s : FsState) (hi : FsInv s) (k : Key) (hok : keyOk s k = true) (k' : Key) :
    (absFs (fsStep s (.erase k)).1).get k' = if k' = k then none else (absFs s).get k' := by
  rw [(fs_refines s hi (.erase k) hok).2.1]
  exact KV.get_erase _ _ _
example : keyOk exState "a/b/m".toList = true := by rw [exState_eq]; decide +kernel
example : (fsStep exState (.erase "a/b/m".toList)).1 =
    some (.dir "a".toList (.dir "b".toList (.dir "c".toList .nil .nil) .nil) (.file "e".toList [] .nil)) := by rw [exState_eq]; decide +kernel

/-- for `erase_prefix` the hypothesis `opOk` is only "the prefix is a modelled prefix" -/
theorem opOk_erasePrefix (s : FsState) (p : Key) : opOk s (.erasePrefix p) = (prefixPath p).isSome := rfl

/-- the repaired `erase_prefix` refines the ordered map from EVERY well-formed tree for EVERY modelled prefix (plain
components), whether the prefix is a directory, is missing, names a key or lies below a key: the outcome is `ok`,
exactly the keys with the prefix are gone, the tree stays well formed -/
theorem fs_erasePrefix_refines (s : FsState) (hi : FsInv s) (p : Key) (path : List Name)
    (hp : prefixPath p = some path) :
    (fsStep s (.erasePrefix p)).2 = .res .unit ∧ FsInv (fsStep s (.erasePrefix p)).1 ∧
    absFs (fsStep s (.erasePrefix p)).1 = (Spec.step (absFs s) (.erasePrefix p)).1 := by
  obtain ⟨s', h1, w⟩ := erasePrefix_abs s hi p path hp
  have e : fsStep s (.erasePrefix p) = (s', .res .unit) := by simp only [fsStep, hp, h1]
  rw [e]
  exact ⟨rfl, w.inv, w.abs⟩
example : FsInv exState ∧ prefixPath "e/".toList = some ["e".toList] ∧
    prefixPath "a/b/m/x/".toList = some ["a".toList, "b".toList, "m".toList, "x".toList] :=
  ⟨exState_inv, by decide +kernel⟩
example : fsStep exState (.erasePrefix "e/".toList) = (exState, .res .unit) ∧
    fsStep exState (.erasePrefix "a/b/m/x/".toList) = (exState, .res .unit) := by rw [exState_eq]; decide +kernel

/-- `erase_prefix` removes exactly the keys with the prefix -/
theorem fs_erasePrefix_exact (s : FsState) (hi : FsInv s) (p : Key) (hok : opOk s (.erasePrefix p) = true) (k : Key) :
    (absFs (fsStep s (.erasePrefix p)).1).get k = if hasPrefix k p then none else (absFs s).get k := by
  rw [(fs_refines s hi (.erasePrefix p) hok).2.1]
  exact Spec.erasePrefix_get _ _ _
example : opOk exState (.erasePrefix "a/b/".toList) = true := by decide +kernel
example : absFs (fsStep exState (.erasePrefix "a/b/".toList)).1 = [("e".toList, [])] := by rw [exState_eq]; decide +kernel

/-- the repaired `list_dir` (F-C08-2): after ANY history - successful or failed operations, however many emptied
directories remain - a child prefix is reported iff some key lies beneath it, and the keys are those directly in
the directory -/
theorem fs_listDir_ignores_empty_dirs (ops : List StoreOp) (p : Key) (path : List Name)
    (hp : prefixPath p = some path) :
    let s := fsRun (some .nil) ops
    (fsStep s (.listDir p)).2 = .res (.dir (s.listDir p path).1 (s.listDir p path).2) ∧
    (∀ q, q ∈ (s.listDir p path).2 ↔
      ∃ k ∈ (absFs s).keys, ∃ c : Key, c ≠ [] ∧ '/' ∉ c ∧ q = p ++ c ++ ['/'] ∧ q.isPrefixOf k = true) ∧
    (∀ k, k ∈ (s.listDir p path).1 ↔ (k ∈ (absFs s).keys ∧ parentOf k = p)) := by
  intro s
  have hi : FsInv s := fsRun_inv (some .nil) trivial _
  exact ⟨by simp only [fsStep, hp],
    fun q => (listDir_prefixes_abs s hi p path hp q).trans (Hier.oneBelow_and_prefix_iff p q _),
    listDir_keys_abs s hi p path hp⟩
example : prefixPath "a/b/".toList = some ["a".toList, "b".toList] := by decide +kernel
example : (fsStep exState (.listDir "a/b/".toList)).2 = .res (.dir ["a/b/m".toList] []) := by rw [exState_eq]; decide +kernel
example : (fsStep exState (.listDir "a/".toList)).2 = .res (.dir [] ["a/b/".toList]) := by rw [exState_eq]; decide +kernel

theorem exEmptied_eq : fsRun (some .nil) [.set "a/b/k".toList [1], .erase "a/b/k".toList] =
    some (.dir "a".toList (.dir "b".toList .nil .nil) .nil) := by decide +kernel

/-- the unrepaired `list_dir` (every directory entry is a prefix) violates it: set `a/b/k`, erase `a/b/k`,
`list_dir a/` reports `a/b/` although no key is left -/
theorem fs_listDir_unrepaired_violates :
    let s := fsRun (some .nil) [.set "a/b/k".toList [1], .erase "a/b/k".toList]
    absFs s = [] ∧
    (fsStepUnrepaired s (.listDir "a/".toList)).2 = .res (.dir [] ["a/b/".toList]) ∧
    (Spec.step (absFs s) (.listDir "a/".toList)).2 = .dir [] [] ∧
    (fsStep s (.listDir "a/".toList)).2 = .res (.dir [] []) := by
  simp only [exEmptied_eq]
  decide +kernel

theorem univOk_hierarchyShaped (U : List Key) (hU : univOk U = true) : hierarchyShaped U := by
  obtain ⟨h1, h2⟩ := univOk_spec hU
  refine ⟨?_, ?_⟩
  · intro k hk
    obtain ⟨path, hp⟩ := h1 k hk
    rw [← joinPath_keyPath hp]
    exact validKeyB_joinPath path (keyPath_ne_nil hp) (keyPath_plain hp)
  · intro a ha b hb hpre
    have := h2 a ha b hb
    unfold dirPrefixOf at this
    rw [hpre] at this
    cases this
example : univOk exUniverse = true := exUniverse_ok

/-- refinement along histories: from the empty base directory, for every sequence of operations over one
hierarchy-shaped universe of plain keys (and any modelled prefixes), the files are the
specified map after the whole history, the tree is well formed, and the next operation's outcome is acceptable -/
theorem fs_history_refines (U : List Key) (hU : univOk U = true) (ops : List StoreOp)
    (hops : ∀ op ∈ ops, opIn U op = true) :
    FsInv (fsRun (some .nil) ops) ∧
    absFs (fsRun (some .nil) ops) = specRun [] ops ∧
    ∀ op, opIn U op = true →
      acceptable (specRun [] ops) op (Spec.step (specRun [] ops) op).2 (fsStep (fsRun (some .nil) ops) op).2 = true := by
  obtain ⟨h1, h2⟩ := HInv.run hU ops hops (some .nil) (HInv.init hU)
  have h2' : absFs (fsRun (some .nil) ops) = specRun [] ops := h2
  refine ⟨h1.inv, h2', ?_⟩
  intro op hop
  rw [← h2']
  exact (fsStep_refines _ h1.inv op (HInv.opOk hU h1 op hop)).accepted
example : univOk exUniverse = true ∧ (∀ op ∈ exHistory, opIn exUniverse op = true) ∧
    opIn exUniverse (.listDir "a/b/c/".toList) = true ∧ opIn exUniverse (.erasePrefix "a/b/".toList) = true ∧
    opIn exUniverse (.erasePrefix "e/".toList) = true :=
  ⟨exUniverse_ok, by decide +kernel⟩
example : specRun [] exHistory = [("a/b/m".toList, [3]), ("e".toList, [])] := by decide +kernel

/-! ### the error cases: where the filesystem store is NOT the ordered map (each confirmed on the implementation) -/

/-- a key below a file: `a/b` is a file, `set a/b/c` fails (`create_dir_all`: ENOTDIR/EEXIST) -/
theorem fs_set_below_file_errs :
    let s := fsRun (some .nil) [.set "a/b".toList [1]]
    fsStep s (.set "a/b/c".toList [2]) = (s, .res .err) ∧ fsStep s (.get "a/b/c".toList) = (s, .res .err) := by
  decide +kernel

/-- a key that names a directory: `a/b/c` is set, `set a/b` fails (EISDIR), `get a/b` errs -/
theorem fs_set_on_dir_errs :
    let s := fsRun (some .nil) [.set "a/b/c".toList [1]]
    fsStep s (.set "a/b".toList [2]) = (s, .res .err) ∧ fsStep s (.get "a/b".toList) = (s, .res .err) ∧
      (fsStep s (.sizeKey "a/b".toList)).2 = .outside := by
  decide +kernel

/-- `opOk` cannot be weakened to prefix-freeness of the key sets: the directory emptied by `erase` blocks the key of
the same name.  set `a/b/k`; erase `a/b/k` (no key left); set `a/b`: the ordered map accepts, the store fails. -/
theorem fs_leftover_dir_blocks_key :
    let s := fsRun (some .nil) [.set "a/b/k".toList [1], .erase "a/b/k".toList]
    absFs s = [] ∧ hierarchyShaped ["a/b".toList] ∧
    fsStep s (.set "a/b".toList [2]) = (s, .res .err) ∧ fsStep s (.get "a/b".toList) = (s, .res .err) ∧
    (Spec.step (absFs s) (.set "a/b".toList [2])) = ([("a/b".toList, [2])], .unit) := by
  simp only [exEmptied_eq]
  exact ⟨by decide +kernel, by unfold hierarchyShaped; decide +kernel, by decide +kernel⟩

/-- (not an error case in the code as repaired, F-C08-9) `erase_prefix` of a prefix that names a key (a file) or lies below
one: `remove_dir_all` fails with ENOTDIR, `prefix_path.is_dir()` is false, the outcome is `ok` and the state is
unchanged - as the ordered map does (no key has such a prefix) -/
theorem fs_erasePrefix_on_key_ok (s : FsState) (p : Key) (path : List Name) (hp : prefixPath p = some path)
    (hblk : (∃ b, s.stat path = .file b) ∨ s.stat path = .notdir) :
    fsStep s (.erasePrefix p) = (s, .res .unit) := by
  have hne : path ≠ [] := by
    intro e
    subst e
    cases s with
    | none => rcases hblk with ⟨b, h⟩ | h <;> cases h
    | some t => rcases hblk with ⟨b, h⟩ | h <;> cases h
  have hnd : s.kindAt path ≠ .dir := by
    unfold FsState.kindAt
    rcases hblk with ⟨b, h⟩ | h <;> rw [h] <;> exact fun e => nomatch e
  simp only [fsStep, hp, erasePrefix_blocked s path hne hnd]
example : prefixPath "u/".toList = some ["u".toList] ∧
    (fsRun (some .nil) [.set "u".toList [1]]).stat ["u".toList] = .file [1] ∧
    (fsRun (some .nil) [.set "u".toList [1]]).stat ["u".toList, "v".toList] = .notdir := by decide +kernel

/-- the history of finding F-C08-9: set `u`; erase_prefix `u/` (and `u/v/`) is `ok` with the state unchanged, as in
the ordered map; the unrepaired `erase_prefix` (`fsStepErasePrefixUnrepaired`) answers `err` -/
theorem fs_erasePrefix_on_key_example :
    let s := fsRun (some .nil) [.set "u".toList [1]]
    fsStep s (.erasePrefix "u/".toList) = (s, .res .unit) ∧
    fsStep s (.erasePrefix "u/v/".toList) = (s, .res .unit) ∧
    Spec.step (absFs s) (.erasePrefix "u/".toList) = (absFs s, .unit) ∧
    fsStepErasePrefixUnrepaired s (.erasePrefix "u/".toList) = (s, .res .err) ∧
    fsStepErasePrefixUnrepaired s (.erasePrefix "u/v/".toList) = (s, .res .err) := by
  decide +kernel

end Zarrs.C08Fs
