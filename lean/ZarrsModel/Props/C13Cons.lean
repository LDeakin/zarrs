import ZarrsModel.Model.Consolidated
import ZarrsModel.Lemmas.ConsSort
import ZarrsModel.Lemmas.Consolidated
import ZarrsModel.Lemmas.ConsHier
import ZarrsModel.Props.C13
import ZarrsModel.Props.C13V2
/-
C13 (consolidated metadata) — the `consolidated_metadata` member of a V3 group document persists faithfully, and
`Node::consolidate_metadata` collects exactly the hierarchy below a group.

Documents: `Cons.NodeDoc` models `NodeMetadata` (V3/V2 array and group documents, a V3 group with its own consolidated
map), `Cons.GroupDocC` is `GroupMetadataV3` in full (`Model/Consolidated.lean`); storing is `toText` (print of `toJ`),
opening is `ofText` (parse, then `ofJ`).  Hierarchy: `Cons.consolidate` models `Node::open` + `consolidate_metadata`
over the store model, with `Cons.docReader` as the `Hier.Reader` that reads real documents.
-/
namespace Zarrs.C13Cons
open Zarrs Zarrs.Json Zarrs.Meta Zarrs.MetaV2 Zarrs.Hier Zarrs.Cons

def exMembers : CMap :=
  [(ascii "arr", .a3 C13.exDoc), (ascii "g/sub", .g3 C13.exGroup none), (ascii "v2a", .a2 C13V2.exV2x),
   (ascii "v2g", .g2 C13V2.exGroupV2)]

def exC : GroupDocC := ⟨C13.exGroup, some exMembers⟩

def exNested : GroupDocC := ⟨C13.exGroup, some [(ascii "inner", .g3 exC.base exC.cons)]⟩

theorem exMembers_ok : membersOk exMembers := by
  rw [membersOk_iff]
  intro kv hkv
  simp only [exMembers, List.mem_cons, List.not_mem_nil, or_false] at hkv
  rcases hkv with rfl | rfl | rfl | rfl
  · exact ⟨strOk_ascii _ (by decide +kernel), ((C13.arrayDoc_ok_iff _).1 C13.exDoc_ok)⟩
  · exact ⟨strOk_ascii _ (by decide +kernel), ((C13.groupDoc_ok_iff _).1 C13.exGroup_ok)⟩
  · exact ⟨strOk_ascii _ (by decide +kernel), ⟨C13V2.exV2x_ok.1, C13V2.exV2x_ok.2, C13V2.exV2x_noNodeType⟩⟩
  · exact ⟨strOk_ascii _ (by decide +kernel), ⟨C13V2.exGroupV2_ok.1, C13V2.exGroupV2_ok.2, by rfl⟩⟩

theorem exC_ok : exC.ok :=
  ⟨(C13.groupDoc_ok_iff _).1 C13.exGroup_ok, by unfold sortedKeys; decide +kernel, exMembers_ok⟩

theorem exNested_ok : exNested.ok := by
  refine ⟨(C13.groupDoc_ok_iff _).1 C13.exGroup_ok, by unfold sortedKeys; decide +kernel, ?_⟩
  rw [membersOk_iff]
  intro kv hkv
  simp only [List.mem_cons, List.not_mem_nil, or_false] at hkv
  subst hkv
  exact ⟨strOk_ascii _ (by decide +kernel), exC_ok⟩

/-- **parse ∘ serialise = id**: what is written for a node document (a member of a consolidated map) reads back as the
same document, of the same kind -/
theorem nodeDoc_roundtrip (d : NodeDoc) (h : d.ok) : nodeOfJ d.toJ = some d := nodeOfJ_toJ d h
example : NodeDoc.ok (.g3 exC.base exC.cons) := exC_ok

/-- **the same for a group document with consolidated metadata**, as `Group::open` reads it -/
theorem groupDocC_roundtrip (g : GroupDocC) (h : g.ok) : GroupDocC.ofJ g.toJ = some g := groupDocC_ofJ_toJ g h
example : exC.ok := exC_ok
example : exNested.ok := exNested_ok

/-- **storing a group with consolidated metadata and re-opening gives the same document**, hence the same map -/
theorem groupDocC_text_roundtrip (g : GroupDocC) (h : g.ok) :
    GroupDocC.ofText g.toText = some g ∧
    ∀ g', GroupDocC.ofText g.toText = some g' → g'.consolidated = g.consolidated := by
  have hr := groupDocC_ofText_toText g h
  refine ⟨hr, ?_⟩
  intro g' hg'
  rw [hr] at hg'
  cases hg'
  rfl
example : exC.ok := exC_ok

/-- **serialise ∘ parse is the documented normalisation, and re-serialising a parsed document is a fixed point**:
an accepted group document is written as its normal form (members in key order, unknown keys of the
`consolidated_metadata` object dropped, `kind` written as the string `"inline"`, a V2 array member's empty filter list
as `null`), which reads back as the normalised document and is written as the same JSON again.  (`g.stable`: see
`Cons.NodeDoc.stable` - it excludes the inputs on which the V2 document reader is known not to re-read its own
output.) -/
theorem groupDocC_fixed (j : J) (hj : j.wf) (g : GroupDocC) (h : GroupDocC.ofJ j = some g) (hs : g.stable) :
    GroupDocC.ofJ g.toJ = some g.norm ∧ g.norm.toJ = g.toJ ∧
    (∀ g', GroupDocC.ofJ g.toJ = some g' → g'.toJ = g.toJ) := by
  have hok := groupDocC_ofJ_ok j hj g h hs
  have hr := groupDocC_ofJ_toJ g.norm hok
  rw [groupDocC_norm_toJ] at hr
  refine ⟨hr, groupDocC_norm_toJ g, ?_⟩
  intro g' hg'
  rw [hr] at hg'
  cases hg'
  exact groupDocC_norm_toJ g
example : ∃ j g, j.wf ∧ GroupDocC.ofJ j = some g ∧ g.stable :=
  ⟨exC.toJ, exC, groupDocC_toJ_wf exC exC_ok, groupDocC_roundtrip exC exC_ok, by
    show NodeDoc.stable (.g3 _ (some exMembers))
    rw [NodeDoc.stable, membersStable_iff]
    intro kv hkv
    simp only [exMembers, List.mem_cons, List.not_mem_nil, or_false] at hkv
    rcases hkv with rfl | rfl | rfl | rfl
    · rw [NodeDoc.stable]; trivial
    · rw [NodeDoc.stable]; trivial
    · rw [NodeDoc.stable]; exact ⟨trivial, C13V2.exV2x_noNodeType⟩
    · rw [NodeDoc.stable]; rfl⟩

/-- **the same through the stored bytes** -/
theorem groupDocC_text_fixed (j : J) (hj : j.wf) (g : GroupDocC) (h : GroupDocC.ofJ j = some g) (hs : g.stable) :
    GroupDocC.ofText g.toText = some g.norm ∧ g.norm.toText = g.toText := by
  have hok := groupDocC_ofJ_ok j hj g h hs
  have ht : g.norm.toText = g.toText := by unfold GroupDocC.toText; rw [groupDocC_norm_toJ]
  refine ⟨?_, ht⟩
  rw [← ht]
  exact groupDocC_ofText_toText g.norm hok
example : ∃ j g, j.wf ∧ GroupDocC.ofJ j = some g := ⟨exC.toJ, exC, groupDocC_toJ_wf exC exC_ok, groupDocC_roundtrip exC exC_ok⟩

/-- **order independence** (the repaired behaviour): two group documents whose consolidated maps hold the same entries
in a different order (a `HashMap` iterates in an arbitrary order) are written identically -/
theorem toJ_perm (d : GroupDoc) (c1 c2 : List (Str × NodeDoc)) (hp : c1.Perm c2) (hd : (c1.map (·.1)).Nodup) :
    GroupDocC.toJ ⟨d, some c1⟩ = GroupDocC.toJ ⟨d, some c2⟩ := by
  unfold GroupDocC.toJ
  rw [toJ_g3_some, toJ_g3_some]
  have : sortKVs (membersToKVs c1) = sortKVs (membersToKVs c2) := by
    refine sortKVs_perm _ _ ?_ (by rw [membersToKVs_eq_map, keys_mapSnd]; exact hd)
    rw [membersToKVs_eq_map, membersToKVs_eq_map]
    exact hp.map _
  rw [this]
example : exMembers.Perm exMembers.reverse ∧ (exMembers.map (·.1)).Nodup :=
  ⟨(List.reverse_perm _).symm, by decide⟩

/-- hence setting a map in any order stores the same text -/
theorem setCons_perm (g : GroupDocC) (c1 c2 : List (Str × NodeDoc)) (hp : c1.Perm c2) (hd : (c1.map (·.1)).Nodup) :
    (g.setCons (some c1)).toText = (g.setCons (some c2)).toText := by
  unfold GroupDocC.setCons GroupDocC.toText
  simp only [Option.map_some]
  rw [sortKVs_perm c1 c2 hp hd]
example : exMembers.Perm exMembers.reverse ∧ (exMembers.map (·.1)).Nodup :=
  ⟨(List.reverse_perm _).symm, by decide⟩

/-- the unrepaired serialisation ("insertion order": the entries as the map happens to hold them) is NOT order
independent: the same two entries in the two orders give different JSON -/
theorem toJUnsorted_order_matters :
    ∃ (d : GroupDoc) (c1 c2 : List (Str × NodeDoc)), c1.Perm c2 ∧ (c1.map (·.1)).Nodup ∧
      print (GroupDocC.toJUnsorted ⟨d, some c1⟩) ≠ print (GroupDocC.toJUnsorted ⟨d, some c2⟩) ∧
      GroupDocC.toJ ⟨d, some c1⟩ = GroupDocC.toJ ⟨d, some c2⟩ := by
  let g : NodeDoc := .g3 ⟨[], []⟩ none
  refine ⟨⟨[], []⟩, [(ascii "a", g), (ascii "b", g)], [(ascii "b", g), (ascii "a", g)], List.Perm.swap .., by decide, ?_,
    toJ_perm _ _ _ (List.Perm.swap ..) (by decide)⟩
  decide +kernel

/-- **a group document is accepted exactly when** its typed fields read as in `GroupDoc.ofJ` (the document without
the member) **and** the `consolidated_metadata` member is absent, `null`, or reads as `ConsolidatedMetadata` -/
theorem groupDocC_accept_iff (o : Obj) (g : GroupDocC) :
    GroupDocC.ofJ (.obj o) = some g ↔
      (GroupDoc.ofJ (.obj (without o kCons)) = some g.base ∧
       (match lookup o kCons with | none => some none | some v => consOfJ v) = some g.cons) := by
  rw [groupDocC_ofJ_obj, consOfKVs_eq]
  exact And.comm
example : ∃ o g, GroupDocC.ofJ (.obj o) = some g :=
  ⟨_, exC, by
    have := groupDocC_roundtrip exC exC_ok
    rwa [show exC.toJ = .obj _ from toJ_g3_some _ _] at this⟩

/-- **the member, object form**: `metadata` must be an object whose every value reads as a node document (V3 array,
V2 array, V3 group, V2 group, tried in that order), `kind` must be `"inline"` (or `{"inline": null}`), and
`must_understand` must be the boolean `false`; other keys are ignored.  The map is held in key order. -/
theorem consOfJ_obj_iff (o : Obj) (c : CMap) :
    consOfJ (.obj o) = some (some c) ↔
      (∃ ms l, lookup o kMetadata = some (.obj ms) ∧ membersOfKVs ms = some l ∧ c = sortKVs l) ∧
      (∃ v, lookup o kKind = some v ∧ enumName v = some kInline) ∧
      lookup o kMustUnderstand = some (.bool false) := by
  rw [consOfJ, metaOfKVs_eq, ← kindOk_iff, ← muFalse_iff]
  cases hm : lookup o kMetadata with
  | none => simp
  | some mv =>
    have e : (∃ ms l, some mv = some (J.obj ms) ∧ membersOfKVs ms = some l ∧ c = sortKVs l) ↔ membersOfJ mv = some c := by
      rw [membersOfJ_eq_some]; simp
    rw [e]
    cases hc : membersOfJ mv with
    | none => simp [hc]
    | some c' =>
      by_cases hk : kindOk (lookup o kKind) = true ∧ muFalse (lookup o kMustUnderstand) = true
      · simp [hc, hk]
      · simp [hc, hk]
example : ∃ o c, consOfJ (.obj o) = some (some c) :=
  ⟨_, _, consOfJ_consJ (membersToKVs exMembers) exMembers (membersOfKVs_toKVs exMembers exMembers_ok)⟩

/-- a `consolidated_metadata` object is never read as "no consolidated metadata": it is a map or an error -/
theorem consOfJ_obj_none (o : Obj) (h : ∀ c, consOfJ (.obj o) ≠ some (some c)) : consOfJ (.obj o) = none := by
  cases hc : consOfJ (.obj o) with
  | none => rfl
  | some r =>
    cases r with
    | some c => exact absurd hc (h c)
    | none =>
      rw [consOfJ] at hc
      cases hm : metaOfKVs o with
      | none => simp [hm] at hc
      | some r' => cases r' <;> simp [hm] at hc <;> split at hc <;> cases hc

/-- **`must_understand: true` (or absent, or not a boolean) is rejected** -/
theorem cons_mu_rejected (o : Obj) (h : lookup o kMustUnderstand ≠ some (.bool false)) : consOfJ (.obj o) = none :=
  consOfJ_obj_none o fun c hc => h ((consOfJ_obj_iff o c).1 hc).2.2
example : lookup [(kMetadata, J.obj []), (kKind, .str kInline), (kMustUnderstand, .bool true)] kMustUnderstand
    ≠ some (.bool false) := by
  rw [lookup_cons_ne _ _ _ _ (by decide), lookup_cons_ne _ _ _ _ (by decide), lookup_cons_eq]
  intro h; cases h

/-- **a `kind` other than `inline` is rejected** (also an absent one) -/
theorem cons_kind_rejected (o : Obj) (h : ∀ v, lookup o kKind = some v → enumName v ≠ some kInline) :
    consOfJ (.obj o) = none :=
  consOfJ_obj_none o fun c hc => by
    obtain ⟨v, hv, hk⟩ := ((consOfJ_obj_iff o c).1 hc).2.1
    exact h v hv hk
example : ∀ v, lookup [(kMetadata, J.obj []), (kKind, .str (ascii "external")), (kMustUnderstand, .bool false)] kKind = some v →
    enumName v ≠ some kInline := by
  intro v hv
  rw [lookup_cons_ne _ _ _ _ (by decide), lookup_cons_eq] at hv
  cases hv
  decide

/-- **a member document that is itself invalid makes the whole group document unreadable** -/
theorem cons_member_rejected (o : Obj) (ms : List (Str × J)) (hm : lookup o kMetadata = some (.obj ms))
    (k : Str) (v : J) (hk : (k, v) ∈ ms) (hv : nodeOfJ v = none) : consOfJ (.obj o) = none :=
  consOfJ_obj_none o fun c hc => by
    obtain ⟨⟨ms', l, hm', hl, _⟩, _⟩ := (consOfJ_obj_iff o c).1 hc
    rw [hm] at hm'
    cases hm'
    obtain ⟨d, hd⟩ := membersOfKVs_mem ms l hl k v hk
    rw [hv] at hd
    cases hd
example : (nodeOfJ (.obj [(ascii "zarr_format", .num ['3'])])).isNone = true := by decide +kernel

/-- hence the group document: `Group::open` fails on it, whatever the rest of the document is -/
theorem groupDocC_rejected_of_cons (o : Obj) (v : J) (hl : lookup o kCons = some v) (hv : consOfJ v = none) :
    GroupDocC.ofJ (.obj o) = none := by
  cases h : GroupDocC.ofJ (.obj o) with
  | none => rfl
  | some g =>
    have := ((groupDocC_accept_iff o g).1 h).2
    rw [hl] at this
    simp only at this
    rw [hv] at this
    cases this

/-- consolidated metadata never stands in the way of opening: an accepted document opens exactly when no additional
field must be understood, as for a group without it -/
theorem groupOkC_iff (g : GroupDocC) : groupOkC g = true ↔ ∀ kv ∈ g.base.extra, kv.2.mu = false := by
  unfold groupOkC groupOk
  simp only [List.all_eq_true, Bool.not_eq_true']

def eGroup : GroupDoc := ⟨[], []⟩
def eGroupV2 : GroupDocV2 := ⟨[], []⟩
def gT : Bytes := print (NodeDoc.toJ (.g3 eGroup none))
def aT : Bytes := print (NodeDoc.toJ (.a3 C13.exDoc))
def g2T : Bytes := eGroupV2.toText
def exStore : KV :=
  [("a/g2/.zgroup".toList, g2T), ("a/x/c/0".toList, [7]), ("a/x/zarr.json".toList, aT),
   ("a/zarr.json".toList, gT), ("b/file".toList, [1]), ("zarr.json".toList, gT)]

theorem eGroup_ok : NodeDoc.ok (.g3 eGroup none) :=
  (GroupDoc.good.mk ⟨trivial, by unfold keysDistinct; decide +kernel⟩ (fun kv hkv => nomatch hkv)
    (by unfold sortedKeys; decide +kernel))
theorem exDoc_nodeOk : NodeDoc.ok (.a3 C13.exDoc) := ((C13.arrayDoc_ok_iff _).1 C13.exDoc_ok)
theorem eGroupV2_ok : eGroupV2.wfParts ∧ eGroupV2.shapeOk :=
  ⟨GroupDocV2.wfParts.mk ⟨trivial, by unfold keysDistinct; decide +kernel⟩ (fun kv hkv => nomatch hkv),
   GroupDocV2.shapeOk.mk (fun kv hkv => nomatch hkv) (fun kv hkv => nomatch hkv) (by unfold sortedKeys; decide +kernel)⟩

/-- each store lookup of the examples below is evaluated here, once -/
theorem exStore_docs :
    getDoc exStore [] = .node (.g3 eGroup none) ∧ getDoc exStore "a/".toList = .node (.g3 eGroup none) ∧
    getDoc exStore "a/x/".toList = .node (.a3 C13.exDoc) ∧ getDoc exStore "a/g2/".toList = .node (.g2 eGroupV2) ∧
    getDoc exStore "b/".toList = .missing :=
  ⟨getDoc_g3 exStore [] eGroup none (by rfl) eGroup_ok, getDoc_g3 exStore _ eGroup none (by rfl) eGroup_ok,
   getDoc_a3 exStore _ _ (by rfl) exDoc_nodeOk,
   getDoc_g2 exStore _ eGroupV2 (by rfl) (by rfl) (by rfl) (by rfl) eGroupV2_ok,
   getDoc_missing exStore _ (by rfl) (by rfl) (by rfl)⟩

/-- **`consolidate_metadata` lists exactly the descendants the hierarchy model reports** (`Hier.children`, recursive,
read with the document reader), each under its path relative to the node, with the document stored for it and the
kind of that document; the map is in key order.  (`hA`: the store keys are ASCII - the model's keys are lists of code
points, the map's keys their UTF-8 bytes.) -/
theorem consolidate_exact (m : KV) (hh : hierarchyShaped m.keys) (hr : ∀ q, getMeta docReader m q ≠ .invalid)
    (hA : ∀ k ∈ m.keys, ∀ c ∈ k, c.toNat < 128) (pre : Key) (hp : validPrefixB pre = true)
    (d : NodeDoc) (hd : getDoc m pre = .node d) (hg : d.kind.isGroup = true) :
    ∃ ns c, children docReader m true pre = some ns ∧ consolidate m pre = some (some c) ∧ sortedKeys c ∧
      ∀ key doc, (key, doc) ∈ c ↔
        ∃ q k, (q, k) ∈ ns ∧ key = relKey pre q ∧ getDoc m q = .node doc ∧ doc.kind = k :=
  consolidate_spec m hh.1 hr hA pre (validPrefixB_dirShaped pre hp) d hd hg
theorem exShape_readable (g a g2 : Bytes) (hg : docReader.cls g ≠ none) (ha : docReader.cls a ≠ none)
    (h2 : docReader.okG g2 = true) :
    ∀ q, getMeta docReader [("a/g2/.zgroup".toList, g2), ("a/x/c/0".toList, [7]), ("a/x/zarr.json".toList, a),
      ("a/zarr.json".toList, g), ("b/file".toList, [1]), ("zarr.json".toList, g)] q ≠ .invalid := by
  refine readable_of_metaValues docReader _ ?_
  intro kv hkv
  simp only [List.mem_cons, List.not_mem_nil, or_false] at hkv
  rcases hkv with rfl | rfl | rfl | rfl | rfl | rfl <;> dsimp only <;> refine ⟨?_, ?_, ?_, ?_⟩ <;> intro h
  · exact absurd h (by decide)
  · exact absurd h (by decide)
  · exact h2
  · exact absurd h (by decide)
  · exact absurd h (by decide)
  · exact absurd h (by decide)
  · exact absurd h (by decide)
  · exact absurd h (by decide)
  · exact ha
  · exact absurd h (by decide)
  · exact absurd h (by decide)
  · exact absurd h (by decide)
  · exact hg
  · exact absurd h (by decide)
  · exact absurd h (by decide)
  · exact absurd h (by decide)
  · exact absurd h (by decide)
  · exact absurd h (by decide)
  · exact absurd h (by decide)
  · exact absurd h (by decide)
  · exact hg
  · exact absurd h (by decide)
  · exact absurd h (by decide)
  · exact absurd h (by decide)

theorem exStore_readable : ∀ q, getMeta docReader exStore q ≠ .invalid := by
  have hg : docReader.cls gT ≠ none := cls_v3 _ gT (parse_bind_node _ eGroup_ok) (Or.inr rfl)
  have ha : docReader.cls aT ≠ none := cls_v3 _ aT (parse_bind_node _ exDoc_nodeOk) (Or.inl rfl)
  have h2 : docReader.okG g2T = true := by
    simp only [docReader, g2T, groupDocV2_ofText_toText eGroupV2 eGroupV2_ok.2 eGroupV2_ok.1, Option.isSome_some]
  exact exShape_readable gT aT g2T hg ha h2

theorem exStore_ok : hierarchyShaped exStore.keys ∧ (∀ q, getMeta docReader exStore q ≠ .invalid) ∧
    (∀ k ∈ exStore.keys, ∀ c ∈ k, c.toNat < 128) ∧ validPrefixB [] = true ∧
    ∃ d, getDoc exStore [] = .node d ∧ d.kind.isGroup = true :=
  ⟨by unfold hierarchyShaped; decide +kernel, exStore_readable, by decide +kernel, by decide,
    ⟨_, exStore_docs.1, rfl⟩⟩
example : hierarchyShaped exStore.keys ∧ (∀ q, getMeta docReader exStore q ≠ .invalid) ∧
    (∀ k ∈ exStore.keys, ∀ c ∈ k, c.toNat < 128) ∧ validPrefixB [] = true ∧
    ∃ d, getDoc exStore [] = .node d ∧ d.kind.isGroup = true := exStore_ok
example : ∃ c, consolidate exStore [] = some (some c) ∧
    (ascii "a", NodeDoc.g3 eGroup none) ∈ c ∧ (ascii "a/g2", NodeDoc.g2 eGroupV2) ∈ c ∧
    (ascii "a/x", NodeDoc.a3 C13.exDoc) ∈ c ∧ ∀ doc, (ascii "b", doc) ∉ c := by
  obtain ⟨hh, hr, hA, hp, d, hd, hg⟩ := exStore_ok
  obtain ⟨ns, c, hns, hc, _, hmem⟩ := consolidate_exact exStore hh hr hA [] hp d hd hg
  obtain ⟨ns', hns', hch⟩ := children_true docReader exStore hh.1 hr [] (validPrefixB_dirShaped [] hp)
  rw [hns] at hns'; cases hns'
  have inTree : ∀ q k, getMeta docReader exStore q = .node k → validPrefixB q = true → q ≠ [] →
      C13.groupsBetween docReader exStore [] q → ¬ ("__".toList.isPrefixOf q = true) → (q, k) ∈ ns :=
    fun q k h1 h2 h3 h4 h5 => (hch q k).2 ((below_iff_tuple ..).2 ⟨rfl, h3, h2, h1, h4, h5⟩)
  obtain ⟨_, dA, dX, dG, dB⟩ := exStore_docs
  have mA : getMeta docReader exStore "a/".toList = .node .group3 := by rw [getMeta_docReader, dA]; rfl
  have mX : getMeta docReader exStore "a/x/".toList = .node .array3 := by rw [getMeta_docReader, dX]; rfl
  have mG : getMeta docReader exStore "a/g2/".toList = .node .group2 := by rw [getMeta_docReader, dG]; rfl
  -- the only proper prefix of `a/`, `a/x/`, `a/g2/` that ends in `/` is `a/`, a group
  have hmid : ∀ q ∈ ["a/".toList, "a/x/".toList, "a/g2/".toList], ∀ n, n < q.length + 1 → q.take n ≠ q →
      (q.take n).length > 0 → (q.take n).getLast? = some '/' → q.take n = "a/".toList := by decide +kernel
  have mids : ∀ q ∈ ["a/".toList, "a/x/".toList, "a/g2/".toList], C13.groupsBetween docReader exStore [] q := by
    intro q hq mid _ h2 h3 h4 h5
    rw [List.isPrefixOf_iff_prefix] at h2
    rw [List.prefix_iff_eq_take.1 h2] at h3 h4 h5 ⊢
    rw [hmid q hq mid.length (Nat.lt_succ_of_le h2.length_le) h3 h4 h5]
    exact ⟨_, mA, rfl⟩
  refine ⟨c, hc, ?_, ?_, ?_, ?_⟩
  · exact (hmem _ _).2 ⟨"a/".toList, .group3, inTree _ _ mA (by decide) (by decide) (mids _ (by simp)) (by decide),
      by decide, dA, rfl⟩
  · exact (hmem _ _).2 ⟨"a/g2/".toList, .group2, inTree _ _ mG (by decide) (by decide) (mids _ (by simp)) (by decide),
      by decide, dG, rfl⟩
  · exact (hmem _ _).2 ⟨"a/x/".toList, .array3, inTree _ _ mX (by decide) (by decide) (mids _ (by simp)) (by decide),
      by decide, dX, rfl⟩
  · intro doc hdoc
    obtain ⟨q, k, hq, hkey, hdq, _⟩ := (hmem _ _).1 hdoc
    -- the relative key `b` is the prefix `b/`, which holds no metadata
    have hb := (hch q k).1 hq
    rw [relKey_inj [] q "b/".toList hb.pfx (List.nil_prefix) hb.getLast (by decide) hb.ne (by decide)
      (node_ascii _ exStore hA q k hb.node) (by decide) (hkey.symm.trans (by decide)), dB] at hdq
    cases hdq

/-- the hierarchy model's view of the documents is the kind of the document `Node::get_metadata` returns -/
theorem docReader_kind (m : KV) (pre : Key) : getMeta docReader m pre = (getDoc m pre).toMeta :=
  getMeta_docReader m pre
example : getMeta docReader exStore "a/g2/".toList = .node .group2 := by
  rw [docReader_kind, exStore_docs.2.2.2.1]; rfl

/-- an array has no consolidated metadata; a prefix without metadata does not open -/
theorem consolidate_array (m : KV) (pre : Key) (d : NodeDoc) (hd : getDoc m pre = .node d) (hg : d.kind.isGroup = false) :
    consolidate m pre = some none := by
  unfold consolidate; rw [hd]; simp [hg]
example : getDoc exStore "a/x/".toList = .node (.a3 C13.exDoc) ∧ (NodeDoc.a3 C13.exDoc).kind.isGroup = false :=
  ⟨exStore_docs.2.2.1, rfl⟩
theorem consolidate_missing (m : KV) (pre : Key) (hd : getDoc m pre = .missing) : consolidate m pre = none := by
  unfold consolidate; rw [hd]
example : getDoc exStore "b/".toList = .missing := exStore_docs.2.2.2.2

/-- **setting a collected map on a group, storing and re-opening gives the same map**: whatever order the entries are
handed over in (a `HashMap`), the stored document reads back with exactly those entries, in key order -/
theorem setCons_store_reopen (g : GroupDocC) (c : List (Str × NodeDoc)) (hg : (g.setCons (some c)).ok) :
    GroupDocC.ofText (g.setCons (some c)).toText = some (g.setCons (some c)) ∧
    (g.setCons (some c)).consolidated = some (sortKVs c) :=
  ⟨groupDocC_ofText_toText _ hg, rfl⟩
example : (exC.setCons (some exMembers.reverse)).ok := by
  have : exC.setCons (some exMembers.reverse) = exC := by
    unfold GroupDocC.setCons
    simp only [Option.map_some]
    rw [← sortKVs_perm exMembers exMembers.reverse (List.reverse_perm _).symm (by decide),
      sortKVs_of_sorted exMembers (by unfold sortedKeys; decide +kernel)]
    rfl
  rw [this]; exact exC_ok

/-- what `consolidate` returns is already in key order: setting it on the group changes nothing about it -/
theorem consolidate_sorted (m : KV) (pre : Key) (c : CMap) (hc : consolidate m pre = some (some c)) :
    sortKVs c = c ∧ sortedKeys c := by
  unfold consolidate at hc
  split at hc
  · split at hc
    · split at hc
      · simp only [Option.map_eq_some_iff, Option.some.injEq] at hc
        obtain ⟨es, _, rfl⟩ := hc
        exact ⟨sortKVs_idem es, sortKVs_sorted es⟩
      · cases hc
    · cases hc
  · cases hc
example : ∃ c, consolidate exStore [] = some (some c) := by
  obtain ⟨hh, hr, hA, hp, d, hd, hg⟩ := exStore_ok
  obtain ⟨_, c, _, hc, _⟩ := consolidate_exact exStore hh hr hA [] hp d hd hg
  exact ⟨c, hc⟩

end Zarrs.C13Cons
