import ZarrsModel.Model.RwLock
import ZarrsModel.Lemmas.RwLock
/-
C19 — library operations never deadlock on the global configuration.
-/
namespace Zarrs.C19
open Zarrs.RwLock

/-- **No deadlock for flat programs**: if no thread ever acquires the configuration while holding it, then in
every reachable state with an unfinished thread some thread can take a step — for any number of threads, any
number and placement of writers. -/
theorem flat_no_deadlock (ps : Progs) (hflat : ∀ p ∈ ps, flat p = true) (s : State) (hr : Reachable ps s) :
    deadlocked ps s = false := by
  cases hd : deadlocked ps s with
  | false => rfl
  | true =>
    simp only [deadlocked, Bool.and_eq_true, List.any_eq_true, List.all_eq_true, List.mem_range,
      Bool.not_eq_true', finished, Option.isNone_eq_false_iff, Option.isSome_iff_ne_none] at hd
    obtain ⟨⟨t, _, hun⟩, hall⟩ := hd
    obtain ⟨u, sched, s', hrun, _, _⟩ := progress ps hflat s (Inv_reachable hflat hr) t hun
    have hen := ((run_cons ..).1 hrun).1
    nomatch (hall u (lt_of_enabled hen)).symm.trans hen

example :
    let ps : Progs := [[.acqR, .relR, .acqW, .relW], [.acqW, .relW], [.acqR, .relR]]
    (∀ p ∈ ps, flat p = true) ∧ Reachable ps (step ps (step ps (init ps) 0) 1) ∧
      step ps (step ps (init ps) 0) 1 = ⟨[1, 0, 0], [1, 0, 0], none, [1]⟩ :=
  ⟨by decide +kernel,
    .step _ _ (.step _ _ .init (by decide +kernel) (by decide +kernel)) (by decide +kernel) (by decide +kernel),
    by decide +kernel⟩

/-- flat programs can always run to completion: from every reachable state there is a schedule that finishes all
threads -/
theorem flat_can_finish (ps : Progs) (hflat : ∀ p ∈ ps, flat p = true) (s : State) (hr : Reachable ps s) :
    ∃ sched s', run ps s sched = some s' ∧ ∀ t, t < ps.length → finished ps s' t = true :=
  can_finish_of_Inv hflat (Inv_reachable hflat hr)

example :
    let ps : Progs := [[.acqR, .relR, .acqW, .relW], [.acqW, .relW], [.acqR, .relR]]
    (∀ p ∈ ps, flat p = true) ∧ Reachable ps (step ps (step ps (init ps) 0) 1) ∧
      (run ps (step ps (step ps (init ps) 0) 1) [0, 1, 1, 0, 0, 0, 2, 2]).isSome = true ∧
      ((run ps (step ps (step ps (init ps) 0) 1) [0, 1, 1, 0, 0, 0, 2, 2]).map
        (fun s' => (List.range ps.length).all (finished ps s'))) = some true :=
  ⟨by decide +kernel,
    .step _ _ (.step _ _ .init (by decide +kernel) (by decide +kernel)) (by decide +kernel) (by decide +kernel),
    by decide +kernel, by decide +kernel⟩

/-- **A nested read acquisition deadlocks** against one writer: the execution
`t0:acqR, t1:request-write` reaches a state where nobody can move. -/
theorem nested_deadlocks :
    ∃ sched s, run [[.acqR, .acqR, .relR, .relR], [.acqW, .relW]] (init [[.acqR, .acqR, .relR, .relR], [.acqW, .relW]]) sched = some s ∧
      deadlocked [[.acqR, .acqR, .relR, .relR], [.acqW, .relW]] s = true :=
  ⟨[0, 1], ⟨[1, 0], [1, 0], none, [1]⟩, by decide +kernel, by decide +kernel⟩

theorem run_reachable (ps : Progs) (sched : List Nat) (s : State) (hs : ∀ t ∈ sched, t < ps.length)
    (h : run ps (init ps) sched = some s) : Reachable ps s := by
  have h0 : Reachable ps (init ps) := .init
  generalize init ps = s0 at h h0
  induction sched generalizing s0 with
  | nil => exact Option.some.inj h ▸ h0
  | cons t ts ih =>
    obtain ⟨hen, h⟩ := (run_cons ..).1 h
    exact ih (fun u hu => hs u (List.mem_cons_of_mem _ hu)) _ h (.step s0 t h0 (hs t List.mem_cons_self) hen)

example :
    let ps : Progs := [[.acqR, .relR, .acqW, .relW], [.acqW, .relW], [.acqR, .relR]]
    (∀ t ∈ [2, 0, 1, 0, 2, 1], t < ps.length) ∧
      run ps (init ps) [2, 0, 1, 0, 2, 1] = some ⟨[2, 1, 2], [0, 0, 0], some 1, []⟩ :=
  ⟨by decide +kernel, by decide +kernel⟩

/-- guards held by a thread after executing the event prefix `q` -/
def holds (q : List Ev) : Int :=
  (q.filter (fun e => e == .acqR || e == .acqW)).length - (q.filter (fun e => e == .relR || e == .relW)).length

def isAcq (e : Ev) : Bool := e == .acqR || e == .acqW

/-- an operation's event list is well bracketed: it never releases what it does not hold, releases match the
kind of the guard released, and it ends holding nothing (guards are RAII values in the code) -/
def wellBracketed : List Ev → List Ev → Bool
  | [], [] => true
  | [], _ :: _ => false
  | .acqR :: rest, stack => wellBracketed rest (.acqR :: stack)
  | .acqW :: rest, stack => wellBracketed rest (.acqW :: stack)
  | .relR :: rest, .acqR :: stack => wellBracketed rest stack
  | .relW :: rest, .acqW :: stack => wellBracketed rest stack
  | _, _ => false

theorem holds_acqR_relR (q : List Ev) : holds (.acqR :: .relR :: q) = holds q := by
  unfold holds
  rw [List.filter_cons_of_pos rfl, List.filter_cons_of_neg (by decide), List.filter_cons_of_neg (by decide),
    List.filter_cons_of_pos rfl]
  simp only [List.length_cons, Int.natCast_add, Int.cast_ofNat_Int, Int.add_sub_add_right]

theorem holds_acqW_relW (q : List Ev) : holds (.acqW :: .relW :: q) = holds q := by
  unfold holds
  rw [List.filter_cons_of_pos rfl, List.filter_cons_of_neg (by decide), List.filter_cons_of_neg (by decide),
    List.filter_cons_of_pos rfl]
  simp only [List.length_cons, Int.natCast_add, Int.cast_ofNat_Int, Int.add_sub_add_right]

/-- what the probe of hook H3 observes on a single call stack: the lock is free at an acquisition iff the
thread holds nothing; a flat operation therefore produces an all-free probe trace … -/
theorem flat_probes_free (p : List Ev) (h : flat p = true) (k : Nat) (e : Ev) (hk : p[k]? = some e)
    (he : isAcq e = true) : holds (p.take k) = 0 := by
  induction p using flat.induct generalizing k with
  | case1 => nomatch hk
  | case2 rest ih | case3 rest ih =>
    rcases k with _ | _ | k
    · rfl
    · cases hk; nomatch he
    · simp only [List.take_succ_cons, holds_acqR_relR, holds_acqW_relW]
      exact ih h k hk
  | case4 p h1 h2 h3 => rw [flat.eq_4 p h1 h2 h3] at h; nomatch h

example :
    let p : List Ev := [.acqR, .relR, .acqW, .relW]
    flat p = true ∧ p[2]? = some .acqW ∧ isAcq .acqW = true ∧ holds (p.take 2) = 0 :=
  ⟨by decide +kernel, by decide +kernel, by decide +kernel, by decide +kernel⟩

/-- … and conversely an all-free probe trace of a well-bracketed operation means the operation is flat -/
theorem probes_free_flat (p : List Ev) (hwb : wellBracketed p [] = true)
    (h : ∀ k e, p[k]? = some e → isAcq e = true → holds (p.take k) = 0) : flat p = true := by
  induction p using flat.induct with
  | case1 => rfl
  | case2 rest ih | case3 rest ih =>
    refine ih hwb fun k e hk he => ?_
    simpa only [List.take_succ_cons, holds_acqR_relR, holds_acqW_relW] using h (k + 2) e hk he
  | case4 p h1 h2 h3 =>
    -- a well-bracketed operation opens with an acquisition; its second event is the matching release, since a
    -- second acquisition would be probed while the first guard is held
    rcases p with _ | ⟨a, _ | ⟨b, rest⟩⟩
    · exact absurd rfl h1
    · cases a <;> nomatch hwb
    · cases a with
      | relR | relW => nomatch hwb
      | acqR =>
        cases b with
        | relR => exact absurd rfl (h2 rest)
        | relW => nomatch hwb
        | acqR | acqW => nomatch h 1 _ rfl rfl
      | acqW =>
        cases b with
        | relW => exact absurd rfl (h3 rest)
        | relR => nomatch hwb
        | acqR | acqW => nomatch h 1 _ rfl rfl

example :
    let p : List Ev := [.acqR, .relR, .acqW, .relW]
    wellBracketed p [] = true ∧ (∀ k e, p[k]? = some e → isAcq e = true → holds (p.take k) = 0) :=
  ⟨by decide +kernel, fun k e hk he => flat_probes_free _ (by decide +kernel) k e hk he⟩

example :
    let p : List Ev := [.acqR, .acqR, .relR, .relR]
    wellBracketed p [] = true ∧ flat p = false ∧ p[1]? = some .acqR ∧ holds (p.take 1) = 1 :=
  ⟨by decide +kernel, by decide +kernel, by decide +kernel, by decide +kernel⟩

end Zarrs.C19
