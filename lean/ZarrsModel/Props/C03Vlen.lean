import ZarrsModel.Model.Vlen
import ZarrsModel.Lemmas.VlenIdx
import ZarrsModel.Props.C03
import ZarrsModel.Lemmas.VlenV2
/-
C03, continued: the variable-length array→bytes codecs `vlen_v2` (= `vlen-utf8`, `vlen-bytes`, `vlen-array`) and
`vlen`, byte for byte: inversion, exact size, rejection of truncated / corrupted values, and the two views of a
decoded variable-length chunk (`ArrayBytes::Variable(bytes, offsets)` vs the list of elements).

Guards enforced by the real code (zarrs/src/array/codec/array_to_bytes/vlen_v2/vlen_v2_codec.rs, vlen/vlen_codec.rs):
* `vlen_v2` encode: 2^32 elements or more ⇒ an ERROR (`num_elements exceeds u32::MAX`); an element of 2^32 bytes or
  more ⇒ a PANIC (`u32::try_from(element_bytes.len()).unwrap()`), modelled as `EncErr.elementTooLongPanic`;
* `vlen` encode with `index_data_type: uint32`: an offset of 2^32 or more ⇒ an ERROR; with `uint64` nothing to check;
* `vlen` decode: an index length (first 8 bytes) reaching past the end of the value ⇒ an ERROR
  (`DecErr.indexLenPastEnd`); the pinned tree PANICS there (unchecked slice `&bytes[8..data_start]`; finding F-C15-7,
  repaired).
-/
namespace Zarrs.C03
open Zarrs Zarrs.Codec Zarrs.Vlen

/-- the canonical value of a list of elements is valid, starts at offset 0, and has exactly these elements -/
theorem varr_ofElems (xs : List Bytes) :
    (VArr.ofElems xs).valid xs.length = true ∧ (VArr.ofElems xs).offsets.head? = some 0 ∧
    (VArr.ofElems xs).elems = xs :=
  ⟨ofElems_valid xs, offsetsFrom_head 0 xs, elems_ofElems xs⟩

/-- a valid value has `n` elements whose concatenation is the bytes from the first offset on; if its first offset is
0 (every value zarrs' decoders build) it IS the canonical value of its elements: the views are interchangeable -/
theorem varr_elems (n : Nat) (v : VArr) (h : v.valid n = true) :
    v.elems.length = n ∧ v.elems.flatten = v.data.drop (v.offsets.headD 0) ∧
    (v.offsets.head? = some 0 → VArr.ofElems v.elems = v) :=
  ⟨elems_length n v h, elems_flatten n v h, ofElems_elems n v h⟩

/-- validity spelled out: `n + 1` offsets, consecutive offsets ordered and inside the bytes, last = length -/
theorem varr_valid_iff (n : Nat) (v : VArr) :
    v.valid n = true ↔ v.offsets.length = n + 1 ∧ offsetsOk v.data.length v.offsets = true ∧
      v.offsets.getLast? = some v.data.length :=
  valid_iff n v

private def exElems : List Bytes := [[], [97, 98], [], [120, 121, 122]]

example : VArr.ofElems exElems = ⟨[97, 98, 120, 121, 122], [0, 0, 2, 2, 5]⟩ := by decide +kernel
example : (⟨[97, 98, 120, 121, 122], [0, 0, 2, 2, 5]⟩ : VArr).elems = exElems := by decide +kernel
example : (⟨[97, 98, 120, 121, 122], [0, 0, 2, 2, 5]⟩ : VArr).valid 4 = true := by decide +kernel
/-- leading padding (a first offset other than 0) passes `ArrayBytes::validate` -/
example : (⟨[9, 97, 98], [1, 1, 3]⟩ : VArr).valid 2 = true ∧ (⟨[9, 97, 98], [1, 1, 3]⟩ : VArr).elems = [[], [97, 98]] := by decide +kernel
example : (⟨[97, 98, 99], [0, 2, 1, 3]⟩ : VArr).valid 3 = false := by decide +kernel
example : (⟨[97, 98, 99], [0, 4, 3]⟩ : VArr).valid 2 = false := by decide +kernel
example : (⟨[97, 98, 99], [0, 1, 2]⟩ : VArr).valid 2 = false := by decide +kernel
example : (⟨[97, 98, 99], [0, 1, 3]⟩ : VArr).valid 3 = false := by decide +kernel
example : VArr.ofElems (⟨[97, 98, 120, 121, 122], [0, 0, 2, 2, 5]⟩ : VArr).elems = ⟨[97, 98, 120, 121, 122], [0, 0, 2, 2, 5]⟩ :=
  (varr_elems 4 ⟨[97, 98, 120, 121, 122], [0, 0, 2, 2, 5]⟩ (by decide +kernel)).2.2 rfl
example : (VArr.ofElems exElems).valid exElems.length = true := (varr_ofElems exElems).1

/-- inside the guard the encoder succeeds on any valid value and writes the numcodecs layout of its elements (leading
padding is not written) -/
theorem vlenV2_enc_valid (n : Nat) (v : VArr) (hv : v.valid n = true) (h : v2Guard v.elems) :
    vlenV2Enc n v = .ok (vlenV2EncRaw v.elems) :=
  (vlenV2Enc_eq_ok_iff n v _).mpr ⟨hv, h, rfl⟩

/-- … in particular on a canonical value -/
theorem vlenV2_enc_ok (xs : List Bytes) (h : v2Guard xs) :
    vlenV2Enc xs.length (VArr.ofElems xs) = .ok (vlenV2EncRaw xs) := by
  have := vlenV2_enc_valid xs.length (VArr.ofElems xs) (ofElems_valid xs) (by rw [elems_ofElems]; exact h)
  rwa [elems_ofElems] at this

/-- beyond the guard: too many elements is an error, an element of 4 GiB or more is a PANIC in the real code -/
theorem vlenV2_enc_beyond (n : Nat) (v : VArr) (hv : v.valid n = true) :
    (n ≥ 2 ^ 32 → vlenV2Enc n v = .error .tooManyElements) ∧
    (n < 2 ^ 32 → (∃ x ∈ v.elems, x.length ≥ 2 ^ 32) → vlenV2Enc n v = .error .elementTooLongPanic) := by
  unfold vlenV2Enc
  constructor
  · intro h; simp only [hv, Bool.not_true, Bool.false_eq_true, if_false, h, if_true]
  · intro h ⟨x, hx, hl⟩
    have h1 : ¬ (n ≥ 2 ^ 32) := Nat.not_le.mpr h
    have h2 : v.elems.any (fun x => decide (x.length ≥ 2 ^ 32)) = true := by
      rw [List.any_eq_true]; exact ⟨x, hx, by simpa using hl⟩
    simp only [hv, Bool.not_true, Bool.false_eq_true, if_false, h1, h2, if_true]

/-- **`vlen_v2` inverts its encoding**: for every list of elements inside the guard (any count and lengths, 0
included), decoding the encoding returns the canonical value of the elements; bytes after the encoding are ignored -/
theorem vlenV2_dec_ignores_trailing (xs : List Bytes) (t : Bytes) (h : v2Guard xs) :
    vlenV2Dec xs.length (vlenV2EncRaw xs ++ t) = .ok (VArr.ofElems xs) := by
  have := four_mul_le_body xs
  rw [vlenV2EncRaw, List.append_assoc, vlenV2Dec_header _ _ h.1, if_neg (by rw [List.length_append]; omega),
    v2Loop_body xs t h.2]
  rfl

theorem vlenV2_dec_enc (xs : List Bytes) (h : v2Guard xs) :
    vlenV2Dec xs.length (vlenV2EncRaw xs) = .ok (VArr.ofElems xs) := by
  simpa using vlenV2_dec_ignores_trailing xs [] h

/-- the same through the codec's own `encode` on a valid `ArrayBytes::Variable`: the decoded value has the same
elements, and is the same value when the first offset is 0 -/
theorem vlenV2_dec_enc_valid (n : Nat) (v : VArr) (e : Bytes) (he : vlenV2Enc n v = .ok e) :
    vlenV2Dec n e = .ok (VArr.ofElems v.elems) ∧ (VArr.ofElems v.elems).elems = v.elems ∧
    (v.offsets.head? = some 0 → VArr.ofElems v.elems = v) := by
  obtain ⟨hv, hg, rfl⟩ := (vlenV2Enc_eq_ok_iff n v e).mp he
  refine ⟨?_, elems_ofElems _, ofElems_elems n v hv⟩
  rw [← elems_length n v hv]; exact vlenV2_dec_enc _ hg

/-- **exact size**: 4 bytes of header, then 4 + length bytes per element (declared representation: unbounded) -/
theorem vlenV2_size (xs : List Bytes) :
    (vlenV2EncRaw xs).length = 4 + (xs.map (fun x => 4 + x.length)).sum := by
  rw [vlenV2EncRaw, List.length_append, le32_length]
  congr 1
  induction xs with
  | nil => rfl
  | cons x xs ih =>
    rw [body_cons, List.length_append, List.length_append, le32_length, ih, List.map_cons, List.sum_cons, Nat.add_assoc]

/-- **every strict prefix of an encoding is rejected** (with `InvalidBytesLengthError`: shorter than the header and
the length fields, or a length field / element reaching past the end) -/
theorem vlenV2_dec_rejects_truncated (xs : List Bytes) (h : v2Guard xs) (k : Nat)
    (hk : k < (vlenV2EncRaw xs).length) :
    vlenV2Dec xs.length ((vlenV2EncRaw xs).take k) = .error .tooShort ∨
    vlenV2Dec xs.length ((vlenV2EncRaw xs).take k) = .error .lengthPastEnd := by
  by_cases h1 : k < 4 * (1 + xs.length)
  · left
    rw [vlenV2Dec, if_pos (by rw [List.length_take]; omega)]
  · right
    have hbody := four_mul_le_body xs
    have hk' : k - 4 < (vlenV2Body xs).length := by
      rw [vlenV2EncRaw, List.length_append, le32_length] at hk; omega
    have hcut : (vlenV2EncRaw xs).take k = le32 xs.length ++ (vlenV2Body xs).take (k - 4) := by
      rw [vlenV2EncRaw, List.take_append, le32_length, List.take_of_length_le (by rw [le32_length]; omega)]
    rw [hcut, vlenV2Dec_header _ _ h.1, if_neg (by rw [List.length_take]; omega), v2Loop_truncated xs h.2 _ hk']
    rfl

/-- **the decoder accepts exactly the encodings followed by arbitrary trailing bytes** -/
theorem vlenV2_dec_canonical (n : Nat) (b : Bytes) (v : VArr) (hw : Vlen.wfBytes b) (h : vlenV2Dec n b = .ok v) :
    ∃ t, b = vlenV2EncRaw v.elems ++ t ∧ v = VArr.ofElems v.elems ∧ v.elems.length = n := by
  obtain ⟨hlen, hn, xs, hr, rfl⟩ := vlenV2Dec_eq_ok h
  obtain ⟨t, ht⟩ := v2Loop_canonical n _ xs (wf_drop hw 4) hr
  rw [elems_ofElems]
  refine ⟨t, ?_, rfl, v2Loop_length n _ xs hr⟩
  rw [vlenV2EncRaw, v2Loop_length n _ xs hr, ← hn, le32_ofLe _ (by rw [List.length_take]; omega) (wf_take hw 4),
    List.append_assoc, ← ht, List.take_append_drop]

/-- **injective on accepted values up to trailing bytes** -/
theorem vlenV2_dec_injective_on_accepted (n : Nat) (b₁ b₂ : Bytes) (v : VArr)
    (hw₁ : Vlen.wfBytes b₁) (hw₂ : Vlen.wfBytes b₂)
    (h₁ : vlenV2Dec n b₁ = .ok v) (h₂ : vlenV2Dec n b₂ = .ok v) :
    ∃ t₁ t₂, b₁ = vlenV2EncRaw v.elems ++ t₁ ∧ b₂ = vlenV2EncRaw v.elems ++ t₂ := by
  obtain ⟨t₁, hb₁, _, _⟩ := vlenV2_dec_canonical n b₁ v hw₁ h₁
  obtain ⟨t₂, hb₂, _, _⟩ := vlenV2_dec_canonical n b₂ v hw₂ h₂
  exact ⟨t₁, t₂, hb₁, hb₂⟩

/-- whatever the decoder returns passes `ArrayBytes::validate` for `n` elements and starts at offset 0: no slice of
the decoded value is out of range -/
theorem vlenV2_dec_valid (n : Nat) (b : Bytes) (v : VArr) (h : vlenV2Dec n b = .ok v) :
    v.valid n = true ∧ v.offsets.head? = some 0 := by
  obtain ⟨_, _, xs, hr, rfl⟩ := vlenV2Dec_eq_ok h
  rw [← v2Loop_length n _ xs hr]
  exact ⟨ofElems_valid xs, offsetsFrom_head 0 xs⟩

private theorem exGuard : v2Guard exElems := by decide +kernel

example : vlenV2EncRaw exElems =
    [4, 0, 0, 0,  0, 0, 0, 0,  2, 0, 0, 0, 97, 98,  0, 0, 0, 0,  3, 0, 0, 0, 120, 121, 122] := by decide +kernel
example : vlenV2Enc 4 ⟨[97, 98, 120, 121, 122], [0, 0, 2, 2, 5]⟩ = .ok (vlenV2EncRaw exElems) := by decide +kernel
example : vlenV2Dec 4 [4, 0, 0, 0,  0, 0, 0, 0,  2, 0, 0, 0, 97, 98,  0, 0, 0, 0,  3, 0, 0, 0, 120, 121, 122] =
    .ok ⟨[97, 98, 120, 121, 122], [0, 0, 2, 2, 5]⟩ := by decide +kernel
example : vlenV2Dec exElems.length (vlenV2EncRaw exElems) = .ok (VArr.ofElems exElems) := vlenV2_dec_enc exElems exGuard
example : (vlenV2EncRaw exElems).length = 25 := by rw [vlenV2_size]; decide
example : vlenV2EncRaw [] = [0, 0, 0, 0] ∧ vlenV2Dec 0 [0, 0, 0, 0] = .ok ⟨[], [0]⟩ := by decide +kernel
example : vlenV2Dec 0 (vlenV2EncRaw []) = .ok (VArr.ofElems []) := vlenV2_dec_enc [] (by decide +kernel)
example : vlenV2Dec 4 ((vlenV2EncRaw exElems).take 24) = .error .lengthPastEnd := by decide +kernel
example : vlenV2Dec 4 ((vlenV2EncRaw exElems).take 20) = .error .lengthPastEnd := by decide +kernel
example : vlenV2Dec 4 ((vlenV2EncRaw exElems).take 19) = .error .tooShort := by decide +kernel
example : vlenV2Dec exElems.length ((vlenV2EncRaw exElems).take 24) = .error .tooShort ∨
    vlenV2Dec exElems.length ((vlenV2EncRaw exElems).take 24) = .error .lengthPastEnd :=
  vlenV2_dec_rejects_truncated exElems exGuard 24 (by decide +kernel)
example : vlenV2Dec 3 (vlenV2EncRaw exElems) = .error .headerCount := by decide +kernel
example : vlenV2Dec 4 [4, 0, 0, 0,  0, 0, 0, 0,  2, 0, 0, 0, 97, 98,  0, 0, 0, 0,  3, 0, 1, 0, 120, 121, 122] =
    .error .lengthPastEnd := by decide +kernel
example : vlenV2Dec 4 (vlenV2EncRaw exElems ++ [7, 7]) = .ok (VArr.ofElems exElems) :=
  vlenV2_dec_ignores_trailing exElems [7, 7] exGuard
example : ∃ t, vlenV2EncRaw exElems ++ [7, 7] = vlenV2EncRaw (VArr.ofElems exElems).elems ++ t ∧
    VArr.ofElems exElems = VArr.ofElems (VArr.ofElems exElems).elems ∧ (VArr.ofElems exElems).elems.length = 4 :=
  vlenV2_dec_canonical 4 (vlenV2EncRaw exElems ++ [7, 7]) (VArr.ofElems exElems) (by decide +kernel)
    (vlenV2_dec_ignores_trailing exElems [7, 7] exGuard)
example : vlenV2Enc 2 ⟨[9, 97, 98], [1, 1, 3]⟩ = .ok [2, 0, 0, 0,  0, 0, 0, 0,  2, 0, 0, 0, 97, 98] ∧
    vlenV2Dec 2 [2, 0, 0, 0,  0, 0, 0, 0,  2, 0, 0, 0, 97, 98] = .ok ⟨[97, 98], [0, 0, 2]⟩ := by decide +kernel

/-- both chains consist of lawful codecs (proved for `crc32c`, `fletcher32`, `shuffle`; assumed for compressors) -/
def vlenLawful (c : Cfg) : Prop := (∀ x ∈ c.idxChain, x.Lawful) ∧ (∀ x ∈ c.dataChain, x.Lawful)

/-- what the encoder writes: `u64 LE |idx| ++ idx ++ d` with `idx` the index chain's output on the `n + 1` offsets
and `d` the data chain's output on the bytes (nothing when there are no bytes); hence the **exact size**
`8 + |idx| + |d|` -/
theorem vlen_size (c : Cfg) (n : Nat) (v : VArr) (e : Bytes) (h : vlenEnc c n v = .ok e) :
    ∃ idx d, chainEnc c.idxChain (bytesEnc c.idxBig c.w (rawIndex c v.offsets)) = some idx ∧
      (if v.data.length = 0 then some [] else chainEnc c.dataChain v.data) = some d ∧
      e = le64 idx.length ++ idx ++ d ∧ e.length = 8 + idx.length + d.length := by
  obtain ⟨idx, d, hi, hd, rfl⟩ := vlenPack_eq_some ((vlenEnc_eq_ok_iff c n v e).mp h).2.2
  exact ⟨idx, d, hi, hd, rfl, by simp only [List.length_append, le64_length]⟩

/-- with no bytes→bytes codecs: `8 + (n + 1) * width + |data|` exactly -/
theorem vlen_size_plain (c : Cfg) (hi : c.idxChain = []) (hd : c.dataChain = []) (n : Nat) (v : VArr) (e : Bytes)
    (h : vlenEnc c n v = .ok e) : e.length = 8 + (n + 1) * c.w + v.data.length := by
  obtain ⟨hv, _, hp⟩ := (vlenEnc_eq_ok_iff c n v e).mp h
  rw [vlenPack_plain c hi hd] at hp
  rw [← Option.some.inj hp]
  simp only [List.length_append, le64_length, (bytes_rawIndex c v.offsets).2, valid_offsets_length n v hv]

/-- and bounded by the chains' declared sizes (for codecs whose declared size is monotone in the input length) -/
theorem vlen_size_bound (c : Cfg) (hl : vlenLawful c)
    (hmi : ∀ x ∈ c.idxChain, ∀ m n, m ≤ n → (x.size m).1 ≤ (x.size n).1)
    (hmd : ∀ x ∈ c.dataChain, ∀ m n, m ≤ n → (x.size m).1 ≤ (x.size n).1)
    (n : Nat) (v : VArr) (e : Bytes) (h : vlenEnc c n v = .ok e) :
    e.length ≤ 8 + (chainSize c.idxChain ((n + 1) * c.w)).1 + (chainSize c.dataChain v.data.length).1 := by
  obtain ⟨idx, d, h1, h2, _, h4⟩ := vlen_size c n v e h
  have hb1 := (chain_size' c.idxChain hl.1 hmi _ _ h1).1
  rw [(bytes_rawIndex c v.offsets).2, valid_offsets_length n v ((vlenEnc_eq_ok_iff c n v e).mp h).1] at hb1
  have hb2 : d.length ≤ (chainSize c.dataChain v.data.length).1 := by
    by_cases h0 : v.data.length = 0
    · simp only [h0, if_true, Option.some.injEq] at h2; rw [← h2]; exact Nat.zero_le _
    · simp only [h0, if_false] at h2; exact (chain_size' c.dataChain hl.2 hmd _ _ h2).1
  omega

/-- **`vlen` inverts its encoding**, for either index type, either index byte order, any lawful index and data
chains: decoding the encoding returns the value itself (bytes and offsets, leading padding included).  Size
hypotheses: the bytes and the encoded index are shorter than 2^64 (`usize`); with a `uint32` index the encoder
itself rejects offsets of 2^32 or more. -/
theorem vlen_dec_enc (c : Cfg) (hl : vlenLawful c) (n : Nat) (v : VArr) (e : Bytes)
    (h64 : v.data.length < 2 ^ 64) (he64 : e.length < 2 ^ 64) (h : vlenEnc c n v = .ok e) :
    vlenDec c n e = .ok v := by
  obtain ⟨idx, d, hi, hd, hb, hlen⟩ := vlen_size c n v e h
  obtain ⟨hv, h32, _⟩ := (vlenEnc_eq_ok_iff c n v e).mp h
  have ho : ∀ o ∈ v.offsets, o < c.maxOff := by
    intro o hmem
    unfold Cfg.maxOff
    cases h6 : c.idx64 with
    | true => exact Nat.lt_of_le_of_lt (valid_offsets_le n v hv o hmem) h64
    | false => exact h32 h6 o hmem
  rw [hb, vlenDec_packed c hl.1 n v.offsets idx d (valid_offsets_length n v hv) ho hi (by omega)]
  exact vlenDecTail_valid c hl.2 n v d hv hd

/-- on element lists: the decoded value has exactly the encoded elements -/
theorem vlen_dec_enc_elems (c : Cfg) (hl : vlenLawful c) (xs : List Bytes) (e : Bytes)
    (h64 : xs.flatten.length < 2 ^ 64) (he64 : e.length < 2 ^ 64)
    (h : vlenEnc c xs.length (VArr.ofElems xs) = .ok e) :
    ∃ v, vlenDec c xs.length e = .ok v ∧ v.elems = xs :=
  ⟨VArr.ofElems xs, vlen_dec_enc c hl xs.length _ e h64 he64 h, elems_ofElems xs⟩

/-- the `uint32` guard: an offset of 2^32 or more is an encode error (not a panic, not a truncation) -/
theorem vlen_enc_offset_guard (c : Cfg) (h32 : c.idx64 = false) (n : Nat) (v : VArr) (hv : v.valid n = true)
    (hbig : ∃ o ∈ v.offsets, o ≥ 2 ^ 32) : vlenEnc c n v = .error .offsetTooLarge := by
  obtain ⟨o, ho, hge⟩ := hbig
  have : v.offsets.any (fun o => decide (o ≥ 2 ^ 32)) = true := by
    rw [List.any_eq_true]; exact ⟨o, ho, by simpa using hge⟩
  unfold vlenEnc
  simp only [hv, Bool.not_true, Bool.false_eq_true, if_false, h32, Bool.not_false, Bool.true_and, this, if_true]

/-- **whatever the decoder accepts is a valid chunk** — for EVERY value and every (even unlawful) chains: `n + 1`
offsets, each at least its predecessor and at most the data length, the last equal to the data length; so no slice
`bytes[offsets[j]..offsets[j+1]]` of a decoded chunk is ever out of range, and `CodecChain::decode`'s final
`validate` never fails -/
theorem vlen_dec_valid (c : Cfg) (n : Nat) (b : Bytes) (v : VArr) (h : vlenDec c n b = .ok v) :
    v.valid n = true := by
  obtain ⟨_, raw, _, hlen, ht⟩ := vlenDec_eq_ok h
  obtain ⟨ho, hok, hlast, _⟩ := vlenDecTail_eq_ok ht
  rw [valid_iff, ho]
  exact ⟨readOffsets_length c c.idxBig raw (n + 1) hlen, hok, hlast⟩

/-- **bad offsets are errors**: if the index holds an offset smaller than its predecessor, or larger than the last
offset (= the declared data length), decoding fails — whatever the data part holds, for any data chain -/
theorem vlen_dec_rejects_bad_offsets (c : Cfg) (hl : ∀ x ∈ c.idxChain, x.Lawful) (n : Nat) (offs : List Nat)
    (idx d : Bytes) (hn : offs.length = n + 1) (ho : ∀ o ∈ offs, o < c.maxOff)
    (hi : chainEnc c.idxChain (bytesEnc c.idxBig c.w (rawIndex c offs)) = some idx) (hidx : idx.length < 2 ^ 64)
    (hbad : offsetsOk (offs.getLast?.getD 0) offs = false) :
    ∃ err, vlenDec c n (le64 idx.length ++ idx ++ d) = .error err := by
  rw [vlenDec_packed c hl n offs idx d hn ho hi hidx]
  cases hr : vlenDecTail c offs d with
  | error e => exact ⟨e, rfl⟩
  | ok v =>
    obtain ⟨_, hok, hlast, _⟩ := vlenDecTail_eq_ok hr
    rw [hlast, Option.getD_some, hok] at hbad
    cases hbad

/-- **a data part of the wrong length is an error**: the last offset declares the decoded data length.  The case
`last = 0` is different and stated next: the data part is then not looked at.  (`hne`: the packed data went through the
data chain; the encoder skips the chain for empty data.) -/
theorem vlen_dec_rejects_wrong_data_length (c : Cfg) (hl : vlenLawful c) (n : Nat) (offs : List Nat)
    (data b : Bytes) (hn : offs.length = n + 1) (ho : ∀ o ∈ offs, o < c.maxOff) (hb64 : b.length < 2 ^ 64)
    (hp : vlenPack c offs data = some b) (last : Nat) (hlast : offs.getLast? = some last)
    (hne : data.length ≠ 0) (hl0 : last ≠ 0) (hbad : data.length ≠ last) :
    ∃ err, vlenDec c n b = .error err := by
  obtain ⟨idx, d, hi, hd, hb⟩ := vlenPack_eq_some hp
  have hidx : idx.length < 2 ^ 64 := by
    rw [hb] at hb64; simp only [List.length_append] at hb64; omega
  rw [hb, vlenDec_packed c hl.1 n offs idx d hn ho hi hidx]
  simp only [hne, if_false] at hd
  cases hr : vlenDecTail c offs d with
  | error e => exact ⟨e, rfl⟩
  | ok v =>
    obtain ⟨_, _, hlast', hdata⟩ := vlenDecTail_eq_ok hr
    obtain rfl : last = v.data.length := Option.some.inj (hlast.symm.trans hlast')
    rcases hdata with ⟨hnil, _⟩ | hdec
    · exact absurd (by rw [hnil]; rfl) hl0
    · rw [chain_dec_enc' _ hl.2 _ _ hd] at hdec
      exact absurd (congrArg List.length (Option.some.inj hdec)) hbad

/-- when the index says "no bytes" (last offset 0; then every offset must be 0), whatever follows the index is
ignored — the data codecs are not run — and the chunk of `n` empty elements is returned -/
theorem vlen_dec_ignores_data_when_empty (c : Cfg) (hl : ∀ x ∈ c.idxChain, x.Lawful) (n : Nat) (idx d : Bytes)
    (h0 : 0 < c.maxOff)
    (hi : chainEnc c.idxChain (bytesEnc c.idxBig c.w (rawIndex c (List.replicate (n + 1) 0))) = some idx)
    (hidx : idx.length < 2 ^ 64) :
    vlenDec c n (le64 idx.length ++ idx ++ d) = .ok ⟨[], List.replicate (n + 1) 0⟩ := by
  rw [vlenDec_packed c hl n (List.replicate (n + 1) 0) idx d (by simp)
    (by intro o ho; rw [List.eq_of_mem_replicate ho]; exact h0) hi hidx]
  have hlast : (List.replicate (n + 1) 0).getLast? = some 0 := by
    rw [List.getLast?_eq_some_getLast (by simp)]; simp
  have hok : ∀ k, offsetsOk 0 (List.replicate (k + 1) 0) = true := by
    intro k
    induction k with
    | zero => rfl
    | succ k ih => exact (offsetsOk_cons_cons 0 0 0 _).mpr ⟨⟨Nat.le_refl 0, Nat.le_refl 0⟩, ih⟩
  unfold vlenDecTail
  rw [hlast]
  simp only [if_true, List.length_nil, hok n]

/-- **an index length reaching past the end of the value is an error** (the pinned tree panics: finding F-C15-7) -/
theorem vlen_dec_rejects_short_index (c : Cfg) (n : Nat) (b : Bytes) (h8 : 8 ≤ b.length)
    (h : b.length < 8 + ofLe (b.take 8)) : vlenDec c n b = .error .indexLenPastEnd := by
  unfold vlenDec
  have : ¬ (b.length < 8) := by omega
  simp only [this, if_false, h, if_true]

theorem vlen_dec_rejects_short (c : Cfg) (n : Nat) (b : Bytes) (h : b.length < 8) :
    vlenDec c n b = .error .tooShort := by
  unfold vlenDec; simp only [h, if_true]

private def cfg32 : Cfg := ⟨false, false, [], []⟩
private def cfg64 : Cfg := ⟨true, true, [crc32cCodec], [crc32cCodec]⟩

private theorem cfg32_lawful : vlenLawful cfg32 := by
  constructor <;>
  · intro x hx
    simp [cfg32] at hx
private theorem cfg64_lawful : vlenLawful cfg64 := by
  constructor <;>
  · intro x hx
    simp only [cfg64, List.mem_cons, List.not_mem_nil, or_false] at hx
    subst hx
    exact crc32c_lawful

private def exEnc32 : Bytes :=
  [20, 0, 0, 0, 0, 0, 0, 0,  0, 0, 0, 0,  0, 0, 0, 0,  2, 0, 0, 0,  2, 0, 0, 0,  5, 0, 0, 0,  97, 98, 120, 121, 122]
private def exEnc64 : Bytes :=
  [44, 0, 0, 0, 0, 0, 0, 0,
   0, 0, 0, 0, 0, 0, 0, 0,  0, 0, 0, 0, 0, 0, 0, 0,  0, 0, 0, 0, 0, 0, 0, 2,  0, 0, 0, 0, 0, 0, 0, 2,
   0, 0, 0, 0, 0, 0, 0, 5,  30, 193, 246, 62,
   97, 98, 120, 121, 122,  114, 101, 57, 215]

private theorem exEnc32_eq : vlenEnc cfg32 4 (VArr.ofElems exElems) = .ok exEnc32 := by decide +kernel
private theorem exDec32_eq : vlenDec cfg32 4 exEnc32 = .ok ⟨[97, 98, 120, 121, 122], [0, 0, 2, 2, 5]⟩ := by
  decide +kernel
private theorem exEnc64_eq : vlenEnc cfg64 4 (VArr.ofElems exElems) = .ok exEnc64 := by decide +kernel

example : vlenEnc cfg32 4 (VArr.ofElems exElems) = .ok exEnc32 := exEnc32_eq
example : vlenDec cfg32 4 exEnc32 = .ok ⟨[97, 98, 120, 121, 122], [0, 0, 2, 2, 5]⟩ := exDec32_eq
example : vlenEnc cfg64 4 (VArr.ofElems exElems) = .ok exEnc64 := exEnc64_eq
example : vlenDec cfg64 4 exEnc64 = .ok (VArr.ofElems exElems) :=
  vlen_dec_enc cfg64 cfg64_lawful 4 _ exEnc64 (by decide +kernel) (by decide +kernel) exEnc64_eq
example : ∃ v, vlenDec cfg32 exElems.length exEnc32 = .ok v ∧ v.elems = exElems :=
  vlen_dec_enc_elems cfg32 cfg32_lawful exElems exEnc32 (by decide +kernel) (by decide +kernel) exEnc32_eq
example : exEnc32.length = 8 + (4 + 1) * cfg32.w + (VArr.ofElems exElems).data.length :=
  vlen_size_plain cfg32 rfl rfl 4 _ exEnc32 exEnc32_eq
example : exEnc64.length ≤ 8 + (chainSize cfg64.idxChain ((4 + 1) * cfg64.w)).1 + (chainSize cfg64.dataChain 5).1 :=
  vlen_size_bound cfg64 cfg64_lawful
    (by intro x hx m n h; simp only [cfg64, List.mem_cons, List.not_mem_nil, or_false] at hx; subst hx
        exact Nat.add_le_add_right h 4)
    (by intro x hx m n h; simp only [cfg64, List.mem_cons, List.not_mem_nil, or_false] at hx; subst hx
        exact Nat.add_le_add_right h 4)
    4 (VArr.ofElems exElems) exEnc64 exEnc64_eq
example : vlenEnc cfg64 2 (VArr.ofElems [[], []]) =
    .ok [28, 0, 0, 0, 0, 0, 0, 0,  0, 0, 0, 0, 0, 0, 0, 0,  0, 0, 0, 0, 0, 0, 0, 0,  0, 0, 0, 0, 0, 0, 0, 0,
         238, 236, 251, 132] := by decide +kernel
example : vlenDec cfg32 1 ([8, 0, 0, 0, 0, 0, 0, 0,  0, 0, 0, 0,  0, 0, 0, 0] ++ [1, 2, 3]) = .ok ⟨[], [0, 0]⟩ :=
  vlen_dec_ignores_data_when_empty cfg32 cfg32_lawful.1 1 [0, 0, 0, 0,  0, 0, 0, 0] [1, 2, 3] (by decide +kernel)
    (by decide +kernel) (by decide +kernel)
example : vlenDec cfg32 2 [12, 0, 0, 0, 0, 0, 0, 0,  1, 0, 0, 0,  1, 0, 0, 0,  3, 0, 0, 0,  9, 97, 98] =
    .ok ⟨[9, 97, 98], [1, 1, 3]⟩ :=
  vlen_dec_enc cfg32 cfg32_lawful 2 ⟨[9, 97, 98], [1, 1, 3]⟩ _ (by decide +kernel) (by decide +kernel) (by decide +kernel)
example : vlenDec cfg32 4 [20, 0, 0, 0, 0, 0, 0, 0,  0, 0, 0, 0,  3, 0, 0, 0,  2, 0, 0, 0,  2, 0, 0, 0,  5, 0, 0, 0,
    97, 98, 120, 121, 122] = .error .badOffsets := by decide +kernel
example : ∃ err, vlenDec cfg32 4 (le64 20 ++ [0, 0, 0, 0,  3, 0, 0, 0,  2, 0, 0, 0,  2, 0, 0, 0,  5, 0, 0, 0] ++
    [97, 98, 120, 121, 122]) = .error err :=
  vlen_dec_rejects_bad_offsets cfg32 cfg32_lawful.1 4 [0, 3, 2, 2, 5]
    [0, 0, 0, 0,  3, 0, 0, 0,  2, 0, 0, 0,  2, 0, 0, 0,  5, 0, 0, 0] [97, 98, 120, 121, 122]
    (by decide +kernel) (by decide +kernel) (by decide +kernel) (by decide +kernel) (by decide +kernel)
example : vlenDec cfg32 4 [20, 0, 0, 0, 0, 0, 0, 0,  0, 0, 0, 0,  0, 0, 0, 0,  2, 0, 0, 0,  2, 0, 0, 0,  5, 0, 0, 0,
    97, 98, 120, 121] = .error .dataLength := by decide +kernel
example : ∃ err, vlenDec cfg32 4 [20, 0, 0, 0, 0, 0, 0, 0,  0, 0, 0, 0,  0, 0, 0, 0,  2, 0, 0, 0,  2, 0, 0, 0,
    5, 0, 0, 0,  97, 98, 120, 121] = .error err :=
  vlen_dec_rejects_wrong_data_length cfg32 cfg32_lawful 4 [0, 0, 2, 2, 5] [97, 98, 120, 121] _ (by decide +kernel)
    (by decide +kernel) (by decide +kernel) (by decide +kernel) 5 (by decide +kernel) (by decide +kernel) (by decide +kernel) (by decide +kernel)
example : vlenDec cfg32 4 [21, 0, 0, 0, 0, 0, 0, 0,  0, 0, 0, 0,  0, 0, 0, 0,  2, 0, 0, 0,  2, 0, 0, 0,  5, 0, 0, 0] =
    .error .indexLenPastEnd :=
  vlen_dec_rejects_short_index cfg32 4 _ (by decide +kernel) (by decide +kernel)
example : vlenDec cfg32 4 [20, 0, 0, 0, 0, 0, 0] = .error .tooShort := vlen_dec_rejects_short cfg32 4 _ (by decide +kernel)
example : vlenDec cfg64 4 (exEnc64.set 10 1) = .error .indexChain := by decide +kernel
example : vlenDec cfg32 3 exEnc32 = .error .indexLength := by decide +kernel
/-- a VALID value with an offset of 2^32 holds 4 GiB of data, so the `uint32` guard is shown on a hypothetical valid
value; the concrete value with such offsets and no data is stopped by `validate` before the guard -/
example : vlenEnc cfg32 1 ⟨List.replicate 0 0, [4294967296, 4294967296]⟩ = .error .invalidInput := by decide +kernel
example (v : VArr) (hv : v.valid 1 = true) (h : 4294967296 ∈ v.offsets) : vlenEnc cfg32 1 v = .error .offsetTooLarge :=
  vlen_enc_offset_guard cfg32 rfl 1 v hv ⟨_, h, by decide +kernel⟩
example : (⟨[97, 98, 120, 121, 122], [0, 0, 2, 2, 5]⟩ : VArr).valid 4 = true :=
  vlen_dec_valid cfg32 4 exEnc32 _ exDec32_eq

end Zarrs.C03
