import ZarrsModel.Model.ShardPDAsync
import ZarrsModel.Model.WriteMapShard
import ZarrsModel.Lemmas.ShardPDAsync
import ZarrsModel.Props.C02Shard
/-
C07 / C17 for the ASYNCHRONOUS sharding partial decoder (`AsyncShardingPartialDecoder`, Model/ShardPDAsync.lean)
against the synchronous one (`ShardingPartialDecoder`, Model/ShardPD.lean).  The two are different algorithms for
fixed-size data types (the async one fetches and decodes WHOLE stored inner chunks, then extracts; stored items first,
not-stored items afterwards, into an uninitialised buffer):

* on every legal shard the two return the same answer (= decode + slice); an absent value is fill for both;
* a live index entry of the wrong size (fixed-size inner chain) or reaching outside the value is an error for both;
* on a TRUNCATED shard they differ (the observation): the sync decoder answers from the bytes it needs, the async one
  fails on the whole inner chunk — such values are outside the agreement theorem (no history of the API produces them);
* the views the async decoder writes tile the region's buffer; the seeded mispairing does not; the seeded
  "validation dropped" variant returns data where the real decoder errs.
-/
namespace Zarrs.C07S
open Zarrs Zarrs.Codec Zarrs.Partial Zarrs.C02

/-! ### the running example: inner chunk (0,1) is missing, so a NOT-STORED inner chunk precedes stored ones -/

private def exInner : Chain := { a2a := [], big := false, es := 2, unit := 2, b2b := [] }
private def exCfg : Shard.Cfg := ⟨4, false, false, false⟩
private def exFill : Elem := [7, 7]
private def exShard : List Elem :=
  (List.range 16).map (fun i => if i % 4 ≥ 2 ∧ i < 8 then [7, 7] else [i, 100 + i])
private def exPieces : List (List Elem) := splitShard [4, 4] [2, 2] exShard
private def exChunks : List (Option Bytes) := shardChunks (exInner.encode [2, 2]) exFill [4, 4] [2, 2] exShard
private def exValue : Bytes := Shard.encode exCfg exChunks
private def exRegions : List Subset := [⟨[1, 1], [2, 2]⟩, ⟨[0, 1], [4, 2]⟩, ⟨[0, 2], [1, 0]⟩, ⟨[0, 0], [4, 4]⟩]
private def exEntries : List (Nat × Nat) := [(64, 8), (Shard.sentinel, Shard.sentinel), (72, 8), (80, 8)]

example : exValue.length = 64 + 24 := by decide +kernel
example : shardIndexPD exCfg true [4, 4] [2, 2] (storeHandle (some exValue)) = some (some exEntries) := by decide +kernel

private def exEncodes (xs : List Elem) (b : Bytes) : Prop := b = exInner.encode [2, 2] xs ∧ chunkOk 2 [2, 2] xs

/-- **the async decoder agrees with the sync decoder on every legal shard** (hypotheses: those of
`C02S.shardPD_ok`): for every in-bounds region list both return exactly the regions of the assembled shard
(= full decode + slice, `C02S.assemble_eq_full_decode`) -/
theorem asyncShardPD_eq_shardPD (cfg : Shard.Cfg) (validate : Bool) (shard inner : Shape) (es : Nat) (fill : Elem)
    (fixed : Option Nat) (innerPD : Shape → Elem → BHandle → AHandle) (encodes : List Elem → Bytes → Prop)
    (h : BHandle) (v : Bytes) (chunks : List (Option Bytes)) (xss : List (List Elem))
    (ht : Partial.tiles inner shard = true) (hn : cfg.nChunks = prod (zipDiv shard inner)) (hfill : fill.length = es)
    (hh : BHandleOk h v) (hlegal : Shard.Legal cfg v chunks) (hxl : xss.length = cfg.nChunks)
    (hx : ∀ i (h1 : i < chunks.length) (h2 : i < xss.length),
      match chunks[i] with
      | some b => encodes xss[i] b ∧ chunkOk es inner xss[i]
      | none => xss[i] = List.replicate (prod inner) fill)
    (hinner : ∀ g b xs, encodes xs b → BHandleOk g b → AHandleOk (innerPD inner fill g) inner xs)
    (hfixed : ∀ n, fixed = some n → ∀ xs b, encodes xs b → b.length = n)
    (rs : List Subset) (hrs : ∀ r ∈ rs, r.wf = true ∧ r.inboundsShape shard = true) :
    asyncShardPD cfg validate shard inner es fill fixed innerPD h rs =
      shardPD cfg validate shard inner es fill fixed innerPD h rs ∧
    shardPD cfg validate shard inner es fill fixed innerPD h rs =
      some (rs.map (fun r => r.extract shard (assemble shard inner xss))) := by
  -- one served shard, two correct region functions around it
  obtain ⟨entries, hidx, S⟩ := served_of_decode ht hn hfill
    hh (Shard.legal_decodes cfg v chunks hlegal) hxl hx hinner hfixed
  have hs := shardFrame_served shardRegion_regionOk S cfg validate (hidx validate) rs hrs
  have ha := shardFrame_served asyncShardRegion_regionOk S cfg validate (hidx validate) rs hrs
  exact ⟨ha.trans hs.symm, hs⟩

/-- … as a served array (the form of `C02S.shardPD_ok`) -/
theorem asyncShardPD_ok (cfg : Shard.Cfg) (validate : Bool) (shard inner : Shape) (es : Nat) (fill : Elem)
    (fixed : Option Nat) (innerPD : Shape → Elem → BHandle → AHandle) (encodes : List Elem → Bytes → Prop)
    (h : BHandle) (v : Bytes) (chunks : List (Option Bytes)) (xss : List (List Elem))
    (ht : Partial.tiles inner shard = true) (hn : cfg.nChunks = prod (zipDiv shard inner)) (hfill : fill.length = es)
    (hh : BHandleOk h v) (hlegal : Shard.Legal cfg v chunks) (hxl : xss.length = cfg.nChunks)
    (hx : ∀ i (h1 : i < chunks.length) (h2 : i < xss.length),
      match chunks[i] with
      | some b => encodes xss[i] b ∧ chunkOk es inner xss[i]
      | none => xss[i] = List.replicate (prod inner) fill)
    (hinner : ∀ g b xs, encodes xs b → BHandleOk g b → AHandleOk (innerPD inner fill g) inner xs)
    (hfixed : ∀ n, fixed = some n → ∀ xs b, encodes xs b → b.length = n) :
    AHandleOk (asyncShardPD cfg validate shard inner es fill fixed innerPD h) shard (assemble shard inner xss) :=
  (served_of_decode ht hn hfill hh
    (Shard.legal_decodes cfg v chunks hlegal) hxl hx hinner hfixed).elim
    fun _ hS => asyncShardPD_eq_frame ▸ shardFrame_served asyncShardRegion_regionOk hS.2 cfg validate (hS.1 validate)

private theorem exLegal : Shard.Legal exCfg exValue exChunks :=
  Shard.encode_legal exCfg exChunks (by decide +kernel) (by decide +kernel)

example : Partial.tiles [2, 2] [4, 4] = true ∧ exCfg.nChunks = prod (zipDiv [4, 4] [2, 2]) ∧ exFill.length = 2 ∧
    BHandleOk (storeHandle (some exValue)) exValue ∧ Shard.Legal exCfg exValue exChunks ∧
    exPieces.length = exCfg.nChunks ∧
    (∀ r ∈ exRegions, r.wf = true ∧ r.inboundsShape [4, 4] = true) :=
  ⟨by decide, by decide, by decide, storeHandle_some_ok _, exLegal,
    by decide, by decide⟩

private theorem exPieces_val : exPieces =
    [[[0, 100], [1, 101], [4, 104], [5, 105]], [[7, 7], [7, 7], [7, 7], [7, 7]],
     [[8, 108], [9, 109], [12, 112], [13, 113]], [[10, 110], [11, 111], [14, 114], [15, 115]]] := by decide +kernel
private theorem exChunks_val : exChunks =
    [some [0, 100, 1, 101, 4, 104, 5, 105], none, some [8, 108, 9, 109, 12, 112, 13, 113],
     some [10, 110, 11, 111, 14, 114, 15, 115]] := by decide +kernel

private theorem ex_hx : ∀ i (_ : i < exChunks.length) (h2 : i < exPieces.length),
    match exChunks[i] with
    | some b => exEncodes exPieces[i] b ∧ chunkOk 2 [2, 2] exPieces[i]
    | none => exPieces[i] = List.replicate (prod [2, 2]) exFill := by
  intro i _ h2
  have h4 : i < 4 := h2
  have : i = 0 ∨ i = 1 ∨ i = 2 ∨ i = 3 := by omega
  rcases this with rfl | rfl | rfl | rfl <;>
    simp only [exChunks_val, exPieces_val, List.getElem_cons_zero, List.getElem_cons_succ]
  · exact ⟨⟨by decide, by decide, by decide⟩, by decide, by decide⟩
  · decide
  · exact ⟨⟨by decide, by decide, by decide⟩, by decide, by decide⟩
  · exact ⟨⟨by decide, by decide, by decide⟩, by decide, by decide⟩

private theorem ex_hinner : ∀ g b xs, exEncodes xs b → BHandleOk g b →
    AHandleOk (exInner.partialDecoder [2, 2] exFill g) [2, 2] xs := by
  intro g b xs ⟨hb, hx⟩ hg
  subst hb
  rw [partialDecoder_eq]
  rw [encode_eq] at hg
  exact bytesPD_ok' false 2 2 [2, 2] exFill g xs (by decide) (by decide) (by decide) hx.1 hx.2 hg

private theorem ex_hfixed : ∀ n, exInner.fixedSize [] [2, 2] = some n → ∀ xs b, exEncodes xs b → b.length = n := by
  intro n hn xs b ⟨hb, hx⟩
  subst hb
  exact chain_encode_length exInner [] [2, 2] xs n (by decide) hx.1 hx.2 trivial trivial hn

private theorem exAssemble_val : assemble [4, 4] [2, 2] exPieces = exShard := by decide +kernel

example : asyncShardPD exCfg true [4, 4] [2, 2] 2 exFill (some 8) exInner.partialDecoder (storeHandle (some exValue)) exRegions =
      shardPD exCfg true [4, 4] [2, 2] 2 exFill (some 8) exInner.partialDecoder (storeHandle (some exValue)) exRegions ∧
    asyncShardPD exCfg true [4, 4] [2, 2] 2 exFill (some 8) exInner.partialDecoder (storeHandle (some exValue)) exRegions =
      some (exRegions.map (fun r => r.extract [4, 4] exShard)) := by
  have h := asyncShardPD_eq_shardPD exCfg true [4, 4] [2, 2] 2 exFill (some 8) exInner.partialDecoder
    exEncodes (storeHandle (some exValue)) exValue exChunks exPieces (by decide) (by decide) (by decide)
    (storeHandle_some_ok _) exLegal (by decide) ex_hx ex_hinner
    ex_hfixed exRegions (by decide)
  rw [exAssemble_val] at h
  exact ⟨h.1, h.1.trans h.2⟩

private def exCfgE : Shard.Cfg := ⟨4, true, false, true⟩
private def exValueE : Bytes := Shard.encode exCfgE exChunks
private theorem exLegalE : Shard.Legal exCfgE exValueE exChunks :=
  Shard.encode_legal exCfgE exChunks (by decide +kernel) (by decide +kernel)
private def exRegionsE : List Subset := [⟨[0, 1], [2, 2]⟩, ⟨[1, 1], [2, 2]⟩, ⟨[0, 2], [2, 2]⟩, ⟨[0, 0], [4, 4]⟩]

example : exValueE.length = 24 + 68 := by decide +kernel
example : shardIndexPD exCfgE true [4, 4] [2, 2] (storeHandle (some exValueE)) =
    some (some [(0, 8), (Shard.sentinel, Shard.sentinel), (8, 8), (16, 8)]) := by decide +kernel
example : exInner.fixedSize [] [2, 2] = some 8 := by decide +kernel

example :
    asyncShardPD exCfgE true [4, 4] [2, 2] 2 exFill (exInner.fixedSize [] [2, 2]) exInner.partialDecoder
        (storeHandle (some exValueE)) exRegionsE =
      shardPD exCfgE true [4, 4] [2, 2] 2 exFill (exInner.fixedSize [] [2, 2]) exInner.partialDecoder
        (storeHandle (some exValueE)) exRegionsE ∧
    shardPD exCfgE true [4, 4] [2, 2] 2 exFill (exInner.fixedSize [] [2, 2]) exInner.partialDecoder
        (storeHandle (some exValueE)) exRegionsE =
      some (exRegionsE.map (fun r => r.extract [4, 4] (assemble [4, 4] [2, 2] exPieces))) :=
  asyncShardPD_eq_shardPD exCfgE true [4, 4] [2, 2] 2 exFill (exInner.fixedSize [] [2, 2]) exInner.partialDecoder
    exEncodes (storeHandle (some exValueE)) exValueE exChunks exPieces (by decide) (by decide) (by decide)
    (storeHandle_some_ok _) exLegalE (by decide) ex_hx ex_hinner
    ex_hfixed exRegionsE (by decide)

example : assemble [4, 4] [2, 2] exPieces = exShard := exAssemble_val
/-- the decoders are not run: their answers come from the theorem, only `assemble` and `extract` are computed -/
example : asyncShardPD exCfgE true [4, 4] [2, 2] 2 exFill (some 8) exInner.partialDecoder (storeHandle (some exValueE))
      exRegionsE =
    some [[[1, 101], [7, 7], [5, 105], [7, 7]], [[5, 105], [7, 7], [9, 109], [10, 110]],
      [[7, 7], [7, 7], [7, 7], [7, 7]], exShard] ∧
    shardPD exCfgE true [4, 4] [2, 2] 2 exFill (some 8) exInner.partialDecoder (storeHandle (some exValueE))
      exRegionsE =
    some [[[1, 101], [7, 7], [5, 105], [7, 7]], [[5, 105], [7, 7], [9, 109], [10, 110]],
      [[7, 7], [7, 7], [7, 7], [7, 7]], exShard] := by
  have h := asyncShardPD_eq_shardPD exCfgE true [4, 4] [2, 2] 2 exFill (some 8) exInner.partialDecoder
    exEncodes (storeHandle (some exValueE)) exValueE exChunks exPieces (by decide) (by decide) (by decide)
    (storeHandle_some_ok _) exLegalE (by decide) ex_hx ex_hinner
    ex_hfixed exRegionsE (by decide)
  rw [exAssemble_val] at h
  have hv : some (exRegionsE.map (fun r => r.extract [4, 4] exShard)) = some [[[1, 101], [7, 7], [5, 105], [7, 7]],
      [[5, 105], [7, 7], [9, 109], [10, 110]], [[7, 7], [7, 7], [7, 7], [7, 7]], exShard] := by decide +kernel
  exact ⟨h.1.trans (h.2.trans hv), h.2.trans hv⟩

example : AHandleOk (asyncShardPD exCfgE true [4, 4] [2, 2] 2 exFill (exInner.fixedSize [] [2, 2])
    exInner.partialDecoder (storeHandle (some exValueE))) [4, 4] exShard := by
  have h := asyncShardPD_ok exCfgE true [4, 4] [2, 2] 2 exFill (exInner.fixedSize [] [2, 2]) exInner.partialDecoder
    exEncodes (storeHandle (some exValueE)) exValueE exChunks exPieces (by decide) (by decide) (by decide)
    (storeHandle_some_ok _) exLegalE (by decide) ex_hx ex_hinner
    ex_hfixed
  rw [exAssemble_val] at h
  exact h

example : AHandleOk (asyncShardPD exCfg true [4, 4] [2, 2] 2 exFill (exInner.fixedSize [] [2, 2])
    exInner.partialDecoder (storeHandle (some exValue))) [4, 4] (assemble [4, 4] [2, 2] exPieces) :=
  asyncShardPD_ok exCfg true [4, 4] [2, 2] 2 exFill (exInner.fixedSize [] [2, 2]) exInner.partialDecoder
    exEncodes (storeHandle (some exValue)) exValue exChunks exPieces (by decide) (by decide) (by decide)
    (storeHandle_some_ok _) exLegal (by decide) ex_hx ex_hinner
    ex_hfixed

/-- **an absent value reads as fill for both decoders** -/
theorem asyncShardPD_absent_eq (cfg : Shard.Cfg) (validate : Bool) (shard inner : Shape) (es : Nat) (fill : Elem)
    (fixed : Option Nat) (innerPD : Shape → Elem → BHandle → AHandle) (h : BHandle)
    (ht : Partial.tiles inner shard = true) (hh : BHandleAbsent h) (rs : List Subset)
    (hrs : ∀ r ∈ rs, r.wf = true ∧ r.rank = shard.length) :
    asyncShardPD cfg validate shard inner es fill fixed innerPD h rs =
      some (rs.map (fun r => List.replicate r.numElements fill)) ∧
    shardPD cfg validate shard inner es fill fixed innerPD h rs =
      some (rs.map (fun r => List.replicate r.numElements fill)) :=
  ⟨shardFrame_absent cfg validate ht hh rs hrs, shardFrame_absent cfg validate ht hh rs hrs⟩

example : Partial.tiles [2, 2] [4, 4] = true ∧ BHandleAbsent (storeHandle none) ∧
    ∀ r ∈ exRegions, r.wf = true ∧ r.rank = [4, 4].length := ⟨by decide, storeHandle_none_absent, by decide⟩
example : asyncShardPD exCfg true [4, 4] [2, 2] 2 exFill (some 8) exInner.partialDecoder (storeHandle none) exRegions =
    some [List.replicate 4 [7, 7], List.replicate 8 [7, 7], [], List.replicate 16 [7, 7]] := by decide +kernel
example : asyncShardPD exCfgE false [4, 4] [2, 2] 2 exFill none exInner.partialDecoder (storeHandle none) exRegions =
      some (exRegions.map (fun r => List.replicate r.numElements exFill)) ∧
    shardPD exCfgE false [4, 4] [2, 2] 2 exFill none exInner.partialDecoder (storeHandle none) exRegions =
      some (exRegions.map (fun r => List.replicate r.numElements exFill)) :=
  asyncShardPD_absent_eq exCfgE false [4, 4] [2, 2] 2 exFill none exInner.partialDecoder (storeHandle none)
    (by decide) storeHandle_none_absent exRegions (by decide)
example : shardPD exCfg true [4, 4] [2, 2] 2 exFill (some 8) exInner.partialDecoder (storeHandle none) exRegions =
    some [List.replicate 4 [7, 7], List.replicate 8 [7, 7], [], List.replicate 16 [7, 7]] := by decide +kernel

/-- **a corrupted live index entry is an error for BOTH decoders**, for every request with an in-bounds region
touching that inner chunk.  Exact conditions, the same for the two decoders:
(1) the inner codecs declare a fixed encoded size `n` and the entry's size differs (`validate_inner_chunk_size`; each
    decoder errs whatever the inner chain, the handle and the place the entry points to), or
(2) the entry reaches outside the stored value, the input handle rejects such ranges and the inner chain reads its
    whole input (`ReadsWhole`: without it the SYNC decoder answers from the bytes it needs when those are inside the
    value, `C02S.shardPD_error_on_bad_entry`; see `async_sync_differ_on_truncated` below for the other direction). -/
theorem asyncShardPD_error_agrees_on_entries (cfg : Shard.Cfg) (validate : Bool) (shard inner : Shape) (es : Nat)
    (fill : Elem) (fixed : Option Nat) (innerPD : Shape → Elem → BHandle → AHandle) (h : BHandle) (v : Bytes)
    (entries : List (Nat × Nat))
    (ht : Partial.tiles inner shard = true)
    (hidx : shardIndexPD cfg validate shard inner h = some (some entries))
    (rs : List Subset) (r : Subset) (hr : r ∈ rs) (hwf : r.wf = true) (hb : r.inboundsShape shard = true)
    (i : Idx) (hi : r.contains i = true) (off size : Nat)
    (hent : entries[ravel (zipDiv i inner) (zipDiv shard inner)]? = some (off, size))
    (hlive : Shard.isLive (off, size) = true)
    (hbad : (∃ n, fixed = some n ∧ size ≠ n) ∨
      (off + size > v.length ∧ BHandleStrict h v ∧ ReadsWhole (innerPD inner fill))) :
    asyncShardPD cfg validate shard inner es fill fixed innerPD h rs = none ∧
    shardPD cfg validate shard inner es fill fixed innerPD h rs = none := by
  -- both decoders are `shardFrame`; in each case the piece of the item holding `i` fails for both region functions
  have hpos := tiles_pos ht
  have hcl := tiles_rank ht hb
  rcases hbad with ⟨n, hn, hsize⟩ | ⟨hout, hstrict, hwhole⟩
  · subst hn
    exact ⟨shardFrame_none cfg validate ht hidx rs r hr (asyncShardRegion_none_of_entry hpos r hwf hcl i hi (off, size)
        hent hlive (asyncDecodeStored_wrong_size n fill inner innerPD h (off, size) hsize r)),
      shardFrame_none cfg validate ht hidx rs r hr (shardRegion_none_of_entry hpos r hwf hcl i hi (off, size) hent
        (shardPart_wrong_size n fill inner innerPD h (off, size) hlive hsize))⟩
  · exact ⟨shardFrame_none cfg validate ht hidx rs r hr (asyncShardRegion_none_of_entry hpos r hwf hcl i hi (off, size)
        hent hlive (asyncDecodeStored_outside fixed fill inner innerPD h v hstrict hwhole (off, size) hout r)),
      shardFrame_none cfg validate ht hidx rs r hr (shardRegion_none_of_entry hpos r hwf hcl i hi (off, size) hent
        (shardPart_outside fixed fill inner innerPD h v hstrict hwhole (off, size) hlive hout))⟩

/-- the entry of inner chunk (1,0) (offset 72, 8 bytes) says 9 bytes — still inside the value -/
private def exBadEntries : List (Nat × Nat) := [(64, 8), (Shard.sentinel, Shard.sentinel), (72, 9), (80, 8)]
private def exBadValue : Bytes := Shard.encodeIndex exCfg exBadEntries ++ exValue.drop 64

example : Partial.tiles [2, 2] [4, 4] = true ∧ exInner.fixedSize [] [2, 2] = some 8 ∧
    shardIndexPD exCfg true [4, 4] [2, 2] (storeHandle (some exBadValue)) = some (some exBadEntries) ∧
    (Subset.mk [2, 0] [1, 1]).wf = true ∧ (Subset.mk [2, 0] [1, 1]).inboundsShape [4, 4] = true ∧
    (Subset.mk [2, 0] [1, 1]).contains [2, 0] = true ∧
    exBadEntries[ravel (zipDiv [2, 0] [2, 2]) (zipDiv [4, 4] [2, 2])]? = some (72, 9) ∧
    Shard.isLive (72, 9) = true ∧ (∃ n, some 8 = some n ∧ 9 ≠ n) :=
  ⟨by decide +kernel, by decide +kernel, by decide +kernel, by decide +kernel, by decide +kernel, by decide +kernel, by decide +kernel, by decide +kernel, ⟨8, rfl, by decide +kernel⟩⟩
example : asyncShardPD exCfg true [4, 4] [2, 2] 2 exFill (some 8) exInner.partialDecoder (storeHandle (some exBadValue))
      [⟨[0, 0], [1, 1]⟩, ⟨[2, 0], [1, 1]⟩] = none ∧
    shardPD exCfg true [4, 4] [2, 2] 2 exFill (some 8) exInner.partialDecoder (storeHandle (some exBadValue))
      [⟨[0, 0], [1, 1]⟩, ⟨[2, 0], [1, 1]⟩] = none := by decide +kernel
example : asyncShardPD exCfg true [4, 4] [2, 2] 2 exFill (some 8) exInner.partialDecoder (storeHandle (some exBadValue))
      [⟨[0, 0], [1, 1]⟩, ⟨[2, 2], [2, 2]⟩] = some [[[0, 100]], [[10, 110], [11, 111], [14, 114], [15, 115]]] ∧
    shardPD exCfg true [4, 4] [2, 2] 2 exFill (some 8) exInner.partialDecoder (storeHandle (some exBadValue))
      [⟨[0, 0], [1, 1]⟩, ⟨[2, 2], [2, 2]⟩] = some [[[0, 100]], [[10, 110], [11, 111], [14, 114], [15, 115]]] := by decide +kernel

/-- **the seeded "validation dropped" variant is refuted**: without `validate_inner_chunk_size` (`fixed := none`,
`asyncDecodeStoredNoCheck`) the async decoder answers the request above with the first bytes of the 9-byte interval,
where the real decoder (and the sync one) errs -/
theorem validation_dropped_returns_data :
    asyncShardPD exCfg true [4, 4] [2, 2] 2 exFill none exInner.partialDecoder (storeHandle (some exBadValue))
      [⟨[2, 0], [1, 1]⟩] = some [[[8, 108]]] ∧
    asyncShardPD exCfg true [4, 4] [2, 2] 2 exFill (exInner.fixedSize [] [2, 2]) exInner.partialDecoder
      (storeHandle (some exBadValue)) [⟨[2, 0], [1, 1]⟩] = none ∧
    shardPD exCfg true [4, 4] [2, 2] 2 exFill (exInner.fixedSize [] [2, 2]) exInner.partialDecoder
      (storeHandle (some exBadValue)) [⟨[2, 0], [1, 1]⟩] = none := by decide +kernel

example : ∀ fill ish ipd h r q, asyncDecodeStoredNoCheck fill ish ipd h r q = asyncDecodeStored none fill ish ipd h r q :=
  fun _ _ _ _ _ _ => rfl

example :
    asyncShardPD exCfg true [4, 4] [2, 2] 2 exFill (exInner.fixedSize [] [2, 2]) exInner.partialDecoder
      (storeHandle (some exBadValue)) [⟨[2, 0], [1, 1]⟩] = none ∧
    shardPD exCfg true [4, 4] [2, 2] 2 exFill (exInner.fixedSize [] [2, 2]) exInner.partialDecoder
      (storeHandle (some exBadValue)) [⟨[2, 0], [1, 1]⟩] = none :=
  asyncShardPD_error_agrees_on_entries exCfg true [4, 4] [2, 2] 2 exFill (exInner.fixedSize [] [2, 2])
    exInner.partialDecoder (storeHandle (some exBadValue)) exBadValue exBadEntries (by decide +kernel) (by decide +kernel)
    [⟨[2, 0], [1, 1]⟩] ⟨[2, 0], [1, 1]⟩ (List.mem_singleton.mpr rfl) (by decide) (by decide) [2, 0] (by decide) 72 9
    (by decide) (by decide) (Or.inl ⟨8, by decide, by decide⟩)
/-- the seeded variant cannot be put through that theorem (its `fixed` is `none`: case (1) has no witness); on the
LEGAL value the test it drops changes nothing -/
example : ¬ ∃ n, (none : Option Nat) = some n ∧ 9 ≠ n := fun ⟨_, h, _⟩ => by cases h
example : asyncShardPD exCfg true [4, 4] [2, 2] 2 exFill none exInner.partialDecoder (storeHandle (some exValue)) exRegions =
    asyncShardPD exCfg true [4, 4] [2, 2] 2 exFill (exInner.fixedSize [] [2, 2]) exInner.partialDecoder
      (storeHandle (some exValue)) exRegions := by decide +kernel

private def exTruncated : Bytes := exValue.take (exValue.length - 1)

/-- **on a truncated shard the two decoders differ**: for the region [2,2]+[1,1] (the first element of inner chunk
(1,1)) the sync decoder reads bytes 80..82 and answers; the async decoder asks for the whole inner chunk (bytes
80..88 of an 87-byte value) and errs.  For a region needing the missing byte both err; regions not touching the
chunk are answered by both.  No history of the API produces such a value (`Shard.Legal` fails: the full decoder
rejects it). -/
theorem async_sync_differ_on_truncated :
    exTruncated.length = 87 ∧
    shardIndexPD exCfg true [4, 4] [2, 2] (storeHandle (some exTruncated)) = some (some exEntries) ∧
    shardPD exCfg true [4, 4] [2, 2] 2 exFill (some 8) exInner.partialDecoder (storeHandle (some exTruncated))
      [⟨[2, 2], [1, 1]⟩] = some [[[10, 110]]] ∧
    asyncShardPD exCfg true [4, 4] [2, 2] 2 exFill (some 8) exInner.partialDecoder (storeHandle (some exTruncated))
      [⟨[2, 2], [1, 1]⟩] = none ∧
    shardPD exCfg true [4, 4] [2, 2] 2 exFill (some 8) exInner.partialDecoder (storeHandle (some exTruncated))
      [⟨[3, 3], [1, 1]⟩] = none ∧
    asyncShardPD exCfg true [4, 4] [2, 2] 2 exFill (some 8) exInner.partialDecoder (storeHandle (some exTruncated))
      [⟨[3, 3], [1, 1]⟩] = none ∧
    asyncShardPD exCfg true [4, 4] [2, 2] 2 exFill (some 8) exInner.partialDecoder (storeHandle (some exTruncated))
      [⟨[0, 0], [4, 2]⟩] =
    shardPD exCfg true [4, 4] [2, 2] 2 exFill (some 8) exInner.partialDecoder (storeHandle (some exTruncated))
      [⟨[0, 0], [4, 2]⟩] ∧
    (Shard.decode exCfg true exTruncated).isOk = false := by decide +kernel

/-- **C17 for the async decoder: the views it writes for a region tile that region's buffer exactly once** — stored
inner chunks (written first, each through the view of the overlap its own future returned) and not-stored ones
(filled afterwards) together: whenever the writes exist (whatever the index entries, the inner chain and the handle), for every
well-formed region of the right rank (in particular every in-bounds region of a shard that the inner shape tiles),
the byte ranges of the written views cover `[0, numElements * es)` with every byte once.  Hence the uninitialised
buffer (`Vec::with_capacity` + `set_len`) is never observed. -/
theorem asyncShardPD_tiles (fixed : Option Nat) (es : Nat) (fill : Elem) (inner cps : Shape)
    (entries : List (Nat × Nat)) (innerPD : Shape → Elem → BHandle → AHandle) (h : BHandle) (r : Subset)
    (hr : r.wf = true) (hpos : ∀ k ∈ inner, 0 < k) (hrank : inner.length = r.rank) (ws : List ViewWrite)
    (hws : asyncWrites fixed es fill inner cps entries innerPD h r = some ws) :
    Zarrs.tiles (r.numElements * es) ((asyncViews ws).flatMap (fun v => v.byteRanges r.shape es)) = true := by
  rw [tiles_iff_perm]
  have hp := asyncViews_perm fixed es fill inner cps entries innerPD h r ws hws
  refine List.Perm.trans ?_ (shardPDViews_perm inner r hr hpos hrank es)
  simp only [rangeBytes]
  exact List.Perm.flatMap_right _ (List.Perm.flatMap_right _ hp)

example : (Subset.mk [0, 0] [4, 4]).wf = true ∧ (∀ k ∈ [2, 2], 0 < k) ∧ [2, 2].length = (Subset.mk [0, 0] [4, 4]).rank ∧
    (asyncWrites (some 8) 2 exFill [2, 2] [2, 2] exEntries exInner.partialDecoder (storeHandle (some exValue))
      ⟨[0, 0], [4, 4]⟩).map asyncViews =
      some [⟨[0, 0], [2, 2]⟩, ⟨[2, 0], [2, 2]⟩, ⟨[2, 2], [2, 2]⟩, ⟨[0, 2], [2, 2]⟩] ∧
    Zarrs.tiles 32 (([⟨[0, 0], [2, 2]⟩, ⟨[2, 0], [2, 2]⟩, ⟨[2, 2], [2, 2]⟩, ⟨[0, 2], [2, 2]⟩] : List Subset).flatMap
      (fun v => v.byteRanges [4, 4] 2)) = true := by decide +kernel

/-- **the seeded mispairing is refuted**: zipping `results` (stored items only) with the unfiltered `chunk_info`
writes result `k` through the view of item `k`; with the not-stored inner chunk (0,1) before the stored (1,0), (1,1):
the view of (0,1) is written twice (decoded bytes of (1,0), then fill), the view of (1,1) never — its bytes of the
uninitialised buffer are returned — and the views no longer tile -/
theorem mispairing_breaks_tiling :
    (asyncWritesMispaired (some 8) exFill [2, 2] [2, 2] exEntries exInner.partialDecoder (storeHandle (some exValue))
      ⟨[0, 0], [4, 4]⟩).map asyncViews =
      some [⟨[0, 0], [2, 2]⟩, ⟨[0, 2], [2, 2]⟩, ⟨[2, 0], [2, 2]⟩, ⟨[0, 2], [2, 2]⟩] ∧
    Zarrs.tiles 32 (([⟨[0, 0], [2, 2]⟩, ⟨[0, 2], [2, 2]⟩, ⟨[2, 0], [2, 2]⟩, ⟨[0, 2], [2, 2]⟩] : List Subset).flatMap
      (fun v => v.byteRanges [4, 4] 2)) = false ∧
    ([⟨[0, 0], [2, 2]⟩, ⟨[0, 2], [2, 2]⟩, ⟨[2, 0], [2, 2]⟩, ⟨[0, 2], [2, 2]⟩] : List Subset).count ⟨[0, 2], [2, 2]⟩ = 2 ∧
    ([⟨[0, 0], [2, 2]⟩, ⟨[0, 2], [2, 2]⟩, ⟨[2, 0], [2, 2]⟩, ⟨[0, 2], [2, 2]⟩] : List Subset).count ⟨[2, 2], [2, 2]⟩ = 0 ∧
    -- the assembled region differs from the shard (the junk shows through, (1,0)'s data sits in (1,1)'s place … )
    (asyncWritesMispaired (some 8) exFill [2, 2] [2, 2] exEntries exInner.partialDecoder (storeHandle (some exValue))
      ⟨[0, 0], [4, 4]⟩).map (fun ws => applyViewWrites [4, 4] ws (List.replicate 16 [0, 0])) ≠ some exShard := by
  decide +kernel

example : ∀ ws, asyncWrites (some 8) 2 exFill [2, 2] [2, 2] exEntries exInner.partialDecoder
      (storeHandle (some exValue)) ⟨[0, 0], [4, 4]⟩ = some ws →
    Zarrs.tiles ((Subset.mk [0, 0] [4, 4]).numElements * 2)
      ((asyncViews ws).flatMap (fun v => v.byteRanges (Subset.mk [0, 0] [4, 4]).shape 2)) = true :=
  fun ws hws => asyncShardPD_tiles (some 8) 2 exFill [2, 2] [2, 2] exEntries exInner.partialDecoder
    (storeHandle (some exValue)) ⟨[0, 0], [4, 4]⟩ (by decide) (by decide) (by decide) ws hws
/-- the assembled region is the shard whatever the uninitialised buffer held (two different initial buffers) -/
example :
    (asyncWrites (some 8) 2 exFill [2, 2] [2, 2] exEntries exInner.partialDecoder (storeHandle (some exValue))
      ⟨[0, 0], [4, 4]⟩).isSome = true ∧
    ((asyncWrites (some 8) 2 exFill [2, 2] [2, 2] exEntries exInner.partialDecoder (storeHandle (some exValue))
      ⟨[0, 0], [4, 4]⟩).map (fun ws => ((asyncViews ws).count ⟨[0, 2], [2, 2]⟩, (asyncViews ws).count ⟨[2, 2], [2, 2]⟩))) =
      some (1, 1) ∧
    (asyncWrites (some 8) 2 exFill [2, 2] [2, 2] exEntries exInner.partialDecoder (storeHandle (some exValue))
      ⟨[0, 0], [4, 4]⟩).map (fun ws => applyViewWrites [4, 4] ws (List.replicate 16 [0, 0])) = some exShard ∧
    asyncShardRegionFrom (List.replicate 16 [0, 0]) (some 8) 2 exFill [2, 2] [2, 2] exEntries exInner.partialDecoder
      (storeHandle (some exValue)) ⟨[0, 0], [4, 4]⟩ = some exShard ∧
    asyncShardRegionFrom ((List.range 16).map (fun i => [200 + i, 99])) (some 8) 2 exFill [2, 2] [2, 2] exEntries
      exInner.partialDecoder (storeHandle (some exValue)) ⟨[0, 0], [4, 4]⟩ = some exShard := by decide +kernel

/-- **C02 for the ASYNC partial decoder of chains with sharding codecs** (the twin of
`C02S.chainS_partial_eq_full_slice`, same hypotheses): array-to-array stages, then `sharding_indexed` whose inner chain
is again such a chain (or a `bytes` chain), then bytes-to-bytes stages, every sharding level decoded by
`AsyncShardingPartialDecoder` over the async decoder of its inner chain (`ChainS.asyncPartialDecoder`); on ANY handle
serving the chain's encoding of the chunk `xs`, the chain's async partial decoder answers every in-bounds list of
regions with exactly the regions of `xs`.  Any nesting depth. -/
theorem chainS_async_partial_eq_full_slice (c : ChainS) (sh : Shape) (fill : Elem) (xs : List Elem)
    (hok : C02S.chainSOk c sh fill) (hx : chunkOk c.es sh xs) (hfits : c.fits sh fill xs)
    (g : BHandle) (hg : BHandleOk g (c.encode sh fill xs)) :
    AHandleOk (c.asyncPartialDecoder sh fill g) sh xs :=
  stores_async_pd c sh fill _ xs hok.lawful hx.1 hx.2
    (stores_encode c sh fill xs hok.lawful hx.1 hx.2 hfits) g hg

/-- … and an absent value reads as fill through the async decoder of such a chain -/
theorem chainS_async_partial_absent (c : ChainS) (sh : Shape) (fill : Elem) (hok : C02S.chainSOk c sh fill)
    (g : BHandle) (hg : BHandleAbsent g) :
    AHandleOk (c.asyncPartialDecoder sh fill g) sh (List.replicate (prod sh) fill) :=
  chainS_async_absent c sh fill hok.lawful g hg

/-- **the async decoder of a (nested) chain agrees with the sync decoder** on every handle serving an encoding of the
chain, for every in-bounds region list: both return the regions of the chunk -/
theorem chainS_async_eq_sync (c : ChainS) (sh : Shape) (fill : Elem) (xs : List Elem)
    (hok : C02S.chainSOk c sh fill) (hx : chunkOk c.es sh xs) (hfits : c.fits sh fill xs)
    (g : BHandle) (hg : BHandleOk g (c.encode sh fill xs))
    (rs : List Subset) (hrs : ∀ r ∈ rs, r.wf = true ∧ r.inboundsShape sh = true) :
    c.asyncPartialDecoder sh fill g rs = c.partialDecoder sh fill g rs ∧
    c.partialDecoder sh fill g rs = some (rs.map (fun r => r.extract sh xs)) := by
  have hs := C02S.chainS_partial_eq_full_slice c sh fill xs hok hx hfits g hg rs hrs
  have ha := chainS_async_partial_eq_full_slice c sh fill xs hok hx hfits g hg rs hrs
  exact ⟨ha.trans hs.symm, hs⟩

/-- … and on an absent value (both: fill) -/
theorem chainS_async_eq_sync_absent (c : ChainS) (sh : Shape) (fill : Elem) (hok : C02S.chainSOk c sh fill)
    (g : BHandle) (hg : BHandleAbsent g)
    (rs : List Subset) (hrs : ∀ r ∈ rs, r.wf = true ∧ r.inboundsShape sh = true) :
    c.asyncPartialDecoder sh fill g rs = c.partialDecoder sh fill g rs ∧
    c.partialDecoder sh fill g rs = some (rs.map (fun r => r.extract sh (List.replicate (prod sh) fill))) := by
  have hs := C02S.chainS_partial_absent c sh fill hok g hg rs hrs
  have ha := chainS_async_partial_absent c sh fill hok g hg rs hrs
  exact ⟨ha.trans hs.symm, hs⟩

/-- the nested chain of `C02Shard.lean`.  In `exShard` the block rows 0-1 × columns 2-3 is all fill: after the transpose a
whole 2×2 inner shard is NOT stored at the outer level, and the async decoder of the outer level runs the async decoder
of the inner level on the three stored ones. -/
private def exLeaf : Chain := { a2a := [.transpose [1, 0]], big := true, es := 2, unit := 2, b2b := [.stripSuffix 4 crc32c] }
private def exNested : ChainS :=
  .shard [.transpose [1, 0]] ⟨0, false, true, false⟩ [2, 2] 2
    (.shard [] ⟨0, true, false, true⟩ [1, 2] 2 (.leaf exLeaf []) []) [.stripSuffix 4 crc32c]

private theorem exNested_ok : C02S.chainSOk exNested [4, 4] exFill := by
  refine ⟨⟨by decide, trivial⟩, by decide, ?_, by decide, rfl, ⟨trivial, by decide, ?_, by decide, rfl,
    ⟨by decide, by decide, by decide, ⟨by decide, trivial⟩, ?_, ⟨trivial, trivial⟩⟩⟩⟩
  · intro st hst
    simp only [List.mem_singleton] at hst
    subst hst; rfl
  · intro st hst
    cases hst
  · intro st hst
    simp only [exLeaf, List.mem_singleton] at hst
    subst hst; rfl

private theorem exNested_fits : exNested.fits [4, 4] exFill exShard := by
  simp only [exNested, ChainS.fits]
  decide +kernel

example : C02S.chainSOk exNested [4, 4] exFill ∧ chunkOk exNested.es [4, 4] exShard ∧ exNested.fits [4, 4] exFill exShard ∧
    BHandleOk (storeHandle (some (exNested.encode [4, 4] exFill exShard))) (exNested.encode [4, 4] exFill exShard) ∧
    (∀ r ∈ exRegions, r.wf = true ∧ r.inboundsShape [4, 4] = true) :=
  ⟨exNested_ok, ⟨by decide, by decide⟩, exNested_fits, storeHandle_some_ok _, by decide⟩

example : AHandleOk (exNested.asyncPartialDecoder [4, 4] exFill (storeHandle (some (exNested.encode [4, 4] exFill exShard))))
    [4, 4] exShard :=
  chainS_async_partial_eq_full_slice exNested [4, 4] exFill exShard exNested_ok ⟨by decide, by decide⟩ exNested_fits _
    (storeHandle_some_ok _)
example :
    exNested.asyncPartialDecoder [4, 4] exFill (storeHandle (some (exNested.encode [4, 4] exFill exShard))) exRegions =
      exNested.partialDecoder [4, 4] exFill (storeHandle (some (exNested.encode [4, 4] exFill exShard))) exRegions ∧
    exNested.partialDecoder [4, 4] exFill (storeHandle (some (exNested.encode [4, 4] exFill exShard))) exRegions =
      some (exRegions.map (fun r => r.extract [4, 4] exShard)) :=
  chainS_async_eq_sync exNested [4, 4] exFill exShard exNested_ok ⟨by decide, by decide⟩ exNested_fits _
    (storeHandle_some_ok _) exRegions (by decide)

example : (exNested.encode [4, 4] exFill exShard).length = 224 := by decide +kernel
example : exNested.asyncPartialDecoder [4, 4] exFill (storeHandle (some (exNested.encode [4, 4] exFill exShard))) exRegions =
    some (exRegions.map (fun r => r.extract [4, 4] exShard)) :=
  chainS_async_partial_eq_full_slice exNested [4, 4] exFill exShard exNested_ok ⟨by decide, by decide⟩ exNested_fits _
    (storeHandle_some_ok _) exRegions (by decide)
example : exRegions.map (fun r => r.extract [4, 4] exShard) =
    [[[5, 105], [7, 7], [9, 109], [10, 110]],
     [[1, 101], [7, 7], [5, 105], [7, 7], [9, 109], [10, 110], [13, 113], [14, 114]], [],
     exShard] := by decide +kernel

example : C02S.chainSOk exNested [4, 4] exFill ∧ BHandleAbsent (storeHandle none) := ⟨exNested_ok, storeHandle_none_absent⟩
example : exNested.asyncPartialDecoder [4, 4] exFill (storeHandle none) exRegions =
      exNested.partialDecoder [4, 4] exFill (storeHandle none) exRegions ∧
    exNested.partialDecoder [4, 4] exFill (storeHandle none) exRegions =
      some (exRegions.map (fun r => r.extract [4, 4] (List.replicate (prod [4, 4]) exFill))) :=
  chainS_async_eq_sync_absent exNested [4, 4] exFill exNested_ok _ storeHandle_none_absent exRegions (by decide)
example : exNested.asyncPartialDecoder [4, 4] exFill (storeHandle none) exRegions =
    some [List.replicate 4 [7, 7], List.replicate 8 [7, 7], [], List.replicate 16 [7, 7]] := by decide +kernel

end Zarrs.C07S
