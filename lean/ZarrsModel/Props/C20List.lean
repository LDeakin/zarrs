import ZarrsModel.Props.C20Ops
/-
C20 for the hierarchy LISTINGS: `get_child_nodes`, `Group::children` / `child_paths` / `child_group_paths` /
`child_array_paths` / `child_groups` / `child_arrays`, `Node::open` (with children), `node_exists`,
`node_exists_listable` as programs of store operations (`Model/FaultList.lean`).

Without faults the programs are the functions of `Model/Hier.lean` (`flist_refines`); a fault at any operation of the
run is an error (`fault_at_k_is_error_list`, `fault_in_set_is_error_list`) and a listing that succeeds under any failing
set is the fault-free listing (`listing_complete`); the programs are read-only (`list_fault_no_effect`).  The seeded
`let Ok(m) = .. else { continue }` succeeds with a child missing (`swallowed_child_error_counterexample`).

In the example reader `exR` a `zarr.json` holding `[9]` is a group, `[1]` an array.
-/
namespace Zarrs.C20List
open Zarrs Zarrs.Hier Zarrs.FaultList

def exR : Reader := ⟨fun b => if b == [9] then some true else if b == [1] then some false else none,
  fun _ => true, fun _ => true, fun _ => true⟩
def exH : KV := [("h/a/zarr.json".toList, [1]), ("h/g/c/zarr.json".toList, [1]), ("h/g/zarr.json".toList, [9]),
  ("h/v2/.zgroup".toList, [2]), ("h/zarr.json".toList, [9])]
def exPre : Key := "h/".toList
def exTrees : List Tree :=
  [.mk "h/a/".toList .array3 [], .mk "h/g/".toList .group3 [.mk "h/g/c/".toList .array3 []], .mk "h/v2/".toList .group2 []]

/- The keys are strings, and comparing two of them costs the kernel more than anything else in this file does.  So the
fault-free runs are evaluated here, together; the programs are read-only, hence (`Prog.readOnly_run_eq`) every other run
of the examples below follows from these and the theorems of this file. -/

theorem exH_eval : depthBound exH = 16 ∧
    (getChildNodesP exR true 16 exPre).run ⟨exH, 0, []⟩ = .ok exTrees ⟨exH, 10, []⟩ ∧
    (getChildNodesP exR false 16 exPre).run ⟨exH, 0, []⟩ =
      .ok [.mk "h/a/".toList .array3 [], .mk "h/g/".toList .group3 [], .mk "h/v2/".toList .group2 []] ⟨exH, 7, []⟩ ∧
    (getMetadataP exR exPre).run ⟨exH, 0, []⟩ = .ok (.node .group3) ⟨exH, 1, []⟩ ∧
    ((nodeExistsP exPre).run ⟨exH, 0, []⟩) = .ok true ⟨exH, 1, []⟩ ∧
    ((nodeExistsP "h/v2/".toList).run ⟨exH, 0, []⟩) = .ok true ⟨exH, 3, []⟩ ∧
    ((nodeExistsP "h/x/".toList).run ⟨exH, 0, []⟩) = .ok false ⟨exH, 3, []⟩ ∧
    ((nodeExistsListableP "h/v2/".toList).run ⟨exH, 0, []⟩) = .ok true ⟨exH, 1, []⟩ ∧
    ((nodeExistsListableP "h/x/".toList).run ⟨exH, 0, []⟩) = .ok false ⟨exH, 1, []⟩ := by decide +kernel

theorem exRec_eval : (getChildNodesP exR true 16 exPre).pure exH = some (exTrees, exH) ∧
    (getChildNodesP exR true 16 exPre).ops exH = 10 := Prog.run_nofault_ok _ _ _ _ _ exH_eval.2.1

theorem exOpen_eval : (openNodeTreeP exR 16 exPre).pure exH = some (.mk exPre .group3 exTrees, exH) ∧
    (openNodeTreeP exR 16 exPre).ops exH = 11 := by
  have exMeta_eval := Prog.run_nofault_ok _ _ _ _ _ exH_eval.2.2.2.1
  constructor
  · rw [openNodeTreeP, Prog.pure_bind_some _ _ _ _ _ exMeta_eval.1]
    simp only [Kind.isGroup, ↓reduceIte]
    rw [Prog.pure_bind_some _ _ _ _ _ exRec_eval.1]
    rfl
  · rw [openNodeTreeP, Prog.ops_bind_some _ _ _ _ _ _ exMeta_eval.1 exMeta_eval.2]
    simp only [Kind.isGroup, ↓reduceIte]
    rw [Prog.ops_bind_some _ _ _ _ _ _ exRec_eval.1 exRec_eval.2]
    rfl

theorem exRec_run (n : Nat) (F : List Nat) : (getChildNodesP exR true 16 exPre).run ⟨exH, n, F⟩ =
    match firstFail F n 10 with
    | some j => .err ⟨exH, n + j + 1, F⟩
    | none => .ok exTrees ⟨exH, n + 10, F⟩ :=
  Prog.readOnly_run_eq _ (getChildNodesP_readOnly exR true 16 exPre) exH (some _) _ exRec_eval.1 exRec_eval.2 n F

private theorem exMapped_val {γ} (rec : Bool) (ts : List Tree) (g : List Tree → Prog γ) (res : Option γ)
    (hts : (getChildNodesP exR rec 16 exPre).pure exH = some (ts, exH))
    (hg : (g ts).pure exH = res.map (fun v => (v, exH))) :
    (((FaultList.childrenP exR rec 16 exPre).bind g).run ⟨exH, 0, []⟩).val? = res := by
  apply Prog.run_nofault_val
  rw [FaultList.childrenP, Prog.pure_bind_some _ _ _ _ _ hts]
  exact hg

/-- with no fault each listing program returns what the function of the fault-free hierarchy model
returns — the trees of `Hier.childNodes` (children with their kinds, paths and nesting) for `get_child_nodes` /
`Group::children`, what the code derives from them for the `child_*` methods, `Hier.openNode` for `Node::open`,
`Hier.nodeExists` for both `node_exists` — and `None` exactly where the model has an error: the program IS the method -/
theorem flist_refines (r : Reader) (arrOk : Key → Bool) (m : KV) (n : Nat) (rec : Bool) (pre : Key) :
    ((getChildNodesP r rec (depthBound m) pre).run ⟨m, n, []⟩).val? = childNodes r m rec (depthBound m) pre ∧
    (((FaultList.childrenP r rec (depthBound m) pre).run ⟨m, n, []⟩).val?.map flattenList) = children r m rec pre ∧
    ((childPathsP r rec (depthBound m) pre).run ⟨m, n, []⟩).val? = childPaths r m rec pre ∧
    ((childGroupPathsP r rec (depthBound m) pre).run ⟨m, n, []⟩).val? = childGroupPaths r m rec pre ∧
    ((childArrayPathsP r rec (depthBound m) pre).run ⟨m, n, []⟩).val? = childArrayPaths r m rec pre ∧
    ((childGroupsP r rec (depthBound m) pre).run ⟨m, n, []⟩).val? = childGroups r m rec pre ∧
    ((childArraysP r arrOk rec (depthBound m) pre).run ⟨m, n, []⟩).val? = childArrays r arrOk m rec pre ∧
    ((openNodeTreeP r (depthBound m) pre).run ⟨m, n, []⟩).val? = openNodeTree r m pre ∧
    (((openNodeTreeP r (depthBound m) pre).run ⟨m, n, []⟩).val?.map Tree.flatten) = openNode r m pre ∧
    ((nodeExistsP pre).run ⟨m, n, []⟩).val? = some (nodeExists m pre) ∧
    ((nodeExistsListableP pre).run ⟨m, n, []⟩).val? = some (nodeExists m pre) := by
  have hc := Prog.run_nofault_val _ m n _ (getChildNodesP_pure r m rec (depthBound m) pre)
  have ho := Prog.run_nofault_val _ m n _ (openNodeTreeP_pure r m pre)
  refine ⟨hc, ?_, Prog.run_nofault_val _ m n _ (childPathsP_pure r m rec pre),
    Prog.run_nofault_val _ m n _ (childGroupPathsP_pure r m rec pre),
    Prog.run_nofault_val _ m n _ (childArrayPathsP_pure r m rec pre),
    Prog.run_nofault_val _ m n _ (childGroupsP_pure r m rec pre),
    Prog.run_nofault_val _ m n _ (childArraysP_pure r arrOk m rec pre), ho, ?_,
    Prog.run_nofault_val _ m n (some _) (nodeExistsP_pure m pre), ?_⟩
  · rw [FaultList.childrenP, hc]; rfl
  · rw [ho, openNodeTree_flatten]
  · rw [LProg.run_toProg]
    exact Prog.run_nofault_val _ m n (some _) ((LProg.pure_toProg _ m).symm.trans (nodeExistsListableP_pure m pre))
example : depthBound exH = 16 ∧
    (getChildNodesP exR true 16 exPre).run ⟨exH, 0, []⟩ = .ok exTrees ⟨exH, 10, []⟩ ∧
    (getChildNodesP exR false 16 exPre).run ⟨exH, 0, []⟩ =
      .ok [.mk "h/a/".toList .array3 [], .mk "h/g/".toList .group3 [], .mk "h/v2/".toList .group2 []] ⟨exH, 7, []⟩ ∧
    ((childPathsP exR true 16 exPre).run ⟨exH, 0, []⟩).val? = some ["h/a/".toList, "h/g/".toList, "h/v2/".toList] ∧
    ((childGroupPathsP exR false 16 exPre).run ⟨exH, 0, []⟩).val? = some ["h/g/".toList, "h/v2/".toList] ∧
    ((childArraysP exR (fun _ => true) false 16 exPre).run ⟨exH, 0, []⟩).val? = some [("h/a/".toList, .array3)] ∧
    ((childArraysP exR (fun _ => false) false 16 exPre).run ⟨exH, 0, []⟩).val? = none ∧
    ((openNodeTreeP exR 16 exPre).run ⟨exH, 0, []⟩).val? = some (.mk exPre .group3 exTrees) ∧
    ((nodeExistsP exPre).run ⟨exH, 0, []⟩) = .ok true ⟨exH, 1, []⟩ ∧
    ((nodeExistsP "h/v2/".toList).run ⟨exH, 0, []⟩) = .ok true ⟨exH, 3, []⟩ ∧
    ((nodeExistsP "h/x/".toList).run ⟨exH, 0, []⟩) = .ok false ⟨exH, 3, []⟩ ∧
    ((nodeExistsListableP "h/v2/".toList).run ⟨exH, 0, []⟩) = .ok true ⟨exH, 1, []⟩ ∧
    ((nodeExistsListableP "h/x/".toList).run ⟨exH, 0, []⟩) = .ok false ⟨exH, 1, []⟩ :=
  have exFlat_eval := Prog.run_nofault_ok _ _ _ _ _ exH_eval.2.2.1
  ⟨exH_eval.1, exH_eval.2.1, exH_eval.2.2.1,
   exMapped_val true _ _ (some _) exRec_eval.1 rfl, exMapped_val false _ _ (some _) exFlat_eval.1 rfl,
   exMapped_val false _ _ (some _) exFlat_eval.1 rfl, exMapped_val false _ _ none exFlat_eval.1 rfl,
   Prog.run_nofault_val _ exH 0 (some _) exOpen_eval.1, exH_eval.2.2.2.2⟩

/-- the fault-free hierarchy model on the example (`Hier.childNodes` is defined by well-founded recursion and does not
evaluate in the kernel: read off through `flist_refines`) -/
theorem exH_childNodes : childNodes exR exH true (depthBound exH) exPre = some exTrees := by
  rw [← (flist_refines exR (fun _ => true) exH 0 true exPre).1, exH_eval.1, exRec_run]
  rfl

example : (getChildNodesP exR true 16 exPre).trace exH =
    [('l', "h/".toList), ('g', "h/a/zarr.json".toList), ('g', "h/g/zarr.json".toList), ('l', "h/g/".toList),
     ('g', "h/g/c/zarr.json".toList), ('g', "h/v2/zarr.json".toList), ('g', "h/v2/.zarray".toList),
     ('g', "h/v2/.zgroup".toList), ('g', "h/v2/.zattrs".toList), ('l', "h/v2/".toList)] := by decide +kernel

private theorem readOnly_fault_at_k {β} (p : Prog β) (hp : p.readOnly) (m : KV) (k : Nat) (h1 : 1 ≤ k) (h2 : k ≤ p.ops m) :
    p.run (FStore.failAt m (some k)) = .err ⟨m, k, [k]⟩ := by
  rw [C20Ops.fault_at_k_is_error p m k h1 h2, Prog.readOnly_mAfter p hp]

/-- for every `k` from 1 to the number of operations of the fault-free run, failing the
`k`-th store operation makes EVERY listing method return an error (never a shorter listing), after exactly `k`
operations and with the store as it was.  (Instances of the generic `C20Ops.fault_at_k_is_error` over `Prog`, stated per
method; `node_exists_listable` is its one `list_prefix`.) -/
theorem fault_at_k_is_error_list (r : Reader) (arrOk : Key → Bool) (m : KV) (rec : Bool) (fuel : Nat) (pre : Key)
    (k : Nat) (h1 : 1 ≤ k) :
    (k ≤ (getChildNodesP r rec fuel pre).ops m →
      (getChildNodesP r rec fuel pre).run (FStore.failAt m (some k)) = .err ⟨m, k, [k]⟩) ∧
    (k ≤ (FaultList.childrenP r rec fuel pre).ops m →
      (FaultList.childrenP r rec fuel pre).run (FStore.failAt m (some k)) = .err ⟨m, k, [k]⟩) ∧
    (k ≤ (childPathsP r rec fuel pre).ops m →
      (childPathsP r rec fuel pre).run (FStore.failAt m (some k)) = .err ⟨m, k, [k]⟩) ∧
    (k ≤ (childGroupPathsP r rec fuel pre).ops m →
      (childGroupPathsP r rec fuel pre).run (FStore.failAt m (some k)) = .err ⟨m, k, [k]⟩) ∧
    (k ≤ (childArrayPathsP r rec fuel pre).ops m →
      (childArrayPathsP r rec fuel pre).run (FStore.failAt m (some k)) = .err ⟨m, k, [k]⟩) ∧
    (k ≤ (childGroupsP r rec fuel pre).ops m →
      (childGroupsP r rec fuel pre).run (FStore.failAt m (some k)) = .err ⟨m, k, [k]⟩) ∧
    (k ≤ (childArraysP r arrOk rec fuel pre).ops m →
      (childArraysP r arrOk rec fuel pre).run (FStore.failAt m (some k)) = .err ⟨m, k, [k]⟩) ∧
    (k ≤ (openNodeTreeP r fuel pre).ops m →
      (openNodeTreeP r fuel pre).run (FStore.failAt m (some k)) = .err ⟨m, k, [k]⟩) ∧
    (k ≤ (nodeExistsP pre).ops m →
      (nodeExistsP pre).run (FStore.failAt m (some k)) = .err ⟨m, k, [k]⟩) ∧
    (k ≤ (nodeExistsListableP pre).ops m →
      (nodeExistsListableP pre).run (FStore.failAt m (some k)) = .err ⟨m, k, [k]⟩) :=
  have key {β} (p : Prog β) (hp : p.readOnly) := readOnly_fault_at_k p hp m k h1
  ⟨key _ (getChildNodesP_readOnly r rec fuel pre), key _ (getChildNodesP_readOnly r rec fuel pre),
   key _ (childPathsP_readOnly r rec fuel pre), key _ (childGroupPathsP_readOnly r rec fuel pre),
   key _ (childArrayPathsP_readOnly r rec fuel pre), key _ (childGroupsP_readOnly r rec fuel pre),
   key _ (childArraysP_readOnly r arrOk rec fuel pre), key _ (openNodeTreeP_readOnly r fuel pre),
   key _ (nodeExistsP_readOnly pre),
   fun h2 => by
     rw [nodeExistsListableP_ops] at h2
     rw [show k = 1 by omega]
     rfl⟩
/-- last conjunct: the bound `k ≤ ops` is sharp, a fault at position 11 is outside the run -/
example : (getChildNodesP exR true 16 exPre).ops exH = 10 ∧ (openNodeTreeP exR 16 exPre).ops exH = 11 ∧
    (childPathsP exR false 16 exPre).ops exH = 7 ∧
    (∀ k ∈ List.range' 1 10, (getChildNodesP exR true 16 exPre).run (FStore.failAt exH (some k)) = .err ⟨exH, k, [k]⟩) ∧
    (∀ k ∈ List.range' 1 11, (openNodeTreeP exR 16 exPre).run (FStore.failAt exH (some k)) = .err ⟨exH, k, [k]⟩) ∧
    (∀ k ∈ List.range' 1 7, (childPathsP exR false 16 exPre).run (FStore.failAt exH (some k)) = .err ⟨exH, k, [k]⟩) ∧
    ((getChildNodesP exR true 16 exPre).run (FStore.failAt exH (some 11))).isOk = true := by
  have exFlat_eval := Prog.run_nofault_ok _ _ _ _ _ exH_eval.2.2.1
  have hp : (childPathsP exR false 16 exPre).ops exH = 7 := by
    rw [childPathsP, FaultList.childrenP, Prog.ops_bind_some _ _ _ _ _ _ exFlat_eval.1 exFlat_eval.2]
    rfl
  refine ⟨exRec_eval.2, exOpen_eval.2, hp, fun k hk => ?_, fun k hk => ?_, fun k hk => ?_,
    congrArg FR.isOk (exRec_run 0 [11])⟩
  all_goals obtain ⟨h1, h2⟩ := List.mem_range'_1.1 hk
  · exact readOnly_fault_at_k _ (getChildNodesP_readOnly exR true 16 exPre) exH k h1 (by rw [exRec_eval.2]; omega)
  · exact readOnly_fault_at_k _ (openNodeTreeP_readOnly exR 16 exPre) exH k h1 (by rw [exOpen_eval.2]; omega)
  · exact readOnly_fault_at_k _ (childPathsP_readOnly exR false 16 exPre) exH k h1 (by rw [hp]; omega)

/-- **any failing SET** (and any value of the counter): if some failing ordinal lies among the operations of the
fault-free run, every listing method returns an error -/
theorem fault_in_set_is_error_list (r : Reader) (arrOk : Key → Bool) (m : KV) (rec : Bool) (fuel : Nat) (pre : Key)
    (n : Nat) (F : List Nat) (k : Nat) (hk : k ∈ F) (h1 : n < k) :
    (k ≤ n + (getChildNodesP r rec fuel pre).ops m → ((getChildNodesP r rec fuel pre).run ⟨m, n, F⟩).isOk = false) ∧
    (k ≤ n + (FaultList.childrenP r rec fuel pre).ops m → ((FaultList.childrenP r rec fuel pre).run ⟨m, n, F⟩).isOk = false) ∧
    (k ≤ n + (childPathsP r rec fuel pre).ops m → ((childPathsP r rec fuel pre).run ⟨m, n, F⟩).isOk = false) ∧
    (k ≤ n + (childGroupPathsP r rec fuel pre).ops m → ((childGroupPathsP r rec fuel pre).run ⟨m, n, F⟩).isOk = false) ∧
    (k ≤ n + (childArrayPathsP r rec fuel pre).ops m → ((childArrayPathsP r rec fuel pre).run ⟨m, n, F⟩).isOk = false) ∧
    (k ≤ n + (childGroupsP r rec fuel pre).ops m → ((childGroupsP r rec fuel pre).run ⟨m, n, F⟩).isOk = false) ∧
    (k ≤ n + (childArraysP r arrOk rec fuel pre).ops m → ((childArraysP r arrOk rec fuel pre).run ⟨m, n, F⟩).isOk = false) ∧
    (k ≤ n + (openNodeTreeP r fuel pre).ops m → ((openNodeTreeP r fuel pre).run ⟨m, n, F⟩).isOk = false) ∧
    (k ≤ n + (nodeExistsP pre).ops m → ((nodeExistsP pre).run ⟨m, n, F⟩).isOk = false) ∧
    (k ≤ n + (nodeExistsListableP pre).ops m → ((nodeExistsListableP pre).run ⟨m, n, F⟩).isOk = false) :=
  have key {β} (p : Prog β) := C20Ops.fault_at_k_is_error_gen p m n F k hk h1
  ⟨key _, key _, key _, key _, key _, key _, key _, key _, key _,
   fun h2 => by
     obtain ⟨s', h⟩ := LProg.fault_is_err (nodeExistsListableP pre) m n F k hk h1 h2
     rw [h]; rfl⟩
/-- from counter 5 the ordinal 9 is the 4th operation of the listing, the `list_dir` of `h/g/` -/
example : (getChildNodesP exR true 16 exPre).run ⟨exH, 5, [3, 9, 40]⟩ = .err ⟨exH, 9, [3, 9, 40]⟩ :=
  exRec_run 5 [3, 9, 40]

/-- a listing that SUCCEEDS under any failing set (any counter value) returns exactly what the
fault-free hierarchy model lists — the same children, kinds, paths and nesting; so "succeeded with a child missing" is
impossible, for every listing method (`m` is the store the listing ran on; by `list_fault_no_effect` it is also the
store afterwards) -/
theorem listing_complete (r : Reader) (arrOk : Key → Bool) (m : KV) (n : Nat) (F : List Nat) (rec : Bool) (pre : Key)
    (s' : FStore) :
    (∀ ts, (getChildNodesP r rec (depthBound m) pre).run ⟨m, n, F⟩ = .ok ts s' →
      childNodes r m rec (depthBound m) pre = some ts) ∧
    (∀ ts, (FaultList.childrenP r rec (depthBound m) pre).run ⟨m, n, F⟩ = .ok ts s' → children r m rec pre = some (flattenList ts)) ∧
    (∀ ps, (childPathsP r rec (depthBound m) pre).run ⟨m, n, F⟩ = .ok ps s' → childPaths r m rec pre = some ps) ∧
    (∀ ps, (childGroupPathsP r rec (depthBound m) pre).run ⟨m, n, F⟩ = .ok ps s' → childGroupPaths r m rec pre = some ps) ∧
    (∀ ps, (childArrayPathsP r rec (depthBound m) pre).run ⟨m, n, F⟩ = .ok ps s' → childArrayPaths r m rec pre = some ps) ∧
    (∀ gs, (childGroupsP r rec (depthBound m) pre).run ⟨m, n, F⟩ = .ok gs s' → childGroups r m rec pre = some gs) ∧
    (∀ as, (childArraysP r arrOk rec (depthBound m) pre).run ⟨m, n, F⟩ = .ok as s' →
      childArrays r arrOk m rec pre = some as) ∧
    (∀ t, (openNodeTreeP r (depthBound m) pre).run ⟨m, n, F⟩ = .ok t s' →
      openNodeTree r m pre = some t ∧ openNode r m pre = some t.flatten) ∧
    (∀ b, (nodeExistsP pre).run ⟨m, n, F⟩ = .ok b s' → b = nodeExists m pre) ∧
    (∀ b, (nodeExistsListableP pre).run ⟨m, n, F⟩ = .ok b s' → b = nodeExists m pre) := by
  have hc := getChildNodesP_pure r m rec (depthBound m) pre
  refine ⟨fun v h => Prog.run_ok_val _ m _ hc n F v s' h, fun v h => ?_,
    fun v h => Prog.run_ok_val _ m _ (childPathsP_pure r m rec pre) n F v s' h,
    fun v h => Prog.run_ok_val _ m _ (childGroupPathsP_pure r m rec pre) n F v s' h,
    fun v h => Prog.run_ok_val _ m _ (childArrayPathsP_pure r m rec pre) n F v s' h,
    fun v h => Prog.run_ok_val _ m _ (childGroupsP_pure r m rec pre) n F v s' h,
    fun v h => Prog.run_ok_val _ m _ (childArraysP_pure r arrOk m rec pre) n F v s' h, fun v h => ?_,
    fun v h => (Option.some.inj (Prog.run_ok_val _ m (some _) (nodeExistsP_pure m pre) n F v s' h)).symm, fun v h => ?_⟩
  · rw [children, Prog.run_ok_val _ m _ hc n F v s' h]
    rfl
  · have ht := Prog.run_ok_val _ m _ (openNodeTreeP_pure r m pre) n F v s' h
    exact ⟨ht, by rw [← openNodeTree_flatten, ht]; rfl⟩
  · have hp := (LProg.run_ok _ m n F v s' h).1
    rw [nodeExistsListableP_pure] at hp
    exact (congrArg Prod.fst (Option.some.inj hp)).symm
example : (getChildNodesP exR true (depthBound exH) exPre).run ⟨exH, 0, [11, 12]⟩ = .ok exTrees ⟨exH, 10, [11, 12]⟩ ∧
    childNodes exR exH true (depthBound exH) exPre = some exTrees := ⟨by rw [exH_eval.1]; exact exRec_run 0 [11, 12], exH_childNodes⟩

/-- **`listing_complete`, as a dichotomy**: under ANY failing set the recursive listing either fails or returns the
fault-free listing — there is no third outcome -/
theorem listing_error_or_complete (r : Reader) (m : KV) (n : Nat) (F : List Nat) (rec : Bool) (pre : Key) :
    ((getChildNodesP r rec (depthBound m) pre).run ⟨m, n, F⟩).isOk = false ∨
    ((getChildNodesP r rec (depthBound m) pre).run ⟨m, n, F⟩).val? = childNodes r m rec (depthBound m) pre := by
  cases h : (getChildNodesP r rec (depthBound m) pre).run ⟨m, n, F⟩ with
  | err s' => exact Or.inl rfl
  | ok v s' => exact Or.inr ((listing_complete r (fun _ => true) m n F rec pre s').1 v h).symm
example : ∀ k ∈ List.range' 0 13, (k = 0 ∨ k > 10) =
    (((getChildNodesP exR true 16 exPre).run ⟨exH, 0, [k]⟩).val? = some exTrees) := by
  simp only [exRec_run]
  decide +kernel

/-- **the seeded `get_child_nodes`, as a counterexample** (`let Ok(metadata) = Node::get_metadata(..) else { continue }`:
every error of a child's metadata read skips the child).  On the example hierarchy a fault at the 2nd operation — the
read of `h/a/zarr.json` — makes the seeded listing SUCCEED with the child `a` MISSING (`[g{c}, v2]`, all 10 operations
issued), where the code as it is returns an error; both `fault_at_k_is_error_list` and `listing_complete` fail for it.
A fault inside the sub-listing's metadata read (the 5th operation, `h/g/c/zarr.json`) likewise loses `c` -/
theorem swallowed_child_error_counterexample :
    getChildNodesSwallowF exR true 16 exPre (FStore.failAt exH (some 2)) =
      .ok [.mk "h/g/".toList .group3 [.mk "h/g/c/".toList .array3 []], .mk "h/v2/".toList .group2 []] ⟨exH, 10, [2]⟩ ∧
    (getChildNodesP exR true 16 exPre).run (FStore.failAt exH (some 2)) = .err ⟨exH, 2, [2]⟩ ∧
    childNodes exR exH true (depthBound exH) exPre = some exTrees ∧
    getChildNodesSwallowF exR true 16 exPre (FStore.failAt exH (some 5)) =
      .ok [.mk "h/a/".toList .array3 [], .mk "h/g/".toList .group3 [], .mk "h/v2/".toList .group2 []] ⟨exH, 10, [5]⟩ ∧
    -- without faults the seeded variant is indistinguishable on this hierarchy
    getChildNodesSwallowF exR true 16 exPre ⟨exH, 0, []⟩ = .ok exTrees ⟨exH, 10, []⟩ := by
  rw [exH_childNodes]
  decide +kernel

/-- the seeded variant over ALL positions of the example: it succeeds (with a shorter listing) at every position that is
a child's metadata read — 2 (`a`), 3 (`g`), 5 (`g/c`), 6–9 (the four reads of `v2`) — and fails only at the three
`list_dir`s; the harness measures the same on its hierarchy (`ok_with_fault=8` of `n=12`: 8 metadata reads of children) -/
example : ∀ k ∈ List.range' 1 10,
    (getChildNodesSwallowF exR true 16 exPre (FStore.failAt exH (some k))).isOk = !([1, 4, 10].contains k) := by
  decide +kernel

/-- a listing never changes the store — fault-free, faulted at any set of operations,
successful or not — for every listing method -/
theorem list_fault_no_effect (r : Reader) (arrOk : Key → Bool) (m : KV) (n : Nat) (F : List Nat) (rec : Bool)
    (fuel : Nat) (pre : Key) :
    ((getChildNodesP r rec fuel pre).run ⟨m, n, F⟩).st.m = m ∧
    ((FaultList.childrenP r rec fuel pre).run ⟨m, n, F⟩).st.m = m ∧
    ((childPathsP r rec fuel pre).run ⟨m, n, F⟩).st.m = m ∧
    ((childGroupPathsP r rec fuel pre).run ⟨m, n, F⟩).st.m = m ∧
    ((childArrayPathsP r rec fuel pre).run ⟨m, n, F⟩).st.m = m ∧
    ((childGroupsP r rec fuel pre).run ⟨m, n, F⟩).st.m = m ∧
    ((childArraysP r arrOk rec fuel pre).run ⟨m, n, F⟩).st.m = m ∧
    ((openNodeTreeP r fuel pre).run ⟨m, n, F⟩).st.m = m ∧
    ((nodeExistsP pre).run ⟨m, n, F⟩).st.m = m ∧
    ((nodeExistsListableP pre).run ⟨m, n, F⟩).st.m = m :=
  have key {β} (p : Prog β) (hp : p.readOnly) := Prog.readOnly_run p hp m n F
  ⟨key _ (getChildNodesP_readOnly r rec fuel pre), key _ (getChildNodesP_readOnly r rec fuel pre),
   key _ (childPathsP_readOnly r rec fuel pre), key _ (childGroupPathsP_readOnly r rec fuel pre),
   key _ (childArrayPathsP_readOnly r rec fuel pre), key _ (childGroupsP_readOnly r rec fuel pre),
   key _ (childArraysP_readOnly r arrOk rec fuel pre), key _ (openNodeTreeP_readOnly r fuel pre),
   key _ (nodeExistsP_readOnly pre), LProg.readOnly_run _ (nodeExistsListableP_readOnly pre) m n F⟩
example : ((openNodeTreeP exR 16 exPre).run ⟨exH, 0, [4, 6]⟩) = .err ⟨exH, 4, [4, 6]⟩ :=
  Prog.readOnly_run_eq _ (openNodeTreeP_readOnly exR 16 exPre) exH (some _) _ exOpen_eval.1 exOpen_eval.2 0 [4, 6]

/-- the recursive listing of this file is the `childNodesP` of `Model/FaultOps.lean`, on which `openNodeP` is built: the
theorems of `Props/C20Ops.lean` about `openNodeP` are about the same listing -/
theorem agrees_with_faultops (r : Reader) (fuel : Nat) (pre : Key) :
    getChildNodesP r true fuel pre = childNodesP r fuel pre := getChildNodesP_true r fuel pre
example : (getChildNodesP exR true 16 exPre).ops exH = (childNodesP exR 16 exPre).ops exH := by
  rw [agrees_with_faultops]

end Zarrs.C20List
