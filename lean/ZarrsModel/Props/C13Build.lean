import ZarrsModel.Model.Builder
import ZarrsModel.Lemmas.Meta
import ZarrsModel.Lemmas.MetaWf
import ZarrsModel.Lemmas.NumTok
import ZarrsModel.Props.C13
/-
C13 (builders) — the document `ArrayBuilder::build` / `GroupBuilder::build` creates is the one the setters described,
it is accepted on re-opening (unless the caller added fields that must be understood, as documented), and
`Array::builder()` of an opened array rebuilds a document denoting the same array.

`Builder.builderDoc` models `ArrayBuilder::build` up to the call of `Array::new_with_metadata`; `Builder.build` adds the
plugins' acceptance (`plug`) of the document.  `F` is `DataType::metadata_fill_value`.
-/
namespace Zarrs.C13Build
open Zarrs Zarrs.Json Zarrs.Meta Zarrs.Builder

def exF (_ : MetaV3) (bs : List Nat) : Option J := match bs with | [b] => some (natNum b) | _ => none

def exB : BuilderState :=
  applyAll (BuilderState.new [4, 6] ⟨ascii "uint8", none, true⟩ .fixed [] (.regular [2, 3]) [7])
    [.dimensionNames (some [some (ascii "y"), none]), .attributes [(ascii "title", .str (ascii "demo"))],
     .b2b [⟨ascii "gzip", some [(ascii "level", .num ['5'])]⟩], .ckeDefaultSeparator .dot,
     .additionalFields [(ascii "my_ext", C13.exField)]]

def exBuilt : ArrayDoc :=
  { shape := [['4'], ['6']], dataType := ⟨ascii "uint8", none, true⟩,
    chunkGrid := ⟨ascii "regular", some [(ascii "chunk_shape", .arr [.num ['2'], .num ['3']])], true⟩,
    cke := ⟨ascii "default", some [(ascii "separator", .str (ascii "."))], true⟩, fill := .num ['7'],
    codecs := [⟨ascii "bytes", some [(ascii "endian", .str (ascii "little"))], true⟩,
               ⟨ascii "gzip", some [(ascii "level", .num ['5'])], true⟩],
    attrs := [(ascii "title", .str (ascii "demo"))], st := [], dimNames := some [some (ascii "y"), none],
    extra := [(ascii "my_ext", C13.exField)] }

theorem exB_builds : builderDoc exF exB = .ok exBuilt := by rfl

/-- **the checks of `build` itself pass (`builderDoc`) exactly when** the chunk grid's dimensionality and the number of
dimension names (when there are names) equal the rank of the shape and the fill value fits the data type; the document
is then the one the setters described: codecs grouped array-to-array, array-to-bytes, bytes-to-bytes (encode-only codecs
write nothing) -/
theorem builderDoc_ok_iff (F : MetaV3 → List Nat → Option J) (b : BuilderState) (d : ArrayDoc) :
    builderDoc F b = .ok d ↔
      b.grid.rank = b.shape.length ∧ (∀ ns, b.dimNames = some ns → ns.length = b.shape.length) ∧
      ∃ f, F b.dataType b.fill = some f ∧
        d = { shape := b.shape.map FillMeta.natTok, dataType := b.dataType, chunkGrid := b.grid.toMeta, cke := b.cke.toMeta,
              fill := f, codecs := codecMetas b, attrs := b.attrs, st := b.st, dimNames := b.dimNames, extra := b.extra } := by
  unfold builderDoc
  by_cases hg : b.grid.rank = b.shape.length
  · simp only [hg, bne_self_eq_false, Bool.false_eq_true, if_false, true_and]
    cases hdn : b.dimNames with
    | none =>
      simp only [reduceCtorEq, false_implies, implies_true, true_and]
      cases hf : F b.dataType b.fill with
      | none => simp
      | some f => simp [eq_comm]
    | some ns =>
      by_cases hn : ns.length = b.shape.length
      · simp only [hn, bne_self_eq_false, Bool.false_eq_true, if_false, Option.some.injEq]
        cases hf : F b.dataType b.fill with
        | none => simp
        | some f =>
          simp only [Except.ok.injEq, Option.some.injEq, exists_eq_left']
          constructor
          · intro h; exact ⟨fun ns' e => e ▸ hn, h.symm⟩
          · intro h; exact h.2.symm
      · have : (ns.length != b.shape.length) = true := by simpa using hn
        simp only [this, if_true, reduceCtorEq, Option.some.injEq, false_iff, not_and]
        intro h; exact absurd (h ns rfl) hn
  · have : (b.grid.rank != b.shape.length) = true := by simpa using hg
    simp [this, hg]
example : builderDoc exF exB = .ok exBuilt := exB_builds

/-- **rank-mismatch rejection**: a chunk grid of another dimensionality than the shape -/
theorem build_grid_rank_rejected (F : MetaV3 → List Nat → Option J) (plug : ArrayDoc → Bool) (b : BuilderState)
    (h : b.grid.rank ≠ b.shape.length) : build F plug b = .error (.gridRank b.grid.rank b.shape.length) := by
  have : (b.grid.rank != b.shape.length) = true := by simpa using h
  simp [build, builderDoc, this]
example : (Setter.apply exB (.chunkGrid (.regular [2, 3, 1]))).grid.rank ≠ (Setter.apply exB (.chunkGrid (.regular [2, 3, 1]))).shape.length := by
  decide +kernel

/-- **rank-mismatch rejection**: dimension names whose number is not the rank -/
theorem build_dim_names_rejected (F : MetaV3 → List Nat → Option J) (plug : ArrayDoc → Bool) (b : BuilderState)
    (hg : b.grid.rank = b.shape.length) (ns : List (Option Str)) (hn : b.dimNames = some ns)
    (h : ns.length ≠ b.shape.length) : build F plug b = .error (.dimNames ns.length b.shape.length) := by
  have : (ns.length != b.shape.length) = true := by simpa using h
  simp [build, builderDoc, hg, hn, this]
example : build exF (fun _ => true) (Setter.apply exB (.dimensionNames (some [none]))) = .error (.dimNames 1 2) := by rfl

/-- a fill value that does not fit the data type is rejected -/
theorem build_fill_rejected (F : MetaV3 → List Nat → Option J) (plug : ArrayDoc → Bool) (b : BuilderState)
    (hg : b.grid.rank = b.shape.length) (hd : ∀ ns, b.dimNames = some ns → ns.length = b.shape.length)
    (hf : F b.dataType b.fill = none) : build F plug b = .error .fill := by
  unfold build builderDoc
  simp only [hg, bne_self_eq_false, Bool.false_eq_true, if_false]
  cases hdn : b.dimNames with
  | none => simp [hf]
  | some ns => simp [hd ns hdn, hf]
example : build exF (fun _ => true) (Setter.apply exB (.fillValue [0, 0])) = .error .fill := by rfl

/-- **defaults**: without setters the document has the `bytes` codec alone (for a fixed-size data type), the `default`
chunk key encoding with `/`, no attributes, no storage transformers, no dimension names, no additional fields -/
theorem builder_defaults (F : MetaV3 → List Nat → Option J) (shape : List Nat) (dt : MetaV3) (cs : List Nat) (fill : List Nat)
    (d : ArrayDoc) (h : builderDoc F (BuilderState.new shape dt .fixed [] (.regular cs) fill) = .ok d) :
    d.codecs = [⟨ascii "bytes", some [(ascii "endian", .str (ascii "little"))], true⟩] ∧
    d.cke = ⟨ascii "default", some [(ascii "separator", .str (ascii "/"))], true⟩ ∧
    d.chunkGrid = ⟨ascii "regular", some [(ascii "chunk_shape", .arr (cs.map natNum))], true⟩ ∧
    d.attrs = [] ∧ d.st = [] ∧ d.dimNames = none ∧ d.extra = [] ∧ d.dataType = dt ∧ d.shape = shape.map FillMeta.natTok := by
  obtain ⟨_, _, f, _, rfl⟩ := (builderDoc_ok_iff F _ d).1 h
  exact ⟨rfl, rfl, rfl, rfl, rfl, rfl, rfl, rfl, rfl⟩
example : ∃ d, builderDoc exF (BuilderState.new [4, 6] ⟨ascii "uint8", none, true⟩ .fixed [] (.regular [2, 3]) [7]) = .ok d :=
  ⟨_, rfl⟩

/-- a variable-length data type gets its variable-length codec instead of `bytes` -/
theorem builder_default_string (shape : List Nat) (dt : MetaV3) (g : Grid) (fill : List Nat) :
    (BuilderState.new shape dt .string [] g fill).a2b = vlenUtf8 := rfl

/-- **each setter replaces its field and nothing else; the last call wins** (shown for the chunk key encoding, where two
setters write the same field) -/
theorem setter_last_wins (b : BuilderState) (c : Cke) (s : Sep) :
    (Setter.apply (Setter.apply b (.chunkKeyEncoding c)) (.ckeDefaultSeparator s)).cke = .default s ∧
    (Setter.apply (Setter.apply b (.ckeDefaultSeparator s)) (.chunkKeyEncoding c)).cke = c ∧
    (Setter.apply (Setter.apply b (.chunkKeyEncoding c)) (.ckeDefaultSeparator s)) = Setter.apply b (.ckeDefaultSeparator s) :=
  ⟨rfl, rfl, rfl⟩

/-- the rank the chunk grid metadata states is the grid's dimensionality -/
theorem regularRank_toMeta (cs : List Nat) : regularRank (Grid.toMeta (.regular cs)) = some (Grid.rank (.regular cs)) := by
  simp [regularRank, Grid.toMeta, Grid.rank, lookup_cons_eq]

/-- **`builder_doc_accepted`**: whenever `build` succeeds, the document passes the checks of `Array::open` (`openOk`)
provided no additional field and no storage transformer handed to the builder must be understood - `build` itself does
not look at them (the documentation of `additional_fields` says that such an array is expected not to open) -/
theorem builder_doc_accepted (F : MetaV3 → List Nat → Option J) (plug : ArrayDoc → Bool) (b : BuilderState) (d : ArrayDoc)
    (h : build F plug b = .ok d) (he : ∀ kv ∈ b.extra, kv.2.mu = false) (hst : ∀ m ∈ b.st, m.mu = false) :
    openOk d b.grid.rank = true ∧ plug d = true := by
  unfold build at h
  cases hb : builderDoc F b with
  | error e => rw [hb] at h; cases h
  | ok d' =>
    rw [hb] at h
    by_cases hp : plug d' = true
    · simp only [hp, if_true, Except.ok.injEq] at h
      subst h
      obtain ⟨hg, hdn, f, _, rfl⟩ := (builderDoc_ok_iff F b d').1 hb
      refine ⟨?_, hp⟩
      simp only [openOk, structOk, transformersOk, Bool.and_eq_true, List.all_eq_true, Bool.not_eq_true',
        List.length_map, beq_iff_eq]
      refine ⟨⟨⟨he, hg⟩, ?_⟩, hst⟩
      cases hd : b.dimNames with
      | none => rfl
      | some ns => simpa using hdn ns hd
    · simp only [hp, Bool.false_eq_true, if_false, reduceCtorEq] at h
example : build exF (fun _ => true) exB = .ok exBuilt ∧ (∀ kv ∈ exB.extra, kv.2.mu = false) ∧ (∀ m ∈ exB.st, m.mu = false) :=
  ⟨by rfl, by decide +kernel, by decide +kernel⟩

/-- with a field that must be understood `build` still succeeds, and the stored document does not open again -/
theorem builder_must_understand_not_reopened (F : MetaV3 → List Nat → Option J) (b : BuilderState) (d : ArrayDoc)
    (h : builderDoc F b = .ok d) (kv : Str × AField) (hk : kv ∈ b.extra) (hm : kv.2.mu = true) (r : Nat) :
    openOk d r = false := by
  obtain ⟨_, _, f, _, rfl⟩ := (builderDoc_ok_iff F b d).1 h
  have : (b.extra.all fun kv => !kv.2.mu) = false := by
    rw [List.all_eq_false]; exact ⟨kv, hk, by simp [hm]⟩
  simp [openOk, structOk, this]
example : ∃ d, builderDoc exF (Setter.apply exB (.additionalFields [(ascii "zz", ⟨.str (ascii "v"), true⟩)])) = .ok d :=
  ⟨_, rfl⟩

/-- a builder state whose parts are well-formed JSON (what the domain objects write, and what the caller hands over) -/
structure WfState (F : MetaV3 → List Nat → Option J) (b : BuilderState) : Prop where
  shape : ∀ n ∈ b.shape, n < 18446744073709551616
  dt : MetaV3.good b.dataType
  grid : MetaV3.good b.grid.toMeta
  cke : MetaV3.good b.cke.toMeta
  fill : ∀ f, F b.dataType b.fill = some f → f.wf
  codecs : ∀ c ∈ codecMetas b, MetaV3.good c
  attrs : wfKVs b.attrs ∧ keysDistinct b.attrs
  st : ∀ c ∈ b.st, MetaV3.good c
  dn : ∀ ns, b.dimNames = some ns → ∀ n ∈ ns, ∀ s, n = some s → strOk s
  extra : ∀ kv ∈ b.extra, strOk kv.1 ∧ AField.good kv.2 ∧ kv.1 ∉ arrayKeys
  sorted : sortedKeys b.extra

theorem isU64Tok_natTok (n : Nat) (h : n < 18446744073709551616) : isU64Tok (FillMeta.natTok n) = true := by
  unfold isU64Tok
  rw [NumTok.asU64_natTok]
  have : n < 2 ^ 64 := by simpa using h
  simp [this]

/-- **re-opening gives the same array**: the document `build` creates from a well-formed builder state is written and
read back as itself -/
theorem builder_doc_reopens (F : MetaV3 → List Nat → Option J) (b : BuilderState) (hw : WfState F b) (d : ArrayDoc)
    (h : builderDoc F b = .ok d) : ArrayDoc.ofText d.toText = some d ∧ ArrayDoc.ofJ d.toJ = some d := by
  obtain ⟨_, _, f, hf, rfl⟩ := (builderDoc_ok_iff F b d).1 h
  have hgood : ArrayDoc.good
      { shape := b.shape.map FillMeta.natTok, dataType := b.dataType, chunkGrid := b.grid.toMeta, cke := b.cke.toMeta,
        fill := f, codecs := codecMetas b, attrs := b.attrs, st := b.st, dimNames := b.dimNames, extra := b.extra } := by
    refine ⟨?_, hw.dt, hw.grid, hw.cke, hw.fill f hf, hw.codecs, hw.attrs, hw.st, hw.dn, hw.extra, hw.sorted⟩
    intro t ht
    obtain ⟨n, hn, rfl⟩ := List.mem_map.1 ht
    exact ⟨isU64Tok_natTok n (hw.shape n hn), NumTok.tokOk_natTok n⟩
  exact ⟨arrayDoc_ofText_toText _ hgood, arrayDoc_ofJ_toJ _ hgood.shapeOk⟩

theorem exB_wf : WfState exF exB := by
  have sa : ∀ s : String, (∀ b ∈ ascii s, b < 128) → strOk (ascii s) := fun s h => strOk_ascii _ h
  refine ⟨by decide +kernel, ⟨sa "uint8" (by decide +kernel), fun c hc => by cases hc⟩, ?_, ?_, ?_, ?_,
    obj_single_wf _ _ (sa "title" (by decide +kernel)) (sa "demo" (by decide +kernel)), (fun c hc => by cases hc), ?_, ?_,
    by unfold sortedKeys; decide +kernel⟩
  · exact metaV3_good_single _ _ _ _ (sa "regular" (by decide +kernel)) (sa "chunk_shape" (by decide +kernel))
      ⟨NumTok.tokOk_natTok 2, NumTok.tokOk_natTok 3, trivial⟩
  · exact metaV3_good_single _ _ _ _ (sa "default" (by decide +kernel)) (sa "separator" (by decide +kernel))
      (sa "." (by decide +kernel))
  · intro f hf
    cases (Option.some.inj hf : natNum 7 = f)
    exact NumTok.tokOk_natTok 7
  · intro c hc
    have : codecMetas exB = [⟨ascii "bytes", some [(ascii "endian", .str (ascii "little"))], true⟩,
        ⟨ascii "gzip", some [(ascii "level", .num ['5'])], true⟩] := rfl
    rw [this] at hc
    simp only [List.mem_cons, List.not_mem_nil, or_false] at hc
    rcases hc with rfl | rfl
    · exact metaV3_good_single _ _ _ _ (sa "bytes" (by decide +kernel)) (sa "endian" (by decide +kernel))
        (sa "little" (by decide +kernel))
    · exact metaV3_good_single _ _ _ _ (sa "gzip" (by decide +kernel)) (sa "level" (by decide +kernel))
        (NumTok.tokOk_natTok 5)
  · intro ns hns n hn s hs
    cases hns
    simp only [List.mem_cons, List.not_mem_nil, or_false] at hn
    rcases hn with rfl | rfl
    · cases hs; exact sa "y" (by decide +kernel)
    · cases hs
  · intro kv hkv
    rw [List.mem_singleton.1 hkv]
    exact ⟨sa "my_ext" (by decide +kernel), (C13.afield_ok_iff _).1 C13.exField_ok, (C13.exKeys_extra _ (.head _)).1⟩
example : WfState exF exB ∧ builderDoc exF exB = .ok exBuilt := ⟨exB_wf, exB_builds⟩

/-- **`builder_roundtrip`**: `array.builder().build()` for an array opened from document `d` (of rank `rank`, with the
shape `shape` that `d.shape` spells) never fails its rank checks, and the document it creates denotes the same array:
shape, attributes, dimension names and additional fields are those of `d`; data type, chunk grid, chunk key encoding
and codecs are what the plugins created from `d` write (`R`); there are no storage transformers -/
theorem builder_roundtrip (F : MetaV3 → List Nat → Option J) (R : Recreate) (d : ArrayDoc) (rank : Nat) (shape fill : List Nat)
    (split : ChainSplit) (a2b : CodecB) (hopen : openOk d rank = true) (hshape : d.shape = shape.map FillMeta.natTok)
    (hgrid : (R.grid d.chunkGrid).rank = rank) (f : J) (hf : F (R.dt d.dataType) fill = some f) :
    ∃ d', builderDoc F (ofArray R d shape fill split a2b) = .ok d' ∧
      d'.shape = d.shape ∧ d'.attrs = d.attrs ∧ d'.dimNames = d.dimNames ∧ d'.extra = d.extra ∧ d'.st = [] ∧
      d'.dataType = R.dt d.dataType ∧ d'.chunkGrid = (R.grid d.chunkGrid).toMeta ∧ d'.cke = (R.cke d.cke).toMeta ∧
      d'.fill = f ∧
      d'.codecs = (split.a2a.filterMap R.codec).filterMap CodecB.toMeta ++ a2b.toMeta.toList ++
        (split.b2b.filterMap R.codec).filterMap CodecB.toMeta ∧
      openOk d' rank = true := by
  have hs := C13.openOk_structOk d rank hopen
  obtain ⟨hex, hr, hdn⟩ := C13.open_demands d rank hs
  have hlen : shape.length = d.shape.length := by rw [hshape, List.length_map]
  refine ⟨_, (builderDoc_ok_iff F _ _).2 ⟨?_, ?_, f, hf, rfl⟩, hshape.symm, rfl, rfl, rfl, rfl, rfl, rfl, rfl, rfl, rfl, ?_⟩
  · show (R.grid d.chunkGrid).rank = shape.length
    rw [hgrid, hr, hlen]
  · intro ns hns
    show ns.length = shape.length
    rw [hlen]; exact hdn ns hns
  · simp only [openOk, structOk, transformersOk, ofArray, Bool.and_eq_true, List.all_eq_true, Bool.not_eq_true',
      List.length_map, beq_iff_eq, List.not_mem_nil, false_implies, implies_true, and_true]
    refine ⟨⟨hex, by rw [hr, hlen]⟩, ?_⟩
    cases hd : d.dimNames with
    | none => rfl
    | some ns => simpa [hlen] using hdn ns hd

def exR : Recreate := ⟨id, fun _ => .regular [2, 3], fun _ => .default .dot, fun m => some ⟨m.name, m.config⟩⟩
example : openOk exBuilt 2 = true ∧ exBuilt.shape = [4, 6].map FillMeta.natTok ∧ (exR.grid exBuilt.chunkGrid).rank = 2 ∧
    exF (exR.dt exBuilt.dataType) [7] = some (natNum 7) := ⟨by decide +kernel, by decide +kernel, rfl, rfl⟩
example : builderDoc exF (ofArray exR exBuilt [4, 6] [7] ⟨[], ⟨ascii "bytes", none, true⟩, exBuilt.codecs.drop 1⟩
    ⟨ascii "bytes", some [(ascii "endian", .str (ascii "little"))]⟩) = .ok exBuilt := by rfl

/-- `GroupBuilder`: the group document carries the attributes the setters leave; it opens again exactly when none of the
additional fields they leave must be understood -/
theorem group_builder_doc (ss : List GroupSetter) :
    (groupBuilderDoc (ss.foldl GroupSetter.apply {})).attrs = (ss.foldl GroupSetter.apply {}).attrs ∧
    (groupOk (groupBuilderDoc (ss.foldl GroupSetter.apply {})) = true ↔
      ∀ kv ∈ (ss.foldl GroupSetter.apply {}).extra, kv.2.mu = false) := by
  refine ⟨rfl, ?_⟩
  simp [groupOk, groupBuilderDoc]
example : groupOk (groupBuilderDoc ([GroupSetter.attributes [(ascii "a", .num ['1'])],
    .additionalFields [(ascii "my_ext", C13.exField)]].foldl GroupSetter.apply {})) = true := by decide +kernel

end Zarrs.C13Build
