import ZarrsModel.Model.Cache
import ZarrsModel.Lemmas.Cache
/-
C06 — all read paths agree on an unchanged store.

Route agreement (chunk / if-exists / chunks / chunk subset / array subset all return the abstract array's
elements) is `C01.read_after_history`; this file adds the chunk caches: for every cache kind, every eviction
policy that never invents entries (LRU by count or by size at any capacity including 0 and 1, moka's deferred
eviction, unbounded), every starting cache that is coherent with the store, and every sequence of reads
(repeats, evictions), a cached read returns exactly what the uncached read returns.
-/
namespace Zarrs.C06
open Zarrs

/- Fixtures for the examples below: two chunks, `[0]` stored and held by a coherent cache of each kind,
`[1]` absent (it reads as fill); the eviction policy is LRU by count with capacity 1. -/
namespace Ex

def cfg : ArrCfg Nat where
  shape := [4]
  grid := [Dim.fixed 2]
  fill := 0
  keyOf := fun c => 'c' :: c.map (fun n => Char.ofNat (48 + n))
  enc := id
  dec := some
  storeEmpty := false

def st : KV := [(['c', '0'], [7, 9])]

def cacheEnc : Cache Nat := [([0], CacheEntry.encoded (some [7, 9]))]
def cacheDec : Cache Nat := [([0], CacheEntry.decoded [7, 9])]

def evict1 : Cache Nat → Cache Nat := fun c => c.take 1

theorem cacheEnc_ok : cfg.CacheOk st .encoded cacheEnc := by
  intro p hp
  simp only [cacheEnc, List.mem_singleton] at hp
  subst hp
  rfl

theorem cacheDec_ok : cfg.CacheOk st .decoded cacheDec := by
  intro p hp
  simp only [cacheDec, List.mem_singleton] at hp
  subst hp
  rfl

end Ex

variable {α : Type} [DecidableEq α]
-- `[DecidableEq α]` is kept from the specification's statements; the proofs hold for any element type
set_option linter.unusedSectionVars false

/-- an eviction policy may drop entries but never invents or alters them -/
def EvictOk (evict : Cache α → Cache α) : Prop := ∀ c, (evict c).Sublist c

/-- filling is exactly the uncached read, for both cache kinds -/
theorem fill_decode_eq_uncached (cfg : ArrCfg α) (st : KV) (kind : CacheKind) (c : Idx) (e : CacheEntry α)
    (h : cfg.cacheFill st kind c = some e) : cfg.cacheDecode c e = cfg.retrieveChunk st c :=
  cfg.cacheDecode_of_cacheFill st kind c e h

example : Ex.cfg.cacheFill Ex.st .encoded [0] = some (.encoded (some [7, 9])) := rfl
example : Ex.cfg.cacheFill Ex.st .decoded [0] = some (.decoded [7, 9]) := rfl
example : Ex.cfg.cacheFill Ex.st .encoded [1] = some (.encoded none) := rfl
example : Ex.cfg.cacheFill Ex.st .decoded [1] = some (.decoded [0, 0]) := rfl
example : Ex.cfg.retrieveChunk Ex.st [0] = some [7, 9] := by decide +kernel
example : Ex.cfg.retrieveChunk Ex.st [1] = some [0, 0] := by decide +kernel

/-- a failed fill is a failed uncached read (that it inserts nothing is `failed_read_not_cached`) -/
theorem fill_none_iff (cfg : ArrCfg α) (st : KV) (kind : CacheKind) (c : Idx) :
    cfg.cacheFill st kind c = none → cfg.retrieveChunk st c = none := fun h => by
  rw [← cfg.cacheFill_bind_cacheDecode st kind c, h]
  rfl

example : Ex.cfg.cacheFill Ex.st .encoded [0, 0] = none := rfl
example : Ex.cfg.cacheFill Ex.st .decoded [0, 0] = none := rfl

/-- one cached read: same result as uncached, coherence preserved -/
theorem cached_read_eq (cfg : ArrCfg α) (st : KV) (kind : CacheKind) (evict : Cache α → Cache α)
    (hev : EvictOk evict) (cache : Cache α) (hc : cfg.CacheOk st kind cache) (c : Idx) :
    (cfg.cachedRetrieveChunk st kind evict cache c).1 = cfg.retrieveChunk st c ∧
    cfg.CacheOk st kind (cfg.cachedRetrieveChunk st kind evict cache c).2 :=
  cfg.cachedRetrieveChunk_spec st kind evict hev cache hc c

example : EvictOk Ex.evict1 := fun c => List.take_sublist 1 c
example : Ex.cfg.CacheOk Ex.st .encoded Ex.cacheEnc := Ex.cacheEnc_ok
example : Ex.cfg.CacheOk Ex.st .decoded Ex.cacheDec := Ex.cacheDec_ok
example : (Ex.cfg.cachedRetrieveChunk Ex.st .encoded Ex.evict1 Ex.cacheEnc [0]).1 = some [7, 9] := by decide +kernel
example : (Ex.cfg.cachedRetrieveChunk Ex.st .encoded Ex.evict1 Ex.cacheEnc [1]).1 = some [0, 0] := by decide +kernel
example : (Ex.cfg.cachedRetrieveChunk Ex.st .encoded Ex.evict1 Ex.cacheEnc [1]).2.length = 1 := by decide +kernel

/-- **cache transparency**: any sequence of cached reads equals the uncached reads -/
theorem cache_transparent (cfg : ArrCfg α) (st : KV) (kind : CacheKind) (evict : Cache α → Cache α)
    (hev : EvictOk evict) (cache : Cache α) (hc : cfg.CacheOk st kind cache) (reads : List Idx) :
    (cfg.cachedReads st kind evict cache reads).1 = reads.map (cfg.retrieveChunk st) ∧
    cfg.CacheOk st kind (cfg.cachedReads st kind evict cache reads).2 :=
  cfg.cachedReads_spec st kind evict hev reads cache hc

example : EvictOk Ex.evict1 ∧ Ex.cfg.CacheOk Ex.st .decoded Ex.cacheDec :=
  ⟨fun c => List.take_sublist 1 c, Ex.cacheDec_ok⟩
example : (Ex.cfg.cachedReads Ex.st .decoded Ex.evict1 Ex.cacheDec [[0], [1], [0], [0, 0], [0]]).1 =
    [some [7, 9], some [0, 0], some [7, 9], none, some [7, 9]] := by decide +kernel

/-- chunk-subset reads through a cache equal the uncached chunk-subset read -/
theorem cached_subset_eq (cfg : ArrCfg α) (st : KV) (kind : CacheKind) (evict : Cache α → Cache α)
    (hev : EvictOk evict) (cache : Cache α) (hc : cfg.CacheOk st kind cache) (c : Idx) (r : Subset) :
    (cfg.cachedRetrieveChunkSubset st kind evict cache c r).1 = cfg.retrieveChunkSubset st c r := by
  unfold ArrCfg.cachedRetrieveChunkSubset ArrCfg.retrieveChunkSubset
  cases cfg.chunkShape c with
  | none => rfl
  | some s =>
    by_cases hb : (!r.inboundsShape s) = true
    · simp only [hb, if_true]
    · simp only [hb]
      rw [← (cfg.cachedRetrieveChunk_spec st kind evict hev cache hc c).1]
      rfl

example : EvictOk Ex.evict1 ∧ Ex.cfg.CacheOk Ex.st .encoded Ex.cacheEnc :=
  ⟨fun c => List.take_sublist 1 c, Ex.cacheEnc_ok⟩
example : (Ex.cfg.cachedRetrieveChunkSubset Ex.st .encoded Ex.evict1 Ex.cacheEnc [0] ⟨[1], [1]⟩).1 = some [9] := by
  decide +kernel

/-- failed reads are not cached: the cache is unchanged when the fill closure fails -/
theorem failed_read_not_cached (cfg : ArrCfg α) (st : KV) (kind : CacheKind) (evict : Cache α → Cache α)
    (cache : Cache α) (c : Idx) (hmiss : cache.lookup c = none) (hfail : cfg.cacheFill st kind c = none) :
    (cfg.cachedRetrieveChunk st kind evict cache c).2 = cache := by
  simp only [ArrCfg.cachedRetrieveChunk, hmiss, hfail]

example : Ex.cacheEnc.lookup [0, 0] = none ∧ Ex.cfg.cacheFill Ex.st .encoded [0, 0] = none := ⟨rfl, rfl⟩

/-- the empty cache is coherent -/
theorem empty_cache_ok (cfg : ArrCfg α) (st : KV) (kind : CacheKind) : cfg.CacheOk st kind [] :=
  fun _ hp => nomatch hp

/-- LRU by count at any capacity (incl. 0) satisfies `EvictOk` -/
theorem take_evictOk (cap : Nat) : EvictOk (fun c : Cache α => c.take cap) :=
  fun c => List.take_sublist cap c

end Zarrs.C06
