import ZarrsModel.Lemmas.FaultOps
/-
C20 on the experimental partial-encoding path: the SHARDING partial encoder as a program of store operations.

`ShardingPartialEncoder::partial_encode` (sharding_partial_encoder.rs) first READS the stored shard — the index, then
the inner chunks the update straddles (ranged gets of the shard's key) — and then publishes what it computed.  What it
publishes is one of a few shapes (`Plan`), all on the shard's own key:

* nothing, ONE write (`partial_encode` of index + appended inner chunks: one `set_partial_values` call, one store
  operation), ONE erase (every inner chunk is fill) — the *atomic* plans;
* erase THEN write — when every live inner chunk is touched ("the shard can be entirely rewritten") and when, with the
  index at the end, the last inner chunks are removed and nothing is appended (the shorter rewrite);
* erase then erase (both of the above, all fill);
* the seeded variant `C20_m10`: the index in one write, the appended inner chunks in a second one.

The harness sweep `fault_sweep_pe` (harness/src/c20.rs) fails every store operation of such a call in turn and
records, for every position after which a retry ends elsewhere, the failing operation and its predecessor on the same
key (`rdk=ew<key>` / `ww<key>`): the shapes below are what those labels name.
-/
namespace Zarrs.C20PE
open Zarrs

/-- what the encoder publishes after its reads (whole values: a partial write of one key is one store operation whose
effect is the updated value) -/
inductive Plan where
  | nothing
  | write (v : Bytes)
  | erase
  | eraseThenWrite (v : Bytes)
  | eraseTwice
  | twoWrites (v1 v2 : Bytes)
deriving Repr, DecidableEq

namespace Plan
/-- the plans that publish in at most one store operation -/
def atomic : Plan → Bool
  | .nothing | .write _ | .erase => true
  | _ => false

def prog (k : Key) : Plan → Prog Unit
  | .nothing => .ret ()
  | .write v => .set k v (.ret ())
  | .erase => .erase k (.ret ())
  | .eraseThenWrite v => .erase k (.set k v (.ret ()))
  | .eraseTwice => .erase k (.erase k (.ret ()))
  | .twoWrites v1 v2 => .set k v1 (.set k v2 (.ret ()))
end Plan

/-- `r + 1` reads of the shard's key (index, straddled inner chunks), then the continuation on the stored value -/
def readsThen (k : Key) : Nat → (Option Bytes → Prog Unit) → Prog Unit
  | 0, f => .get k f
  | r + 1, f => .get k (fun _ => readsThen k r f)

/-- one `partial_encode` call: the reads, then the plan computed from the stored value (`none` = a codec error) -/
def shardPEP (k : Key) (r : Nat) (plan : Option Bytes → Option Plan) : Prog Unit :=
  readsThen k r (fun v => match plan v with
    | none => .fail
    | some pl => pl.prog k)

theorem readsThen_writeLast (k : Key) (r : Nat) (f : Option Bytes → Prog Unit) (hf : ∀ v, (f v).writeLast) :
    (readsThen k r f).writeLast := by
  induction r with
  | zero => exact fun v => hf v
  | succ r ih => exact fun _ => ih

theorem atomic_writeLast (k : Key) (pl : Plan) (h : pl.atomic = true) : (pl.prog k).writeLast := by
  cases pl <;> simp [Plan.atomic] at h <;> simp [Plan.prog, Prog.writeLast]

/-- **an encoder whose plans are atomic leaves the shard untouched whenever it fails** — a fault on any read, on the
publishing operation itself, or a codec error; any failing set, any number of reads -/
theorem shardPE_atomic_untouched (k : Key) (r : Nat) (plan : Option Bytes → Option Plan)
    (hat : ∀ v pl, plan v = some pl → pl.atomic = true) (m : KV) (n : Nat) (F : List Nat) (s' : FStore)
    (he : (shardPEP k r plan).run ⟨m, n, F⟩ = .err s') : s'.m = m := by
  refine Prog.writeLast_err _ ?_ m n F s' he
  refine readsThen_writeLast k r _ (fun v => ?_)
  cases hp : plan v with
  | none => simp [Prog.writeLast]
  | some pl => simpa using atomic_writeLast k pl (hat v pl hp)

/-- **… hence a retry converges**: repeating the call from the state a failed call left is the fault-free call -/
theorem shardPE_atomic_retry (k : Key) (r : Nat) (plan : Option Bytes → Option Plan)
    (hat : ∀ v pl, plan v = some pl → pl.atomic = true) (m : KV) (n : Nat) (F : List Nat) (s' : FStore)
    (he : (shardPEP k r plan).run ⟨m, n, F⟩ = .err s') :
    (shardPEP k r plan).pure s'.m = (shardPEP k r plan).pure m := by
  rw [shardPE_atomic_untouched k r plan hat m n F s' he]

/-- **erase-then-write is not atomic**: a fault on the write (the second operation of the plan) is an error — and the
shard is gone -/
theorem eraseThenWrite_fault_loses_shard (k : Key) (v : Bytes) (m : KV) (n : Nat) :
    ((Plan.eraseThenWrite v).prog k).run ⟨m, n, [n + 2]⟩ = .err ⟨m.erase k, n + 2, [n + 2]⟩ := by
  simp [Plan.prog, Prog.run, ferase, fset, FStore.faultNow, FStore.tick]

/-! ### the two non-atomic shapes on a concrete shard: the retry ends elsewhere

A shard of two one-byte inner chunks, the "codec" keeps the bytes: the update sets byte 0 to 9 and keeps byte 1 of
whatever is stored (an absent shard reads as fill 0). -/

def exKey : Key := "c/0".toList
/-- the code as it is when every live inner chunk is touched: erase, then write the merged value -/
def exPlanErase : Option Bytes → Option Plan
  | some [_, b] => some (.eraseThenWrite [9, b])
  | none => some (.write [9, 0])
  | _ => none
/-- the seeded variant: first the index (modelled: the value with byte 1 dropped — the new index points at data not
yet written), then the data -/
def exPlanTwo : Option Bytes → Option Plan
  | some [_, b] => some (.twoWrites [9] [9, b])
  | none => some (.write [9, 0])
  | _ => none
/-- an encoder that publishes in one operation -/
def exPlanOne : Option Bytes → Option Plan
  | some [_, b] => some (.write [9, b])
  | none => some (.write [9, 0])
  | _ => none

def exM : KV := [(exKey, [1, 7])]

theorem ex_fault_free : (shardPEP exKey 1 exPlanErase).pure exM = some ((), [(exKey, [9, 7])]) ∧
    (shardPEP exKey 1 exPlanTwo).pure exM = some ((), [(exKey, [9, 7])]) ∧
    (shardPEP exKey 1 exPlanOne).pure exM = some ((), [(exKey, [9, 7])]) := by
  refine ⟨?_, ?_, ?_⟩ <;> decide +kernel

/-- **known finding F-C20-K1 as a theorem**: the 4th operation (the write after the erase) fails; the call returns an
error, the shard is absent, and the repeated call stores `[9, 0]` — byte 1 (an element the update did not touch) is
lost for good -/
theorem eraseThenWrite_retry_diverges :
    (shardPEP exKey 1 exPlanErase).run ⟨exM, 0, [4]⟩ = .err ⟨[], 4, [4]⟩ ∧
    (shardPEP exKey 1 exPlanErase).pure [] = some ((), [(exKey, [9, 0])]) ∧
    (shardPEP exKey 1 exPlanErase).pure exM = some ((), [(exKey, [9, 7])]) := by decide +kernel

/-- **the seeded two-write variant (`C20_m10`)**: the 4th operation (the data write after the index write) fails; the
stored value is torn and the repeated call is a codec error — it never converges -/
theorem twoWrites_retry_diverges :
    (shardPEP exKey 1 exPlanTwo).run ⟨exM, 0, [4]⟩ = .err ⟨[(exKey, [9])], 4, [4]⟩ ∧
    (shardPEP exKey 1 exPlanTwo).pure [(exKey, [9])] = none := by decide +kernel

theorem ex_one_write_converges : (∀ j ∈ [1, 2, 3], (shardPEP exKey 1 exPlanOne).run ⟨exM, 0, [j]⟩ = .err ⟨exM, j, [j]⟩) ∧
    (shardPEP exKey 1 exPlanOne).pure exM = some ((), [(exKey, [9, 7])]) := by decide +kernel

example : ∀ v pl, exPlanOne v = some pl → pl.atomic = true := by
  intro v pl h
  unfold exPlanOne at h
  split at h <;> simp at h <;> subst h <;> rfl

end Zarrs.C20PE
