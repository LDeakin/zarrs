import ZarrsModel.Model.ShardPD
import ZarrsModel.Lemmas.ShardPDExtra
import ZarrsModel.Props.C02
import ZarrsModel.Lemmas.ChainSStores
/-
C02 for the sharding partial decoder (`ShardingPartialDecoder`, Model/ShardPD.lean): on a handle that serves a legal
shard value the partial decoder answers every list of in-bounds regions with exactly the regions of the decoded
shard (= full decode followed by slicing); an absent shard reads as fill; an inner chunk whose index entry reaches
outside the stored value is an error for inner chains that read the whole inner value; chains whose array-to-bytes
codec is `sharding_indexed` (nested to any depth) satisfy the analogue of `C02.chain_partial_eq_full_slice`.
-/
namespace Zarrs.C02S
open Zarrs Zarrs.Codec Zarrs.Partial Zarrs.C02

/-! the example: a 4×4 shard of 2×2 inner chunks, inner chunk (0,1) missing, index at the end with crc32c -/

private def exInner : Chain := { a2a := [], big := false, es := 2, unit := 2, b2b := [] }
private def exCfg : Shard.Cfg := ⟨4, true, false, true⟩
private def exFill : Elem := [7, 7]
/-- rows 0-1 × columns 2-3 (inner chunk (0,1)) are all fill -/
private def exShard : List Elem :=
  (List.range 16).map (fun i => if i % 4 ≥ 2 ∧ i < 8 then [7, 7] else [i, 100 + i])
private def exPieces : List (List Elem) := splitShard [4, 4] [2, 2] exShard
private def exChunks : List (Option Bytes) := shardChunks (exInner.encode [2, 2]) exFill [4, 4] [2, 2] exShard
private def exValue : Bytes := Shard.encode exCfg exChunks
/-- regions straddling inner chunks (the first meets all four), an empty one, the whole shard -/
private def exRegions : List Subset := [⟨[1, 1], [2, 2]⟩, ⟨[0, 1], [4, 2]⟩, ⟨[0, 2], [1, 0]⟩, ⟨[0, 0], [4, 4]⟩]

private theorem exPieces_val : exPieces =
    [[[0, 100], [1, 101], [4, 104], [5, 105]], [[7, 7], [7, 7], [7, 7], [7, 7]],
     [[8, 108], [9, 109], [12, 112], [13, 113]], [[10, 110], [11, 111], [14, 114], [15, 115]]] := by decide +kernel
private theorem exChunks_val : exChunks =
    [some [0, 100, 1, 101, 4, 104, 5, 105], none, some [8, 108, 9, 109, 12, 112, 13, 113],
     some [10, 110, 11, 111, 14, 114, 15, 115]] := by decide +kernel
example : exValue.length = 24 + 68 := by decide +kernel

private def exEncodes (xs : List Elem) (b : Bytes) : Prop := b = exInner.encode [2, 2] xs ∧ chunkOk 2 [2, 2] xs

private theorem exInner_lawful : ∀ g b xs, exEncodes xs b → BHandleOk g b →
    AHandleOk (exInner.partialDecoder [2, 2] exFill g) [2, 2] xs := by
  intro g b xs ⟨hb, hx⟩ hg
  subst hb
  rw [partialDecoder_eq]
  rw [encode_eq] at hg
  exact bytesPD_ok' false 2 2 [2, 2] exFill g xs (by decide) (by decide) (by decide) hx.1 hx.2 hg

/-- **the sharding partial decoder is correct on a legal shard.**  `h` serves the value `v`, `v` is a legal shard
holding the encoded inner chunks `chunks` (any layout: any offsets, gaps, order, index at either end, either index
byte order, with or without crc32c), the stored chunks encode the element lists `xss[i]` (relation `encodes`, about
which only the lawfulness of the inner partial decoder is assumed), missing inner chunks stand for all-fill.  Then
every in-bounds region list is answered with the regions of the assembled shard.  Any rank (also 0), any extents:
the shard shape is any positive multiple of the inner chunk shape (`tiles`).  `fixed` is the fixed encoded size the inner
codecs declare (`none`: bounded/unbounded); the size test of the decoder (`validate_inner_chunk_size`) always passes
on a legal shard because every encoding has the declared size (`hfixed`, proved for chains: `chainS_encode_fixed_length`). -/
theorem shardPD_ok (cfg : Shard.Cfg) (validate : Bool) (shard inner : Shape) (es : Nat) (fill : Elem)
    (fixed : Option Nat) (innerPD : Shape → Elem → BHandle → AHandle) (encodes : List Elem → Bytes → Prop)
    (h : BHandle) (v : Bytes) (chunks : List (Option Bytes)) (xss : List (List Elem))
    (ht : tiles inner shard = true) (hn : cfg.nChunks = prod (zipDiv shard inner)) (hfill : fill.length = es)
    (hh : BHandleOk h v) (hlegal : Shard.Legal cfg v chunks) (hxl : xss.length = cfg.nChunks)
    (hx : ∀ i (h1 : i < chunks.length) (h2 : i < xss.length),
      match chunks[i] with
      | some b => encodes xss[i] b ∧ chunkOk es inner xss[i]
      | none => xss[i] = List.replicate (prod inner) fill)
    (hinner : ∀ g b xs, encodes xs b → BHandleOk g b → AHandleOk (innerPD inner fill g) inner xs)
    (hfixed : ∀ n, fixed = some n → ∀ xs b, encodes xs b → b.length = n) :
    AHandleOk (shardPD cfg validate shard inner es fill fixed innerPD h) shard (assemble shard inner xss) :=
  (served_of_decode ht hn hfill hh
    (Shard.legal_decodes cfg v chunks hlegal) hxl hx hinner hfixed).elim
    fun _ hS => shardPD_eq_frame ▸ shardFrame_served shardRegion_regionOk hS.2 cfg validate (hS.1 validate)

example : tiles [2, 2] [4, 4] = true ∧ exCfg.nChunks = prod (zipDiv [4, 4] [2, 2]) ∧ exFill.length = 2 ∧
    BHandleOk (storeHandle (some exValue)) exValue ∧ Shard.Legal exCfg exValue exChunks ∧
    exPieces.length = exCfg.nChunks ∧
    (∀ i (_ : i < exChunks.length) (h2 : i < exPieces.length),
      match exChunks[i] with
      | some b => exEncodes exPieces[i] b ∧ chunkOk 2 [2, 2] exPieces[i]
      | none => exPieces[i] = List.replicate (prod [2, 2]) exFill) ∧
    (∀ g b xs, exEncodes xs b → BHandleOk g b → AHandleOk (exInner.partialDecoder [2, 2] exFill g) [2, 2] xs) ∧
    (∀ n, exInner.fixedSize [] [2, 2] = some n → ∀ xs b, exEncodes xs b → b.length = n) := by
  refine ⟨by decide +kernel, by decide +kernel, by decide +kernel, storeHandle_some_ok _, ?_, by decide +kernel, ?_, exInner_lawful, ?_⟩
  rotate_left 2
  · intro n hn xs b ⟨hb, hx⟩
    subst hb
    exact chain_encode_length exInner [] [2, 2] xs n (by decide +kernel) hx.1 hx.2 trivial trivial hn
  · exact Shard.encode_legal exCfg exChunks (by decide +kernel) (by decide +kernel)
  · intro i _ h2
    have h4 : i < 4 := h2
    have : i = 0 ∨ i = 1 ∨ i = 2 ∨ i = 3 := by omega
    rcases this with rfl | rfl | rfl | rfl <;>
      simp only [exChunks_val, exPieces_val, List.getElem_cons_zero, List.getElem_cons_succ]
    · exact ⟨⟨by decide +kernel, by decide +kernel, by decide +kernel⟩, by decide +kernel, by decide +kernel⟩
    · decide
    · exact ⟨⟨by decide +kernel, by decide +kernel, by decide +kernel⟩, by decide +kernel, by decide +kernel⟩
    · exact ⟨⟨by decide +kernel, by decide +kernel, by decide +kernel⟩, by decide +kernel, by decide +kernel⟩

example : assemble [4, 4] [2, 2] exPieces = exShard := by decide +kernel
example : shardPD exCfg true [4, 4] [2, 2] 2 exFill (some 8) exInner.partialDecoder (storeHandle (some exValue)) exRegions =
    some (exRegions.map (fun r => r.extract [4, 4] exShard)) := by decide +kernel
example : exRegions.map (fun r => r.extract [4, 4] exShard) =
    [[[5, 105], [7, 7], [9, 109], [10, 110]],
     [[1, 101], [7, 7], [5, 105], [7, 7], [9, 109], [10, 110], [13, 113], [14, 114]], [],
     exShard] := by decide +kernel

/-- **`assemble` is the full decoder's result**: the full decoder of a legal shard (`Shard.decode`) returns exactly the
stored inner chunks, and pasting the decoded inner chunks one after the other at their places of a buffer
(`ShardingCodec::decode`, `assembleScatter`) gives `assemble`, whatever the buffer held before -/
theorem assemble_eq_full_decode (cfg : Shard.Cfg) (shard inner : Shape) (v : Bytes) (chunks : List (Option Bytes))
    (xss : List (List Elem)) (init : List Elem)
    (ht : tiles inner shard = true) (hlegal : Shard.Legal cfg v chunks)
    (hxl : xss.length = prod (zipDiv shard inner)) (hx : ∀ xs ∈ xss, xs.length = prod inner)
    (hinit : init.length = prod shard) :
    Shard.decode cfg true v = .ok chunks ∧ assembleScatter shard inner xss init = assemble shard inner xss :=
  ⟨Shard.legal_decodes cfg v chunks hlegal, assembleScatter_eq ht xss hxl hx init hinit⟩

example : tiles [2, 2] [4, 4] = true ∧ Shard.Legal exCfg exValue exChunks ∧
    exPieces.length = prod (zipDiv [4, 4] [2, 2]) ∧ (∀ xs ∈ exPieces, xs.length = prod [2, 2]) ∧
    (List.replicate 16 ([0, 0] : Elem)).length = prod [4, 4] :=
  ⟨by decide +kernel, Shard.encode_legal exCfg exChunks (by decide +kernel) (by decide +kernel), by decide +kernel, by decide +kernel, by decide +kernel⟩
example : assembleScatter [4, 4] [2, 2] exPieces (List.replicate 16 [0, 0]) = exShard := by decide +kernel

/-- **an absent shard reads as fill**: every list of regions of the shard's rank is answered with fill values, one
per element of each region (in particular every in-bounds list) -/
theorem shardPD_absent (cfg : Shard.Cfg) (validate : Bool) (shard inner : Shape) (es : Nat) (fill : Elem)
    (fixed : Option Nat) (innerPD : Shape → Elem → BHandle → AHandle) (h : BHandle)
    (ht : tiles inner shard = true) (hh : BHandleAbsent h) (rs : List Subset)
    (hrs : ∀ r ∈ rs, r.wf = true ∧ r.rank = shard.length) :
    shardPD cfg validate shard inner es fill fixed innerPD h rs =
      some (rs.map (fun r => List.replicate r.numElements fill)) :=
  shardPD_eq_frame ▸ shardFrame_absent cfg validate ht hh rs hrs

example : tiles [2, 2] [4, 4] = true ∧ BHandleAbsent (storeHandle none) ∧
    ∀ r ∈ exRegions, r.wf = true ∧ r.rank = [4, 4].length := ⟨by decide, storeHandle_none_absent, by decide⟩
example : shardPD exCfg true [4, 4] [2, 2] 2 exFill (some 8) exInner.partialDecoder (storeHandle none) exRegions =
    some [List.replicate 4 [7, 7], List.replicate 8 [7, 7], [], List.replicate 16 [7, 7]] := by decide +kernel

/-- … in the form of a served array: the all-fill shard -/
theorem shardPD_absent_ok (cfg : Shard.Cfg) (validate : Bool) (shard inner : Shape) (es : Nat) (fill : Elem)
    (fixed : Option Nat) (innerPD : Shape → Elem → BHandle → AHandle) (h : BHandle)
    (ht : tiles inner shard = true) (hh : BHandleAbsent h) :
    AHandleOk (shardPD cfg validate shard inner es fill fixed innerPD h) shard (List.replicate (prod shard) fill) :=
  shardPD_eq_frame ▸ shardFrame_absent_ok cfg validate ht hh

example : tiles [2, 2] [4, 4] = true ∧ BHandleAbsent (bytesCachePD (storeHandle none)) :=
  ⟨by decide, bytesCachePD_absent _ storeHandle_none_absent⟩

/-- corrupted index: the entry of inner chunk (1,1) (offset 16, 8 bytes) is rewritten to 1000 bytes, the checksum of
the index recomputed -/
private def exBadEntries : List (Nat × Nat) := [(0, 8), (Shard.sentinel, Shard.sentinel), (8, 8), (16, 1000)]
private def exBadValue : Bytes := exValue.take 24 ++ Shard.encodeIndex exCfg exBadEntries

/-- **a live index entry whose size differs from the fixed encoded size of the inner codecs is an error, not data**
(`validate_inner_chunk_size`), for every request with an in-bounds region touching that inner chunk — whatever the
inner chain, whatever the input handle, wherever the entry points -/
theorem shardPD_error_on_wrong_size (cfg : Shard.Cfg) (validate : Bool) (shard inner : Shape) (es : Nat) (fill : Elem)
    (n : Nat) (innerPD : Shape → Elem → BHandle → AHandle) (h : BHandle) (entries : List (Nat × Nat))
    (ht : tiles inner shard = true)
    (hidx : shardIndexPD cfg validate shard inner h = some (some entries))
    (rs : List Subset) (r : Subset) (hr : r ∈ rs) (hwf : r.wf = true) (hb : r.inboundsShape shard = true)
    (i : Idx) (hi : r.contains i = true) (off size : Nat)
    (hent : entries[ravel (zipDiv i inner) (zipDiv shard inner)]? = some (off, size))
    (hlive : Shard.isLive (off, size) = true) (hsize : size ≠ n) :
    shardPD cfg validate shard inner es fill (some n) innerPD h rs = none :=
  shardFrame_none cfg validate ht hidx rs r hr
    (shardRegion_none_of_entry (tiles_pos ht) r hwf (tiles_rank ht hb) i hi (off, size) hent
      (shardPart_wrong_size n fill inner innerPD h (off, size) hlive hsize))

/-- the `bytes`-only inner chain declares 8 bytes; region [2,2]+[1,1] touches inner chunk (1,1), whose entry says 1000 -/
example : tiles [2, 2] [4, 4] = true ∧ exInner.fixedSize [] [2, 2] = some 8 ∧
    shardIndexPD exCfg true [4, 4] [2, 2] (storeHandle (some exBadValue)) = some (some exBadEntries) ∧
    (Subset.mk [2, 2] [1, 1]).wf = true ∧ (Subset.mk [2, 2] [1, 1]).inboundsShape [4, 4] = true ∧
    (Subset.mk [2, 2] [1, 1]).contains [2, 2] = true ∧
    exBadEntries[ravel (zipDiv [2, 2] [2, 2]) (zipDiv [4, 4] [2, 2])]? = some (16, 1000) ∧
    Shard.isLive (16, 1000) = true ∧ 1000 ≠ 8 := by decide +kernel
/-- (zarrs before its repair `8f441b3`, which introduced `validate_inner_chunk_size`, answers this request with
`[[10, 110]]`) -/
example : shardPD exCfg true [4, 4] [2, 2] 2 exFill (some 8) exInner.partialDecoder (storeHandle (some exBadValue))
    [⟨[0, 0], [1, 1]⟩, ⟨[2, 2], [1, 1]⟩] = none := by decide +kernel
/-- requests that do not touch the inner chunk are still answered -/
example : shardPD exCfg true [4, 4] [2, 2] 2 exFill (some 8) exInner.partialDecoder (storeHandle (some exBadValue))
    [⟨[0, 0], [1, 1]⟩, ⟨[2, 0], [2, 2]⟩] = some [[[0, 100]], [[8, 108], [9, 109], [12, 112], [13, 113]]] := by decide +kernel

/-- the storage handle rejects every request containing a range outside the value -/
theorem storeHandle_strict (v : Bytes) : BHandleStrict (storeHandle (some v)) v := by
  intro rs ⟨q, hq, hv⟩
  simp only [storeHandle, extractByteRanges]
  rw [if_neg]
  · rfl
  · intro hall
    rw [List.all_eq_true.mp hall q hq] at hv
    cases hv

example : storeHandle (some [1, 2, 3]) [.fromStart 0 (some 2), .fromStart 2 (some 2)] = none := by decide +kernel

/-- a chain whose outermost bytes-to-bytes codec (the one applied to the stored bytes: a compressor or another
decode-all codec, or the input cache) reads its whole input -/
theorem chain_reads_whole (c : Chain) (sh : Shape) (fill : Elem) (pre : List BStage) (last : BStage)
    (hb : c.b2b = pre ++ [last]) (hlast : readsAll last = true) : ReadsWhole (c.partialDecoder sh fill) := by
  intro g q hg
  rw [partialDecoder_eq, hb, List.foldr_append]
  exact aPD_dead _ _ _ (bytesPD_dead _ _ _ _ _ _ (bChain_dead _ _ (bStage_readsAll last hlast g hg))) q

/-- an inner chain with a decode-all stage (stands for a compressor: it declares no fixed size) after a checksum -/
private def exZ : Chain :=
  { exInner with b2b := [.stripSuffix 4 crc32c, .decodeAll (fun b => b ++ [9]) (fun b => some (b.take (b.length - 1)))] }
example : exZ.b2b = [.stripSuffix 4 crc32c] ++ [.decodeAll (fun b => b ++ [9]) (fun b => some (b.take (b.length - 1)))] ∧
    readsAll (.decodeAll (fun b => b ++ [9]) (fun b => some (b.take (b.length - 1)))) = true ∧
    exZ.fixedSize [] [2, 2] = none := ⟨rfl, rfl, by decide⟩

/-- **a live index entry reaching outside the stored value is an error, not data**, for every request with an
in-bounds region touching that inner chunk — PROVIDED the inner chain reads its whole input (`ReadsWhole`).
What remains of this after `shardPD_error_on_wrong_size`: entries of the declared size (or of any size when the inner
codecs declare no fixed size) that end beyond the value.  Without the proviso the statement is false of the
code: `ShardingPartialDecoder` never compares `offset + size` with the length of the value (only the full decoder
does); with a `bytes`-only inner chain it fetches just the byte ranges of the requested elements and returns whatever
lies there whenever those ranges are inside the value (last `example` below; observed on the implementation by the
`c02s` harness; known finding F-C15-K3). -/
theorem shardPD_error_on_bad_entry (cfg : Shard.Cfg) (validate : Bool) (shard inner : Shape) (es : Nat) (fill : Elem)
    (fixed : Option Nat) (innerPD : Shape → Elem → BHandle → AHandle) (h : BHandle) (v : Bytes)
    (entries : List (Nat × Nat))
    (ht : tiles inner shard = true) (hstrict : BHandleStrict h v)
    (hidx : shardIndexPD cfg validate shard inner h = some (some entries))
    (hwhole : ReadsWhole (innerPD inner fill))
    (rs : List Subset) (r : Subset) (hr : r ∈ rs) (hwf : r.wf = true) (hb : r.inboundsShape shard = true)
    (i : Idx) (hi : r.contains i = true) (off size : Nat)
    (hent : entries[ravel (zipDiv i inner) (zipDiv shard inner)]? = some (off, size))
    (hlive : Shard.isLive (off, size) = true) (hbad : off + size > v.length) :
    shardPD cfg validate shard inner es fill fixed innerPD h rs = none :=
  shardFrame_none cfg validate ht hidx rs r hr
    (shardRegion_none_of_entry (tiles_pos ht) r hwf (tiles_rank ht hb) i hi (off, size) hent
      (shardPart_outside fixed fill inner innerPD h v hstrict hwhole (off, size) hlive hbad))

/-- the entry of inner chunk (1,1) keeps its size but is moved to offset 86 of the 92-byte value -/
private def exBadEntries2 : List (Nat × Nat) := [(0, 8), (Shard.sentinel, Shard.sentinel), (8, 8), (86, 8)]
private def exBadValue2 : Bytes := exValue.take 24 ++ Shard.encodeIndex exCfg exBadEntries2

example : tiles [2, 2] [4, 4] = true ∧ BHandleStrict (storeHandle (some exBadValue2)) exBadValue2 ∧
    shardIndexPD exCfg true [4, 4] [2, 2] (storeHandle (some exBadValue2)) = some (some exBadEntries2) ∧
    ReadsWhole (exZ.partialDecoder [2, 2] exFill) ∧
    (Subset.mk [2, 2] [1, 1]).wf = true ∧ (Subset.mk [2, 2] [1, 1]).inboundsShape [4, 4] = true ∧
    (Subset.mk [2, 2] [1, 1]).contains [2, 2] = true ∧
    exBadEntries2[ravel (zipDiv [2, 2] [2, 2]) (zipDiv [4, 4] [2, 2])]? = some (86, 8) ∧
    Shard.isLive (86, 8) = true ∧ 86 + 8 > exBadValue2.length :=
  ⟨by decide +kernel, storeHandle_strict _, by decide +kernel, chain_reads_whole exZ _ _ [.stripSuffix 4 crc32c] _ rfl rfl, by decide +kernel,
    by decide +kernel, by decide +kernel, by decide +kernel, by decide +kernel, by decide +kernel⟩
example : shardPD exCfg true [4, 4] [2, 2] 2 exFill none exZ.partialDecoder (storeHandle (some exBadValue2))
    [⟨[0, 0], [1, 1]⟩, ⟨[2, 2], [1, 1]⟩] = none := by decide +kernel

/-- WITHOUT `ReadsWhole` the conclusion fails for a right-size entry: the `bytes`-only inner chain (declared size 8 =
the entry's size) answers the same request with the two bytes at offset 86 (bytes of the index), although the entry
ends beyond the value and the full decoder (`Shard.decode`) rejects the value; a request that needs the bytes beyond
the end is an error -/
example : shardPD exCfg true [4, 4] [2, 2] 2 exFill (some 8) exInner.partialDecoder (storeHandle (some exBadValue2))
    [⟨[2, 2], [1, 1]⟩] = some [[[0, 0]]] ∧
    shardPD exCfg true [4, 4] [2, 2] 2 exFill (some 8) exInner.partialDecoder (storeHandle (some exBadValue2))
    [⟨[2, 2], [2, 2]⟩] = none ∧
    (Shard.decode exCfg true exBadValue2).isOk = false := by decide +kernel

/-- well-formed (nested) chain: lawful stages (`C02.aStagesOk`, `C02.bStageOk`) at every level, every sharding level
tiles the shape it sees, one element size throughout, fill value of that size, the decode-all stages flagged as
size-keeping keep the size (`keepOk`) -/
def chainSOk (c : ChainS) (sh : Shape) (fill : Elem) : Prop := c.okWith aStagesOk bStageOk sh fill

theorem bStageOk_lawful (st : BStage) (h : bStageOk st) : BLawful st := by
  refine ⟨?_, bStage_ok st h⟩
  cases st with
  | stripSuffix n sum => exact bStage_dec_checksum n sum
  | decodeAll e d => exact h
  | cache => exact bStage_dec_cache

/-- the form in which the lemmas on chains ask for it -/
theorem chainSOk.lawful {c : ChainS} {sh : Shape} {fill : Elem} (h : chainSOk c sh fill) :
    c.okWith aOk BLawful sh fill :=
  ChainS.okWith_mono (fun l s hl => aStagesOk_aOk l s hl) bStageOk_lawful c sh fill h

/-- **C02 for chains with sharding codecs** (the analogue of `C02.chain_partial_eq_full_slice`): array-to-array
stages, then `sharding_indexed` whose inner chain is again such a chain (or a `bytes` chain), then bytes-to-bytes
stages; on ANY handle serving the chain's encoding of the chunk `xs`, the chain's partial decoder answers every
in-bounds list of regions with exactly the regions of `xs`.  `fits`: every encoded shard is shorter than 2^64 - 1
bytes. -/
theorem chainS_partial_eq_full_slice (c : ChainS) (sh : Shape) (fill : Elem) (xs : List Elem)
    (hok : chainSOk c sh fill) (hx : chunkOk c.es sh xs) (hfits : c.fits sh fill xs)
    (g : BHandle) (hg : BHandleOk g (c.encode sh fill xs)) :
    AHandleOk (c.partialDecoder sh fill g) sh xs :=
  stores_pd c sh fill _ xs hok.lawful hx.1 hx.2
    (stores_encode c sh fill xs hok.lawful hx.1 hx.2 hfits) g hg

/-- … in particular on the stored value -/
theorem chainS_partial_eq_full_slice_store (c : ChainS) (sh : Shape) (fill : Elem) (xs : List Elem)
    (hok : chainSOk c sh fill) (hx : chunkOk c.es sh xs) (hfits : c.fits sh fill xs) :
    AHandleOk (c.partialDecoder sh fill (storeHandle (some (c.encode sh fill xs)))) sh xs :=
  chainS_partial_eq_full_slice c sh fill xs hok hx hfits _ (storeHandle_some_ok _)

/-- sharding nested two levels deep: 2×2 inner shards (index at the start, big-endian, no checksum) of 1×2 innermost
chunks (index at the end, little-endian, crc32c); a transpose before the outer sharding and in the leaf chain, crc32c
after the outer sharding and in the leaf chain -/
private def exLeaf : Chain := { a2a := [.transpose [1, 0]], big := true, es := 2, unit := 2, b2b := [.stripSuffix 4 crc32c] }
private def exNested : ChainS :=
  .shard [.transpose [1, 0]] ⟨0, false, true, false⟩ [2, 2] 2
    (.shard [] ⟨0, true, false, true⟩ [1, 2] 2 (.leaf exLeaf []) []) [.stripSuffix 4 crc32c]

private theorem exNested_ok : chainSOk exNested [4, 4] exFill := by
  refine ⟨⟨by decide, trivial⟩, by decide, ?_, by decide, rfl, ⟨trivial, by decide, ?_, by decide, rfl,
    ⟨by decide, by decide, by decide, ⟨by decide, trivial⟩, ?_, ⟨trivial, trivial⟩⟩⟩⟩
  · intro st hst
    simp only [List.mem_singleton] at hst
    subst hst; rfl
  · intro st hst
    cases hst
  · intro st hst
    simp only [exLeaf, List.mem_singleton] at hst
    subst hst; rfl

private theorem exNested_fits : exNested.fits [4, 4] exFill exShard := by
  simp only [exNested, ChainS.fits]
  decide +kernel

example : chainSOk exNested [4, 4] exFill ∧ chunkOk exNested.es [4, 4] exShard ∧ exNested.fits [4, 4] exFill exShard :=
  ⟨exNested_ok, ⟨by decide, by decide⟩, exNested_fits⟩

example : exNested.partialDecoder [4, 4] exFill (storeHandle (some (exNested.encode [4, 4] exFill exShard))) exRegions =
    some (exRegions.map (fun r => r.extract [4, 4] exShard)) :=
  chainS_partial_eq_full_slice_store exNested [4, 4] exFill exShard exNested_ok ⟨by decide, by decide⟩ exNested_fits
    exRegions (by decide)
example : (exNested.encode [4, 4] exFill exShard).length = 224 := by decide +kernel

/-- **every encoding of a chain that declares a fixed encoded size has that size** (so the size test of the
sharding partial decoder never rejects what the encoder wrote): `bytes` chains with transposes / squeezes, checksum
codecs, caches and size-keeping decode-all stages; a chain with a sharding codec declares no fixed size -/
theorem chainS_encode_fixed_length (c : ChainS) (sh : Shape) (fill : Elem) (xs : List Elem) (n : Nat)
    (hok : chainSOk c sh fill) (hx : chunkOk c.es sh xs) (hf : c.fixedSize sh = some n) :
    (c.encode sh fill xs).length = n :=
  chainS_encode_length c sh fill xs n hok.lawful hx.1 hx.2 hf

/-- a size-keeping decode-all stage (a byte reversal, like `shuffle`; flagged `true` in the `keep` list) between crc32c
and fletcher32 -/
private def exFixed : ChainS :=
  .leaf { a2a := [.transpose [1, 0]], big := true, es := 2, unit := 2,
          b2b := [.stripSuffix 4 crc32c, .decodeAll List.reverse (fun b => some b.reverse), .stripSuffix 4 fletcher32] }
    [false, true, false]
example : chainSOk exFixed [2, 3] exFill ∧ chunkOk exFixed.es [2, 3] ((List.range 6).map (fun i => [i, 9])) ∧
    exFixed.fixedSize [2, 3] = some 20 := by
  refine ⟨⟨by decide, by decide, by decide, ⟨by decide, trivial⟩, ?_, ⟨trivial, fun _ b => by simp, trivial, trivial⟩⟩,
    ⟨by decide, by decide⟩, by decide⟩
  intro st hst
  simp only [List.mem_cons, List.not_mem_nil, or_false] at hst
  rcases hst with rfl | rfl | rfl
  · rfl
  · intro b; simp
  · rfl
example : (exFixed.encode [2, 3] exFill ((List.range 6).map (fun i => [i, 9]))).length = 20 := by decide +kernel
example : exNested.fixedSize [4, 4] = none := rfl

/-- … and an absent value reads as fill through such a chain -/
theorem chainS_partial_absent (c : ChainS) (sh : Shape) (fill : Elem) (hok : chainSOk c sh fill)
    (g : BHandle) (hg : BHandleAbsent g) :
    AHandleOk (c.partialDecoder sh fill g) sh (List.replicate (prod sh) fill) :=
  chainS_absent c sh fill hok.lawful g hg

example : chainSOk exNested [4, 4] exFill ∧ BHandleAbsent (storeHandle none) := ⟨exNested_ok, storeHandle_none_absent⟩
example : exNested.partialDecoder [4, 4] exFill (storeHandle none) exRegions =
    some (exRegions.map (fun r => r.extract [4, 4] (List.replicate (prod [4, 4]) exFill))) := by decide +kernel

end Zarrs.C02S
