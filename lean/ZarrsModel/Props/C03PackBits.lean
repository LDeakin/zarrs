import ZarrsModel.Model.PackBits
import ZarrsModel.Lemmas.PackBits
import ZarrsModel.Props.C03
/- C03 for the `packbits` codec as repaired: the bits `first..=last` of each component; declared size = encoded size -/
namespace Zarrs.C03
open Zarrs Zarrs.Codec

open Zarrs.PackBits in
/-- **packbits has exactly the declared size** -/
theorem packbits_size (c : PackBits.Cfg) (hw : 0 < c.w) (hfl : c.first ≤ c.last) (hl : c.last < c.w)
    (data : Bytes) (hlen : data.length % c.cb = 0) :
    (PackBits.encode c data).length = PackBits.encodedSize c (data.length / c.cb) := by
  have _ := hfl; have _ := hl
  cases hf : fast c with
  | true =>
    unfold encode encodedSize
    simp only [hf, if_true]
    exact (Nat.div_mul_cancel (Nat.dvd_of_mod_eq_zero hlen)).symm
  | false =>
    rw [encode_slow c data hf, encodedSize_slow _ _ hf]
    cases c.pad <;> simp [encBody_length c hw data hlen]

open Zarrs.PackBits in
/-- **and inverts its encoding** on every buffer whose components lie in the configured bit range (for a
sign-extended type: copies of the sign bit above `last`), for every component width, bit range and padding mode -/
theorem packbits_dec_enc (c : PackBits.Cfg) (hw : 0 < c.w) (hfl : c.first ≤ c.last) (hl : c.last < c.w)
    (data : Bytes) (hb : wfBytes data) (hlen : data.length % c.cb = 0)
    (hr : ∀ v ∈ PackBits.comps c data, PackBits.inRange c v = true) :
    PackBits.decode c (data.length / c.cb) (PackBits.encode c data) = some data := by
  cases hf : fast c with
  | true =>
    unfold decode encode
    simp only [hf, if_true]
    rw [Nat.div_mul_cancel (Nat.dvd_of_mod_eq_zero hlen)]
    simp only [beq_self_eq_true, if_true]
  | false =>
    have hbody := decode_body c hfl hl data hb hlen hr
    unfold decode
    simp only [hf, Bool.false_eq_true, if_false, packbits_size c hw hfl hl data hlen, bne_self_eq_false]
    rw [← encBits_length c hw data hlen, encode_slow c data hf]
    cases c.pad <;> simp [hbody]

example : PackBits.decode ⟨64, 13, 18, .firstByte, false⟩ 2
      (PackBits.encode ⟨64, 13, 18, .firstByte, false⟩ [0x00, 0xe0, 0x04, 0, 0, 0, 0, 0, 0x00, 0xa0, 0x07, 0, 0, 0, 0, 0]) =
      some [0x00, 0xe0, 0x04, 0, 0, 0, 0, 0, 0x00, 0xa0, 0x07, 0, 0, 0, 0, 0] ∧
    PackBits.encode ⟨64, 13, 18, .firstByte, false⟩ [0x00, 0xe0, 0x04, 0, 0, 0, 0, 0, 0x00, 0xa0, 0x07, 0, 0, 0, 0, 0] = [4, 103, 15] ∧
    PackBits.decode ⟨16, 0, 4, .lastByte, true⟩ 3 (PackBits.encode ⟨16, 0, 4, .lastByte, true⟩ [0xf0, 0xff, 0x0f, 0x00, 0xff, 0xff]) =
      some [0xf0, 0xff, 0x0f, 0x00, 0xff, 0xff] := by
  decide +kernel

end Zarrs.C03
