import ZarrsModel.Lemmas.FaultOpsArray
import ZarrsModel.Lemmas.FaultList
import ZarrsModel.Props.C20
/-
C20 at the level of single store OPERATIONS.

`Model/FaultOps.lean`: a store `FStore = (m, n, fails)` that counts its operations and fails those whose ordinal is
in `fails` (`fails = [k]` is "the `k`-th operation fails"); every array / group / node method as the program
(`Prog`) of the store operations the Rust code issues, in its order.  The theorems below hold for EVERY program,
hence for every method; they are then read off for the methods the property names.
-/
namespace Zarrs.C20Ops
open Zarrs Zarrs.Hier

variable {α : Type} [DecidableEq α]


theorem run_nofault {β} (p : Prog β) (m : KV) (n : Nat) :
    (∀ v m', p.pure m = some (v, m') → p.run ⟨m, n, []⟩ = .ok v ⟨m', n + p.ops m, []⟩) ∧
    (p.pure m = none → ∃ s', p.run ⟨m, n, []⟩ = .err s' ∧ s'.n = n + p.ops m) := by
  rw [Prog.run_nofault]
  simp only [Prog.outcome]
  constructor
  · intro v m' h; rw [h]
  · intro h; rw [h]; exact ⟨_, rfl, rfl⟩

/-- **`fops_refines` (writes)**: with no fault each write method of a history, run as its sequence of store
operations (per-chunk closures in the order of `chunks.indices()`), is the method of `Model/Array.lean`: same
acceptance, same final store — so every theorem about `ArrCfg.applyOp` / `ArrCfg.run` transfers -/
theorem fops_refines (cfg : ArrCfg α) (st : KV) (n : Nat) (op : WriteOp α) :
    (∀ st', cfg.applyOp st op = some st' →
      (cfg.planOf op).prog.run ⟨st, n, []⟩ = .ok () ⟨st', n + (cfg.planOf op).prog.ops st, []⟩) ∧
    (cfg.applyOp st op = none → ∃ s', (cfg.planOf op).prog.run ⟨st, n, []⟩ = .err s') := by
  obtain ⟨h1, h2⟩ := run_nofault (cfg.planOf op).prog st n
  rw [ArrCfg.planOf_pure] at h1 h2
  constructor
  · intro st' h
    exact h1 () st' (by rw [h]; rfl)
  · intro h
    obtain ⟨s', hs, _⟩ := h2 (by rw [h]; rfl)
    exact ⟨s', hs⟩
/-- 7 operations: GET + SET for each of the three partly covered chunks, one SET for chunk (1,1) -/
example : C01.exCfg.applyOp C20.exStore (.storeArraySubset C20.exRegion C20.exData) = some C20.exFull ∧
    (C01.exCfg.planOf (.storeArraySubset C20.exRegion C20.exData)).prog.run ⟨C20.exStore, 0, []⟩ =
      .ok () ⟨C20.exFull, 7, []⟩ := by decide +kernel

/-- **`fops_refines` (reads)**: `retrieve_chunk[_if_exists]`, `retrieve_chunk_subset` (whatever the number of reads
its partial decoder issues) and `retrieve_array_subset` return what the methods of `Model/Array.lean` return (that they
leave the store as it was is `read_fault_no_effect`) -/
theorem fops_refines_reads (cfg : ArrCfg α) (extra : Option Bytes → Subset → Nat) (st : KV) (n : Nat) :
    (∀ c, ((cfg.retrieveChunkP c).run ⟨st, n, []⟩).val? = cfg.retrieveChunk st c) ∧
    (∀ c, (c.length = cfg.grid.length → (cfg.chunkShape c).isSome = true) →
      ((cfg.retrieveChunkIfExistsP c).run ⟨st, n, []⟩).val? = cfg.retrieveChunkIfExists st c) ∧
    (∀ c r, ((cfg.retrieveChunkSubsetP extra c r).run ⟨st, n, []⟩).val? = cfg.retrieveChunkSubset st c r) ∧
    (∀ region, ((cfg.retrieveArraySubsetP extra id region).run ⟨st, n, []⟩).val? = cfg.retrieveArraySubset st region) :=
  ⟨fun c => Prog.run_nofault_val _ st n _ (ArrCfg.retrieveChunkP_pure cfg st c),
   fun c hc => Prog.run_nofault_val _ st n _ (ArrCfg.retrieveChunkIfExistsP_pure cfg st c hc),
   fun c r => Prog.run_nofault_val _ st n _ (ArrCfg.retrieveChunkSubsetP_pure cfg extra st c r),
   fun region => Prog.run_nofault_val _ st n _ (ArrCfg.retrieveArraySubsetP_pure cfg extra st region)⟩
example : ((C01.exCfg.retrieveArraySubsetP ArrCfg.noExtra id C20.exRegion).run ⟨C20.exFull, 0, []⟩) =
    .ok C20.exData ⟨C20.exFull, 4, []⟩ := by decide +kernel

/-- **`fops_refines` (metadata, nodes)**: opening an array / group (`open_metadata`), `Node::get_metadata`,
`Group::children(false)` and `Node::open`, run without faults, return what the fault-free definitions
(`Hier.openMeta`, and `Hier.getMeta`, `Hier.children`, `Hier.openNode` of `Model/Hier.lean`) return -/
theorem fops_refines_meta (r : Reader) (m : KV) (n : Nat) (pre k2 : Key) (ok3 ok2 okAttrs : Bytes → Bool) :
    ((openMetaP pre k2 ok3 ok2 okAttrs).run ⟨m, n, []⟩).val? = openMeta m pre k2 ok3 ok2 okAttrs ∧
    ((getMetaP r pre).run ⟨m, n, []⟩).val? = some (getMeta r m pre) ∧
    ((childrenP r pre).run ⟨m, n, []⟩).val? = children r m false pre ∧
    ((openNodeP r (depthBound m) pre).run ⟨m, n, []⟩).val? = openNode r m pre :=
  ⟨Prog.run_nofault_val _ m n _ (openMetaP_pure m pre k2 ok3 ok2 okAttrs),
   Prog.run_nofault_val _ m n (some _) (getMetaP_pure r m pre),
   Prog.run_nofault_val _ m n _ (childrenP_pure r m pre), Prog.run_nofault_val _ m n _ (openNodeP_pure r m pre)⟩

/-- **a fault at any position of the run is an error** — for every method (every program), every store, every value of
the counter and every failing SET: if some failing ordinal `k` lies among the operations the fault-free run performs
(`n < k ≤ n + ops`), the run returns an error, never a value -/
theorem fault_at_k_is_error_gen {β} (p : Prog β) (m : KV) (n : Nat) (F : List Nat) (k : Nat) (hk : k ∈ F) (h1 : n < k)
    (h2 : k ≤ n + p.ops m) : (p.run ⟨m, n, F⟩).isOk = false := by
  obtain ⟨s', h⟩ := Prog.fault_is_err p m n F k hk h1 h2
  rw [h]; rfl

/-- **the `k`-th operation fails ⇒ error**, for every `k` from 1 to the number of operations of the fault-free run;
moreover exactly `k` operations were issued and the store is that of the fault-free run after `k - 1` operations -/
theorem fault_at_k_is_error {β} (p : Prog β) (m : KV) (k : Nat) (h1 : 1 ≤ k) (h2 : k ≤ p.ops m) :
    p.run (FStore.failAt m (some k)) = .err ⟨p.mAfter m (k - 1), k, [k]⟩ := by
  have := Prog.run_single p m 0 k (by omega) (by omega)
  simpa [FStore.failAt] using this
example : (C01.exCfg.storeChunkSubsetP [0, 0] ⟨[0, 1], [1, 1]⟩ [7]).ops C20.exStore = 2 ∧
    (∀ k ∈ [1, 2], (C01.exCfg.storeChunkSubsetP [0, 0] ⟨[0, 1], [1, 1]⟩ [7]).run (FStore.failAt C20.exStore (some k)) =
      .err ⟨C20.exStore, k, [k]⟩) ∧
    ((C01.exCfg.storeChunkSubsetP [0, 0] ⟨[0, 1], [1, 1]⟩ [7]).run (FStore.failAt C20.exStore (some 3))).isOk = true := by
  decide +kernel

/-- **parallel multi-chunk methods**: for EVERY order in which the per-chunk closures are started and every failing
set with an ordinal among the operations of the (sequential, fault-free) run in that order, the method returns an
error — both when it stops at the first error and when every closure is started regardless (rayon) -/
theorem fault_at_k_is_error_par (pl : Plan) (order : List Idx) (m : KV) (n : Nat) (F : List Nat) (k : Nat) (hk : k ∈ F)
    (h1 : n < k) (h2 : k ≤ n + (pl.exec order).ops m) :
    ((pl.exec order).run ⟨m, n, F⟩).isOk = false ∧ (Prog.runAll (pl.steps order) ⟨m, n, F⟩).isOk = false := by
  constructor
  · exact fault_at_k_is_error_gen _ m n F k hk h1 h2
  · obtain ⟨s', h⟩ := Prog.runAll_fault_is_err (pl.steps order) m n F k hk h1 h2
    rw [h]; rfl
example : ((C01.exCfg.storeArraySubsetPlan C20.exRegion C20.exData).exec C20.exChunks.indices.reverse).ops C20.exStore = 7 ∧
    ∀ k ∈ [1, 2, 3, 4, 5, 6, 7],
      (Prog.runAll ((C01.exCfg.storeArraySubsetPlan C20.exRegion C20.exData).steps C20.exChunks.indices.reverse)
        (FStore.failAt C20.exStore (some k))).isOk = false := by decide +kernel

/-- **the number of operations of a run is a function of the method and the store**: it does not depend on the value
of the counter nor on failing ordinals outside the run (so "every `k` up to `N`" is well defined, `N = p.ops m`) -/
theorem ops_count_deterministic {β} (p : Prog β) (m : KV) (n : Nat) (F : List Nat)
    (hF : ∀ k ∈ F, k ≤ n ∨ n + p.ops m < k) : (p.run ⟨m, n, F⟩).st.n = n + p.ops m := by
  have hnone : firstFail F n (p.ops m) = none := by
    cases h : firstFail F n (p.ops m) with
    | none => rfl
    | some j =>
      obtain ⟨h1, h2⟩ := firstFail_some F n _ j h
      have := hF _ h2
      omega
  rw [Prog.run_eq, hnone]
  simp only [Prog.outcome]
  cases p.pure m <;> rfl
example : ((C01.exCfg.storeArraySubsetPlan C20.exRegion C20.exData).prog.run ⟨C20.exStore, 10, [3, 18]⟩).st.n = 17 := by
  decide +kernel

/-- **for the parallel multi-chunk writes the count does not depend on the order of the per-chunk closures either**:
when the fault-free `store_array_subset` / `store_chunks` over several chunks succeeds, the run with the closures in
ANY order (any permutation of `chunks.indices()`) performs the same number of operations — every closure touches only
its own chunk's key, and distinct chunks have distinct keys -/
theorem ops_count_order_independent (cfg : ArrCfg α) (hK : cfg.KeysInjective) (st stFull : KV) (region : Subset)
    (data : List α) (chunks : Subset) (hcw : chunks.wf = true) (order : List Idx) (hperm : order.Perm chunks.indices) :
    (ArrCfg.foldOpt (cfg.storeArraySubsetChunk region data) st chunks.indices = some stFull →
      (Prog.seq (order.map (cfg.storeArraySubsetStepP region data))).ops st =
        (Prog.seq (chunks.indices.map (cfg.storeArraySubsetStepP region data))).ops st) ∧
    (ArrCfg.foldOpt (cfg.storeChunksChunk region data) st chunks.indices = some stFull →
      (Prog.seq (order.map (cfg.storeChunksStepP region data))).ops st =
        (Prog.seq (chunks.indices.map (cfg.storeChunksStepP region data))).ops st) := by
  have hnd := ArrCfg.keys_nodup hK _ (chunks.indices_nodup hcw)
  constructor
  · intro hfull
    rw [ArrCfg.storeArraySubsetChunk_eq_kvStep] at hfull
    exact Prog.Cell.seq_ops_perm (ArrCfg.storeArraySubsetStepP_cell cfg region data) chunks.indices hnd st stFull hfull order
      hperm
  · intro hfull
    rw [ArrCfg.storeChunksChunk_eq_kvStep] at hfull
    exact Prog.Cell.seq_ops_perm (ArrCfg.storeChunksStepP_cell cfg region data) chunks.indices hnd st stFull hfull order hperm
example : C20.exChunks.indices.reverse.Perm C20.exChunks.indices ∧
    ArrCfg.foldOpt (C01.exCfg.storeArraySubsetChunk C20.exRegion C20.exData) C20.exStore C20.exChunks.indices =
      some C20.exFull ∧
    (Prog.seq (C20.exChunks.indices.reverse.map (C01.exCfg.storeArraySubsetStepP C20.exRegion C20.exData))).ops C20.exStore = 7 ∧
    (Prog.seq (C20.exChunks.indices.map (C01.exCfg.storeArraySubsetStepP C20.exRegion C20.exData))).ops C20.exStore = 7 :=
  ⟨List.reverse_perm _, by decide +kernel⟩

/-- a faulted run never issues more operations than the fault-free run -/
theorem ops_le_fault_free {β} (p : Prog β) (m : KV) (n : Nat) (F : List Nat) :
    n ≤ (p.run ⟨m, n, F⟩).st.n ∧ (p.run ⟨m, n, F⟩).st.n ≤ n + p.ops m :=
  Prog.run_count_bounds p m n F

/-- **every single-chunk write method is atomic under faults**: `store_chunk`, `erase_chunk`, and
`store_chunk_subset` (whole-chunk path AND read-modify-write path) either succeed or return an error leaving the
store exactly as it was, whichever operation failed -/
theorem single_chunk_write_atomic (cfg : ArrCfg α) (st : KV) (n : Nat) (F : List Nat) (s' : FStore) :
    (∀ c d, (cfg.storeChunkP c d).run ⟨st, n, F⟩ = .err s' → s'.m = st) ∧
    (∀ c, (cfg.eraseChunkP c).run ⟨st, n, F⟩ = .err s' → s'.m = st) ∧
    (∀ c r d, (cfg.storeChunkSubsetP c r d).run ⟨st, n, F⟩ = .err s' → s'.m = st) :=
  ⟨fun c d h => Prog.writeLast_err _ (ArrCfg.storeChunkP_cell cfg c d).writeLast st n F s' h,
   fun c h => Prog.writeLast_err _ (ArrCfg.eraseChunkP_cell cfg c).writeLast st n F s' h,
   fun c r d h => Prog.writeLast_err _ (ArrCfg.storeChunkSubsetP_cell cfg c r d).writeLast st n F s' h⟩

/-- **a partial-chunk write is GET then SET/ERASE; a fault on either is an error and leaves the chunk's key (the whole
store) untouched**: for an accepted write on the read-modify-write path the fault-free run has exactly 2
operations; failing the 1st (the read) or the 2nd (the write, which is atomic) gives an error with the store
unchanged -/
theorem rmw_fault_on_read_leaves_chunk (cfg : ArrCfg α) (st st' : KV) (c : Idx) (r : Subset) (d : List α) (s : Shape)
    (hs : cfg.chunkShape c = some s) (hpart : (r.shape == s && r.start.all (· == 0)) = false)
    (hok : cfg.storeChunkSubset st c r d = some st') :
    (cfg.storeChunkSubsetP c r d).ops st = 2 ∧
    (cfg.storeChunkSubsetP c r d).run (FStore.failAt st (some 1)) = .err ⟨st, 1, [1]⟩ ∧
    (cfg.storeChunkSubsetP c r d).run (FStore.failAt st (some 2)) = .err ⟨st, 2, [2]⟩ := by
  have hops := ArrCfg.storeChunkSubsetP_ops_rmw cfg st st' c r d s hs hpart hok
  have hwl := (ArrCfg.storeChunkSubsetP_cell cfg c r d).writeLast
  refine ⟨hops, ?_, ?_⟩
  · rw [fault_at_k_is_error _ st 1 (by omega) (by omega), Prog.writeLast_mAfter _ hwl st 0 (Or.inl (by omega))]
  · rw [fault_at_k_is_error _ st 2 (by omega) (by omega), Prog.writeLast_mAfter _ hwl st 1 (Or.inl (by omega))]
example : C01.exCfg.chunkShape [0, 0] = some [2, 3] ∧
    ((Subset.mk [0, 1] [1, 1]).shape == [2, 3] && (Subset.mk [0, 1] [1, 1]).start.all (· == 0)) = false ∧
    C01.exCfg.storeChunkSubset C20.exStore [0, 0] ⟨[0, 1], [1, 1]⟩ [7] =
      some [(C01.exKey [0, 0], [1, 7, 3, 4, 5, 6]), (C01.exKey [2, 2], [9, 9, 9, 9, 9, 9])] := by decide +kernel

/-- **the seeded defect (a), as a counterexample**: the variant that maps a failed read to "absent"
(`self.retrieve…(..).ok().flatten()`, interpreter `Prog.runSwallow`) answers a fault on the GET with SUCCESS and
overwrites the chunk with fill + new data — `[0, 7, 0, 0, 0, 0]` instead of leaving `[1, 2, 3, 4, 5, 6]` -/
theorem rmw_swallowed_read_counterexample :
    (C01.exCfg.storeChunkSubsetP [0, 0] ⟨[0, 1], [1, 1]⟩ [7]).runSwallow (FStore.failAt C20.exStore (some 1)) =
      .ok () ⟨[(C01.exKey [0, 0], [0, 7, 0, 0, 0, 0]), (C01.exKey [2, 2], [9, 9, 9, 9, 9, 9])], 2, [1]⟩ ∧
    (C01.exCfg.storeChunkSubsetP [0, 0] ⟨[0, 1], [1, 1]⟩ [7]).run (FStore.failAt C20.exStore (some 1)) =
      .err ⟨C20.exStore, 1, [1]⟩ := by decide +kernel

/-- chunk-granular state of a parallel method whose per-chunk steps are single-key steps (generic form) -/
theorem par_granular (keyOf : Idx → Key) (W : Idx → Option Bytes → Option (Option Bytes)) (stepP : Idx → Prog Unit)
    (href : ∀ m c, (stepP c).pure m = (ArrCfg.kvStep keyOf W m c).map (fun m' => ((), m')))
    (hwl : ∀ c, (stepP c).writeLast)
    (chunks : List Idx) (hndC : (chunks.map keyOf).Nodup) (st stFull : KV)
    (hfull : ArrCfg.foldOpt (ArrCfg.kvStep keyOf W) st chunks = some stFull)
    (order : List Idx) (hndO : (order.map keyOf).Nodup) (hsub : ∀ c ∈ order, c ∈ chunks) (n : Nat) (F : List Nat) :
    (∀ k : Key, (Prog.runAll (order.map stepP) ⟨st, n, F⟩).st.m.get k = st.get k ∨
        (Prog.runAll (order.map stepP) ⟨st, n, F⟩).st.m.get k = stFull.get k) ∧
    (∀ k : Key, ((Prog.seq (order.map stepP)).run ⟨st, n, F⟩).st.m.get k = st.get k ∨
        ((Prog.seq (order.map stepP)).run ⟨st, n, F⟩).st.m.get k = stFull.get k) :=
  have hk : KeyStep keyOf W stepP := ⟨href, hwl⟩
  ⟨(hk.runAll_reached order ⟨st, n, F⟩).granular hndC hfull hndO hsub,
    (hk.seq_reached order ⟨st, n, F⟩).granular hndC hfull hndO hsub⟩

/-- **whole-chunk write path, operation level**: after `store_chunks` over a box of chunks under ANY failing set, with
the per-chunk closures started in ANY order and any part of them reached (`order`: duplicate-free, within the box),
every key of the store holds its previous value or its intended value (the value in the fault-free final state) —
whether the run stops at the first error or lets every started closure finish -/
theorem whole_chunk_path_granular (cfg : ArrCfg α) (hK : cfg.KeysInjective) (st stFull : KV) (box region : Subset)
    (data : List α) (hbw : box.wf = true)
    (hfull : ArrCfg.foldOpt (cfg.storeChunksChunk region data) st box.indices = some stFull)
    (order : List Idx) (hnd : order.Nodup) (hsub : ∀ c ∈ order, c ∈ box.indices) (n : Nat) (F : List Nat) :
    (∀ k : Key, (Prog.runAll (order.map (cfg.storeChunksStepP region data)) ⟨st, n, F⟩).st.m.get k = st.get k ∨
        (Prog.runAll (order.map (cfg.storeChunksStepP region data)) ⟨st, n, F⟩).st.m.get k = stFull.get k) ∧
    (∀ k : Key, ((Prog.seq (order.map (cfg.storeChunksStepP region data))).run ⟨st, n, F⟩).st.m.get k = st.get k ∨
        ((Prog.seq (order.map (cfg.storeChunksStepP region data))).run ⟨st, n, F⟩).st.m.get k = stFull.get k) := by
  rw [ArrCfg.storeChunksChunk_eq_kvStep] at hfull
  have hk := KeyStep.of_cell (ArrCfg.storeChunksStepP_cell cfg region data)
  exact par_granular cfg.keyOf _ _ hk.pure_eq hk.atomic box.indices (ArrCfg.keys_nodup hK _ (box.indices_nodup hbw))
    st stFull hfull order (ArrCfg.keys_nodup hK _ hnd) hsub n F
example :
    let box : Subset := ⟨[0, 0], [1, 2]⟩
    let region : Subset := ⟨[0, 0], [2, 6]⟩
    let data : List Nat := [1, 2, 3, 4, 5, 6, 7, 8, 9, 10, 11, 12]
    C01.exCfg.KeysInjective ∧ box.wf = true ∧
    (C01.exCfg.storeChunksPlan box data).chunks = box.indices ∧ C01.exCfg.grid.chunksSubset box = some region ∧
    ArrCfg.foldOpt (C01.exCfg.storeChunksChunk region data) C20.exStore box.indices =
      some [(C01.exKey [0, 0], [1, 2, 3, 7, 8, 9]), (C01.exKey [0, 1], [4, 5, 6, 10, 11, 12]),
            (C01.exKey [2, 2], [9, 9, 9, 9, 9, 9])] ∧
    box.indices.Nodup ∧
    (Prog.runAll (box.indices.map (C01.exCfg.storeChunksStepP region data)) (FStore.failAt C20.exStore (some 2))) =
      .err ⟨[(C01.exKey [0, 0], [1, 2, 3, 7, 8, 9]), (C01.exKey [2, 2], [9, 9, 9, 9, 9, 9])], 2, [2]⟩ :=
  ⟨C01.exKey_inj, by decide +kernel⟩

/-- the same for `store_array_subset` over several chunks — whole-chunk steps AND read-modify-write steps: the write of
a chunk is one atomic store operation, so even the partial-chunk path leaves every key at its previous or its
intended value -/
theorem store_array_subset_granular (cfg : ArrCfg α) (hK : cfg.KeysInjective) (st stFull : KV) (region : Subset)
    (data : List α) (chunks : Subset) (hcw : chunks.wf = true)
    (hfull : ArrCfg.foldOpt (cfg.storeArraySubsetChunk region data) st chunks.indices = some stFull)
    (order : List Idx) (hnd : order.Nodup) (hsub : ∀ c ∈ order, c ∈ chunks.indices) (n : Nat) (F : List Nat) :
    (∀ k : Key, (Prog.runAll (order.map (cfg.storeArraySubsetStepP region data)) ⟨st, n, F⟩).st.m.get k = st.get k ∨
        (Prog.runAll (order.map (cfg.storeArraySubsetStepP region data)) ⟨st, n, F⟩).st.m.get k = stFull.get k) ∧
    (∀ k : Key, ((Prog.seq (order.map (cfg.storeArraySubsetStepP region data))).run ⟨st, n, F⟩).st.m.get k = st.get k ∨
        ((Prog.seq (order.map (cfg.storeArraySubsetStepP region data))).run ⟨st, n, F⟩).st.m.get k = stFull.get k) := by
  rw [ArrCfg.storeArraySubsetChunk_eq_kvStep] at hfull
  have hk := KeyStep.of_cell (ArrCfg.storeArraySubsetStepP_cell cfg region data)
  exact par_granular cfg.keyOf _ _ hk.pure_eq hk.atomic chunks.indices
    (ArrCfg.keys_nodup hK _ (chunks.indices_nodup hcw)) st stFull hfull order (ArrCfg.keys_nodup hK _ hnd) hsub n F
example : C01.exCfg.KeysInjective ∧ C20.exChunks.wf = true ∧
    ArrCfg.foldOpt (C01.exCfg.storeArraySubsetChunk C20.exRegion C20.exData) C20.exStore C20.exChunks.indices =
      some C20.exFull ∧
    C20.exChunks.indices.reverse.Nodup ∧ (∀ c ∈ C20.exChunks.indices.reverse, c ∈ C20.exChunks.indices) ∧
    (Prog.seq (C20.exChunks.indices.reverse.map (C01.exCfg.storeArraySubsetStepP C20.exRegion C20.exData))).run
        (FStore.failAt C20.exStore (some 4)) =
      .err ⟨[(C01.exKey [0, 0], [1, 2, 3, 4, 5, 6]), (C01.exKey [1, 0], [0, 0, 4, 0, 0, 8]),
             (C01.exKey [1, 1], [5, 6, 7, 9, 10, 11]), (C01.exKey [2, 2], [9, 9, 9, 9, 9, 9])], 4, [4]⟩ :=
  ⟨C01.exKey_inj, by decide +kernel⟩

/-- **retry, single-chunk methods (whole-chunk and read-modify-write path)**: a faulted run of a write-last method left
the store unchanged, so repeating the method without faults from the state the fault left IS the fault-free run -/
theorem retry_converges_ops_single (cfg : ArrCfg α) (st : KV) (c : Idx) (r : Subset) (d : List α) (n n' : Nat)
    (F : List Nat) (s' : FStore) (herr : (cfg.storeChunkSubsetP c r d).run ⟨st, n, F⟩ = .err s') :
    ((cfg.storeChunkSubsetP c r d).run ⟨s'.m, n', []⟩).val? = ((cfg.storeChunkSubsetP c r d).run ⟨st, n', []⟩).val? ∧
    ((cfg.storeChunkSubsetP c r d).run ⟨s'.m, n', []⟩).st.m = ((cfg.storeChunkSubsetP c r d).run ⟨st, n', []⟩).st.m := by
  rw [Prog.writeLast_err _ (ArrCfg.storeChunkSubsetP_cell cfg c r d).writeLast st n F s' herr]
  exact ⟨rfl, rfl⟩
example : (C01.exCfg.storeChunkSubsetP [0, 0] ⟨[0, 1], [1, 1]⟩ [7]).run ⟨C20.exStore, 0, [2]⟩ =
    .err ⟨C20.exStore, 2, [2]⟩ := by decide +kernel

/-- **retry, multi-chunk `store_array_subset`**: after a faulted run (ANY failing set, closures started in ANY order,
any part of them reached, run stopped at the first error or not) repeating the whole method without faults gives the
fault-free final state -/
theorem retry_converges_ops (cfg : ArrCfg α) (hL : cfg.Lossless) (hK : cfg.KeysInjective) (st stFull : KV)
    (hs : st.sorted) (region : Subset) (data : List α) (chunks : Subset) (hw : region.wf = true) (hcw : chunks.wf = true)
    (hfull : ArrCfg.foldOpt (cfg.storeArraySubsetChunk region data) st chunks.indices = some stFull)
    (order : List Idx) (hnd : order.Nodup) (hsub : ∀ c ∈ order, c ∈ chunks.indices) (n n' : Nat) (F : List Nat) :
    (Prog.seq (chunks.indices.map (cfg.storeArraySubsetStepP region data))).run
        ⟨(Prog.runAll (order.map (cfg.storeArraySubsetStepP region data)) ⟨st, n, F⟩).st.m, n', []⟩ =
      .ok () ⟨stFull, n' + (Prog.seq (chunks.indices.map (cfg.storeArraySubsetStepP region data))).ops
        (Prog.runAll (order.map (cfg.storeArraySubsetStepP region data)) ⟨st, n, F⟩).st.m, []⟩ ∧
    (Prog.seq (chunks.indices.map (cfg.storeArraySubsetStepP region data))).run
        ⟨((Prog.seq (order.map (cfg.storeArraySubsetStepP region data))).run ⟨st, n, F⟩).st.m, n', []⟩ =
      .ok () ⟨stFull, n' + (Prog.seq (chunks.indices.map (cfg.storeArraySubsetStepP region data))).ops
        ((Prog.seq (order.map (cfg.storeArraySubsetStepP region data))).run ⟨st, n, F⟩).st.m, []⟩ := by
  have hk := KeyStep.of_cell (ArrCfg.storeArraySubsetStepP_cell cfg region data)
  rw [ArrCfg.storeArraySubsetChunk_eq_kvStep] at hfull
  have hndC := ArrCfg.keys_nodup hK _ (chunks.indices_nodup hcw)
  have hndO := ArrCfg.keys_nodup hK _ hnd
  have conv : ∀ st', Reached cfg.keyOf (cfg.storeArraySubsetChunkW region data) st order st' →
      (Prog.seq (chunks.indices.map (cfg.storeArraySubsetStepP region data))).run ⟨st', n', []⟩ =
        .ok () ⟨stFull, n' + (Prog.seq (chunks.indices.map (cfg.storeArraySubsetStepP region data))).ops st', []⟩ := by
    intro st' hr
    apply (run_nofault _ st' n').1 () stFull
    rw [ArrCfg.seq_map_pure _ _ hk.pure_eq,
      ArrCfg.foldOpt_kvStep_retry cfg.keyOf _ (ArrCfg.storeArraySubsetChunkW_idem hL region data hw) _ hndC st stFull st' hs
        (hr.sorted hs) hfull (hr.granular hndC hfull hndO hsub)]
    rfl
  exact ⟨conv _ (hk.runAll_reached order ⟨st, n, F⟩), conv _ (hk.seq_reached order ⟨st, n, F⟩)⟩
example : C01.exCfg.Lossless ∧ C20.exStore.sorted ∧ C20.exRegion.wf = true ∧
    (Prog.seq (C20.exChunks.indices.map (C01.exCfg.storeArraySubsetStepP C20.exRegion C20.exData))).run
      ⟨((Prog.seq (C20.exChunks.indices.reverse.map (C01.exCfg.storeArraySubsetStepP C20.exRegion C20.exData))).run
          (FStore.failAt C20.exStore (some 4))).st.m, 0, []⟩ = .ok () ⟨C20.exFull, 7, []⟩ :=
  ⟨fun _ => rfl, by unfold KV.sorted; decide +kernel⟩

/-- **retry, metadata**: storing V2 metadata is `.zattrs` then the V2 document; a fault on the second operation leaves
the new `.zattrs` beside the old document; repeating `store_metadata` gives — key by key — the fault-free state -/
theorem retry_converges_store_metadata (m : KV) (pre k2 : Key) (doc : MetaDoc) (n n' : Nat) (F : List Nat) (k : Key) :
    ((storeMetadataP pre k2 doc).run ⟨((storeMetadataP pre k2 doc).run ⟨m, n, F⟩).st.m, n', []⟩).st.m.get k =
      ((storeMetadataP pre k2 doc).run ⟨m, n', []⟩).st.m.get k := by
  refine Prog.blind_retry _ ?_ m n n' F k
  cases doc with
  | v3 js => trivial
  | v2 d a => cases a <;> trivial
/-- the intermediate state occurs: the new `.zattrs` beside the old `.zarray` -/
example : (storeMetadataP "a/".toList kZarray (.v2 [2] (some [7]))).run
      (FStore.failAt [("a/.zarray".toList, [1])] (some 2)) =
    .err ⟨[("a/.zarray".toList, [1]), ("a/.zattrs".toList, [7])], 2, [2]⟩ := by decide +kernel

/-- **faulted reads leave the store unchanged**: every read method — `retrieve_chunk[_if_exists]`,
`retrieve_chunk_subset`, `retrieve_array_subset` (any order of the closures), the fill closure of a chunk cache, the
opens and listings — leaves the store exactly as it was under EVERY failing set, whatever it returns -/
theorem read_fault_no_effect (cfg : ArrCfg α) (extra : Option Bytes → Subset → Nat) (r : Reader) (st : KV) (n : Nat)
    (F : List Nat) :
    (∀ c, ((cfg.retrieveChunkP c).run ⟨st, n, F⟩).st.m = st) ∧
    (∀ c, ((cfg.retrieveChunkIfExistsP c).run ⟨st, n, F⟩).st.m = st) ∧
    (∀ c sub, ((cfg.retrieveChunkSubsetP extra c sub).run ⟨st, n, F⟩).st.m = st) ∧
    (∀ order region, ((cfg.retrieveArraySubsetP extra order region).run ⟨st, n, F⟩).st.m = st) ∧
    (∀ kind c, ((cfg.cacheFillP kind c).run ⟨st, n, F⟩).st.m = st) ∧
    (∀ pre k2 ok3 ok2 okA, ((openMetaP pre k2 ok3 ok2 okA).run ⟨st, n, F⟩).st.m = st) ∧
    (∀ fuel pre, ((openNodeP r fuel pre).run ⟨st, n, F⟩).st.m = st) ∧
    (∀ pre, ((childrenP r pre).run ⟨st, n, F⟩).st.m = st) :=
  have key {β} (p : Prog β) (hp : p.readOnly) := Prog.readOnly_run p hp st n F
  ⟨fun c => key _ (ArrCfg.retrieveChunkP_readOnly cfg c), fun c => key _ (ArrCfg.retrieveChunkIfExistsP_readOnly cfg c),
   fun c sub => key _ (ArrCfg.retrieveChunkSubsetP_readOnly cfg extra c sub),
   fun order region => key _ (ArrCfg.retrieveArraySubsetP_readOnly cfg extra order region),
   fun kind c => key _ (ArrCfg.cacheFillP_readOnly cfg kind c),
   fun pre k2 ok3 ok2 okA => key _ (openMetaP_readOnly pre k2 ok3 ok2 okA),
   fun fuel pre => key _ (openNodeP_readOnly r fuel pre), fun pre => key _ (childrenP_readOnly r pre)⟩
example : ((C01.exCfg.retrieveArraySubsetP ArrCfg.noExtra List.reverse C20.exRegion).run ⟨C20.exFull, 0, [3]⟩) =
    .err ⟨C20.exFull, 3, [3]⟩ := by decide +kernel

/-- **failed reads are not cached, operation level**: on a miss, a fault at ANY store operation of the fill closure
(`n < k ≤ n + ops`) makes the cached read return an error and leaves the cache — and the store — exactly as they
were; nothing is inserted -/
theorem failed_read_not_cached_ops (cfg : ArrCfg α) (kind : CacheKind) (evict : Cache α → Cache α) (cache : Cache α)
    (c : Idx) (st : KV) (n : Nat) (F : List Nat) (k : Nat) (hmiss : cache.lookup c = none) (hk : k ∈ F) (h1 : n < k)
    (h2 : k ≤ n + (cfg.cacheFillP kind c).ops st) :
    (cfg.cachedRetrieveChunkF kind evict cache c ⟨st, n, F⟩).2 = cache ∧
    (cfg.cachedRetrieveChunkF kind evict cache c ⟨st, n, F⟩).1.isOk = false ∧
    (cfg.cachedRetrieveChunkF kind evict cache c ⟨st, n, F⟩).1.st.m = st := by
  obtain ⟨s', h⟩ := Prog.fault_is_err (cfg.cacheFillP kind c) st n F k hk h1 h2
  have hm : s'.m = st := by
    have := Prog.readOnly_run _ (ArrCfg.cacheFillP_readOnly cfg kind c) st n F
    rw [h] at this
    exact this
  have e : cfg.cachedRetrieveChunkF kind evict cache c ⟨st, n, F⟩ = (.err s', cache) := by
    simp only [ArrCfg.cachedRetrieveChunkF, hmiss, h]
  rw [e]
  exact ⟨rfl, rfl, hm⟩
example :
    let cache : Cache Nat := [([2, 2], CacheEntry.decoded [9, 9, 9, 9, 9, 9])]
    cache.lookup [0, 0] = none ∧ (C01.exCfg.cacheFillP .decoded [0, 0]).ops C20.exStore = 1 ∧
    (C01.exCfg.cachedRetrieveChunkF .decoded id cache [0, 0] ⟨C20.exStore, 0, [1]⟩).1.isOk = false ∧
    (C01.exCfg.cachedRetrieveChunkF .decoded id cache [0, 0] ⟨C20.exStore, 0, []⟩).1.val? = some [1, 2, 3, 4, 5, 6] ∧
    ((C01.exCfg.cachedRetrieveChunkF .decoded id cache [0, 0] ⟨C20.exStore, 0, []⟩).2.lookup [0, 0]).isSome = true := by
  decide +kernel

/-- the cached read over a store that does not fail is the cached read of `Model/Cache.lean` (valid chunk indices) -/
theorem fops_refines_cache (cfg : ArrCfg α) (kind : CacheKind) (evict : Cache α → Cache α) (cache : Cache α) (c : Idx)
    (st : KV) (n : Nat) (hc : (cfg.chunkShape c).isSome = true) :
    (cfg.cachedRetrieveChunkF kind evict cache c ⟨st, n, []⟩).1.val? = (cfg.cachedRetrieveChunk st kind evict cache c).1 ∧
    (cfg.cachedRetrieveChunkF kind evict cache c ⟨st, n, []⟩).2 = (cfg.cachedRetrieveChunk st kind evict cache c).2 := by
  obtain ⟨s, hs⟩ := Option.isSome_iff_exists.1 hc
  simp only [ArrCfg.cachedRetrieveChunkF, ArrCfg.cachedRetrieveChunk]
  cases cache.lookup c with
  | some e =>
    simp only
    generalize cfg.cacheDecode c e = dec
    cases dec <;> simp [FR.val?]
  | none =>
    simp only
    have hfill : (cfg.cacheFillP kind c).pure st = (cfg.cacheFill st kind c).map (fun e => (e, st)) := by
      cases kind with
      | decoded =>
        simp only [ArrCfg.cacheFillP, ArrCfg.cacheFill]
        rw [Prog.pure_bind_ret, ArrCfg.retrieveChunkP_pure]
        cases cfg.retrieveChunk st c <;> rfl
      | encoded => simp only [ArrCfg.cacheFillP, ArrCfg.cacheFill, hs, Prog.pure]; rfl
    rw [Prog.run_nofault]
    simp only [Prog.outcome, hfill]
    cases cfg.cacheFill st kind c with
    | none => exact ⟨rfl, rfl⟩
    | some e =>
      simp only [Option.map_some]
      cases hd : cfg.cacheDecode c e <;> simp [FR.val?]

/-- **opening a Zarr V2 array or group is three reads — `zarr.json` (absent), the V2 document, `.zattrs` — and a fault
on any of the three is an error** (`k2 = .zarray` for `Array::open`, `.zgroup` for `Group::open`) -/
theorem open_v2_faults (m : KV) (pre k2 : Key) (ok3 ok2 okAttrs : Bytes → Bool) (d : Bytes)
    (h3 : m.get (pre ++ kZarrJson) = none) (h2 : m.get (pre ++ k2) = some d) (hok : ok2 d = true) :
    (openMetaP pre k2 ok3 ok2 okAttrs).ops m = 3 ∧
    ∀ k ∈ [1, 2, 3], (openMetaP pre k2 ok3 ok2 okAttrs).run (FStore.failAt m (some k)) = .err ⟨m, k, [k]⟩ := by
  have hops := openMetaP_ops_v2 m pre k2 ok3 ok2 okAttrs d h3 h2 hok
  refine ⟨hops, ?_⟩
  intro k hk
  have hk' : 1 ≤ k ∧ k ≤ 3 := by
    simp only [List.mem_cons, List.mem_nil_iff, or_false] at hk
    omega
  rw [fault_at_k_is_error _ m k hk'.1 (by omega), Prog.readOnly_mAfter _ (openMetaP_readOnly pre k2 ok3 ok2 okAttrs)]

/-- the V2 group of the harness (`grp2_c20/.zgroup`, `grp2_c20/.zattrs`) -/
def exV2 : KV := [("g/.zattrs".toList, [5, 5]), ("g/.zgroup".toList, [2])]
example : exV2.get ("g/".toList ++ kZarrJson) = none ∧ exV2.get ("g/".toList ++ kZgroup) = some [2] ∧
    (openMetaP "g/".toList kZgroup (fun _ => true) (fun _ => true) (fun _ => true)).run ⟨exV2, 0, []⟩ =
      .ok (.v2 [2] (some [5, 5])) ⟨exV2, 3, []⟩ := by decide +kernel

/-- **the seeded defect (b), as a counterexample**: with the error of the third read swallowed (`Prog.runSwallow`), a
fault on the `.zattrs` read makes `Group::open` SUCCEED with no attributes although `.zattrs` is stored; the real
sequence (`Prog.run`) returns an error -/
theorem open_v2_swallowed_attrs_counterexample :
    (openMetaP "g/".toList kZgroup (fun _ => true) (fun _ => true) (fun _ => true)).runSwallow (FStore.failAt exV2 (some 3)) =
      .ok (.v2 [2] none) ⟨exV2, 3, [3]⟩ ∧
    (openMetaP "g/".toList kZgroup (fun _ => true) (fun _ => true) (fun _ => true)).run (FStore.failAt exV2 (some 3)) =
      .err ⟨exV2, 3, [3]⟩ := by decide +kernel

/-- 5 operations: the 4 reads of `get_metadata` (`zarr.json`, `.zarray`, `.zgroup`, `.zattrs`) and one `list_dir` -/
example :
    let r : Reader := ⟨fun _ => none, fun _ => true, fun _ => true, fun _ => true⟩
    (openNodeP r (depthBound exV2) "g/".toList).ops exV2 = 5 ∧
    (openNodeP r (depthBound exV2) "g/".toList).run ⟨exV2, 0, []⟩ = .ok [("g/".toList, .group2)] ⟨exV2, 5, []⟩ ∧
    ∀ k ∈ [1, 2, 3, 4, 5], ((openNodeP r (depthBound exV2) "g/".toList).run (FStore.failAt exV2 (some k))).isOk = false := by
  decide +kernel

example :
    (storeMetadataP "a/".toList kZarray (.v3 [1])).ops [] = 1 ∧
    (storeMetadataP "a/".toList kZarray (.v2 [1] (some [2]))).ops [] = 2 ∧
    (storeMetadataP "a/".toList kZarray (.v2 [1] none)).ops [] = 2 ∧
    (eraseMetadataP "a/".toList kZarray .v3).ops [] = 1 ∧ (eraseMetadataP "a/".toList kZarray .v2).ops [] = 2 ∧
    (eraseMetadataP "a/".toList kZarray .all).ops [] = 3 ∧
    (∀ k ∈ [1, 2], ((storeMetadataP "a/".toList kZarray (.v2 [1] none)).run (FStore.failAt [] (some k))).isOk = false) := by
  decide +kernel

end Zarrs.C20Ops
