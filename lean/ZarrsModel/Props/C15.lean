import ZarrsModel.Model.Shard
import ZarrsModel.Lemmas.Checksum
import ZarrsModel.Lemmas.CodecShard
/-
C15 — corrupted stored data is reported, never silently decoded and never a crash.
-/
namespace Zarrs.C15
open Zarrs Zarrs.Codec

-- the decoding results in the examples below are compared by evaluation
deriving instance DecidableEq for Except

def wfBytes (b : Bytes) : Prop := ∀ x ∈ b, x < 256

def xorAt (b : Bytes) (k d : Nat) : Bytes := b.set k (b.getD k 0 ^^^ d)

/-- **CRC-32C detects every single-byte alteration** of `payload ++ checksum`, for every payload of any length
and every position (payload or checksum) -/
theorem crc32c_single_byte (p : Bytes) (hp : wfBytes p) (k d : Nat) (hk : k < p.length + 4)
    (hd0 : 0 < d) (hd : d < 256) :
    crc32cDec true (xorAt (crc32cEnc p) k d) = .error .invalidChecksum := by
  have _ := hp   -- not needed: the register difference does not depend on the byte values
  exact checksumDec_alter crc32c p k d hk hd0 fun h => crc32c_set_ne p k d h hd0 hd

example : wfBytes [1, 2, 3] ∧ 1 < [1, 2, 3].length + 4 ∧ 0 < 0x80 ∧ 0x80 < 256 := by
  refine ⟨by unfold wfBytes; decide, by decide, by decide, by decide⟩
example : crc32cDec true (xorAt (crc32cEnc [1, 2, 3]) 1 0x80) = .error .invalidChecksum := by decide +kernel
example : crc32cDec true (xorAt (crc32cEnc [1, 2, 3]) 5 0x01) = .error .invalidChecksum := by decide +kernel
example : crc32cDec true (crc32cEnc [1, 2, 3]) = .ok [1, 2, 3] := by decide +kernel

/-- **Fletcher-32 (HDF5 variant, odd lengths included) detects every single-byte alteration** -/
theorem fletcher32_single_byte (p : Bytes) (hp : wfBytes p) (k d : Nat) (hk : k < p.length + 4)
    (hd0 : 0 < d) (hd : d < 256) :
    fletcher32Dec true (xorAt (fletcher32Enc p) k d) = .error .invalidChecksum := by
  exact checksumDec_alter fletcher32 p k d hk hd0 fun h => fletcher32_set_ne p hp k d h hd0 hd

example : wfBytes [1, 2, 255] ∧ 2 < [1, 2, 255].length + 4 ∧ 0 < 0xFF ∧ 0xFF < 256 := by
  refine ⟨by unfold wfBytes; decide, by decide, by decide, by decide⟩
example : fletcher32Dec true (xorAt (fletcher32Enc [1, 2, 255]) 2 0xFF) = .error .invalidChecksum := by decide +kernel
example : fletcher32Dec true (xorAt (fletcher32Enc [1, 2, 255]) 4 0x10) = .error .invalidChecksum := by decide +kernel
example : fletcher32Dec true (fletcher32Enc [1, 2, 255]) = .ok [1, 2, 255] := by decide +kernel

/-- with validation off, decoding strips the checksum and does nothing else (for ANY stored bytes) -/
theorem novalidate_only_strips (sum : Bytes → Nat) (b : Bytes) (h : 4 ≤ b.length) :
    checksumDec sum false b = .ok (b.take (b.length - 4)) := by
  unfold checksumDec
  rw [if_neg (by omega)]
  simp

example : checksumDec crc32c false [9, 8, 7, 6, 5, 4] = .ok [9, 8] := by decide +kernel

/-- a value too short to hold a checksum is an error, validated or not -/
theorem checksum_too_short (sum : Bytes → Nat) (validate : Bool) (b : Bytes) (h : b.length < 4) :
    checksumDec sum validate b = .error .tooShort := by
  unfold checksumDec
  rw [if_pos h]

example : checksumDec crc32c true [1, 2, 3] = .error .tooShort := by decide +kernel

/-- decoding never "succeeds with different data": if a validated decode succeeds on ANY bytes, the result is the
stored prefix and its checksum matches -/
theorem checksum_ok_iff (sum : Bytes → Nat) (b p : Bytes) :
    checksumDec sum true b = .ok p ↔ (4 ≤ b.length ∧ p = b.take (b.length - 4) ∧ le32 (sum p) = b.drop (b.length - 4)) := by
  unfold checksumDec
  by_cases h : b.length < 4
  · rw [if_pos h]
    constructor
    · intro h'; cases h'
    · intro h'; omega
  · rw [if_neg h]
    simp only [Bool.true_and]
    by_cases hs : le32 (sum (b.take (b.length - 4))) = b.drop (b.length - 4)
    · simp only [hs, bne_self_eq_false, Bool.false_eq_true, if_false, Except.ok.injEq]
      constructor
      · intro h'; subst h'; exact ⟨by omega, rfl, hs⟩
      · intro h'; exact h'.2.1.symm
    · have : (le32 (sum (b.take (b.length - 4))) != b.drop (b.length - 4)) = true := by simpa using hs
      simp only [this, if_true]
      constructor
      · intro h'; cases h'
      · intro h'; obtain ⟨_, h2, h3⟩ := h'; subst h2; exact absurd h3 hs

/-- **shards**: a value shorter than its index is an error -/
theorem shard_truncated (c : Shard.Cfg) (validate : Bool) (v : Bytes) (h : v.length < Shard.indexSize c) :
    Shard.decode c validate v = .error .tooShort := by
  unfold Shard.decode Shard.indexBytes
  rw [if_pos h]

example : Shard.decode ⟨2, true, false, true⟩ true [1, 2, 3] = .error .tooShort := by decide +kernel

/-- **shards**: a live index entry reaching outside the value — including `offset + nbytes` beyond 2^64 — is an
error, never bytes from elsewhere -/
theorem shard_entry_out_of_bounds (c : Shard.Cfg) (validate : Bool) (v ib : Bytes) (entries : List (Nat × Nat))
    (hib : Shard.indexBytes c v = some ib) (hdec : Shard.decodeIndex c validate ib = .ok entries)
    (e : Nat × Nat) (he : e ∈ entries) (hlive : Shard.isLive e = true) (hout : e.1 + e.2 > v.length) :
    ∃ err, Shard.decode c validate v = .error err := by
  cases hres : Shard.decode c validate v with
  | error err => exact ⟨err, rfl⟩
  | ok chunks =>
    -- a successful decode would have taken the slice of `e`, which needs `e` inside the value
    obtain ⟨_, _, hib', hdec', hm⟩ := (Shard.decode_ok_iff ..).mp hres
    cases hib.symm.trans hib'
    cases hdec.symm.trans hdec'
    obtain ⟨i, hi, rfl⟩ := List.getElem_of_mem he
    obtain ⟨b, _, hb⟩ := ((mapM_ok_iff ..).mp hm).2 i _ (List.getElem?_eq_getElem hi)
    rcases (Shard.decEntry_ok_iff ..).mp hb with ⟨h, _⟩ | ⟨_, hle, _⟩
    · rw [hlive] at h; cases h
    · omega

example : let c : Shard.Cfg := ⟨1, true, false, false⟩; let v := le64 5 ++ le64 100
    Shard.indexBytes c v = some v ∧ Shard.decodeIndex c true v = .ok [(5, 100)] ∧
    Shard.isLive (5, 100) = true ∧ (5 + 100 > v.length) ∧ Shard.decode c true v = .error .other := by
  refine ⟨by rfl, by rfl, by rfl, by decide, by rfl⟩
example : Shard.decode ⟨1, true, false, false⟩ true (le64 (2 ^ 64 - 2) ++ le64 3) = .error .other := by decide +kernel

/-- **shards**: whenever decoding ANY bytes succeeds, every returned inner chunk is a slice of the stored value at
the position its index entry names (no out-of-bounds access, no bytes from elsewhere) -/
theorem shard_decode_ok_slices (c : Shard.Cfg) (validate : Bool) (v : Bytes) (chunks : List (Option Bytes))
    (h : Shard.decode c validate v = .ok chunks) :
    ∃ ib entries, Shard.indexBytes c v = some ib ∧ Shard.decodeIndex c validate ib = .ok entries ∧
      chunks.length = entries.length ∧
      ∀ i (hi : i < entries.length) (hc : i < chunks.length),
        (Shard.isLive entries[i] = false → chunks[i] = none) ∧
        (Shard.isLive entries[i] = true → entries[i].1 + entries[i].2 ≤ v.length ∧
          chunks[i] = some (slice v entries[i].1 (entries[i].1 + entries[i].2))) := by
  obtain ⟨ib, entries, hib, hdec, hm⟩ := (Shard.decode_ok_iff ..).mp h
  obtain ⟨hlen, hall⟩ := mapM_except_ok _ _ _ hm
  refine ⟨ib, entries, hib, hdec, hlen, fun i hi hc => ?_⟩
  rcases (Shard.decEntry_ok_iff ..).mp (hall i hi hc) with ⟨hl, h'⟩ | ⟨hl, hle, h'⟩
  · exact ⟨fun _ => h', fun h => nomatch hl.symm.trans h⟩
  · exact ⟨fun h => (nomatch hl.symm.trans h), fun _ => ⟨hle, h'⟩⟩

example : Shard.decode ⟨2, true, false, false⟩ true ([7, 8, 9] ++ le64 1 ++ le64 2 ++ le64 Shard.sentinel ++ le64 Shard.sentinel) =
    .ok [some [8, 9], none] := by decide +kernel

/-- an index protected by crc32c: any single-byte alteration of the index bytes is detected -/
theorem shard_index_single_byte (c : Shard.Cfg) (hc : c.indexCrc = true) (entries : List (Nat × Nat))
    (hn : entries.length = c.nChunks) (hw : ∀ e ∈ entries, e.1 < 2 ^ 64 ∧ e.2 < 2 ^ 64)
    (k d : Nat) (hk : k < Shard.indexSize c) (hd0 : 0 < d) (hd : d < 256) :
    Shard.decodeIndex c true (xorAt (Shard.encodeIndex c entries) k d) = .error .invalidChecksum := by
  have _ := hw   -- not needed (CRC detection is independent of the byte values)
  have hlen : (xorAt (Shard.encodeIndex c entries) k d).length = Shard.indexSize c := by
    rw [xorAt, List.length_set, Shard.encodeIndex_length c entries hn]
  have hk' : k < (Shard.rawIndex c.indexBig entries).length + 4 := by
    rw [Shard.rawIndex_length, hn]; unfold Shard.indexSize at hk; simpa [hc] using hk
  unfold Shard.decodeIndex
  rw [if_neg (by simp [hlen]), if_pos hc, xorAt, Shard.encodeIndex_def, if_pos hc]
  rw [show crc32cDec = checksumDec crc32c from rfl,
    checksumDec_alter crc32c _ k d hk' hd0 fun h => crc32c_set_ne _ k d h hd0 hd]

example : let c : Shard.Cfg := ⟨1, true, false, true⟩
    c.indexCrc = true ∧ [(3, 5)].length = c.nChunks ∧ (∀ e ∈ [(3, 5)], e.1 < 2 ^ 64 ∧ e.2 < 2 ^ 64) ∧
    8 < Shard.indexSize c := by
  refine ⟨rfl, rfl, ?_, by decide⟩
  intro e he; simp at he; subst he; decide
set_option maxRecDepth 4000 in
example : Shard.decodeIndex ⟨1, true, false, true⟩ true
    (xorAt (Shard.encodeIndex ⟨1, true, false, true⟩ [(3, 5)]) 8 0x04) = .error .invalidChecksum := by decide +kernel
set_option maxRecDepth 4000 in
example : Shard.decodeIndex ⟨1, true, false, true⟩ true
    (Shard.encodeIndex ⟨1, true, false, true⟩ [(3, 5)]) = .ok [(3, 5)] := by decide +kernel

end Zarrs.C15
