import ZarrsModel.Model.WriteMapShard
import ZarrsModel.Lemmas.WriteMapChain
import ZarrsModel.Lemmas.WriteMapShard
/-
C17 on the sharded decode routes — every byte of every published buffer is written exactly once.
The routes and their write maps are those of ZarrsModel/Model/WriteMapShard.lean: (a) `ShardingCodec::decode`
(`shardDecodeMap`), (a') `decode_into` (`decodeIntoMap`), (b) `ShardingPartialDecoder::partial_decode` (`shardPDMap`),
(c) `retrieve_array_subset_sharded_opt` (`ArrCfg.shardedSubsetMap`), (d) `retrieve_array_subset_opt` over several
chunks (`ArrCfg.shardedReadMap`); `WChain.{decodePubs, decodeIntoPubs, pdPubs}` list every buffer one request publishes.
`tiles` is the executable verdict of Model/WriteMap.lean (`C17.tiles_iff`: the multiset of written bytes is exactly
`[0, len)`), the one the driver applies to the write maps recorded by the harness.
-/
namespace Zarrs.C17Shard
open Zarrs Zarrs.Partial

/-- **tiling is preserved by refinement**: if the ranges `rs` tile `[0, len)` and every range `r` is replaced by
ranges `f r` that tile `r` (stated with `tiles` on the ranges moved to offset 0, none of them starting before `r`),
the result tiles `[0, len)`.  Applied once per nesting level this gives tiling for any depth of sharding. -/
theorem tiles_refine (len : Nat) (rs : List (Nat × Nat)) (f : Nat × Nat → List (Nat × Nat))
    (h : tiles len rs = true)
    (hf : ∀ r ∈ rs, tiles r.2 ((f r).map (fun x => (x.1 - r.1, x.2))) = true ∧ ∀ x ∈ f r, r.1 ≤ x.1) :
    tiles len (rs.flatMap f) = true := by
  rw [tiles_iff_perm] at h ⊢
  exact (rangeBytes_refine rs f fun r hr => rangeBytes_of_tiles_shifted r.1 r.2 (f r) (hf r hr).1 (hf r hr).2).trans h

/-- last conjunct: a refinement of `(4, 6)` that leaves a gap fails the hypothesis -/
example : tiles 10 [(4, 6), (0, 4)] = true ∧
    (∀ r ∈ [(4, 6), (0, 4)], tiles r.2 (([(r.1 + 1, r.2 - 1), (r.1, 1)] : List (Nat × Nat)).map (fun x => (x.1 - r.1, x.2))) = true ∧
      ∀ x ∈ ([(r.1 + 1, r.2 - 1), (r.1, 1)] : List (Nat × Nat)), r.1 ≤ x.1) ∧
    tiles 10 ([(4, 6), (0, 4)].flatMap (fun r => [(r.1 + 1, r.2 - 1), (r.1, 1)])) = true ∧
    tiles 6 (([(5, 4), (4, 1)] : List (Nat × Nat)).map (fun x => (x.1 - 4, x.2))) = false := by decide +kernel

/-- **(a)** for every rank, shard shape and inner chunk shape that tiles it (what `calculate_chunks_per_shard`
demands) and every element size, the inner chunk views of a whole-shard decode write every byte of the published
buffer exactly once -/
theorem shard_decode_tiles (shardShape inner : Shape) (ht : Partial.tiles inner shardShape = true) (es : Nat) :
    ∃ m, shardDecodeMap shardShape inner es = some m ∧ tiles (prod shardShape * es) m = true := by
  simp only [shardDecodeMap, shardDecodeViews, chunksPerShard_of_tiles ht]
  split
  · rename_i h0
    simp only [beq_iff_eq] at h0
    exact ⟨[], rfl, by rw [h0]; rfl⟩
  · refine ⟨_, rfl, (tiles_iff_perm _ _).mpr ?_⟩
    rw [List.flatMap_map]
    exact shardDecodeViews_perm ht es

example : Partial.tiles [2, 2] [4, 6] = true ∧
    shardDecodeMap [4, 6] [2, 2] 2 = some [(0, 4), (12, 4), (4, 4), (16, 4), (8, 4), (20, 4), (24, 4), (36, 4),
      (28, 4), (40, 4), (32, 4), (44, 4)] ∧
    tiles (prod [4, 6] * 2) [(0, 4), (12, 4), (4, 4), (16, 4), (8, 4), (20, 4), (24, 4), (36, 4),
      (28, 4), (40, 4), (32, 4), (44, 4)] = true := by decide +kernel

/-- **(a')** whatever tree of sub-views `CodecChain::decode_into` / `ShardingCodec::decode_into` builds inside a view
(any nesting depth, any mixture of stored and missing inner chunks), the bytes written are exactly the bytes of the
view, each once -/
theorem decode_into_refines (out : Shape) (es : Nat) (t : IntoTree) (sh : Shape) (v : Subset) (ht : t.wf sh)
    (hv : v.wf = true) (hb : v.inboundsShape out = true) (hs : v.shape = sh) :
    ∃ m, decodeIntoMap out es t sh v = some m ∧
      (m.flatMap (fun r => List.range' r.1 r.2)).Perm ((v.byteRanges out es).flatMap (fun r => List.range' r.1 r.2)) :=
  decodeInto_refines out es t sh v ht hv hb hs

example : ∃ t : IntoTree, t.wf [4, 6] ∧ (Subset.mk [1, 2] [4, 6]).wf = true ∧
    (Subset.mk [1, 2] [4, 6]).inboundsShape [6, 9] = true ∧
    decodeIntoMap [6, 9] 1 t [4, 6] ⟨[1, 2], [4, 6]⟩ =
      some [(11, 3), (20, 3), (14, 3), (23, 3), (29, 3), (38, 3), (32, 3), (41, 3)] :=
  ⟨.shard [2, 3] (fun k => if k == 0 then .fill else .shard [1, 3] (fun _ => .leaf)),
    ⟨by decide, fun k _ => by
      by_cases h : k = 0
      · subst h; exact trivial
      · simp only [beq_iff_eq, h, if_false]; exact ⟨by decide, fun _ _ => trivial⟩⟩,
    by decide +kernel, by decide +kernel, by decide +kernel⟩

/-- the tree of a fitting codec chain is well-formed whatever is stored: `decode_into_refines`, hence
`sharded_read_tiles`, applies to every chain and every store content -/
theorem chain_tree_wf (c : WChain) (sh : Shape) (pres : Presence) (hc : c.wf sh) : (c.intoTree pres).wf sh := by
  induction c generalizing sh pres with
  | leaf a2a =>
    cases pres <;> exact trivial
  | shard a2a inner sub ih =>
    obtain ⟨_, ht, hsub⟩ := hc
    cases pres with
    | missing => exact trivial
    | stored ps =>
      simp only [WChain.intoTree]
      split
      · rename_i he
        have : a2a = [] := by simpa using he
        subst this
        exact ⟨ht, fun k _ => ih inner (ps k) hsub⟩
      · exact trivial

example : (WChain.shard [] [2, 3] (.shard [] [1, 3] (.leaf []))).wf [4, 6] :=
  ⟨trivial, by decide, trivial, by decide, trivial⟩

/-- **(b)** for every rank, shard and inner shapes that tile, every in-bounds region and element size, the views
`overlap relative to the region` of one region write every byte of the region's buffer exactly once -/
theorem shard_pd_tiles (shardShape inner : Shape) (ht : Partial.tiles inner shardShape = true) (r : Subset)
    (hr : r.wf = true) (hb : r.inboundsShape shardShape = true) (es : Nat) :
    ∃ m, shardPDMap (zipDiv shardShape inner) inner r es = some m ∧ tiles (r.numElements * es) m = true := by
  have hcl : inner.length = r.rank := Partial.tiles_rank ht hb
  have hall : (r.chunks inner).all (fun p => decide (ravel p.1 (zipDiv shardShape inner) < prod (zipDiv shardShape inner))) = true := by
    rw [List.all_eq_true]
    intro p hp
    simp only [decide_eq_true_eq]
    exact ravel_lt _ _ (item_cell ht r hr hb p hp).2
  simp only [shardPDMap, hall, if_true]
  exact ⟨_, rfl, (tiles_iff_perm _ _).mpr (shardPDViews_perm inner r hr (tiles_pos ht) hcl es)⟩

example : Partial.tiles [2, 2] [4, 6] = true ∧ (Subset.mk [1, 1] [3, 5]).wf = true ∧
    (Subset.mk [1, 1] [3, 5]).inboundsShape [4, 6] = true ∧
    shardPDMap (zipDiv [4, 6] [2, 2]) [2, 2] ⟨[1, 1], [3, 5]⟩ 2 =
      some [(0, 2), (2, 4), (6, 4), (10, 2), (20, 2), (12, 4), (22, 4), (16, 4), (26, 4)] ∧
    tiles ((Subset.mk [1, 1] [3, 5]).numElements * 2)
      [(0, 2), (2, 4), (6, 4), (10, 2), (20, 2), (12, 4), (22, 4), (16, 4), (26, 4)] = true := by decide +kernel

/-- the views alone tile for ANY well-formed region of the right rank (the index lookup of `shardPDMap` is what
needs the region to lie in the shard) -/
theorem shard_pd_views_tile (inner : Shape) (hpos : ∀ k ∈ inner, 0 < k) (r : Subset) (hr : r.wf = true)
    (hrank : inner.length = r.rank) (es : Nat) :
    tiles (r.numElements * es) ((shardPDViews inner r).flatMap (fun v => v.byteRanges r.shape es)) = true :=
  (tiles_iff_perm _ _).mpr (shardPDViews_perm inner r hr hpos hrank es)

example : (∀ k ∈ [2, 2], 0 < k) ∧ (Subset.mk [3, 5] [4, 3]).wf = true ∧ [2, 2].length = (Subset.mk [3, 5] [4, 3]).rank := by
  decide +kernel

/-- **one step of the model decoder writes only its own view**: after `shardStep` for the item `p` of the chunk
iterator, the positions of the view `overlap(region, chunk) relative to the region` hold the decoded piece and every
other position of the region's buffer is unchanged.  (`hparts`: the inner decoder answers a region with as many
elements as the region has — the byte-length test of `copy_from_slice` in the element model.) -/
theorem shardStep_writes_only_its_view (fixed : Option Nat) (es : Nat) (fill : Elem) (inner cps : Shape)
    (entries : List (Nat × Nat)) (innerPD : Shape → Elem → BHandle → AHandle) (h : BHandle) (r : Subset)
    (hr : r.wf = true) (hpos : ∀ k ∈ inner, 0 < k) (hrank : inner.length = r.rank)
    (hparts : ∀ e ov cs part, shardPart fixed fill inner innerPD h e ov cs = some part → part.length = ov.numElements)
    (p : Idx × Subset) (hp : p ∈ r.chunks inner) (out out' : List Elem) (hout : out.length = prod r.shape)
    (hs : shardStep fixed es fill inner cps entries innerPD h r out p = some out') :
    out'.length = prod r.shape ∧ ∀ j, inB j r.shape = true → out'[ravel j r.shape]? =
      if (pdView r p).contains j = true then pdWritten fixed fill inner cps entries innerPD h r p j
      else out[ravel j r.shape]? := by
  obtain ⟨hw, hin⟩ := (pdTiling inner r hr hpos hrank).inboundsShape (fun _ h => h) hp
  simp only [shardStep] at hs
  cases he : entries[ravel p.1 cps]? with
  | none => simp [he] at hs
  | some e =>
    simp only [he] at hs
    cases hpt : shardPart fixed fill inner innerPD h e (r.overlap p.2) p.2 with
    | none => simp [hpt] at hs
    | some part =>
      simp only [hpt] at hs
      split at hs
      · cases hs
      · simp only [Option.some.injEq] at hs
        subst hs
        obtain ⟨h1, h2⟩ := updateRuns_spec r.shape (pdView r p) out part hw hin hout
          (hparts e (r.overlap p.2) p.2 part hpt)
        refine ⟨h1, fun j hj => (h2 j hj).trans ?_⟩
        simp only [pdWritten, he, hpt]

/-- **the model decoder writes only through the views of (b)**: the buffer returned by `shardRegion`
(Model/ShardPD.lean) has the region's length, and every index of it lies in the view of exactly one item of the chunk
iterator — the views whose byte ranges are `shardPDMap` — and holds the element that item's `copy_from_slice` wrote
there: no position is written through two views, none keeps the initial zero, none is overwritten later.
With `C17.view_writes_region` (element `k` of a view ↔ bytes `[k·es, (k+1)·es)`) this is the byte statement. -/
theorem shardRegion_writes_only_its_views (fixed : Option Nat) (es : Nat) (fill : Elem) (inner cps : Shape)
    (entries : List (Nat × Nat)) (innerPD : Shape → Elem → BHandle → AHandle) (h : BHandle) (r : Subset)
    (hr : r.wf = true) (hpos : ∀ k ∈ inner, 0 < k) (hrank : inner.length = r.rank)
    (hparts : ∀ e ov cs part, shardPart fixed fill inner innerPD h e ov cs = some part → part.length = ov.numElements)
    (out : List Elem) (hs : shardRegion fixed es fill inner cps entries innerPD h r = some out) :
    out.length = r.numElements ∧ ∀ j, inB j r.shape = true →
      ∃ p ∈ r.chunks inner, (pdView r p).contains j = true ∧
        (∀ q ∈ r.chunks inner, (pdView r q).contains j = true → q = p) ∧
        out[ravel j r.shape]? = pdWritten fixed fill inner cps entries innerPD h r p j :=
  (pdTiling inner r hr hpos hrank).frame _ (pdWritten fixed fill inner cps entries innerPD h r)
    (fun p hp out out' hout hs' => shardStep_writes_only_its_view fixed es fill inner cps entries innerPD h r hr hpos hrank hparts p hp
      out out' hout hs')
    _ out (by simp [Subset.numElements]) hs

example : ∃ (entries : List (Nat × Nat)) (innerPD : Shape → Elem → BHandle → AHandle) (h : BHandle),
    (Subset.mk [1, 1] [3, 5]).wf = true ∧ (∀ k ∈ [2, 2], 0 < k) ∧
    (∀ e ov cs part, shardPart none [7] [2, 2] innerPD h e ov cs = some part → part.length = ov.numElements) ∧
    shardRegion none 1 [7] [2, 2] [2, 3] entries innerPD h ⟨[1, 1], [3, 5]⟩ = some (List.replicate 15 [7]) :=
  ⟨List.replicate 6 (Shard.sentinel, Shard.sentinel), fun _ _ _ _ => some [], fun _ => none, by decide, by decide,
    by
      intro e ov cs part hp
      simp only [shardPart] at hp
      split at hp
      · simp only [Option.some.injEq] at hp; subst hp; simp
      · split at hp
        · cases hp
        · simp at hp,
    by decide +kernel⟩

/-- **(c)** on a regular chunk grid (the grid of every sharded array read through the sharded extension), for EVERY
well-formed non-empty region of the grid's rank — inside the array, reaching beyond it at a ragged edge as the regions
`retrieve_inner_chunks_opt` builds do, or beyond it altogether — and every element size, the per-shard views of the
output tile it: the code never compares the region with the array shape, and neither does the theorem -/
theorem sharded_subset_tiles {α} (cfg : ArrCfg α) (cs : Shape) (hg : cfg.grid = Grid.regular cs)
    (hpos : ∀ k ∈ cs, 0 < k) (region : Subset) (hr : region.wf = true) (hrank : region.rank = cs.length)
    (hne : region.isEmpty = false) (es : Nat) :
    ∃ m, cfg.shardedSubsetMap region es = some m ∧ tiles (region.numElements * es) m = true := by
  obtain ⟨box, P⟩ := regular_pieces cs hpos region hr hrank hne cfg.shape
  exact Grid.Pieces.writeMap (hg ▸ P) hr es

/-- the region is what `retrieve_inner_chunks_opt` builds for the 2×2 inner chunks `[1..3) × [2..4)`: the elements
`[2..6) × [4..8)`, beyond the 5×7 array in both dimensions -/
example : ∃ (cfg : ArrCfg Nat), cfg.shape = [5, 7] ∧ cfg.grid = Grid.regular [4, 6] ∧ (∀ k ∈ [4, 6], 0 < k) ∧
    (Subset.mk [2, 4] [4, 4]).wf = true ∧ (Subset.mk [2, 4] [4, 4]).isEmpty = false ∧
    (Subset.mk [2, 4] [4, 4]).inboundsShape cfg.shape = false ∧
    cfg.shardedSubsetMap ⟨[2, 4], [4, 4]⟩ 1 = some [(0, 2), (4, 2), (2, 2), (6, 2), (8, 2), (12, 2), (10, 2), (14, 2)] ∧
    tiles 16 [(0, 2), (4, 2), (2, 2), (6, 2), (8, 2), (12, 2), (10, 2), (14, 2)] = true :=
  ⟨⟨[5, 7], Grid.regular [4, 6], 0, fun _ => [], fun _ => [], fun _ => none, false⟩, by decide +kernel⟩

/-- **(d)** for every grid built from a configuration, compatible array shape, in-bounds non-empty region, element
size and every assignment of well-formed `decode_into` trees to the chunks (any chain, any nesting depth, any store
content), the leaf writes of the multi-chunk read tile the output -/
theorem sharded_read_tiles {α} (cfg : ArrCfg α) (gcfg : List DimCfg) (G : Shape) (hg : cfg.grid = Grid.new gcfg)
    (hwf : cfg.grid.wf = true) (hG : cfg.grid.gridShape cfg.shape = some G) (hlen : cfg.shape.length = gcfg.length)
    (region : Subset) (hr : region.wf = true) (hb : region.inboundsShape cfg.shape = true)
    (hne : region.isEmpty = false) (es : Nat) (tree : Idx → IntoTree)
    (htree : ∀ c cs, cfg.grid.subset c = some cs → (tree c).wf cs.shape) :
    ∃ m, cfg.shardedReadMap tree region es = some m ∧ tiles (region.numElements * es) m = true := by
  rw [hg] at hwf hG
  obtain ⟨box, P, -⟩ := (gridOK'_new gcfg cfg.shape G hwf hG hlen).pieces region hr hb hne
  exact Grid.Pieces.shardedReadMap (hg ▸ P) hr tree htree es

/-- the same on a regular grid for every non-empty region of the grid's rank, in bounds or not -/
theorem sharded_read_tiles_regular {α} (cfg : ArrCfg α) (cs : Shape) (hg : cfg.grid = Grid.regular cs)
    (hpos : ∀ k ∈ cs, 0 < k) (region : Subset) (hr : region.wf = true) (hrank : region.rank = cs.length)
    (hne : region.isEmpty = false) (es : Nat) (tree : Idx → IntoTree)
    (htree : ∀ c cs', cfg.grid.subset c = some cs' → (tree c).wf cs'.shape) :
    ∃ m, cfg.shardedReadMap tree region es = some m ∧ tiles (region.numElements * es) m = true := by
  obtain ⟨box, P⟩ := regular_pieces cs hpos region hr hrank hne cfg.shape
  exact Grid.Pieces.shardedReadMap (hg ▸ P) hr tree htree es

example : ∃ (cfg : ArrCfg Nat) (tree : Idx → IntoTree), cfg.grid = Grid.regular [4, 6] ∧ (∀ k ∈ [4, 6], 0 < k) ∧
    (Subset.mk [0, 0] [8, 12]).wf = true ∧ (Subset.mk [0, 0] [8, 12]).isEmpty = false ∧
    (∀ c cs', cfg.grid.subset c = some cs' → (tree c).wf cs'.shape) ∧
    ((cfg.shardedReadMap tree ⟨[0, 0], [8, 12]⟩ 1).map (fun m => (m.length, tiles 96 m))) = some (48, true) :=
  ⟨⟨[8, 12], Grid.regular [4, 6], 0, fun _ => [], fun _ => [], fun _ => none, false⟩,
    fun c => match c with
      | [_, _] => .shard [2, 2] (fun k => if k % 2 == 0 then .fill else .shard [1, 2] (fun _ => .leaf))
      | _ => .fill,
    rfl, by decide, by decide, by decide,
    by
      intro c cs' hcs
      match c with
      | [] => exact trivial
      | [_] => exact trivial
      | _ :: _ :: _ :: _ => exact trivial
      | [a, b] =>
        simp [Grid.subset, Grid.regular, Grid.chunkOrigin, Grid.chunkShape, zipOpt, Dim.origin, Dim.chunkShape] at hcs
        subst hcs
        refine ⟨show Partial.tiles [2, 2] [4, 6] = true by decide, fun k _ => ?_⟩
        by_cases h : k % 2 = 0
        · simp only [beq_iff_eq, h, if_true]; exact trivial
        · simp only [beq_iff_eq, h, if_false]; exact ⟨by decide, fun _ _ => trivial⟩,
    by decide +kernel⟩

/-- **whole-chunk decode**: for every chain that fits the chunk shape (array-to-array codecs accepted, inner shapes
tile at every sharding level — any depth) and whatever is stored, `CodecChain::decode` succeeds in the map model and
every buffer it publishes (one per stored shard at every level) is tiled -/
theorem decode_pubs_tile (es : Nat) (c : WChain) (sh : Shape) (pres : Presence) (hc : c.wf sh) :
    ∃ pubs, c.decodePubs es sh pres = some pubs ∧ ∀ pub ∈ pubs, tiles pub.1 pub.2 = true := by
  induction c generalizing sh pres with
  | leaf a2a =>
    cases pres <;> exact ⟨[], rfl, by simp⟩
  | shard a2a inner sub ih =>
    obtain ⟨_, ht, hsub⟩ := hc
    cases pres with
    | missing => exact ⟨[], rfl, by simp⟩
    | stored ps =>
      obtain ⟨m, hm, hmt⟩ := shard_decode_tiles _ inner ht es
      simp only [WChain.decodePubs, chunksPerShard_of_tiles ht, hm]
      split
      · exact ⟨[], rfl, by simp⟩
      · obtain ⟨ip, hip, hipt⟩ := flatOpt_map_all (fun pub : Pub => tiles pub.1 pub.2 = true)
          (List.range (prod (zipDiv (shapesOf a2a sh) inner))) (fun k => sub.decodePubs es inner (ps k))
          (fun k _ => ih inner (ps k) hsub)
        simp only [hip]
        exact ⟨_, rfl, List.forall_mem_append.mpr ⟨hipt, fun pub h => by rw [List.mem_singleton.mp h]; exact hmt⟩⟩

/-- **decode into a view** (`retrieve_chunk_into` on a stored chunk): the buffers published on the way (full decodes
behind array-to-array codecs, at any level) are tiled; the writes into the caller's view are `decode_into_refines` -/
theorem decode_into_pubs_tile (es : Nat) (c : WChain) (sh : Shape) (pres : Presence) (hc : c.wf sh) :
    ∃ pubs, c.decodeIntoPubs es sh pres = some pubs ∧ ∀ pub ∈ pubs, tiles pub.1 pub.2 = true := by
  induction c generalizing sh pres with
  | leaf a2a =>
    cases pres <;> exact ⟨[], rfl, by simp⟩
  | shard a2a inner sub ih =>
    cases pres with
    | missing => exact ⟨[], rfl, by simp⟩
    | stored ps =>
      simp only [WChain.decodeIntoPubs]
      split
      · exact decode_pubs_tile es _ sh _ hc
      · rename_i he
        have : a2a = [] := by simpa using he
        subst this
        obtain ⟨_, ht, hsub⟩ := hc
        have ht' : Partial.tiles inner sh = true := ht
        simp only [chunksPerShard_of_tiles ht']
        exact flatOpt_map_all (fun pub : Pub => tiles pub.1 pub.2 = true) _ _ (fun k _ => ih inner (ps k) hsub)

example : ∃ (c : WChain) (pres : Presence), c.wf [4, 6] ∧
    c.decodeIntoPubs 1 [4, 6] pres = some [(6, [(0, 1), (2, 1), (4, 1), (1, 1), (3, 1), (5, 1)]),
      (6, [(0, 1), (2, 1), (4, 1), (1, 1), (3, 1), (5, 1)])] :=
  ⟨.shard [] [2, 3] (.shard [.transpose [1, 0]] [3, 1] (.leaf [])),
    .stored (fun k => if k % 2 == 0 then .stored (fun _ => .stored (fun _ => .missing)) else .missing),
    ⟨trivial, by decide, ⟨by show Codec.validOrder [1, 0] 2 = true; decide, trivial⟩, by decide, trivial⟩,
    by decide +kernel⟩

/-- **partial decode**: the same for `partial_decode` of any in-bounds region through the chain's partial decoder
(transposed / squeezed regions included): every buffer published by the (nested) sharding partial decoders is tiled -/
theorem pd_pubs_tile (es : Nat) (c : WChain) (sh : Shape) (pres : Presence) (r : Subset) (hc : c.wf sh)
    (hr : r.wf = true) (hb : r.inboundsShape sh = true) :
    ∃ pubs, c.pdPubs es sh pres r = some pubs ∧ ∀ pub ∈ pubs, tiles pub.1 pub.2 = true := by
  induction c generalizing sh pres r with
  | leaf a2a =>
    cases pres <;> exact ⟨[], rfl, by simp⟩
  | shard a2a inner sub ih =>
    obtain ⟨hok, ht, hsub⟩ := hc
    cases pres with
    | missing => exact ⟨[], rfl, by simp⟩
    | stored ps =>
      obtain ⟨hr', hb'⟩ := a2aRegion_ok a2a sh r hok hr hb
      obtain ⟨m, hm, hmt⟩ := shard_pd_tiles _ inner ht (a2aRegion a2a sh r) hr' hb' es
      simp only [WChain.pdPubs, chunksPerShard_of_tiles ht, hm]
      obtain ⟨ip, hip, hipt⟩ := flatOpt_map_all (fun pub : Pub => tiles pub.1 pub.2 = true)
        ((a2aRegion a2a sh r).chunks inner)
        (fun p => sub.pdPubs es inner (ps (ravel p.1 (zipDiv (shapesOf a2a sh) inner)))
          (((a2aRegion a2a sh r).overlap p.2).relativeTo p.2.start))
        (by
          intro p hp
          have V := Partial.item_overlap ht (a2aRegion a2a sh r) hr' hb' p hp
          exact ih inner _ _ hsub V.relWf V.relIn)
      simp only [hip]
      exact ⟨_, rfl, List.forall_mem_append.mpr ⟨hipt, fun pub h => by rw [List.mem_singleton.mp h]; exact hmt⟩⟩

example : ∃ (c : WChain) (pres : Presence), c.wf [6, 4] ∧ (Subset.mk [1, 0] [4, 3]).wf = true ∧
    (Subset.mk [1, 0] [4, 3]).inboundsShape [6, 4] = true ∧
    c.pdPubs 1 [6, 4] pres ⟨[1, 0], [4, 3]⟩ =
      some [(4, [(0, 2), (2, 2)]), (2, [(0, 2)]), (12, [(0, 2), (4, 2), (2, 2), (6, 2), (8, 2), (10, 2)])] :=
  ⟨.shard [.transpose [1, 0]] [2, 3] (.shard [] [1, 3] (.leaf [])),
    .stored (fun k => if k % 2 == 0 then .stored (fun _ => .stored (fun _ => .missing)) else .missing),
    ⟨⟨by show Codec.validOrder [1, 0] 2 = true; decide, trivial⟩, by decide, trivial, by decide, trivial⟩,
    by decide +kernel, by decide +kernel, by decide +kernel⟩

end Zarrs.C17Shard
