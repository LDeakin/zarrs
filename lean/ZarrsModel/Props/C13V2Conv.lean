import ZarrsModel.Model.MetaV2
import ZarrsModel.Lemmas.MetaV2Conv
import ZarrsModel.Lemmas.MetaOptsAlias
import ZarrsModel.Lemmas.JsonCheck
/-
C13 (V2 part) — the V2 -> V3 interpretation of array metadata (`array_metadata_v2_to_v3`, modelled by
`MetaV2.v2ToV3`): what the produced V3 document holds.
-/
namespace Zarrs.C13V2
open Zarrs Zarrs.Json Zarrs.Meta Zarrs.MetaV2

def exV2 : ArrayDocV2 :=
  { shape := [['4'], ['6']], chunks := [['2'], ['3']], dtype := .simple (ascii ">i2"),
    compressor := some ⟨ascii "zlib", [(ascii "level", .num ['1'])]⟩, fill := .num ['-', '1'], order := .F,
    filters := some [⟨ascii "shuffle", [(ascii "elementsize", .num ['2'])]⟩], sep := .slash,
    attrs := [(ascii "title", .str (ascii "demo"))], extra := [] }

def exV3 : ArrayDoc :=
  { shape := [['4'], ['6']], dataType := ⟨ascii "int16", none, true⟩,
    chunkGrid := ⟨ascii "regular", some [(ascii "chunk_shape", .arr [.num ['2'], .num ['3']])], true⟩,
    cke := ⟨ascii "v2", some [(ascii "separator", .str (ascii "/"))], true⟩, fill := .num ['-', '1'],
    codecs := [⟨ascii "transpose", some [(ascii "order", .arr [.num ['1'], .num ['0']])], true⟩,
               ⟨ascii "numcodecs.shuffle", some [(ascii "elementsize", .num ['2'])], true⟩,
               ⟨ascii "bytes", some [(ascii "endian", .str (ascii "big"))], true⟩,
               ⟨ascii "numcodecs.zlib", some [(ascii "level", .num ['1'])], true⟩],
    attrs := [(ascii "title", .str (ascii "demo"))], st := [], dimNames := none, extra := [] }

/-- the data type of a document whose conversion succeeded is a simple one with a valid endianness prefix -/
def simpleName (d : ArrayDocV2) : Str := match d.dtype with | .simple s => s | .structured _ => []

def filterCodecs (d : ArrayDocV2) : List MetaV3 := (d.filters.getD []).map (fun f => (filterToV3 f).1)

def hasA2B (d : ArrayDocV2) : Bool :=
  (d.filters.getD []).any (fun f => (filterToV3 f).2) || (d.compressor.bind compressorA2B).isSome
theorem hasA2B_some (d : ArrayDocV2) (fs : List MetaV2) (c : MetaV2) (hf : d.filters = some fs) (hc : d.compressor = some c) :
    hasA2B d = (fs.any (fun f => (filterToV3 f).2) || (compressorA2B c).isSome) := by
  simp [hasA2B, hf, hc]

/-- endianness named by the prefix of the data type string: `>` big; `<` little; `|` (none) is written as the native
    order, little -/
def docEndian (d : ArrayDocV2) : Endian := match simpleName d with | 62 :: _ => .big | _ => .little

theorem shuffle_filter (cfg : Obj) :
    filterToV3 ⟨ascii "shuffle", cfg⟩ = (⟨ascii "numcodecs.shuffle", some cfg, true⟩, false) := by
  rw [filterToV3_of_ident _ _ _ (MetaOpts.codecIdent_plain _ (by decide +kernel)) (by decide +kernel),
    MetaOpts.codecName_of_mem _ (ascii "numcodecs.shuffle") (by tbl_mem)]

/-- `exV2` with another compressor that is only renamed, and any additional fields -/
theorem v2ToV3_exV2_with (id : Str) (cfg : Obj) (i : Str) (e : List (Str × AField)) (hi : codecIdent id = i)
    (h : (isA2BCompressor i || i == ascii "blosc" || i == ascii "zstd") = false) :
    v2ToV3 { exV2 with compressor := some ⟨id, cfg⟩, extra := e } =
      .ok { exV3 with codecs := exV3.codecs.dropLast ++ [⟨codecName i, some cfg, true⟩], extra := e } := by
  have hn : dtypeNameV3 (ascii ">i2") = ascii "int16" := by decide +kernel
  have hA := compressorA2B_of_ident id cfg i hi (by simp only [Bool.or_eq_false_iff] at h; exact h.1.1)
  have hc : codecsV2ToV3 .F 2 (ascii "int16") (some .big) exV2.filters (some ⟨id, cfg⟩) =
      .ok (exV3.codecs.dropLast ++ [⟨codecName i, some cfg, true⟩]) := by
    rw [show exV2.filters = some [⟨ascii "shuffle", [(ascii "elementsize", .num ['2'])]⟩] from rfl,
      codecsV2ToV3_some _ _ _ _ _ _ _ (compressorB2B_of_ident _ id cfg i hi h), codecsHead_eq]
    simp only [Option.getD_some, Option.bind_some, List.map_cons, List.map_nil, List.any_cons, List.any_nil, shuffle_filter, hA]
    rfl
  rw [v2ToV3_intro _ (ascii ">i2") (some .big) (.num ['-', '1']) _
    ⟨rfl, by decide +kernel, hn ▸ fillConv_of_num _ _ (by decide +kernel) (by decide +kernel), rfl, hn ▸ hc⟩, v3Of, hn]
  rfl

theorem zlib_ident : codecIdent (ascii "zlib") = ascii "zlib" := MetaOpts.codecIdent_plain _ (by decide +kernel)

theorem v2ToV3_exV2_extra (e : List (Str × AField)) : v2ToV3 { exV2 with extra := e } = .ok { exV3 with extra := e } := by
  have := v2ToV3_exV2_with _ [(ascii "level", .num ['1'])] _ e zlib_ident (by decide +kernel)
  rwa [MetaOpts.codecName_of_mem _ (ascii "numcodecs.zlib") (by tbl_mem)] at this

theorem v2ToV3_exV2_ok : v2ToV3 exV2 = .ok exV3 := v2ToV3_exV2_extra []

theorem v2ToV3_exV2 : (match v2ToV3 exV2 with | .ok v => J.beq v.toJ exV3.toJ | .error _ => false) = true := by
  rw [v2ToV3_exV2_ok]
  exact J.beq_refl _

/-- **shape and chunk shape are carried over, on a regular grid** -/
theorem v2ToV3_shape_grid (d : ArrayDocV2) (v3 : ArrayDoc) (h : v2ToV3 d = .ok v3) :
    v3.shape = d.shape ∧ v3.chunkGrid = regularMeta d.chunks ∧ v3.chunkGrid.name = ascii "regular" ∧
    (∃ c, v3.chunkGrid.config = some c ∧ lookup c (ascii "chunk_shape") = some (.arr (d.chunks.map .num))) ∧
    regularRank v3.chunkGrid = some d.chunks.length := by
  obtain ⟨s, e, f, cs, _, rfl⟩ := v2ToV3_inv d v3 h
  refine ⟨rfl, rfl, rfl, ⟨_, rfl, ?_⟩, regularRank_regularMeta _⟩
  exact lookup_cons_eq _ _ _
example : ∃ v3, v2ToV3 exV2 = .ok v3 := ⟨exV3, v2ToV3_exV2_ok⟩

/-- attributes and additional fields are carried over; a V2 array has no storage transformers or dimension names -/
theorem v2ToV3_carried (d : ArrayDocV2) (v3 : ArrayDoc) (h : v2ToV3 d = .ok v3) :
    v3.attrs = d.attrs ∧ v3.extra = d.extra ∧ v3.st = [] ∧ v3.dimNames = none := by
  obtain ⟨s, e, f, cs, _, rfl⟩ := v2ToV3_inv d v3 h
  exact ⟨rfl, rfl, rfl, rfl⟩
example : ∃ v3, v2ToV3 exV2 = .ok v3 := ⟨exV3, v2ToV3_exV2_ok⟩

/-- **data type**: only a simple data type with a `|`, `<` or `>` prefix converts; the V3 name comes from the alias
    table (unknown names are passed through) and is written as a plain string -/
theorem v2ToV3_dtype (d : ArrayDocV2) (v3 : ArrayDoc) (h : v2ToV3 d = .ok v3) :
    ∃ s, d.dtype = .simple s ∧ (endianOf s).isSome = true ∧ v3.dataType = ⟨dtypeNameV3 s, none, true⟩ := by
  obtain ⟨s, e, f, cs, hv, rfl⟩ := v2ToV3_inv d v3 h
  exact ⟨s, hv.simple, by simp [hv.endian], rfl⟩
example : ∃ v3, v2ToV3 exV2 = .ok v3 := ⟨exV3, v2ToV3_exV2_ok⟩
/-- every entry of the alias table is honoured -/
theorem dtypeNameV3_table : dtypeAliasesV2.all (fun p => dtypeNameV3 p.1 == p.2) = true := by
  rw [List.all_eq_true]
  intro p hp
  have : tblGet dtypeAliasesV2 p.1 = some p.2 := MetaOpts.tblGet_of_mem _ MetaOpts.dtypeV2_ok.aliasKeys p.1 p.2 hp
  simp only [dtypeNameV3, this, beq_self_eq_true]
example : dtypeNameV3 (ascii "<f4") = ascii "float32" ∧ dtypeNameV3 (ascii ">u8") = ascii "uint64" ∧
    dtypeNameV3 (ascii "|b1") = ascii "bool" ∧ dtypeNameV3 (ascii "|V12") = ascii "bytes" ∧
    dtypeNameV3 (ascii "|S3") = ascii "|S3" := by decide +kernel

/-- a structured data type is rejected (the endianness test fails first) -/
theorem v2ToV3_structured_rejected (d : ArrayDocV2) (fs : List DField) (h : d.dtype = .structured fs) :
    v2ToV3 d = .error .invalidEndianness := by
  simp [v2ToV3, h]
example : ({ exV2 with dtype := .structured [⟨ascii "a", ascii "<i4", none⟩] } : ArrayDocV2).dtype =
    .structured [⟨ascii "a", ascii "<i4", none⟩] := rfl
/-- a data type string without one of the three prefixes is rejected -/
theorem v2ToV3_bad_prefix (d : ArrayDocV2) (s : Str) (h : d.dtype = .simple s) (hp : endianOf s = none) :
    v2ToV3 d = .error .invalidEndianness := by
  simp [v2ToV3, h, hp]
example : endianOf (ascii "f4") = none := by decide

/-- **the codec chain, in order**: transpose (F order only), the filters, the compressor when it is an array-to-bytes
    codec (`zfpy`, `pcodec`), the `bytes` codec unless a filter or the compressor already is an array-to-bytes codec,
    then the compressor as a bytes-to-bytes codec -/
theorem v2ToV3_codecs_order (d : ArrayDocV2) (v3 : ArrayDoc) (h : v2ToV3 d = .ok v3) :
    ∃ b2b : List MetaV3,
      v3.codecs = (if d.order = .F then [transposeMeta d.shape.length] else []) ++ filterCodecs d ++
        (d.compressor.bind compressorA2B).toList ++ (if hasA2B d then [] else [bytesMeta (docEndian d)]) ++ b2b ∧
      (match d.compressor with
       | none => b2b = []
       | some c => ∃ o, compressorB2B (dtypeNameV3 (simpleName d)) c = .ok o ∧ b2b = o.toList) := by
  obtain ⟨s, endian, b2b, hs, he, hc, hb⟩ := v2ToV3_codecs d v3 h
  have hn : simpleName d = s := by simp [simpleName, hs]
  have hd : docEndian d = endian.getD .little := by rw [endianOf_getD s endian he, docEndian, hn]; rfl
  refine ⟨b2b, ?_, ?_⟩
  · rw [hc, codecsHead_eq, hd]; rfl
  · rw [hn]; exact hb
example : ∃ v3, v2ToV3 exV2 = .ok v3 := ⟨exV3, v2ToV3_exV2_ok⟩

/-- the transpose codec of an F-order array of rank `n`: the order `n-1, …, 0` -/
theorem transposeMeta_order (n : Nat) :
    ∃ xs, (transposeMeta n).config = some [(ascii "order", .arr xs)] ∧ (transposeMeta n).name = ascii "transpose" ∧
      xs.length = n ∧ ∀ i, i < n → xs[i]? = some (natNum (n - 1 - i)) := by
  refine ⟨(List.range n).reverse.map natNum, rfl, rfl, by simp, ?_⟩
  intro i hi
  rw [List.getElem?_map, range_reverse_getElem? n i hi]; rfl

/-- **order**: C order adds no transpose — the chain starts with the filters; F order puts the transpose with the
    reversed order of the array's rank in front of exactly the chain the C-order document gets (and nothing else
    differs); a rank-0 F-order document never converts -/
theorem v2ToV3_order (d : ArrayDocV2) (v3 : ArrayDoc) (h : v2ToV3 d = .ok v3) :
    (d.order = .C → ∃ rest, v3.codecs = filterCodecs d ++ rest ∧
        rest = (d.compressor.bind compressorA2B).toList ++ (if hasA2B d then [] else [bytesMeta (docEndian d)]) ++
          (v3.codecs.drop ((filterCodecs d).length + (d.compressor.bind compressorA2B).toList.length +
            (if hasA2B d then 0 else 1)))) ∧
    (d.order = .F → 1 ≤ d.shape.length ∧
        ∃ v3c, v2ToV3 { d with order := .C } = .ok v3c ∧
          v3 = { v3c with codecs := transposeMeta d.shape.length :: v3c.codecs }) := by
  constructor
  · intro ho
    obtain ⟨b2b, hc, _⟩ := v2ToV3_codecs_order d v3 h
    have hlen : (if hasA2B d then ([] : List MetaV3) else [bytesMeta (docEndian d)]).length = (if hasA2B d then 0 else 1) := by
      split <;> rfl
    have hc' : v3.codecs = (filterCodecs d ++ (d.compressor.bind compressorA2B).toList ++
        (if hasA2B d then [] else [bytesMeta (docEndian d)])) ++ b2b := by
      rw [hc, ho]; simp
    refine ⟨_, ?_, rfl⟩
    have hdrop : v3.codecs.drop ((filterCodecs d).length + (d.compressor.bind compressorA2B).toList.length +
            (if hasA2B d then 0 else 1)) = b2b := by
      rw [hc', ← hlen, ← List.length_append, ← List.length_append]
      exact List.drop_left
    rw [hdrop, hc']
    simp only [List.append_assoc]
  · intro ho
    obtain ⟨s, e, f, cs, hv, rfl⟩ := v2ToV3_inv d v3 h
    have hc := hv.codecs
    rw [ho] at hc
    obtain ⟨cs', hc', rfl⟩ := codecsV2ToV3_F _ _ _ _ _ _ hc
    have hr : 1 ≤ d.shape.length := by
      cases hsh : d.shape with
      | nil => simpa [ho, hsh] using hv.order
      | cons a r => simp
    refine ⟨hr, _, v2ToV3_intro { d with order := .C } s e f cs' ⟨hv.simple, hv.endian, hv.fill, by simp, hc'⟩, rfl⟩
example : exV2.order = .F ∧ ∃ v3, v2ToV3 exV2 = .ok v3 := ⟨rfl, exV3, v2ToV3_exV2_ok⟩
example : ({ exV2 with order := .C } : ArrayDocV2).order = .C ∧ ∃ v3, v2ToV3 { exV2 with order := .C } = .ok v3 :=
  have ⟨_, v3c, h, _⟩ := (v2ToV3_order exV2 exV3 v2ToV3_exV2_ok).2 rfl
  ⟨rfl, v3c, h⟩

/-- **separator**: the `v2` chunk key encoding with the document's separator (`.` when the document has none) -/
theorem v2ToV3_separator (d : ArrayDocV2) (v3 : ArrayDoc) (h : v2ToV3 d = .ok v3) :
    v3.cke = v2KeyMeta d.sep ∧ v3.cke.name = ascii "v2" ∧
    (d.sep = .dot → v3.cke.config = some [(ascii "separator", .str (ascii "."))]) ∧
    (d.sep = .slash → v3.cke.config = some [(ascii "separator", .str (ascii "/"))]) := by
  obtain ⟨s, e, f, cs, _, rfl⟩ := v2ToV3_inv d v3 h
  refine ⟨rfl, rfl, ?_, ?_⟩
  · intro hs; simp only [v3Of, v2KeyMeta, hs]; rfl
  · intro hs; simp only [v3Of, v2KeyMeta, hs]; rfl
example : exV2.sep = .slash ∧ ∃ v3, v2ToV3 exV2 = .ok v3 := ⟨rfl, exV3, v2ToV3_exV2_ok⟩

/-- **endianness**: without an array-to-bytes filter/compressor the `bytes` codec follows the filters, big-endian for
    the prefix `>`, little-endian for `<` and for `|` (no endianness: the native order); with one, no `bytes` codec
    is added -/
theorem v2ToV3_endianness (d : ArrayDocV2) (v3 : ArrayDoc) (h : v2ToV3 d = .ok v3) :
    (hasA2B d = false → ∃ post, v3.codecs = (if d.order = .F then [transposeMeta d.shape.length] else []) ++
        filterCodecs d ++ [bytesMeta (docEndian d)] ++ post ∧ post.length ≤ 1) ∧
    (hasA2B d = true → ∃ post, v3.codecs = (if d.order = .F then [transposeMeta d.shape.length] else []) ++
        filterCodecs d ++ (d.compressor.bind compressorA2B).toList ++ post ∧ post.length ≤ 1) ∧
    (∀ r, d.dtype = .simple (62 :: r) → docEndian d = .big) ∧
    (∀ r, d.dtype = .simple (60 :: r) → docEndian d = .little) ∧
    (∀ r, d.dtype = .simple (124 :: r) → docEndian d = .little) ∧
    (bytesMeta .big).config = some [(ascii "endian", .str (ascii "big"))] ∧
    (bytesMeta .little).config = some [(ascii "endian", .str (ascii "little"))] := by
  obtain ⟨b2b, hc', hb⟩ := v2ToV3_codecs_order d v3 h
  have hl : b2b.length ≤ 1 := b2b_length_le _ _ _ hb
  refine ⟨?_, ?_, ?_, ?_, ?_, rfl, rfl⟩
  · intro ha
    refine ⟨b2b, ?_, hl⟩
    have hnone : d.compressor.bind compressorA2B = none := by
      have := ha
      simp only [hasA2B, Bool.or_eq_false_iff] at this
      simpa using this.2
    rw [hc', ha, hnone]; simp
  · intro ha
    refine ⟨b2b, ?_, hl⟩
    rw [hc', ha]; simp
  · intro r hr; simp [docEndian, simpleName, hr]
  · intro r hr; simp [docEndian, simpleName, hr]
  · intro r hr; simp [docEndian, simpleName, hr]
example : hasA2B exV2 = false ∧ exV2.dtype = .simple (62 :: ascii "i2") ∧ ∃ v3, v2ToV3 exV2 = .ok v3 :=
  ⟨by rw [hasA2B_some exV2 _ _ rfl rfl]; simp [shuffle_filter, compressorA2B_of_ident _ _ _ zlib_ident (by decide +kernel)], by rfl, exV3, v2ToV3_exV2_ok⟩

/-- **fill value**: what the V3 document holds is `fillConv` of the V3 data type name and the V2 fill value -/
theorem v2ToV3_fill (d : ArrayDocV2) (v3 : ArrayDoc) (h : v2ToV3 d = .ok v3) :
    fillConv (dtypeNameV3 (simpleName d)) d.fill = some v3.fill := by
  obtain ⟨s, e, f, cs, hv, rfl⟩ := v2ToV3_inv d v3 h
  have hn : simpleName d = s := by simp [simpleName, hv.simple]
  rw [hn]; exact hv.fill
example : ∃ v3, v2ToV3 exV2 = .ok v3 := ⟨exV3, v2ToV3_exV2_ok⟩
/-- the non-finite names stay names, for every data type -/
theorem fillConv_nonfinite (n : Str) :
    fillConv n .nan = some (.str (ascii "NaN")) ∧ fillConv n .inf = some (.str (ascii "Infinity")) ∧
    fillConv n .ninf = some (.str (ascii "-Infinity")) := by
  refine ⟨?_, ?_, ?_⟩ <;>
  · simp only [fillConv, fillV2ToV3, fillAsU64]
    split <;> simp
/-- a number stays the same number token, except for `bool` and `string` -/
theorem fillConv_num (n : Str) (t : List Char) (h1 : n ≠ ascii "bool") (h2 : n ≠ ascii "string") :
    fillConv n (.num t) = some (.num t) :=
  fillConv_of_num n t h1 h2
example : ascii "int16" ≠ ascii "bool" ∧ ascii "int16" ≠ ascii "string" := by decide
/-- `bool`: 0 and 1 become `false` and `true`, any other unsigned integer is rejected -/
theorem fillConv_bool (t : List Char) (k : Nat) (h : asU64 t = some k) :
    fillConv (ascii "bool") (.num t) = (if k = 0 then some (.bool false) else if k = 1 then some (.bool true) else none) := by
  simp only [fillConv, fillV2ToV3, fillAsU64, h, beq_self_eq_true, if_true]
  split
  · next h0 => cases h0; rfl
  · next h1 => cases h1; rfl
  · next h0 h1 hk =>
    cases hk
    have a : k ≠ 0 := fun e => h0 (by rw [e])
    have b : k ≠ 1 := fun e => h1 (by rw [e])
    simp [a, b]
  · next hk => cases hk
example : asU64 ['1'] = some 1 := by decide
/-- `null` converts only for `string` (the empty string); for `string` the integer 0 is the empty string as well -/
theorem fillConv_null (n : Str) :
    fillConv n .null = (if n = ascii "string" then some (.str []) else none) := by
  by_cases hn : n = ascii "string"
  · subst hn; rw [if_pos rfl]; rfl
  · simp [fillConv, fillV2ToV3, hn]
theorem fillConv_string_zero (t : List Char) (h : asU64 t = some 0) : fillConv (ascii "string") (.num t) = some (.str []) := by
  have hb : (ascii "string" == ascii "bool") = false := by decide
  simp [fillConv, fillV2ToV3, fillAsU64, h, hb]
example : asU64 ['0'] = some 0 := by decide
/-- a `null` fill value of a non-string array is an unsupported fill value -/
theorem v2ToV3_null_fill (d : ArrayDocV2) (s : Str) (h : d.dtype = .simple s) (hp : (endianOf s).isSome = true)
    (hf : d.fill = .null) (hs : dtypeNameV3 s ≠ ascii "string") : v2ToV3 d = .error .unsupportedFillValue := by
  obtain ⟨e, he⟩ := Option.isSome_iff_exists.mp hp
  have hfc : fillConv (dtypeNameV3 s) d.fill = none := by
    rw [hf]; simp [fillConv, fillV2ToV3, hs]
  simp [v2ToV3, h, he, hfc]
example : (endianOf (ascii ">i2")).isSome = true ∧ dtypeNameV3 (ascii ">i2") ≠ ascii "string" := by decide +kernel

/-- **ranks**: the conversion itself does not compare ranks — the chunk grid it produces has the rank of `chunks`;
    opening (`Array::new_with_metadata`: `InvalidChunkGridDimensionality`, after `validate_metadata`) accepts the
    produced document exactly when `shape` and `chunks` have equal length and no additional field must be understood -/
theorem v2ToV3_rank_consistent (d : ArrayDocV2) (v3 : ArrayDoc) (h : v2ToV3 d = .ok v3) :
    regularRank v3.chunkGrid = some d.chunks.length ∧
    (structOk v3 d.chunks.length = true ↔ ((∀ kv ∈ d.extra, kv.2.mu = false) ∧ d.chunks.length = d.shape.length)) := by
  obtain ⟨s, e, f, cs, _, rfl⟩ := v2ToV3_inv d v3 h
  refine ⟨regularRank_regularMeta _, ?_⟩
  simp [v3Of, structOk, List.all_eq_true]
example : ∃ v3, v2ToV3 exV2 = .ok v3 ∧ structOk v3 exV2.chunks.length = true := ⟨exV3, v2ToV3_exV2_ok, by decide⟩
/-- unequal ranks are rejected when the array is opened -/
theorem openOkV2_rank (d : ArrayDocV2) (h : d.shape.length ≠ d.chunks.length) : openOkV2 d = false :=
  Bool.eq_false_iff.2 fun h' => h ((openOkV2_iff d).1 h').1
example : ({ exV2 with chunks := [['2']] } : ArrayDocV2).shape.length ≠ ({ exV2 with chunks := [['2']] } : ArrayDocV2).chunks.length := by decide
theorem openOkV2_demands (d : ArrayDocV2) (h : openOkV2 d = true) :
    d.shape.length = d.chunks.length ∧ (∀ kv ∈ d.extra, kv.2.mu = false) ∧ ∃ v3, v2ToV3 d = .ok v3 :=
  (openOkV2_iff d).1 h
theorem exV2_openOk : openOkV2 exV2 = true :=
  (openOkV2_iff _).2 ⟨rfl, fun _ h => (nomatch h), _, v2ToV3_exV2_ok⟩
example : openOkV2 exV2 = true := exV2_openOk

end Zarrs.C13V2
