import ZarrsModel.Model.PackBitsPD
import ZarrsModel.Lemmas.PackBitsPD
import ZarrsModel.Props.C02
import ZarrsModel.Props.C03PackBits
/-
C02 for the `packbits` partial decoder
(zarrs/src/array/codec/array_to_bytes/packbits/packbits_partial_decoder.rs `partial_decode`, shared by the synchronous
and the asynchronous decoder; packbits_codec.rs `partial_decoder` / `async_partial_decoder`).

A data type is `nc` components of `c.w` bits decoded into `c.cb` bytes each; an element is `nc * c.cb` bytes; a chunk of
shape `sh` has `prod sh * nc` components.  `PackBits.decode c (prod sh * nc) v` is the full decode of the model
(`Model/PackBits.lean`); `groups (nc * c.cb) d` are the elements of the decoded bytes `d`.
-/
namespace Zarrs.C02
open Zarrs Zarrs.Codec Zarrs.Partial Zarrs.PackBits Zarrs.PackBitsPD

/-- `PackBitsPartialDecoder` itself (whenever the fast path is not taken) -/
theorem packbitsPD_serves_slow (c : PackBits.Cfg) (nc : Nat) (sh : Shape) (fill : Elem) (h : BHandle) (v d : Bytes)
    (hfl : c.first ≤ c.last) (hl : c.last < c.w) (hnc : 0 < nc) (hf : PackBits.fast c = false)
    (hdec : PackBits.decode c (prod sh * nc) v = some d) (hh : BHandleOk h v) :
    AHandleOk (packbitsPD c nc sh fill h) sh (groups (nc * c.cb) d) := by
  refine aHandleOk_mapM _ sh _ fun r hr hb => ?_
  show regionPD c nc nc sh fill h r = _
  have hcb : 0 < c.cb := cb_pos c (Nat.lt_of_le_of_lt (Nat.zero_le _) hl)
  obtain ⟨hd, hbl, hoff⟩ := decode_slow c (prod sh * nc) v d hf hdec
  have hval := requests_valid c nc sh r hr hb v.length (bodyOf c v).length hbl hoff
  unfold regionPD
  rw [if_neg (by simp [hr, hb]), hh _ hval]
  dsimp only
  rw [parts_zip]
  -- the bytes handed back for run `i` are bytes of the packed part
  have hP : ∀ i, i + (r.contiguous sh).run ≤ prod sh →
      slice v (offset c + i * ebits c nc / 8) (offset c + (i * ebits c nc + (r.contiguous sh).run * ebits c nc + 7) / 8) =
      slice (bodyOf c v) (i * ebits c nc / 8) ((i * ebits c nc + (r.contiguous sh).run * ebits c nc + 7) / 8) :=
    fun i hi => slice_bodyOf c v _ _ (hbl ▸ run_end_le c nc (prod sh) i _ hi)
  have hz : r.numElements * nc = (r.contiguousLinearised sh).length * ((r.contiguous sh).run * nc) + 0 := by
    rw [r.numElements_runs sh hr hb, Nat.mul_assoc]; rfl
  have hloop := runsLoop_spec c hfl hl nc hnc (prod sh * nc) v (prod sh) (r.contiguous sh).run rfl hbl _ hP
    (r.contiguousLinearised sh) 0 0 [] (contiguous_bound r sh hr hb) rfl
  rw [List.nil_append] at hloop
  rw [hz, hloop]
  simp only [List.replicate_zero, List.append_nil, List.nil_append]
  have hmod : (compsOf c (prod sh * nc) v).length % nc = 0 := by
    rw [compsOf_length]; exact Nat.mul_mod_left _ _
  have hG := groups_all_length nc hnc (compsOf c (prod sh * nc) v) hmod
  have hGf := groups_flatten_self nc hnc (compsOf c (prod sh * nc) v)
  have hout := extract_flatten nc r sh _ hG
  rw [hGf] at hout
  rw [← hout, groups_comps nc c.cb hnc hcb _ (fun g hg => hG g (mem_extract r sh _ g hg)), hd, ← extract_map]
  conv => rhs; rw [← hGf, groups_comps nc c.cb hnc hcb _ hG]

/-- **the stage lemma**: over a handle serving the stored value `v`, the partial decoder the codec selects (the `bytes`
decoder on the fast path, `PackBitsPartialDecoder` otherwise) answers every in-bounds list of regions — any rank, any
number of regions, single- and multi-component types, every component width, bit range, padding mode, with or without
sign extension — with exactly the regions of the full decode of `v` -/
theorem packbitsPD_serves (c : PackBits.Cfg) (nc : Nat) (sh : Shape) (fill : Elem) (h : BHandle) (v d : Bytes)
    (hw : 0 < c.w) (hfl : c.first ≤ c.last) (hl : c.last < c.w) (hnc : 0 < nc)
    (hdec : PackBits.decode c (prod sh * nc) v = some d) (hh : BHandleOk h v) :
    AHandleOk (PackBitsPD.partialDecoder c nc sh fill h) sh (groups (nc * c.cb) d) := by
  have hcb : 0 < c.cb := cb_pos c hw
  have hes : 0 < nc * c.cb := Nat.mul_pos hnc hcb
  unfold partialDecoder partialDecoderSel
  cases hf : PackBits.fast c with
  | false =>
    simp only [Bool.false_eq_true, if_false]
    exact packbitsPD_serves_slow c nc sh fill h v d hfl hl hnc hf hdec hh
  | true =>
    simp only [if_true]
    unfold PackBits.decode at hdec
    simp only [hf, if_true] at hdec
    by_cases hlen : (v.length == prod sh * nc * c.cb) = true
    · simp only [hlen, if_true, Option.some.injEq] at hdec
      subst hdec
      have hlen' : v.length = prod sh * (nc * c.cb) := by
        rw [← Nat.mul_assoc]; exact beq_iff_eq.mp hlen
      have hmod : v.length % (nc * c.cb) = 0 := by rw [hlen']; exact Nat.mul_mod_left _ _
      apply bytesPD_ok' false (nc * c.cb) c.cb sh fill h (groups (nc * c.cb) v) hes hcb (Nat.mul_mod_left _ _)
        (groups_length _ hes v _ hlen') (groups_all_length _ hes v hmod)
      rw [groups_flatten_self _ hes]
      simp only [bytesEnc, Bool.false_and, Bool.false_eq_true, if_false]
      exact hh
    · simp [hlen] at hdec

/-- complex64-like: two 32-bit components, bits 4..=11, padding count in the first byte; a 2×3 chunk -/
private def pbCfg : PackBits.Cfg := ⟨32, 4, 11, .firstByte, false⟩
private def pbChunk : List Elem :=
  (List.range 6).map (fun i => toLE 4 ((i * 37 + 5) % 256 * 16) ++ toLE 4 ((i * 91 + 3) % 256 * 16))
private def pbRegions : List Subset := [⟨[0, 1], [2, 2]⟩, ⟨[1, 0], [1, 3]⟩, ⟨[0, 0], [2, 1]⟩, ⟨[1, 1], [0, 1]⟩]
private def pbEnc : Bytes := PackBits.encode pbCfg pbChunk.flatten

example : 0 < pbCfg.w ∧ pbCfg.first ≤ pbCfg.last ∧ pbCfg.last < pbCfg.w ∧ 0 < 2 ∧ PackBits.fast pbCfg = false ∧
    PackBits.decode pbCfg (prod [2, 3] * 2) pbEnc = some pbChunk.flatten ∧
    BHandleOk (storeHandle (some pbEnc)) pbEnc :=
  ⟨by decide, by decide, by decide, by decide, by decide, by decide +kernel, (storeHandle_ok _).1⟩
example : PackBitsPD.partialDecoder pbCfg 2 [2, 3] [0, 0, 0, 0, 0, 0, 0, 0] (storeHandle (some pbEnc)) pbRegions =
    some (pbRegions.map (fun r => r.extract [2, 3] (groups 8 pbChunk.flatten))) := by decide +kernel
example : pbRegions.map (fun r => r.extract [2, 3] (groups 8 pbChunk.flatten)) =
    [[[160, 2, 0, 0, 224, 5, 0, 0], [240, 4, 0, 0, 144, 11, 0, 0], [144, 9, 0, 0, 240, 6, 0, 0], [224, 11, 0, 0, 160, 12, 0, 0]],
     [[64, 7, 0, 0, 64, 1, 0, 0], [144, 9, 0, 0, 240, 6, 0, 0], [224, 11, 0, 0, 160, 12, 0, 0]],
     [[80, 0, 0, 0, 48, 0, 0, 0], [64, 7, 0, 0, 64, 1, 0, 0]], []] := by decide +kernel

/-- an absent value reads as fill (`ArrayBytes::new_fill_value`), whichever decoder is selected -/
theorem packbitsPD_absent (c : PackBits.Cfg) (nc : Nat) (sh : Shape) (fill : Elem) (h : BHandle) (hh : BHandleAbsent h) :
    AHandleOk (PackBitsPD.partialDecoder c nc sh fill h) sh (List.replicate (prod sh) fill) := by
  unfold partialDecoder partialDecoderSel
  split
  · exact bytesPD_absent' false _ _ sh fill h hh
  · refine aHandleOk_mapM _ sh _ fun r hw hb => ?_
    rw [regionPD, if_neg (by simp [hw, hb]), hh]
    exact congrArg some (extract_replicate r sh fill hw hb).symm

example : BHandleAbsent (storeHandle none) := (storeHandle_ok []).2
example : PackBitsPD.partialDecoder pbCfg 2 [2, 3] [1, 0, 0, 0, 2, 0, 0, 0] (storeHandle none) pbRegions =
    some (pbRegions.map (fun r => r.extract [2, 3] (List.replicate 6 [1, 0, 0, 0, 2, 0, 0, 0]))) := by decide +kernel

/-- **every byte range `PackBitsPartialDecoder` requests lies inside a value of the declared encoded size**, so a
store holding a well-formed value answers every request (no `InvalidByteRangeError`) -/
theorem packbitsPD_requests_in_bounds (c : PackBits.Cfg) (nc : Nat) (sh : Shape) (v : Bytes) (r : Subset)
    (hf : PackBits.fast c = false) (hv : v.length = PackBits.encodedSize c (prod sh * nc))
    (hr : r.wf = true) (hb : r.inboundsShape sh = true) :
    (∀ q ∈ requests c nc sh r, q.valid v.length = true) ∧
    storeHandle (some v) (requests c nc sh r) = some (some ((requests c nc sh r).map (·.extract v))) := by
  have hval : ∀ q ∈ requests c nc sh r, q.valid v.length = true := by
    apply requests_valid c nc sh r hr hb v.length ((prod sh * nc * c.n + 7) / 8) rfl
    rw [hv, encodedSize_slow _ _ hf, Nat.add_comm]
    exact Nat.add_le_add_left (offset_le c) _
  exact ⟨hval, storeHandle_some_ok v _ hval⟩

example : PackBits.fast pbCfg = false ∧ pbEnc.length = PackBits.encodedSize pbCfg (prod [2, 3] * 2) ∧
    (⟨[0, 1], [2, 2]⟩ : Subset).wf = true ∧ (⟨[0, 1], [2, 2]⟩ : Subset).inboundsShape [2, 3] = true :=
  ⟨by decide, by decide +kernel, by decide, by decide⟩
/-- bits 16..48 and 64..96 of the packed elements behind the padding byte -/
example : requests pbCfg 2 [2, 3] ⟨[0, 1], [2, 2]⟩ = [.fromStart 3 (some 4), .fromStart 9 (some 4)] := by decide +kernel
/-- a bit range that does not start on a byte boundary: uint16 bits 3..=9 (7 bits per element) -/
example : requests ⟨16, 3, 9, .none, false⟩ 1 [2, 3] ⟨[0, 1], [2, 2]⟩ = [.fromStart 0 (some 3), .fromStart 3 (some 3)] := by
  decide +kernel

/-- **the fast-path condition is sound**: where `component_size_bits % 8 == 0 && first_bit == 0 && last_bit ==
component_size_bits - 1` holds, the packbits bit packing of the data (`encBody`: every component's bits `first..=last`
back to back) IS the data, i.e. its little-endian `bytes` encoding, which is also what `encode` stores — so the `bytes`
partial decoder (little-endian) reads the same stream; `packbitsPD_serves` is the resulting correctness statement -/
theorem packbitsPD_fastpath_sound (c : PackBits.Cfg) (data : Bytes) (hw : 0 < c.w) (hb : C03.wfBytes data)
    (hlen : data.length % c.cb = 0) (hf : PackBits.fast c = true) :
    PackBits.encBody c data = bytesEnc false c.cb data ∧ PackBits.encode c data = bytesEnc false c.cb data := by
  refine ⟨?_, ?_⟩
  · rw [encBody_fast c hw data hb hlen hf]
    simp [bytesEnc]
  · unfold PackBits.encode
    simp [hf, bytesEnc]

example : 0 < (⟨16, 0, 15, .lastByte, true⟩ : PackBits.Cfg).w ∧ C03.wfBytes [0x34, 0x12, 0xff, 0x80, 0x00, 0x01] ∧
    ([0x34, 0x12, 0xff, 0x80, 0x00, 0x01] : Bytes).length % (⟨16, 0, 15, .lastByte, true⟩ : PackBits.Cfg).cb = 0 ∧
    PackBits.fast ⟨16, 0, 15, .lastByte, true⟩ = true := ⟨by decide, by unfold C03.wfBytes; decide, by decide, by decide⟩
example : PackBits.encBody ⟨16, 0, 15, .lastByte, true⟩ [0x34, 0x12, 0xff, 0x80, 0x00, 0x01] =
    [0x34, 0x12, 0xff, 0x80, 0x00, 0x01] := by decide +kernel

/-- **the seeded selection is refuted**: without `first_bit == 0` (the seeded `async_partial_decoder`) a uint8 array
with bits 4..=7 selects the `bytes` partial decoder although its encoding is not the `bytes` encoding: four elements are
stored in two bytes; a region inside the first row reads packed bytes as elements, a region in the second row asks
for bytes outside the value -/
theorem packbitsPD_fastpath_seeded_refuted :
    let c : PackBits.Cfg := ⟨8, 4, 7, .none, false⟩
    let data : Bytes := [0x10, 0xf0, 0x30, 0xa0]
    let stored := storeHandle (some (PackBits.encode c data))
    fastSeeded c = true ∧ PackBits.fast c = false ∧
    PackBits.encode c data = [0xf1, 0xa3] ∧ PackBits.encode c data ≠ bytesEnc false c.cb data ∧
    partialDecoderSel fastSeeded c 1 [2, 2] [0] stored [⟨[0, 0], [1, 2]⟩] = some [[[0xf1], [0xa3]]] ∧
    decodeSlice c 1 [2, 2] (PackBits.encode c data) [⟨[0, 0], [1, 2]⟩] = some [[[0x10], [0xf0]]] ∧
    PackBitsPD.partialDecoder c 1 [2, 2] [0] stored [⟨[0, 0], [1, 2]⟩] = some [[[0x10], [0xf0]]] ∧
    partialDecoderSel fastSeeded c 1 [2, 2] [0] stored [⟨[1, 0], [1, 2]⟩] = none ∧
    PackBitsPD.partialDecoder c 1 [2, 2] [0] stored [⟨[1, 0], [1, 2]⟩] = some [[[0x30], [0xa0]]] := by
  decide +kernel

/-- **the seeded accumulator is refuted**: with `component_idx_outer += num_elements` (without `* num_components`) a
region of two runs of a two-component type writes the second run over the second component of the first; the decoder
as written agrees with full decode + slice -/
theorem packbitsPD_accumulator_seeded_refuted :
    let stored := storeHandle (some pbEnc)
    let region : Subset := ⟨[0, 0], [2, 1]⟩          -- a column: two runs of one element
    packbitsPDWith 1 pbCfg 2 [2, 3] [0, 0, 0, 0, 0, 0, 0, 0] stored [region] =
      some [[[80, 0, 0, 0, 112, 7, 0, 0], [64, 1, 0, 0, 0, 0, 0, 0]]] ∧
    decodeSlice pbCfg 2 [2, 3] pbEnc [region] = some [[[80, 0, 0, 0, 48, 0, 0, 0], [64, 7, 0, 0, 64, 1, 0, 0]]] ∧
    packbitsPD pbCfg 2 [2, 3] [0, 0, 0, 0, 0, 0, 0, 0] stored [region] = decodeSlice pbCfg 2 [2, 3] pbEnc [region] := by
  decide +kernel

/-- the general form (also for data outside the bit range, where the codec is lossy): the chain serves every chunk
`ys` whose array-to-array encoding is the full decode of the stored packbits value -/
theorem chainP_partial_eq_full_slice_lossy (c : ChainP) (sh : Shape) (fill : Elem) (xs ys : List Elem)
    (hw : 0 < c.cfg.w) (hbits : c.cfg.first ≤ c.cfg.last ∧ c.cfg.last < c.cfg.w) (hnc : 0 < c.nc)
    (hy : chunkOk (c.nc * c.cfg.cb) sh ys) (ha : aStagesOk c.a2a sh) (hb : ∀ st ∈ c.b2b, bStageOk st)
    (hdec : PackBits.decode c.cfg (prod (shapesOf c.a2a sh) * c.nc)
        (PackBits.encode c.cfg (aEnc c.a2a sh xs).flatten) = some (aEnc c.a2a sh ys).flatten) :
    AHandleOk (c.partialDecoder sh fill (storeHandle (some (c.encode sh xs)))) sh ys := by
  have ha' := aStagesOk_aOk c.a2a sh ha
  rw [chainP_partialDecoder_eq, ChainP.encode, enc_fold]
  obtain ⟨_, he⟩ := aEnc_chunk (c.nc * c.cfg.cb) c.a2a sh ys ha' hy.1 hy.2
  apply aChain_ok c.a2a sh ys _ ha' hy.1
  rw [← groups_of_flatten _ (Nat.mul_pos hnc (cb_pos c.cfg hw)) _ he]
  exact packbitsPD_serves c.cfg c.nc _ fill _ _ _ hw hbits.1 hbits.2 hnc hdec
    (bChain_ok c.b2b (fun st hst => bStage_ok st (hb st hst)) _ _ (storeHandle_some_ok _))

/-- **C02 for packbits chains**: for every chain of any number of transposes / squeezes / array caches, the `packbits`
codec (any configuration of `PackBits.Cfg`, any number of components), any number of checksum codecs, invertible
compressors and bytes caches, and every chunk whose components lie inside the configured bit range (the data the codec
is lossless on, `PackBits.inRange`), the chain's partial decoder on the stored encoding answers every in-bounds list
of regions with exactly the regions of the chunk -/
theorem chainP_partial_eq_full_slice (c : ChainP) (sh : Shape) (fill : Elem) (xs : List Elem)
    (hw : 0 < c.cfg.w) (hbits : c.cfg.first ≤ c.cfg.last ∧ c.cfg.last < c.cfg.w) (hnc : 0 < c.nc)
    (hx : chunkOk (c.nc * c.cfg.cb) sh xs) (hwf : ∀ x ∈ xs, C03.wfBytes x)
    (hr : ∀ x ∈ xs, ∀ v ∈ PackBits.comps c.cfg x, PackBits.inRange c.cfg v = true)
    (ha : aStagesOk c.a2a sh) (hb : ∀ st ∈ c.b2b, bStageOk st) :
    AHandleOk (c.partialDecoder sh fill (storeHandle (some (c.encode sh xs)))) sh xs := by
  have ha' := aStagesOk_aOk c.a2a sh ha
  refine chainP_partial_eq_full_slice_lossy c sh fill xs xs hw hbits hnc hx ha hb ?_
  -- the packbits stage is lossless on the array-to-array encoding, whose elements are elements of the chunk
  have hmem := aEnc_mem c.a2a sh xs ha' hx.1
  obtain ⟨hel, hee⟩ := aEnc_chunk (c.nc * c.cfg.cb) c.a2a sh xs ha' hx.1 hx.2
  have hflen : (aEnc c.a2a sh xs).flatten.length = prod (shapesOf c.a2a sh) * c.nc * c.cfg.cb := by
    rw [flatten_length_of_all _ _ hee, hel, Nat.mul_assoc]
  have hmodE : ∀ y ∈ aEnc c.a2a sh xs, y.length % c.cfg.cb = 0 := fun y hy => by
    rw [hee y hy]; exact Nat.mul_mod_left _ _
  rw [← Nat.mul_div_cancel (prod (shapesOf c.a2a sh) * c.nc) (cb_pos c.cfg hw), ← hflen]
  apply C03.packbits_dec_enc c.cfg hw hbits.1 hbits.2
  · intro b hb'
    obtain ⟨y, hy, hby⟩ := List.mem_flatten.mp hb'
    exact hwf y (hmem y hy) b hby
  · rw [hflen]; exact Nat.mul_mod_left _ _
  · intro v hv
    rw [comps_flatten c.cfg hw _ hmodE] at hv
    obtain ⟨y, hy, hvy⟩ := List.mem_flatMap.mp hv
    exact hr y (hmem y hy) v hvy

theorem chainP_partial_absent (c : ChainP) (sh : Shape) (fill : Elem) (ha : aStagesOk c.a2a sh) :
    AHandleOk (c.partialDecoder sh fill (storeHandle none)) sh (List.replicate (prod sh) fill) := by
  have ha' := aStagesOk_aOk c.a2a sh ha
  rw [chainP_partialDecoder_eq]
  apply aChain_ok c.a2a sh _ _ ha' (by simp)
  rw [aEnc_fill fill c.a2a sh ha']
  exact packbitsPD_absent _ _ _ fill _ (bChain_absent c.b2b _ storeHandle_none_absent)

/-- `pbCfg` with the padding count in the last byte, between array-to-array and bytes-to-bytes stages -/
private def exChainP : ChainP :=
  { a2a := [.transpose [1, 0], .cache], cfg := ⟨32, 4, 11, .lastByte, false⟩, nc := 2,
    b2b := [.stripSuffix 4 crc32c, .cache, .decodeAll (fun b => b ++ [9, 9]) (fun b => some (b.take (b.length - 2)))] }

private theorem exChainP_b : ∀ st ∈ exChainP.b2b, bStageOk st := by
  intro st hst
  simp only [exChainP, List.mem_cons, List.not_mem_nil, or_false] at hst
  rcases hst with rfl | rfl | rfl
  · rfl
  · trivial
  · intro b
    simp [List.take_left']

example : 0 < exChainP.cfg.w ∧ (exChainP.cfg.first ≤ exChainP.cfg.last ∧ exChainP.cfg.last < exChainP.cfg.w) ∧
    0 < exChainP.nc ∧ chunkOk (exChainP.nc * exChainP.cfg.cb) [2, 3] pbChunk ∧ (∀ x ∈ pbChunk, C03.wfBytes x) ∧
    (∀ x ∈ pbChunk, ∀ v ∈ PackBits.comps exChainP.cfg x, PackBits.inRange exChainP.cfg v = true) ∧
    aStagesOk exChainP.a2a [2, 3] ∧ ∀ st ∈ exChainP.b2b, bStageOk st :=
  ⟨by decide, by decide, by decide, ⟨by decide, by decide +kernel⟩, by unfold C03.wfBytes; decide +kernel, by decide +kernel,
    ⟨by decide, trivial, trivial⟩, exChainP_b⟩
example : exChainP.partialDecoder [2, 3] [0, 0, 0, 0, 0, 0, 0, 0] (storeHandle (some (exChainP.encode [2, 3] pbChunk))) pbRegions =
    some (pbRegions.map (fun r => r.extract [2, 3] pbChunk)) := by decide +kernel
example : aStagesOk exChainP.a2a [2, 3] := ⟨by decide, trivial, trivial⟩
example : exChainP.partialDecoder [2, 3] [1, 0, 0, 0, 2, 0, 0, 0] (storeHandle none) pbRegions =
    some (pbRegions.map (fun r => r.extract [2, 3] (List.replicate (prod [2, 3]) [1, 0, 0, 0, 2, 0, 0, 0]))) := by
  decide +kernel

end Zarrs.C02
