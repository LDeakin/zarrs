import ZarrsModel.Model.FillMeta
import ZarrsModel.Lemmas.Json
import ZarrsModel.Lemmas.Float
import ZarrsModel.Lemmas.FillMeta
import ZarrsModel.Lemmas.ExactCodec
/-
C14 — fill values survive the metadata round trip bit-exactly.

The round trip is `bytes → toMeta → print → parse → fromMeta → bytes`.  The decimal text of a finite float is
written and read by `serde_json` (ryu and the `float_roundtrip` reader); that pair is the parameter `nc`, and
`NumCodec.Good` states what is assumed of it: reading what was written gives the same binary64 pattern back, and
what is written is a JSON number token.  `exactCodec` (exact decimal expansion, read by the correctly rounded
`Float.readF64`) is proved to satisfy `Good`, so the assumption is satisfiable inside the model; the
correspondence check compares `Float.readF64` with what `serde_json` produced for every finite float it sees.
-/
namespace Zarrs.C14
open Zarrs Zarrs.Json Zarrs.Float Zarrs.FillMeta

/-- the data types of the property: 1/2/4/8-byte integers, the four float formats, their complex pairs, raw bits,
    byte strings and strings -/
def DT.ok : DT → Prop
  | .bool => True
  | .int n => n = 1 ∨ n = 2 ∨ n = 4 ∨ n = 8
  | .uint n => n = 1 ∨ n = 2 ∨ n = 4 ∨ n = 8
  | .float f => f = f16 ∨ f = bf16 ∨ f = f32 ∨ f = f64
  | .complex f => f = f32 ∨ f = f64
  | .raw _ => True
  | .bytes => True
  | .string => True

/-- what is assumed of `serde_json`'s number writer/reader on finite binary64 patterns -/
structure NumCodec.Good (nc : NumCodec) : Prop where
  roundTrip : ∀ b, b < 2 ^ 64 → f64.isFinite b = true → nc.rd (nc.fmt b) = some b
  token : ∀ b, b < 2 ^ 64 → f64.isFinite b = true → tokOk (nc.fmt b)

/-- digits of the exact decimal expansion of a finite binary64 pattern, read back by the correctly rounded reader -/
def exactFmt (b : Nat) : List Char :=
  let (a, d) := f64.value (f64.mag b)             -- d is a power of two, 2^k: a/2^k = a*5^k / 10^k
  let k := Nat.log2 d
  (if f64.neg b then ['-'] else []) ++ natTok (a * 5 ^ k) ++ ['e', '-'] ++ natTok k
def exactCodec : NumCodec := ⟨exactFmt, readF64⟩

/-- **printing then parsing a document gives the document back** (numbers as their tokens, strings with every
escape, nested arrays and objects in order) -/
theorem json_roundtrip (j : J) (h : j.wf) : parse (print j) = some j :=
  parse_print j h
example : (J.obj [(ascii "a", .arr [.num "-12".toList, .str [34, 10, 0xC3, 0xA9], .null]), (ascii "b", .bool true)]).wf := by
  have hnum : tokOk "-12".toList :=
    NumTok.tokOk_int true ['1', '2'] ⟨by simp, by decide, by decide⟩
  have hs : strOk [34, 10, 0xC3, 0xA9] := ⟨by decide +kernel, by decide +kernel⟩
  simp only [J.wf, wfKVs, wfList, and_true]
  exact ⟨⟨strOk_ascii _ (by decide), ⟨hnum, hs⟩, strOk_ascii _ (by decide)⟩,
    by unfold keysDistinct; decide⟩

-- (`hm`, `h` are not needed: rounding is exact on the value `Fmt.value` gives to any pattern)
set_option linter.unusedVariables false in
/-- **rounding a representable value is the identity**: the correctly rounded conversion returns the pattern whose
exact value it was given -/
theorem round_value (f : Fmt) (hm : 1 ≤ f.mb) (he : 2 ≤ f.eb) (m : Nat) (h : m < f.inf) :
    f.round (f.value m).1 (f.value m).2 = m :=
  f.round_of_eq he m _ _ (f.value_den_pos m) rfl

/-- **widening to binary64 and narrowing back is the identity** on every finite pattern of the four formats,
whichever way `half` narrows -/
theorem narrow_widen (how : Narrow) (f : Fmt) (hf : f = f16 ∨ f = bf16 ∨ f = f32 ∨ f = f64) (b : Nat)
    (hb : b < 2 ^ f.bits) (hfin : f.isFinite b = true) :
    narrow how f (convertBits f f64 b) = b :=
  narrow_convertBits how f hf b hb hfin

/-- the assumption on the number codec is satisfiable: the exact decimal expansion read by the correctly rounded
reader -/
theorem exactCodec_good : NumCodec.Good exactCodec := by
  have hfmt : ∀ b, ∃ a k, f64.value (f64.mag b) = (a, 2 ^ k) ∧ k ≤ 1074 ∧
      exactFmt b = (if f64.neg b then ['-'] else []) ++ natTok (a * 5 ^ k) ++ ['e', '-'] ++ natTok k := by
    intro b
    obtain ⟨a, k, hv, hk⟩ := f64_value_den (f64.mag b)
    exact ⟨a, k, hv, hk, by simp only [exactFmt, hv, Nat.log2_two_pow]⟩
  constructor
  · intro b hb hfin
    obtain ⟨a, k, hv, hk, he⟩ := hfmt b
    -- not `show readF64 (exactFmt b) = _`: the unifier would unfold `readF64` on the token
    simp only [exactCodec]
    rw [he, readF64_exact _ _ a k (of_decide_eq_true hfin) hv hk, f64.sign_add_mag b hb]
  · intro b _ _
    obtain ⟨a, k, -, -, he⟩ := hfmt b
    simp only [exactCodec, he]
    exact NumTok.tokOk_exp _ _ _ (NumTok.toDigits_ok _) Nat.toDigits_ne_nil (NumTok.toDigits_dig _)

/-- **every non-finite pattern round-trips through its string form, independent of the number codec**: both
infinities, the canonical NaN, and every other NaN payload and sign (as a hex string) -/
theorem float_nonfinite_roundtrip (nc : NumCodec) (how : Narrow) (f : Fmt)
    (hf : f = f16 ∨ f = bf16 ∨ f = f32 ∨ f = f64) (b : Nat) (hb : b < 2 ^ f.bits) (hnf : f.isFinite b = false) :
    metaToFloat nc how f (floatToMeta nc f b) = some b ∧ ∃ s, floatToMeta nc f b = .str s :=
  have h := metaToFloat_floatToMeta_nonfinite nc how f hf b hb hnf
  ⟨h.1, h.2.2⟩

/-- **every pattern of a float format round-trips through metadata** (finite ones through the number codec) -/
theorem float_roundtrip (nc : NumCodec) (hnc : NumCodec.Good nc) (how : Narrow) (f : Fmt)
    (hf : f = f16 ∨ f = bf16 ∨ f = f32 ∨ f = f64) (b : Nat) (hb : b < 2 ^ f.bits) :
    metaToFloat nc how f (floatToMeta nc f b) = some b :=
  (metaToFloat_floatToMeta nc how f hf hnc.roundTrip hnc.token b hb).1

/-- the number codec matters for `float` and `complex` only -/
theorem toMeta_inverse (nc : NumCodec) (how : Narrow) (dt : DT) (hdt : DT.ok dt)
    (hnc : (∀ f, dt ≠ .float f ∧ dt ≠ .complex f) ∨ NumCodec.Good nc)
    (bs : List Nat) (hbytes : ∀ b ∈ bs, b < 256) (j : J) (hj : toMeta nc dt bs = some j) :
    j.wf ∧ fromMeta nc how dt j = some bs := by
  have hnc' : ∀ f, dt = .float f ∨ dt = .complex f → NumCodec.Good nc :=
    fun f hf => hnc.resolve_left fun h => hf.elim (h f).1 (h f).2
  have hj := (toMeta_eq_some_iff nc dt bs j).mp hj
  cases dt with
  | bool => rcases hj with ⟨rfl, rfl⟩ | ⟨rfl, rfl⟩ <;> simp [J.wf, fromMeta]
  | int n =>
    obtain ⟨hl, rfl⟩ := hj
    have hn : 0 < n ∧ n ≤ 8 := by rcases hdt with h | h | h | h <;> omega
    exact int_inverse nc how n hn.1 hn.2 bs hl hbytes
  | uint n =>
    obtain ⟨hl, rfl⟩ := hj
    have hn : n ≤ 8 := by rcases hdt with h | h | h | h <;> omega
    exact uint_inverse nc how n hn bs hl hbytes
  | float f =>
    obtain ⟨hl, rfl⟩ := hj
    exact float_inverse nc how f hdt (hnc' f (.inl rfl)).roundTrip (hnc' f (.inl rfl)).token bs hl hbytes
  | complex f =>
    obtain ⟨hl, rfl⟩ := hj
    exact complex_inverse nc how f (by rcases hdt with h | h <;> simp [Fmt.std, h]) (hnc' f (.inr rfl)).roundTrip
      (hnc' f (.inr rfl)).token bs hl hbytes
  | raw n =>
    obtain ⟨hl, rfl⟩ := hj
    refine ⟨wfList_natToks bs, ?_⟩
    simp only [fromMeta, metaToBytes_natToks bs hbytes, Option.bind_some, hl, BEq.rfl, if_true]
  | bytes =>
    subst hj
    exact ⟨wfList_natToks bs, by simp only [fromMeta, metaToBytes_natToks bs hbytes]⟩
  | string =>
    obtain ⟨hl, rfl⟩ := hj
    exact ⟨(str_wf_iff _).2 ⟨hbytes, hl⟩, by simp only [fromMeta]⟩

/-- **C14, round trip**: for every data type and every fill value the metadata conversion accepts, converting to
metadata, serialising, parsing and converting back yields the identical bytes -/
theorem fill_roundtrip (nc : NumCodec) (hnc : NumCodec.Good nc) (how : Narrow) (dt : DT) (hdt : DT.ok dt)
    (bs : List Nat) (hbytes : ∀ b ∈ bs, b < 256) (j : J) (hj : toMeta nc dt bs = some j) :
    roundTrip nc how dt bs = some bs := by
  obtain ⟨hwf, hinv⟩ := toMeta_inverse nc how dt hdt (.inr hnc) bs hbytes j hj
  simp only [roundTrip, hj, Option.bind_some, json_roundtrip j hwf, hinv]
example : toMeta exactCodec (.float f32) [0x01, 0x00, 0xC0, 0xFF] = some (.str (ascii "0xffc00001")) := by
  rfl

/-- the same without any assumption on the number codec, for the data types that never use it -/
theorem fill_roundtrip_nonfloat (nc : NumCodec) (how : Narrow) (dt : DT) (hdt : DT.ok dt)
    (hnf : ∀ f, dt ≠ .float f ∧ dt ≠ .complex f)
    (bs : List Nat) (hbytes : ∀ b ∈ bs, b < 256) (j : J) (hj : toMeta nc dt bs = some j) :
    roundTrip nc how dt bs = some bs := by
  obtain ⟨hwf, hinv⟩ := toMeta_inverse nc how dt hdt (.inl hnf) bs hbytes j hj
  simp only [roundTrip, hj, Option.bind_some, json_roundtrip j hwf, hinv]

/-- **which fill values have a metadata form**: every byte string of the data type's size (any length for
`bytes`), except a `bool` byte other than 0/1 and a `string` that is not UTF-8 -/
theorem toMeta_defined (nc : NumCodec) (dt : DT) (hdt : DT.ok dt) (bs : List Nat) :
    (toMeta nc dt bs).isSome = true ↔
      match dt with
      | .bool => bs = [0] ∨ bs = [1]
      | .int n => bs.length = n
      | .uint n => bs.length = n
      | .float f => bs.length = f.bits / 8
      | .complex f => bs.length = 2 * (f.bits / 8)
      | .raw n => bs.length = n
      | .bytes => True
      | .string => validUtf8 bs = true := by
  simp only [Option.isSome_iff_exists, toMeta_eq_some_iff]
  cases dt <;> simp [exists_or]

/-- **C14, rejection by kind**: metadata that is accepted has the JSON kind of the data type — a boolean for
`bool`, a number for integers, a number or string for floats, a two-element array for complex numbers, an array
for raw bits and byte strings, a string for `string` — so `null`, objects and every other kind are rejected -/
theorem fromMeta_kind (nc : NumCodec) (how : Narrow) (dt : DT) (j : J) (bs : List Nat)
    (h : fromMeta nc how dt j = some bs) :
    match dt with
    | .bool => ∃ b, j = .bool b
    | .int _ => ∃ t, j = .num t
    | .uint _ => ∃ t, j = .num t
    | .float _ => (∃ t, j = .num t) ∨ (∃ s, j = .str s)
    | .complex _ => ∃ re im, j = .arr [re, im] ∧ ((∃ t, re = .num t) ∨ (∃ s, re = .str s)) ∧ ((∃ t, im = .num t) ∨ (∃ s, im = .str s))
    | .raw _ => ∃ xs, j = .arr xs ∧ ∀ x ∈ xs, ∃ t, x = .num t
    | .bytes => ∃ xs, j = .arr xs ∧ ∀ x ∈ xs, ∃ t, x = .num t
    | .string => ∃ s, j = .str s := by
  cases dt with
  | bool | int n | uint n | string => cases j <;> simp [fromMeta] at h ⊢
  | float f => cases j <;> simp [fromMeta, metaToFloat] at h ⊢
  | complex f =>
    obtain ⟨re, im, a, b, h1, h2, h3, -⟩ := fromMeta_complex_some nc how f j bs h
    exact ⟨re, im, h1, metaToFloat_kind nc how f re a h2, metaToFloat_kind nc how f im b h3⟩
  | raw n =>
    simp only [fromMeta, Option.bind_eq_some_iff] at h
    obtain ⟨bs', hm, -⟩ := h
    obtain ⟨xs, h1, h2, -⟩ := metaToBytes_some j bs' hm
    exact ⟨xs, h1, h2⟩
  | bytes =>
    obtain ⟨xs, h1, h2, -⟩ := metaToBytes_some j bs h
    exact ⟨xs, h1, h2⟩

/-- **C14, rejection by range**: an integer token is accepted by an `n`-byte signed type exactly when its value is
in `[-2^(8n-1), 2^(8n-1))` -/
theorem int_accept_iff (nc : NumCodec) (how : Narrow) (n : Nat) (hn : n = 1 ∨ n = 2 ∨ n = 4 ∨ n = 8) (i : Int) :
    (fromMeta nc how (.int n) (.num (intTok i))).isSome = true ↔ (-(2 ^ (8 * n - 1) : Int) ≤ i ∧ i < 2 ^ (8 * n - 1)) := by
  have h63 := int_two_pow_le (show 8 * n - 1 ≤ 63 by omega)
  simp only [fromMeta, NumTok.asI64_intTok, bind_if_isSome]
  omega
theorem uint_accept_iff (nc : NumCodec) (how : Narrow) (n : Nat) (hn : n = 1 ∨ n = 2 ∨ n = 4 ∨ n = 8) (v : Nat) :
    (fromMeta nc how (.uint n) (.num (natTok v))).isSome = true ↔ v < 2 ^ (8 * n) := by
  have h64 := Nat.pow_le_pow_right (show 0 < 2 by decide) (show 8 * n ≤ 64 by omega)
  simp only [fromMeta, NumTok.asU64_natTok, bind_if_isSome]
  omega
/-- a negative number is never an unsigned fill value, and a number written with a fraction or exponent is never
an integer fill value -/
theorem int_rejects_float_token (nc : NumCodec) (how : Narrow) (n : Nat) (t : List Char)
    (ht : t.any (fun c => c == '.' || c == 'e' || c == 'E') = true) :
    fromMeta nc how (.int n) (.num t) = none ∧ fromMeta nc how (.uint n) (.num t) = none := by
  have h : tokIsInt t = false := by simp [tokIsInt, ht]
  simp only [fromMeta, NumTok.asI64_nonint t h, NumTok.asU64_nonint t h, Option.bind_none, and_self]
theorem uint_rejects_negative (nc : NumCodec) (how : Narrow) (n : Nat) (t : List Char) :
    fromMeta nc how (.uint n) (.num ('-' :: t)) = none := by
  simp only [fromMeta, NumTok.asU64_neg, Option.bind_none]

/-- **accepted metadata has the data type's size**, and byte arrays hold bytes -/
theorem fromMeta_size (nc : NumCodec) (how : Narrow) (dt : DT) (hdt : DT.ok dt) (j : J) (bs : List Nat)
    (h : fromMeta nc how dt j = some bs) :
    match dt with
    | .bool => bs.length = 1
    | .int n => bs.length = n
    | .uint n => bs.length = n
    | .float f => bs.length = f.bits / 8
    | .complex f => bs.length = 2 * (f.bits / 8)
    | .raw n => bs.length = n ∧ ∀ b ∈ bs, b < 256
    | .bytes => ∀ b ∈ bs, b < 256
    | .string => True := by
  cases dt with
  | bool =>
    cases j <;> simp [fromMeta] at h
    subst h; rfl
  | int n | uint n =>
    cases j <;> simp only [fromMeta, reduceCtorEq, Option.bind_eq_some_iff, Option.ite_none_right_eq_some,
      Option.some.injEq] at h
    obtain ⟨v, -, -, rfl⟩ := h
    exact length_natLE _ _
  | float f =>
    simp only [fromMeta, Option.map_eq_some_iff] at h
    obtain ⟨a, -, rfl⟩ := h
    exact length_natLE _ _
  | complex f =>
    obtain ⟨re, im, a, b, -, -, -, rfl⟩ := fromMeta_complex_some nc how f j bs h
    simp only [List.length_append, length_natLE]; omega
  | raw n =>
    simp only [fromMeta, Option.bind_eq_some_iff, Option.ite_none_right_eq_some, Option.some.injEq, beq_iff_eq] at h
    obtain ⟨bs', hm, hl, rfl⟩ := h
    obtain ⟨xs, -, -, h3⟩ := metaToBytes_some j bs' hm
    exact ⟨hl, h3⟩
  | bytes =>
    obtain ⟨xs, -, -, h3⟩ := metaToBytes_some j bs h
    exact h3
  | string => trivial

/-- **hex strings**: a float accepts a string other than the three names only if it is `0x` followed by exactly
`2 * size` hexadecimal digits -/
theorem float_string_accept (nc : NumCodec) (how : Narrow) (f : Fmt) (s : Str) (b : Nat)
    (hs : s ≠ sInfinity ∧ s ≠ sNegInfinity ∧ s ≠ sNaN) (h : metaToFloat nc how f (.str s) = some b) :
    ∃ ds, s = 48 :: 120 :: ds ∧ ds.length = 2 * (f.bits / 8) ∧ ∀ d ∈ ds, (hexVal d).isSome = true := by
  simp only [metaToFloat, beq_iff_eq, hs.1, hs.2.1, hs.2.2, if_false] at h
  cases hu : unhexStr s with
  | none => simp [hu] at h
  | some bs =>
    simp only [hu] at h
    split at h
    · rename_i hl
      unfold unhexStr at hu
      split at hu
      · rename_i rest
        obtain ⟨h1, h2⟩ := unhexPairs_some rest bs hu
        exact ⟨rest, rfl, by rw [h1, hl], h2⟩
      · simp at hu
    · simp at h

/-- **numbers beyond the range of the type are rejected** (repaired code): a JSON number is finite, so one whose
nearest value in the format is infinite is not representable; a number is accepted only with a FINITE result -/
theorem float_number_accept (nc : NumCodec) (how : Narrow) (f : Fmt) (t : List Char) (b : Nat)
    (h : metaToFloat nc how f (.num t) = some b) :
    f.isFinite b = true ∧ ∃ b64, nc.rd t = some b64 ∧ narrow how f b64 = b := by
  simp only [metaToFloat] at h
  cases hr : nc.rd t with
  | none => simp [hr] at h
  | some b64 =>
    simp only [hr, Option.bind_some] at h
    by_cases hfin : f.isFinite (narrow how f b64) = true
    · simp only [hfin, if_true, Option.some.injEq] at h
      exact ⟨h ▸ hfin, b64, rfl, h⟩
    · simp [hfin] at h

theorem float_number_overflow_rejected (nc : NumCodec) (how : Narrow) (f : Fmt) (t : List Char) (b64 : Nat)
    (hr : nc.rd t = some b64) (hover : f.isFinite (narrow how f b64) = false) :
    metaToFloat nc how f (.num t) = none := by
  simp [metaToFloat, hr, hover]

-- `1e39` is a finite binary64 beyond binary32's range: rejected for float32 (the unrepaired code read it as +Infinity)
set_option exponentiation.threshold 1200 in
example : metaToFloat exactCodec .direct f32 (.num "1e39".toList) = none := by decide +kernel
set_option exponentiation.threshold 1200 in
example : metaToFloat exactCodec .direct f16 (.num "65520".toList) = none := by decide +kernel
set_option exponentiation.threshold 1200 in
example : (metaToFloat exactCodec .direct f16 (.num "65504".toList)).isSome = true := by decide +kernel

end Zarrs.C14
