import ZarrsModel.Model.Keys
import ZarrsModel.Lemmas.Keys
/-
C11 — chunk keys are injective, valid and exactly as the specification writes them.
-/
namespace Zarrs.C11
open Zarrs.Keys

/-- decimal rendering: digits only, non-empty, no leading zero except for 0 itself, and it denotes `n` -/
theorem decimal_form (n : Nat) :
    (decimal n).all Char.isDigit = true ∧ decimal n ≠ [] ∧
    (n ≠ 0 → (decimal n).head? ≠ some '0') ∧ (n = 0 → decimal n = ['0']) ∧
    (decimal n).foldl (fun acc c => acc * 10 + (c.toNat - '0'.toNat)) 0 = n :=
  ⟨decimal_all_isDigit n, decimal_ne_nil n, decimal_head_ne_zero n,
    fun h => h ▸ decimal_zero, decimal_value n⟩

example : decimal 0 = "0".toList := by decide +kernel
example : decimal 7 = "7".toList := by decide +kernel
example : decimal 10 = "10".toList := by decide +kernel
example : decimal 1203 = "1203".toList := by decide +kernel

theorem decimal_injective (a b : Nat) (h : decimal a = decimal b) : a = b :=
  decimal_inj h

/-- the textual form mandated by the specification (default: `c` then separator-prefixed decimals;
v2: decimals joined by the separator; rank 0: `c` resp. `0`) -/
theorem encode_form (sep : Char) (idx : List Nat) :
    encode .default sep idx = 'c' :: (idx.flatMap (fun n => sep :: decimal n)) ∧
    (idx ≠ [] → encode .v2 sep idx = ((idx.flatMap (fun n => sep :: decimal n)).drop 1)) ∧
    encode .v2 sep [] = ['0'] := by
  have key : idx ≠ [] →
      sep :: joinSep sep (idx.map decimal) = idx.flatMap (fun n => sep :: decimal n) := by
    intro h
    rw [cons_joinSep sep (idx.map decimal) (by simpa using h), List.flatMap_map]
  refine ⟨?_, ?_, rfl⟩
  · cases idx with
    | nil => rfl
    | cons n r =>
      rw [← key (by simp)]
      simp [encode]
  · intro h
    rw [← key h]
    cases idx with
    | nil => exact absurd rfl h
    | cons n r => simp [encode]

example : encode .default '/' [1, 23, 0] = "c/1/23/0".toList := by decide +kernel
example : encode .default '.' [1, 23, 0] = "c.1.23.0".toList := by decide +kernel
example : encode .default '/' [] = "c".toList := by decide +kernel
example : encode .v2 '.' [1, 23] = "1.23".toList := by decide +kernel
example : encode .v2 '/' [1, 23] = "1/23".toList := by decide +kernel
example : encode .v2 '.' [] = "0".toList := by decide +kernel
example : ([1, 23] : List Nat) ≠ [] := by decide +kernel

/-- distinct chunk coordinates of one array (same rank) get distinct keys -/
theorem encode_injective (e : Enc) (sep : Char) (hs : isSep sep = true) (a b : List Nat)
    (hl : a.length = b.length) (h : encode e sep a = encode e sep b) : a = b :=
  encode_inj e sep hs a b hl h

example : isSep '/' = true := by decide +kernel
example : isSep '.' = true := by decide +kernel
example : ([1, 2] : List Nat).length = ([3, 4] : List Nat).length := by decide +kernel
-- the rank hypothesis is necessary for v2: rank 0 and `[0]` share the key "0"
example : encode .v2 '.' [] = encode .v2 '.' [0] := by decide +kernel

-- `hs` is kept from the specification's statement; the proof shows validity for any separator character
set_option linter.unusedVariables false in
/-- every chunk key is a valid store key beneath the array's node path -/
theorem key_valid (p : List Char) (hp : validPath p = true) (e : Enc) (sep : Char) (hs : isSep sep = true)
    (idx : List Nat) :
    validKey (dataKey p (encode e sep idx)) = true ∧
    (nodePrefix p) <+: (dataKey p (encode e sep idx)) := by
  have hk := encode_goodKey e sep idx
  rcases validPath_cases hp with rfl | ⟨q, rfl, hq⟩
  · rw [dataKey_root, nodePrefix_root, validKey_iff]
    exact ⟨hk, List.nil_prefix⟩
  · rw [dataKey_cons hq.ne_nil, nodePrefix_cons hq.ne_nil, validKey_iff]
    refine ⟨hq.append_sep '/' hk, ?_⟩
    exact ⟨encode e sep idx, by simp⟩

example : validPath "/".toList = true := by decide +kernel
example : validPath "/a/b".toList = true := by decide +kernel
example : dataKey "/a/b".toList (encode .default '/' [1, 2]) = "a/b/c/1/2".toList := by decide +kernel
example : dataKey "/".toList (encode .v2 '.' [1, 2]) = "1.2".toList := by decide +kernel
example : nodePrefix "/a/b".toList = "a/b/".toList := by decide +kernel

/-- injectivity survives prefixing with the node path -/
theorem dataKey_injective (p : List Char) (k1 k2 : List Char) (h : dataKey p k1 = dataKey p k2) : k1 = k2 :=
  dataKey_inj p h

-- `hs` is kept from the specification's statement; the proof does not need it
set_option linter.unusedVariables false in
/-- a chunk key never equals a metadata key of the same node -/
theorem not_metadata (p : List Char) (hp : validPath p = true) (e : Enc) (sep : Char) (hs : isSep sep = true)
    (idx : List Nat) (name : List Char) (hn : name ∈ metaNames) :
    dataKey p (encode e sep idx) ≠ metaKey p name := by
  intro h
  have hne : encode e sep idx ≠ name := fun heq => encode_not_metaName e sep idx (heq ▸ hn)
  rcases validPath_cases hp with rfl | ⟨q, rfl, hq⟩
  · exact hne h
  · rw [dataKey_cons hq.ne_nil, metaKey_cons hq.ne_nil] at h
    exact hne (by simpa using h)

example : "zarr.json".toList ∈ metaNames := by decide +kernel
example : ".zarray".toList ∈ metaNames := by decide +kernel
example : metaKey "/a/b".toList "zarr.json".toList = "a/b/zarr.json".toList := by decide +kernel
example : metaKey "/".toList "zarr.json".toList = "zarr.json".toList := by decide +kernel

end Zarrs.C11
