import ZarrsModel.Props.C12
import ZarrsModel.Lemmas.DeflateTotal
import ZarrsModel.Lemmas.DeflateRender
/-
C12, read direction, at the level of RFC 1951 itself: the specification-level reader `Zarrs.Inflate.inflate` (the
decoder every gzip / zlib / Zarr-V2-compressor value of the read direction goes through in the model) accepts EVERY
stream a conformant DEFLATE writer may emit — `Zarrs.DeflateSpec`: any sequence of stored, fixed-Huffman and
dynamic-Huffman blocks, any valid (also incomplete, also non-optimal) code-length assignment, any run-length encoding
of the dynamic header, literals and back-references (overlapping ones included), histories carried across blocks — and
returns the rendering of its tokens.  `Props/C12.lean` and `Props/C12Fixed.lean` say this only for two particular
writers (`deflateStored`, `deflateFixed`).

What the reader accepts beyond the specification (it never checks a code-length set): over-subscribed sets (Kraft
sum > 1; zlib rejects them) are read with the first listed symbol whose (length, code) matches; incomplete sets of any
kind (zlib: only a single one-bit distance code) are read, unused codes being errors when they occur.  See the
`example`s after `decodeSym_codeOf`.
-/
namespace Zarrs.C12
open Zarrs Zarrs.Inflate Zarrs.DeflateSpec

/-- **canonical Huffman decoding inverts encoding**: for a code-length assignment with lengths ≤ 15 and Kraft sum
    ≤ 1 (complete or not), the reader's table `mkHuff lens` reads the code of every symbol that has one back as that
    symbol, whatever follows (prefix-freeness) -/
theorem decodeSym_codeOf (lens : List Nat) (hv : validLens lens = true) (s : Nat) (code rest : Bits)
    (hc : codeOf lens s = some code) : decodeSym (mkHuff lens) (code ++ rest) = some (s, rest) :=
  decodeSym_codeOf' lens hv s code rest hc

/-- RFC 1951 §3.2.2's own example (lengths 3,3,3,3,3,2,4,4 for A..H) -/
example : validLens [3, 3, 3, 3, 3, 2, 4, 4] = true ∧ codeOf [3, 3, 3, 3, 3, 2, 4, 4] 5 = some [false, false] ∧
    codeOf [3, 3, 3, 3, 3, 2, 4, 4] 0 = some [false, true, false] ∧
    codeOf [3, 3, 3, 3, 3, 2, 4, 4] 7 = some [true, true, true, true] ∧
    decodeSym (mkHuff [3, 3, 3, 3, 3, 2, 4, 4]) ([true, true, true, false] ++ [true]) = some (6, [true]) :=
  ⟨by decide, by decide, by decide, by decide, decodeSym_codeOf _ (by decide) 6 _ _ (by decide)⟩
/-- an incomplete set (one distance code of one bit, RFC 1951 §3.2.7) is valid -/
example : validLens [1] = true ∧ decodeSym (mkHuff [1]) ([false] ++ [true]) = some (0, [true]) :=
  ⟨by decide, decodeSym_codeOf _ (by decide) 0 _ _ (by decide)⟩
/-- outside the specification: the reader does not reject an over-subscribed set (three codes of one bit) -/
example : validLens [1, 1, 1] = false ∧ decodeSym (mkHuff [1, 1, 1]) [true] = some (1, []) := by decide

/-- the Kraft sum of `validLens` is the sum over the lengths of RFC 1951's `bl_count`: the right-hand side is
    `next_code[15] + bl_count[15]` (`codeEnd lens 15` of `Lemmas/DeflateHuff`, one past the last code of 15 bits),
    which a prefix code keeps within 15 bits -/
theorem kraft_by_length (lens : List Nat) (h15 : ∀ l ∈ lens, l ≤ 15) :
    kraft lens = firstCode lens 15 + lenCount lens 15 := kraft_eq lens h15
example : kraft [3, 3, 3, 3, 3, 2, 4, 4] = 2 ^ 15 := by decide

/-- **what `render` means for a copy**, without the byte-by-byte recursion: `len` more bytes, the earlier output
    untouched, every new byte equal to the byte `dist` positions before it — also for `dist < len`, where the source
    runs into the bytes being written (RFC 1951 §3.2.3) -/
theorem copy_semantics (len dist : Nat) (out res : Bytes) (h : renderTok out (.copy len dist) = some res) :
    res.length = out.length + len ∧ res.take out.length = out ∧
    ∀ i, i < len → res.getD (out.length + i) 0 = res.getD (out.length + i - dist) 0 := by
  obtain ⟨⟨_, _, hdist1, _, hdistOut⟩, rfl⟩ := renderTok_copy_eq_some h
  exact copyFrom_spec len dist out hdist1 hdistOut
example : renderTok [7, 8] (.copy 5 2) = some [7, 8, 7, 8, 7, 8, 7] ∧ renderTok [7, 8] (.copy 3 3) = none ∧
    renderTok [7] (.copy 2 1) = none ∧ renderTok [7] (.lit 256) = none := by decide

/-- **a writer can encode every block whose tokens are representable and whose used symbols have codes** -/
theorem encodeStream_total (bl : List Block) (fill : Bits) (hne : bl ≠ []) (hok : ∀ b ∈ bl, b.ok = true) :
    ∃ bytes, encodeStream bl fill = some bytes := encodeStream_exists bl fill hne hok

/-- **THE theorem: any conformant stream inflates to the concatenated rendering of its blocks.**  `bl`: any
    non-empty sequence of stored / fixed / dynamic blocks (the last is marked final by `encodeStream`); `fill`: the
    unused bits of the last byte; `rest`: whatever follows the stream (it is returned untouched).  `renderBlocks`
    carries the history across blocks: distances up to 32768 may reach into earlier blocks of any kind. -/
theorem inflate_stream (bl : List Block) (fill : Bits) (bytes out rest : Bytes)
    (he : encodeStream bl fill = some bytes) (hr : renderBlocks bl [] = some out) :
    inflate (bytes ++ rest) = some (out, rest) := inflate_encodeStream bl fill bytes out rest he hr

/-- the same with the writer's side discharged: blocks that are `ok` have a stream, and it inflates -/
theorem inflate_stream_ok (bl : List Block) (fill : Bits) (out rest : Bytes) (hne : bl ≠ [])
    (hok : ∀ b ∈ bl, b.ok = true) (hr : renderBlocks bl [] = some out) :
    ∃ bytes, encodeStream bl fill = some bytes ∧ inflate (bytes ++ rest) = some (out, rest) := by
  obtain ⟨bytes, hb⟩ := encodeStream_exists bl fill hne hok
  exact ⟨bytes, hb, inflate_encodeStream bl fill bytes out rest hb hr⟩

/-- **one fixed-Huffman block of ANY representable token list** (literals and copies) inflates to `render tokens` -/
theorem inflate_fixed_tokens (toks : List Token) (fill : Bits) (out rest : Bytes)
    (hok : ∀ t ∈ toks, t.ok = true) (hr : render toks [] = some out) :
    ∃ bytes, encodeStream [.fixed toks] fill = some bytes ∧ inflate (bytes ++ rest) = some (out, rest) :=
  inflate_stream_ok [.fixed toks] fill out rest (by simp)
    (by intro b hb; simp only [List.mem_singleton] at hb; subst hb; exact (Block.ok_fixed toks).2 hok)
    (by simp only [renderBlocks, renderBlock, hr])

/-- **one dynamic block**: ANY valid literal/length and distance code lengths under which every used symbol has a
    code, ANY code-length code, any HCLEN covering it, ANY valid run-length encoding of the lengths (`h.ok` and the
    `hasCode` conditions are exactly that) -/
theorem inflate_dynamic_tokens (h : DynHeader) (toks : List Token) (fill : Bits) (out rest : Bytes)
    (hh : h.ok = true) (hcl : ∀ c ∈ h.rle, hasCode h.clLens (clSymOf c) = true)
    (hok : ∀ t ∈ toks, t.ok = true) (hlit : ∀ s ∈ litSymsOf toks, hasCode h.litLens s = true)
    (hdist : ∀ s ∈ distSymsOf toks, hasCode h.distLens s = true) (hr : render toks [] = some out) :
    ∃ bytes, encodeStream [.dynamic h toks] fill = some bytes ∧ inflate (bytes ++ rest) = some (out, rest) :=
  inflate_stream_ok [.dynamic h toks] fill out rest (by simp)
    (by
      intro b hb
      simp only [List.mem_singleton] at hb
      subst hb
      exact (Block.ok_dynamic h toks).2 ⟨hh, hcl, hok, hlit, hdist⟩)
    (by simp only [renderBlocks, renderBlock, hr])

/-- a dynamic header with an incomplete distance set (ONE code of one bit) and, among its `18`s, the maximal run of 138 -/
def exHeader : DynHeader :=
  { litLens := (List.range 260).map (fun s => if s == 97 then 1 else if s == 256 || s == 259 then 2 else 0),
    distLens := [1],
    clLens := (List.range 19).map (fun s => if s == 0 || s == 1 || s == 2 || s == 18 then 2 else 0),
    hclen := 14,
    rle := [.c18 97, .len 1, .c18 138, .c18 20, .len 2, .len 0, .len 0, .len 2, .len 1] }

theorem exStream_enc : encodeStream [.dynamic exHeader [.lit 97, .copy 5 1]] [] =
    some [29, 192, 1, 9, 0, 0, 0, 128, 160, 173, 254, 63, 17, 164, 5] := by decide +kernel
theorem exStream_render : renderBlocks [.dynamic exHeader [.lit 97, .copy 5 1]] [] =
    some [97, 97, 97, 97, 97, 97] := by decide +kernel

example : inflate ([29, 192, 1, 9, 0, 0, 0, 128, 160, 173, 254, 63, 17, 164, 5] ++ [7, 7]) =
    some ([97, 97, 97, 97, 97, 97], [7, 7]) :=
  inflate_stream _ [] _ _ [7, 7] exStream_enc exStream_render

theorem exBlock_ok : (Block.dynamic exHeader [.lit 97, .copy 5 1]).ok = true := by decide +kernel

example : ∃ bytes, encodeStream [.dynamic exHeader [.lit 97, .copy 5 1]] [true, true] = some bytes ∧
    inflate (bytes ++ [9]) = some ([97, 97, 97, 97, 97, 97], [9]) := by
  obtain ⟨hh, hcl, hok, hlit, hdist⟩ := (Block.ok_dynamic _ _).1 exBlock_ok
  exact inflate_dynamic_tokens exHeader [.lit 97, .copy 5 1] [true, true] _ [9] hh hcl hok hlit hdist (by decide +kernel)

example : ∃ bytes, encodeStream [.fixed [.lit 1, .lit 2, .copy 258 2, .lit 200, .copy 3 261]] [] = some bytes ∧
    inflate (bytes ++ []) = some ([1, 2] ++ ((List.range 258).map (fun i => 1 + i % 2) ++ [200, 1, 2, 1]), []) :=
  inflate_fixed_tokens _ [] _ [] (by decide) (by
    rw [render_lit _ _ _ (by decide), render_lit _ _ _ (by decide), render_copy _ _ _ _ (by decide)]
    decide +kernel)

example : ∃ bytes,
    encodeStream [.dynamic exHeader [.lit 97, .copy 5 1], .stored [true, true, true, true, true, true, true] [1, 2, 3],
      .fixed [.copy 4 2, .lit 200, .copy 6 9], .fixed []] [true] = some bytes ∧
    inflate (bytes ++ [7]) = some ([97, 97, 97, 97, 97, 97, 1, 2, 3, 2, 3, 2, 3, 200, 97, 1, 2, 3, 2, 3], [7]) :=
  inflate_stream_ok _ [true] _ [7] (by simp)
    (by
      intro b hb
      simp only [List.mem_cons, List.not_mem_nil, or_false] at hb
      rcases hb with rfl | rfl | rfl | rfl
      · exact exBlock_ok
      all_goals decide)
    (by decide +kernel)

/-- **gzip**: a member with ANY combination of the optional header fields (FTEXT, FEXTRA, FNAME, FCOMMENT, FHCRC —
    all that `gunzip` of the model handles), any MTIME/XFL/OS, around any conformant stream -/
theorem gunzip_stream (h : GzHeader) (hh : h.ok = true) (bl : List Block) (fill : Bits) (stream data : Bytes)
    (he : encodeStream bl fill = some stream) (hr : renderBlocks bl [] = some data) :
    gunzip (gzipMember h stream data) = some data :=
  gunzip_gzipMember h hh (.of_encodeStream he hr)

/-- **zlib**: any window size and compression-level bits, around any conformant stream -/
theorem unzlib_stream (cinfo level : Nat) (bl : List Block) (fill : Bits) (stream data : Bytes)
    (he : encodeStream bl fill = some stream) (hr : renderBlocks bl [] = some data) :
    unzlib (zlibStream cinfo level stream data) = some data :=
  unzlib_zlibStream cinfo level (.of_encodeStream he hr)

/-- what the containers hold are bytes (so that they can be stored) -/
theorem stream_wf (bl : List Block) (fill : Bits) (stream : Bytes) (he : encodeStream bl fill = some stream) :
    wfBytes stream := encodeStream_wf bl fill stream he

def exGzHeader : GzHeader :=
  { ftext := true, extra := some [1, 2, 3], name := some [65], comment := some [66, 67], hcrc := some (1, 2),
    mtime := [1, 2, 3, 4], xfl := 2, os := 3 }

/-- **every conformant writer is a legal choice for the specification writer of `Props/C12.lean`**: a function
    that maps data to SOME conformant stream rendering it satisfies the two facts `DeflateOk` asks of the DEFLATE
    flavour of a `Layout` (so the layout theorems there do not depend on the two flavours that exist) -/
theorem conformant_writer_ok (deflate : Bytes → Bytes)
    (h : ∀ bs, wfBytes bs → ∃ bl fill, encodeStream bl fill = some (deflate bs) ∧ renderBlocks bl [] = some bs) :
    (∀ bs rest, wfBytes bs → wfBytes rest → inflate (deflate bs ++ rest) = some (bs, rest)) ∧
    (∀ bs, wfBytes bs → wfBytes (deflate bs)) := by
  refine ⟨?_, ?_⟩
  · intro bs rest hb _
    obtain ⟨bl, fill, he, hr⟩ := h bs hb
    exact inflate_encodeStream bl fill _ bs rest he hr
  · intro bs hb
    obtain ⟨bl, fill, he, _⟩ := h bs hb
    exact encodeStream_wf bl fill _ he

example : encodeStream [.fixed [.lit 1, .lit 200]] [] = some (deflateFixed [1, 200]) ∧
    renderBlocks [.fixed [.lit 1, .lit 200]] [] = some [1, 200] ∧
    encodeStream [.stored [] [1, 200]] [] = some (deflateStored [1, 200]) := by decide +kernel

example : gunzip (gzipMember exGzHeader
    [29, 192, 1, 9, 0, 0, 0, 128, 160, 173, 254, 63, 17, 164, 5] [97, 97, 97, 97, 97, 97]) =
    some [97, 97, 97, 97, 97, 97] :=
  gunzip_stream _ (by decide) _ [] _ _ exStream_enc exStream_render

example : unzlib (zlibStream 7 2 [29, 192, 1, 9, 0, 0, 0, 128, 160, 173, 254, 63, 17, 164, 5] [97, 97, 97, 97, 97, 97]) =
    some [97, 97, 97, 97, 97, 97] :=
  unzlib_stream 7 2 _ [] _ _ exStream_enc exStream_render

end Zarrs.C12
