import ZarrsModel.Model.Store
import ZarrsModel.Lemmas.Store
import ZarrsModel.Lemmas.Slice
/-
C08 — every store behaves as the same ordered key-value map.
`Spec.step` is the plain ordered-map model; `Mem.step` is the algorithm of `MemoryStore`;
`rmwPartial` is the generic read-modify-write `store_set_partial_values` used by the filesystem store and
by every store without native partial writes.
-/
namespace Zarrs.C08
open Zarrs

def exStore : KV := [("a/b".toList, [1, 2]), ("a/c/d".toList, [3]), ("e".toList, [])]
def exPrefix : Key := "a/".toList

theorem exStore_sorted : exStore.sorted := by unfold KV.sorted; decide +kernel
theorem exStore_shaped : hierarchyShaped exStore.keys := by unfold hierarchyShaped; decide +kernel

example : exStore.sorted := exStore_sorted
example : hierarchyShaped exStore.keys := exStore_shaped
example : validPrefixB exPrefix = true := by decide +kernel
example : Spec.listDir exStore exPrefix = (["a/b".toList], ["a/c/".toList]) := by decide +kernel

theorem get_put_same (m : KV) (k : Key) (v : Bytes) : (m.put k v).get k = some v :=
  KV.get_put_same m k v
theorem get_put_other (m : KV) (k k' : Key) (v : Bytes) (h : k' ≠ k) : (m.put k v).get k' = m.get k' :=
  KV.get_put_other m k k' v h
example : ("e".toList : Key) ≠ "a/b".toList := by decide +kernel
theorem get_erase (m : KV) (k k' : Key) : (m.erase k).get k' = if k' = k then none else m.get k' :=
  KV.get_erase m k k'
theorem put_sorted (m : KV) (hs : m.sorted) (k : Key) (v : Bytes) : (m.put k v).sorted :=
  KV.put_sorted m hs k v
example : exStore.sorted := exStore_sorted
-- (`hs` is kept from the stated property; the proof does not need it)
set_option linter.unusedVariables false in
theorem keys_put (m : KV) (hs : m.sorted) (k : Key) (v : Bytes) (k' : Key) :
    k' ∈ (m.put k v).keys ↔ (k' = k ∨ k' ∈ m.keys) :=
  KV.mem_keys_put m k v k'
example : exStore.sorted := exStore_sorted
theorem mem_keys_iff_get (m : KV) (k : Key) : k ∈ m.keys ↔ m.get k ≠ none :=
  KV.mem_keys_iff_get m k

/-- every operation keeps the key list sorted and duplicate-free -/
theorem step_sorted (m : KV) (hs : m.sorted) (op : StoreOp) : (Spec.step m op).1.sorted :=
  Spec.step_sorted m hs op
example : exStore.sorted := exStore_sorted

/-- full writes replace -/
theorem set_replaces (old v : Bytes) : setImpl old v 0 true = v :=
  setImpl_full old v

/-- `MemoryStore::set_impl` without truncation is the specified partial write -/
theorem setImpl_partial (old v : Bytes) (off : Nat) : setImpl old v off false = specSetPartial old off v :=
  setImpl_noTrunc old v off

/-- partial writes zero-extend and never truncate: the length is the maximum, the written window holds the new
bytes, every other position keeps its old byte or is zero -/
theorem setPartial_zero_extends (old v : Bytes) (off : Nat) :
    (specSetPartial old off v).length = max old.length (off + v.length) ∧
    slice (specSetPartial old off v) off (off + v.length) = v ∧
    ∀ i, i < max old.length (off + v.length) → ¬ (off ≤ i ∧ i < off + v.length) →
      (specSetPartial old off v)[i]? = some (old.getD i 0) := by
  have hl : off + v.length ≤ (zeroExtend old (off + v.length)).length := by
    rw [zeroExtend_length]; omega
  refine ⟨specSetPartial_length _ _ _, slice_overwrite _ _ _ hl, ?_⟩
  intro i hi hw
  unfold specSetPartial
  rw [overwrite_getElem? _ _ _ hl, if_neg hw, zeroExtend_getElem?, if_pos hi]

/-- an in-bounds ranged read equals the slice, for every range form -/
theorem getPartial_slice (b : Bytes) (rs : List ByteRange) (h : ∀ r ∈ rs, r.valid b.length = true) :
    Mem.getPartial b rs = some (rs.map (fun r => slice b (r.start b.length) (r.stop b.length))) ∧
    ∀ r ∈ rs, r.start b.length ≤ r.stop b.length ∧ r.stop b.length ≤ b.length ∧
      (slice b (r.start b.length) (r.stop b.length)).length = r.length b.length := by
  refine ⟨?_, ?_⟩
  · rw [Mem.getPartial_eq]
    unfold extractByteRanges
    rw [if_pos (List.all_eq_true.2 h)]
    rfl
  · intro r hr
    obtain ⟨h1, h2⟩ := ByteRange.valid_bounds r b.length (h r hr)
    exact ⟨h1 ▸ Nat.le_add_right _ _, h2, by rw [slice_length b _ _ h2, ← h1, Nat.add_sub_cancel_left]⟩
example : ∀ r ∈ [ByteRange.fromStart 1 (some 2), .fromStart 3 none, .suffix 2],
    r.valid ([1, 2, 3] : Bytes).length = true := by decide +kernel

/-- a ranged read reaching outside the value is an error (never bytes from elsewhere) -/
theorem getPartial_oob (b : Bytes) (rs : List ByteRange) (h : ∃ r ∈ rs, r.valid b.length = false) :
    Mem.getPartial b rs = none := by
  rw [Mem.getPartial_eq]
  unfold extractByteRanges
  obtain ⟨r, hr, hv⟩ := h
  rw [if_neg]
  intro hall
  rw [List.all_eq_true.1 hall r hr] at hv
  cases hv
example : ∃ r ∈ [ByteRange.fromStart 1 (some 2), .suffix 4], r.valid ([1, 2, 3] : Bytes).length = false := by decide +kernel

/-- the tolerated alternative for out-of-bounds reads is the truncated slice; on valid ranges it is the slice -/
theorem extractTrunc_valid (b : Bytes) (r : ByteRange) (h : r.valid b.length = true) :
    r.extractTrunc b = r.extract b :=
  ByteRange.extractTrunc_of_valid b r h
example : (ByteRange.fromStart 1 (some 2)).valid ([1, 2, 3] : Bytes).length = true := by decide +kernel

/-- `MemoryStore` refines the ordered-map specification: same state, same result, for every operation
(directory listing: see `listDir_refines`) -/
theorem mem_refines (m : KV) (hs : m.sorted) (op : StoreOp) (hop : ∀ p, op ≠ .listDir p) :
    Mem.step m op = Spec.step m op :=
  Mem.step_eq_spec m hs op hop
example : exStore.sorted ∧ ∀ p, StoreOp.sizePrefix exPrefix ≠ .listDir p :=
  ⟨exStore_sorted, fun _ h => by cases h⟩

-- (`hs` is kept from the stated property; the proof does not need it)
set_option linter.unusedVariables false in
/-- directory listing of `MemoryStore` is the specified one on hierarchy-shaped key sets -/
theorem listDir_refines (m : KV) (hs : m.sorted) (hh : hierarchyShaped m.keys) (p : Key) (hp : validPrefixB p = true) :
    Mem.listDir m p = Spec.listDir m p :=
  Mem.listDir_eq_spec m p (validPrefixB_dirShaped p hp) hh.1
example : exStore.sorted ∧ hierarchyShaped exStore.keys ∧ validPrefixB exPrefix = true :=
  ⟨exStore_sorted, exStore_shaped, by decide +kernel⟩

-- (`hs` is kept from the stated property; the proof does not need it)
set_option linter.unusedVariables false in
/-- the specified directory listing is exact: keys whose parent is the prefix; prefixes are exactly the
immediate child prefixes that have at least one key beneath them; the prefixes sorted, no duplicates -/
theorem listDir_exact (m : KV) (hs : m.sorted) (hh : hierarchyShaped m.keys) (p : Key) (hp : validPrefixB p = true) :
    (∀ k, k ∈ (Spec.listDir m p).1 ↔ (k ∈ m.keys ∧ parentOf k = p)) ∧
    (∀ q, q ∈ (Spec.listDir m p).2 ↔
      ∃ k ∈ m.keys, ∃ c : Key, c ≠ [] ∧ '/' ∉ c ∧ q = p ++ c ++ ['/'] ∧ q.isPrefixOf k = true) ∧
    (Spec.listDir m p).2.Pairwise (fun a b => keyLt a b = true) :=
  ⟨Spec.listDir_keys m p, fun q => (Spec.listDir_prefixes m p (validPrefixB_dirShaped p hp) hh.1 q).trans
      (Hier.oneBelow_and_prefix_iff p q m.keys),
    Spec.listDir_prefixes_sorted m p⟩
example : exStore.sorted ∧ hierarchyShaped exStore.keys ∧ validPrefixB exPrefix = true :=
  ⟨exStore_sorted, exStore_shaped, by decide +kernel⟩

/-- key and prefix listings are exact and sorted -/
theorem list_exact (m : KV) (hs : m.sorted) (p : Key) :
    (∀ k, k ∈ m.keys.filter (hasPrefix · p) ↔ (m.get k ≠ none ∧ p.isPrefixOf k = true)) ∧
    (m.keys.filter (hasPrefix · p)).Pairwise (fun a b => keyLt a b = true) := by
  refine ⟨?_, KV.sorted_keys_filter m hs _⟩
  intro k
  rw [List.mem_filter, KV.mem_keys_iff_get]
  rfl
example : exStore.sorted := exStore_sorted

/-- erase-prefix removes exactly the keys with the prefix -/
theorem erasePrefix_exact (m : KV) (p k : Key) :
    ((Spec.step m (.erasePrefix p)).1).get k = if hasPrefix k p then none else m.get k :=
  Spec.erasePrefix_get m p k

-- (`hs` is kept from the stated property; the proof does not need it)
set_option linter.unusedVariables false in
/-- the generic read-modify-write partial write equals sequential specified partial writes,
whether or not entries for one key are adjacent -/
theorem rmw_refines (m : KV) (hs : m.sorted) (kovs : List (Key × Nat × Bytes)) :
    rmwPartial m kovs = (Spec.step m (.setPartial kovs)).1 :=
  rmwPartial_eq_spec m kovs
example : exStore.sorted := exStore_sorted
example : rmwPartial exStore [("e".toList, 2, [7]), ("e".toList, 0, [9]), ("a/b".toList, 1, [5, 6, 7]), ("e".toList, 4, [1])]
    = [("a/b".toList, [1, 5, 6, 7]), ("a/c/d".toList, [3]), ("e".toList, [9, 0, 7, 0, 1])] := by decide +kernel

end Zarrs.C08
