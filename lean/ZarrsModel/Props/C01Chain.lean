import ZarrsModel.Lemmas.ChainSArr
import ZarrsModel.Props.C01
import ZarrsModel.Props.C03Chain
import ZarrsModel.Lemmas.ArrayOn
/-
C01 / C04 with the codec hypothesis discharged for the chains `ChainS` (`bytes` or `sharding_indexed` nested to any
depth, with array-to-array stages before and bytes-to-bytes stages after).

`ArrCfg.Lossless` (`∀ x, dec (enc x) = some x`) is FALSE of a byte-level codec: `CodecChain::decode` validates the
number and the size of the elements, so a list of the wrong length or with an element of the wrong size is never
returned.  What holds is `LosslessOn goodChunk` (`lossless_of_chainS`), and that is enough: the refinement of
`Lemmas/ArrayRead.lean` asks the codec to give back only chunks of well-formed elements (`ArrCfg.ROk`; `OkOn.rok`), so C01
and C04 hold as they stand for histories whose written elements are well-formed (`read_after_history_on`,
`key_present_iff_on`).  `read_after_history_chainS` is the instance for `ChainS`: no codec hypothesis is left except the
well-formedness of the chain itself (`chainSOk`: e.g. a stage standing for an external compressor must invert) and
`hfits` (encoded shards shorter than 2^64 - 1 bytes; `fits_of_bounds`).

The array model has ONE chunk codec `enc/dec` without a shape argument, so the byte-level instance is for grids all
of whose chunks have the shape `sh` the chain is applied to — the regular grids (`read_after_history_chainS_regular`);
edge chunks of a regular grid are full-size chunks in zarrs.
-/
namespace Zarrs.C01Chain
open Zarrs Zarrs.Codec Zarrs.Partial Zarrs.C02 Zarrs.C02S ArrCfg

section generic
variable {α : Type} [DecidableEq α]

/-- `C01.Ok` with `Lossless` weakened to `LosslessOn P`: `P` = well-formed chunk, `Pe` = well-formed element.
`decGood` and `serial` are asked for but used by no proof (`OkOn.rok` does without them). -/
structure OkOn (P : List α → Bool) (Pe : α → Bool) (cfg : ArrCfg α) (G : Shape) : Prop where
  losslessOn : cfg.LosslessOn P
  ofElems : ∀ c s x, cfg.chunkShape c = some s → x.length = prod s → (∀ e ∈ x, Pe e = true) → P x = true
  decGood : ∀ b xs, cfg.dec b = some xs → ∀ e ∈ xs, Pe e = true
  fillGood : Pe cfg.fill = true
  serial : ∃ (ser : List α → Bytes) (unser : Bytes → Option (List α)), ∀ x, unser (ser x) = some x
  keysInj : cfg.KeysInjective
  gridNew : ∃ gcfg, cfg.grid = Grid.new gcfg
  gridWf : cfg.grid.wf = true
  gridShape : cfg.grid.gridShape cfg.shape = some G
  rank : cfg.shape.length = cfg.grid.length

omit [DecidableEq α] in
theorem OkOn.rok {P : List α → Bool} {Pe : α → Bool} {cfg : ArrCfg α} {G : Shape} (hok : OkOn P Pe cfg G) :
    cfg.ROk Pe G :=
  ⟨fun c s x hs hl he => hok.losslessOn x (hok.ofElems c s x hs hl he), hok.fillGood, hok.keysInj, hok.gridNew,
    hok.gridWf, hok.gridShape, hok.rank⟩

/-- **C01 for configurations lossless on well-formed chunks.**  After any in-bounds history of writes of well-formed
elements, starting from the empty store, every read route returns the abstract array (conclusion of
`C01.read_after_history`, verbatim). -/
theorem read_after_history_on (P : List α → Bool) (Pe : α → Bool) (cfg : ArrCfg α) (G : Shape) (hok : OkOn P Pe cfg G)
    (ops : List (WriteOp α)) (hops : ∀ op ∈ ops, C01.opInBounds cfg G op)
    (hdata : ∀ op ∈ ops, ∀ e ∈ opData op, Pe e = true) :
    ∃ st, cfg.run [] ops = some st ∧
      (∀ r : Subset, r.wf = true → r.inboundsShape cfg.shape = true →
        cfg.retrieveArraySubset st r = some (AArr.read (cfg.absRun ops) r)) ∧
      (∀ c, inB c G = true → ∃ cs, cfg.chunkSubset c = some cs ∧
        cfg.retrieveChunk st c = some (AArr.read (cfg.absRun ops) cs)) ∧
      (∀ c r, inB c G = true → r.wf = true →
        (∃ s, cfg.chunkShape c = some s ∧ r.inboundsShape s = true) →
        ∃ cs, cfg.chunkSubset c = some cs ∧
          cfg.retrieveChunkSubset st c r = some (AArr.read (cfg.absRun ops) ⟨addIdx r.start cs.start, r.shape⟩)) ∧
      (∀ b : Subset, b.wf = true → b.inboundsShape G = true →
        ∃ region, cfg.grid.chunksSubset b = some region ∧
          cfg.retrieveChunks st b = some (AArr.read (cfg.absRun ops) region)) := by
  obtain ⟨st, hrun, hinv, _⟩ := run_inv_nil hok.rok ops fun op hop => ⟨hops op hop, hdata op hop⟩
  exact ⟨st, hrun, hinv.reads hok.rok⟩

/-- the example of `C01` (every list well-formed); a byte-level instance, which is NOT `Lossless`, follows below
(`exArr`) -/
example : ∃ (cfg : ArrCfg Nat) (G : Shape) (ops : List (WriteOp Nat)),
    OkOn (fun _ => true) (fun _ => true) cfg G ∧ (∀ op ∈ ops, C01.opInBounds cfg G op) ∧
    (∀ op ∈ ops, ∀ e ∈ opData op, (fun _ => true) e = true) ∧ ops.length = 6 :=
  ⟨C01.exCfg, [3, 3], C01.exOps,
    ⟨fun _ _ => rfl, fun _ _ _ _ _ _ => rfl, fun _ _ _ _ _ => rfl, rfl, ⟨id, some, fun _ => rfl⟩, C01.exKey_inj,
      ⟨_, rfl⟩, by decide, by decide, rfl⟩,
    C01.exOps_inBounds, fun _ _ _ _ => rfl, rfl⟩

/-- **C04 (elision on) for configurations lossless on well-formed chunks**: a chunk key is present exactly when the
chunk holds a non-fill element -/
theorem key_present_iff_on (P : List α → Bool) (Pe : α → Bool) (cfg : ArrCfg α) (G : Shape) (hok : OkOn P Pe cfg G)
    (helide : cfg.storeEmpty = false)
    (ops : List (WriteOp α)) (hops : ∀ op ∈ ops, C01.opInBounds cfg G op)
    (hdata : ∀ op ∈ ops, ∀ e ∈ opData op, Pe e = true) :
    ∃ st, cfg.run [] ops = some st ∧
      ∀ c, inB c G = true → ∃ cs, cfg.chunkSubset c = some cs ∧
        (cfg.keyOf c ∈ st.keys ↔ ∃ i, cs.contains i = true ∧ cfg.absRun ops i ≠ cfg.fill) := by
  obtain ⟨st, hrun, hinv, _⟩ := run_inv_nil hok.rok ops fun op hop => ⟨hops op hop, hdata op hop⟩
  refine ⟨st, hrun, fun c hc => ?_⟩
  obtain ⟨cs, hcs, _⟩ := hok.rok.chunk_def c hc
  exact ⟨cs, hcs, hinv.elide helide c hc cs hcs⟩

end generic

/-- the array theorems of `C01` take `==` on elements from `DecidableEq`; for `Elem` instance search would find the
list `==` (the same function, another term) -/
local instance (priority := high) instBEqElem : BEq Elem := instBEqOfDecidableEq

/-- elements are byte strings, `enc` = `CodecChain::encode`, `dec` = `CodecChain::decode` of the chain `c` on chunks of
shape `sh` -/
def arrCfgOfChainS (c : ChainS) (sh : Shape) (fill : Elem) (shape : Shape) (grid : Grid) (keyOf : Idx → Key)
    (storeEmpty : Bool) : ArrCfg Elem :=
  { shape := shape, grid := grid, fill := fill, keyOf := keyOf, enc := c.encode sh fill, dec := c.decode sh fill,
    storeEmpty := storeEmpty }

def goodChunk (es : Nat) (sh : Shape) (xs : List Elem) : Bool := xs.length == prod sh && xs.all (·.length == es)

theorem goodChunk_iff (es : Nat) (sh : Shape) (xs : List Elem) : goodChunk es sh xs = true ↔ chunkOk es sh xs := by
  simp [goodChunk, chunkOk, List.all_eq_true]

/-- `Lossless` as stated fails for every chain: e.g. the empty list is not a chunk of a non-empty shape, and the decoder
never returns it -/
theorem not_lossless (c : ChainS) (sh : Shape) (fill : Elem) (shape : Shape) (grid : Grid) (keyOf : Idx → Key)
    (storeEmpty : Bool) (hsh : prod sh ≠ 0) : ¬ (arrCfgOfChainS c sh fill shape grid keyOf storeEmpty).Lossless := by
  intro h
  have := (C03Chain.chainS_decode_valid c sh fill _ _ (h [])).1
  exact hsh this.symm

/-- **the chain is lossless on well-formed chunks** (`C03Chain.chainS_dec_enc`); `hfits`: every encoded shard of a
well-formed chunk is shorter than 2^64 - 1 bytes (`fits_of_bounds` derives it from the declared sizes) -/
theorem lossless_of_chainS (c : ChainS) (sh : Shape) (fill : Elem) (shape : Shape) (grid : Grid) (keyOf : Idx → Key)
    (storeEmpty : Bool) (hok : chainSOk c sh fill) (hfits : ∀ xs, chunkOk c.es sh xs → c.fits sh fill xs) :
    (arrCfgOfChainS c sh fill shape grid keyOf storeEmpty).LosslessOn (goodChunk c.es sh) := by
  intro x hx
  rw [goodChunk_iff] at hx
  exact C03Chain.chainS_dec_enc c sh fill x hok hx (hfits x hx)

theorem fits_of_bounds (c : ChainS) (sh : Shape) (fill : Elem) (hok : chainSOk c sh fill) (hsmall : c.small sh)
    (xs : List Elem) (hx : chunkOk c.es sh xs) : c.fits sh fill xs :=
  fits_of_small c sh fill xs hok.lawful hx.1 hx.2 hsmall

private theorem okOn_chainS (c : ChainS) (sh : Shape) (fill : Elem) (shape : Shape) (grid : Grid) (keyOf : Idx → Key)
    (storeEmpty : Bool) (G : Shape)
    (hok : chainSOk c sh fill) (hfits : ∀ xs, chunkOk c.es sh xs → c.fits sh fill xs) (hfill : fill.length = c.es)
    (hreg : ∀ i s, (arrCfgOfChainS c sh fill shape grid keyOf storeEmpty).chunkShape i = some s → s = sh)
    (hkeys : ∀ a b, keyOf a = keyOf b → a = b) (hgn : ∃ gcfg, grid = Grid.new gcfg) (hgw : grid.wf = true)
    (hgs : grid.gridShape shape = some G) (hrank : shape.length = grid.length) :
    OkOn (goodChunk c.es sh) (fun e => e.length == c.es) (arrCfgOfChainS c sh fill shape grid keyOf storeEmpty) G where
  losslessOn := lossless_of_chainS c sh fill shape grid keyOf storeEmpty hok hfits
  ofElems := by
    intro i s x hs hl he
    rw [hreg i s hs] at hl
    rw [goodChunk_iff]
    exact ⟨hl, fun e hm => by simpa using he e hm⟩
  decGood := by
    intro b xs hd e he
    have := (C03Chain.chainS_decode_valid c sh fill b xs hd).2 e he
    simpa using this
  fillGood := by simpa [arrCfgOfChainS] using hfill
  serial := ⟨serElems, unserElems, unser_ser⟩
  keysInj := hkeys
  gridNew := hgn
  gridWf := hgw
  gridShape := hgs
  rank := hrank

/-! the example is chosen to have: chunks overhanging the array (4×4 chunks on 6×8), sharding nested two levels deep with
the index at the start (big-endian, no checksum) outside and at the end (little-endian, crc32c) inside, a transpose
before the outer sharding and in the leaf chain, crc32c after the outer sharding and in the leaf chain; elision on -/

private def exFill : Elem := [7, 7]
private def exLeaf : Chain := { a2a := [.transpose [1, 0]], big := true, es := 2, unit := 2, b2b := [.stripSuffix 4 crc32c] }
private def exInnerS : ChainS := .shard [] ⟨0, true, false, true⟩ [1, 2] 2 (.leaf exLeaf []) []
private def exNested : ChainS :=
  .shard [.transpose [1, 0]] ⟨0, false, true, false⟩ [2, 2] 2 exInnerS [.stripSuffix 4 crc32c]
private def exArr : ArrCfg Elem :=
  arrCfgOfChainS exNested [4, 4] exFill [6, 8] (Grid.new ([4, 4].map DimCfg.fixed)) C01.exKey false

private theorem exNested_ok : chainSOk exNested [4, 4] exFill := by
  refine ⟨⟨by decide, trivial⟩, by decide, ?_, by decide, rfl, ⟨trivial, by decide, ?_, by decide, rfl,
    ⟨by decide, by decide, by decide, ⟨by decide, trivial⟩, ?_, ⟨trivial, trivial⟩⟩⟩⟩
  · intro st hst
    simp only [List.mem_singleton] at hst
    subst hst; rfl
  · intro st hst
    cases hst
  · intro st hst
    simp only [exLeaf, List.mem_singleton] at hst
    subst hst; rfl

/-- the declared sizes (8, 52, 272 bytes) are far below 2^64 - 1 -/
private theorem exNested_small : exNested.small [4, 4] :=
  ⟨⟨trivial, 8, by decide, by decide⟩, 52, by decide, by decide⟩

/-- a write straddling all four chunks, a whole-chunk write (with all-fill inner chunks), an erase, a partial-chunk
write (read–modify–write through decode and encode), a multi-chunk write -/
private def exOps : List (WriteOp Elem) :=
  [ .storeArraySubset ⟨[2, 3], [3, 3]⟩ ((List.range 9).map (fun i => [i, 50 + i])),
    .storeChunk [1, 0] ((List.range 16).map (fun i => if i < 8 then [7, 7] else [i, 100 + i])),
    .eraseChunk [0, 1],
    .storeChunkSubset [1, 1] ⟨[0, 1], [1, 2]⟩ [[5, 5], [6, 6]],
    .storeChunks ⟨[0, 0], [1, 2]⟩ ((List.range 32).map (fun i => if i % 8 < 2 then [7, 7] else [i, 200 + i])) ]

private theorem exOps_inBounds : ∀ op ∈ exOps, C01.opInBounds exArr [2, 2] op := by
  intro op hop
  simp only [exOps, List.mem_cons, List.not_mem_nil, or_false] at hop
  rcases hop with rfl | rfl | rfl | rfl | rfl
  · exact ⟨by decide, by decide, by decide⟩
  · exact ⟨by decide, [4, 4], by decide, by decide⟩
  · exact (by decide : inB [0, 1] [2, 2] = true)
  · exact ⟨by decide, by decide, ⟨[4, 4], by decide, by decide⟩, by decide⟩
  · exact ⟨by decide, by decide, ⟨[0, 0], [4, 8]⟩, by decide, by decide⟩

example : ∃ (cfg : ArrCfg Elem) (G : Shape) (ops : List (WriteOp Elem)),
    OkOn (goodChunk 2 [4, 4]) (fun e => e.length == 2) cfg G ∧ (∀ op ∈ ops, C01.opInBounds cfg G op) ∧
    (∀ op ∈ ops, ∀ e ∈ opData op, (e.length == 2) = true) ∧ ops.length = 5 ∧ ¬ cfg.Lossless :=
  ⟨exArr, [2, 2], exOps,
    okOn_chainS exNested [4, 4] exFill [6, 8] _ C01.exKey false [2, 2] exNested_ok
      (fits_of_bounds exNested [4, 4] exFill exNested_ok exNested_small) rfl
      (fun i s h => arr_regular_chunkShape _ [4, 4] rfl i s h) C01.exKey_inj ⟨_, rfl⟩ (by decide) (by decide) rfl,
    exOps_inBounds, by decide, rfl, not_lossless _ _ _ _ _ _ _ (by decide)⟩

/-- **C01 for every `ChainS` codec.**  The array whose chunks (all of shape `sh`) are encoded by ANY well-formed chain
`c` — `bytes` or `sharding_indexed` nested to any depth, transposes / squeezes before, checksums / invertible
compressors after — whose encoded shards stay below 2^64 - 1 bytes (`hfits`), with any injective key encoding: after any
in-bounds history of writes of `es`-byte elements from the empty store, every read route (`retrieve_array_subset`,
`retrieve_chunk`, `retrieve_chunk_subset`, `retrieve_chunks`) returns the abstract array's elements.  No `Lossless`
hypothesis: it is proved (`lossless_of_chainS`) where it holds and shown unnecessary elsewhere. -/
theorem read_after_history_chainS (c : ChainS) (sh : Shape) (fill : Elem) (shape : Shape) (grid : Grid)
    (keyOf : Idx → Key) (storeEmpty : Bool) (G : Shape)
    (hok : chainSOk c sh fill) (hfits : ∀ xs, chunkOk c.es sh xs → c.fits sh fill xs) (hfill : fill.length = c.es)
    (hreg : ∀ i s, (arrCfgOfChainS c sh fill shape grid keyOf storeEmpty).chunkShape i = some s → s = sh)
    (hkeys : ∀ a b, keyOf a = keyOf b → a = b) (hgn : ∃ gcfg, grid = Grid.new gcfg) (hgw : grid.wf = true)
    (hgs : grid.gridShape shape = some G) (hrank : shape.length = grid.length)
    (ops : List (WriteOp Elem))
    (hops : ∀ op ∈ ops, C01.opInBounds (arrCfgOfChainS c sh fill shape grid keyOf storeEmpty) G op)
    (hdata : ∀ op ∈ ops, ∀ e ∈ opData op, e.length = c.es) :
    let cfg := arrCfgOfChainS c sh fill shape grid keyOf storeEmpty
    ∃ st, cfg.run [] ops = some st ∧
      (∀ r : Subset, r.wf = true → r.inboundsShape cfg.shape = true →
        cfg.retrieveArraySubset st r = some (AArr.read (cfg.absRun ops) r)) ∧
      (∀ i, inB i G = true → ∃ cs, cfg.chunkSubset i = some cs ∧
        cfg.retrieveChunk st i = some (AArr.read (cfg.absRun ops) cs)) ∧
      (∀ i r, inB i G = true → r.wf = true →
        (∃ s, cfg.chunkShape i = some s ∧ r.inboundsShape s = true) →
        ∃ cs, cfg.chunkSubset i = some cs ∧
          cfg.retrieveChunkSubset st i r = some (AArr.read (cfg.absRun ops) ⟨addIdx r.start cs.start, r.shape⟩)) ∧
      (∀ b : Subset, b.wf = true → b.inboundsShape G = true →
        ∃ region, cfg.grid.chunksSubset b = some region ∧
          cfg.retrieveChunks st b = some (AArr.read (cfg.absRun ops) region)) :=
  read_after_history_on _ _ _ G
    (okOn_chainS c sh fill shape grid keyOf storeEmpty G hok hfits hfill hreg hkeys hgn hgw hgs hrank) ops hops
    (fun op hop e he => by simpa using hdata op hop e he)

/-- … for the regular grid of chunk shape `sh` (any array shape: the last chunks may overhang the array) -/
theorem read_after_history_chainS_regular (c : ChainS) (sh : Shape) (fill : Elem) (shape : Shape)
    (keyOf : Idx → Key) (storeEmpty : Bool) (G : Shape)
    (hok : chainSOk c sh fill) (hfits : ∀ xs, chunkOk c.es sh xs → c.fits sh fill xs) (hfill : fill.length = c.es)
    (hkeys : ∀ a b, keyOf a = keyOf b → a = b) (hgw : (Grid.new (sh.map DimCfg.fixed)).wf = true)
    (hgs : (Grid.new (sh.map DimCfg.fixed)).gridShape shape = some G) (hrank : shape.length = sh.length)
    (ops : List (WriteOp Elem))
    (hops : ∀ op ∈ ops, C01.opInBounds (arrCfgOfChainS c sh fill shape (Grid.new (sh.map DimCfg.fixed)) keyOf storeEmpty) G op)
    (hdata : ∀ op ∈ ops, ∀ e ∈ opData op, e.length = c.es) :
    let cfg := arrCfgOfChainS c sh fill shape (Grid.new (sh.map DimCfg.fixed)) keyOf storeEmpty
    ∃ st, cfg.run [] ops = some st ∧
      (∀ r : Subset, r.wf = true → r.inboundsShape cfg.shape = true →
        cfg.retrieveArraySubset st r = some (AArr.read (cfg.absRun ops) r)) ∧
      (∀ i, inB i G = true → ∃ cs, cfg.chunkSubset i = some cs ∧
        cfg.retrieveChunk st i = some (AArr.read (cfg.absRun ops) cs)) ∧
      (∀ i r, inB i G = true → r.wf = true →
        (∃ s, cfg.chunkShape i = some s ∧ r.inboundsShape s = true) →
        ∃ cs, cfg.chunkSubset i = some cs ∧
          cfg.retrieveChunkSubset st i r = some (AArr.read (cfg.absRun ops) ⟨addIdx r.start cs.start, r.shape⟩)) ∧
      (∀ b : Subset, b.wf = true → b.inboundsShape G = true →
        ∃ region, cfg.grid.chunksSubset b = some region ∧
          cfg.retrieveChunks st b = some (AArr.read (cfg.absRun ops) region)) :=
  read_after_history_chainS c sh fill shape _ keyOf storeEmpty G hok hfits hfill
    (fun i s h => arr_regular_chunkShape _ sh rfl i s h) hkeys ⟨_, rfl⟩ hgw hgs
    (by rw [hrank]; simp [Grid.new]) ops hops hdata

example : chainSOk exNested [4, 4] exFill ∧ (∀ xs, chunkOk exNested.es [4, 4] xs → exNested.fits [4, 4] exFill xs) ∧
    exFill.length = exNested.es ∧ (∀ a b, C01.exKey a = C01.exKey b → a = b) ∧
    (Grid.new ([4, 4].map DimCfg.fixed)).wf = true ∧
    (Grid.new ([4, 4].map DimCfg.fixed)).gridShape [6, 8] = some [2, 2] ∧ [6, 8].length = [4, 4].length ∧
    (∀ op ∈ exOps, C01.opInBounds exArr [2, 2] op) ∧ (∀ op ∈ exOps, ∀ e ∈ opData op, e.length = exNested.es) ∧
    exOps.length = 5 :=
  ⟨exNested_ok, fits_of_bounds exNested [4, 4] exFill exNested_ok exNested_small, rfl, C01.exKey_inj, by decide, by decide,
    rfl, exOps_inBounds, by decide, rfl⟩

example : (exArr.run [] exOps).bind (fun st => exArr.retrieveArraySubset st ⟨[0, 0], [6, 8]⟩) =
    some (AArr.read (exArr.absRun exOps) ⟨[0, 0], [6, 8]⟩) := by
  obtain ⟨st, hst, h, _⟩ := read_after_history_chainS_regular exNested [4, 4] exFill [6, 8] C01.exKey false [2, 2]
    exNested_ok (fits_of_bounds exNested [4, 4] exFill exNested_ok exNested_small) rfl C01.exKey_inj (by decide)
    (by decide) rfl exOps exOps_inBounds (by decide)
  rw [show exArr.run [] exOps = some st from hst]
  exact h _ (by decide) (by decide)

/-- the history is evaluated once, here; the `example`s below read their facts off it -/
private theorem exRun_keys : (exArr.run [] exOps).map (fun st => (st.keys.length, decide (C01.exKey [0, 1] ∈ st.keys))) =
    some (4, true) := by decide +kernel

example : (exArr.run [] exOps).map (fun st => st.keys.length) = some 4 := by
  obtain ⟨st, hst, h⟩ := Option.map_eq_some_iff.mp exRun_keys
  rw [hst, Option.map_some, (Prod.mk.inj h).1]

/-- **C04 (elision on) for every `ChainS` codec**: a chunk key is present exactly when its chunk holds a non-fill
element -/
theorem key_present_iff_chainS (c : ChainS) (sh : Shape) (fill : Elem) (shape : Shape) (grid : Grid)
    (keyOf : Idx → Key) (G : Shape)
    (hok : chainSOk c sh fill) (hfits : ∀ xs, chunkOk c.es sh xs → c.fits sh fill xs) (hfill : fill.length = c.es)
    (hreg : ∀ i s, (arrCfgOfChainS c sh fill shape grid keyOf false).chunkShape i = some s → s = sh)
    (hkeys : ∀ a b, keyOf a = keyOf b → a = b) (hgn : ∃ gcfg, grid = Grid.new gcfg) (hgw : grid.wf = true)
    (hgs : grid.gridShape shape = some G) (hrank : shape.length = grid.length)
    (ops : List (WriteOp Elem))
    (hops : ∀ op ∈ ops, C01.opInBounds (arrCfgOfChainS c sh fill shape grid keyOf false) G op)
    (hdata : ∀ op ∈ ops, ∀ e ∈ opData op, e.length = c.es) :
    let cfg := arrCfgOfChainS c sh fill shape grid keyOf false
    ∃ st, cfg.run [] ops = some st ∧
      ∀ i, inB i G = true → ∃ cs, cfg.chunkSubset i = some cs ∧
        (cfg.keyOf i ∈ st.keys ↔ ∃ j, cs.contains j = true ∧ cfg.absRun ops j ≠ cfg.fill) :=
  key_present_iff_on _ _ _ G
    (okOn_chainS c sh fill shape grid keyOf false G hok hfits hfill hreg hkeys hgn hgw hgs hrank) rfl ops hops
    (fun op hop e he => by simpa using hdata op hop e he)

example : chainSOk exNested [4, 4] exFill ∧ (∀ xs, chunkOk exNested.es [4, 4] xs → exNested.fits [4, 4] exFill xs) ∧
    (∀ i s, exArr.chunkShape i = some s → s = [4, 4]) ∧ (∀ op ∈ exOps, C01.opInBounds exArr [2, 2] op) :=
  ⟨exNested_ok, fits_of_bounds exNested [4, 4] exFill exNested_ok exNested_small,
    fun i s h => arr_regular_chunkShape _ [4, 4] rfl i s h, exOps_inBounds⟩
/-- chunk (0,1) after its erase (third operation) and after the multi-chunk write over it: absent, present -/
example : (exArr.run [] (exOps.take 3)).map (fun st => decide (C01.exKey [0, 1] ∈ st.keys)) = some false ∧
    (exArr.run [] exOps).map (fun st => decide (C01.exKey [0, 1] ∈ st.keys)) = some true := by
  obtain ⟨st, hst, h⟩ := Option.map_eq_some_iff.mp exRun_keys
  rw [hst, Option.map_some, (Prod.mk.inj h).2]
  exact ⟨by decide +kernel, rfl⟩

/-- non-vacuity of `lossless_of_chainS`, `fits_of_bounds`, `not_lossless`, `goodChunk_iff` on the example chain -/
example : chainSOk exNested [4, 4] exFill ∧ exNested.small [4, 4] ∧ prod [4, 4] ≠ 0 ∧
    goodChunk 2 [4, 4] (List.replicate 16 [1, 2]) = true ∧ goodChunk 2 [4, 4] (List.replicate 16 [1, 2, 3]) = false :=
  ⟨exNested_ok, exNested_small, by decide, by decide, by decide⟩

end Zarrs.C01Chain
