import ZarrsModel.Model.Concurrency
import ZarrsModel.Lemmas.Concurrency
/-
C16 (the concurrency split): "the outcome of every array operation — including the fact that it completes — is
independent of the concurrency target, the thread-pool size and the interleaving of its internal tasks", for the one
function every multi-chunk array method calls first: `concurrency_chunks_and_codec` (zarrs/src/array/concurrency.rs,
`Model/Concurrency.lean`).  What the per-chunk calls are handed is the caller's options in every field except
`concurrent_target`, for every target, number of chunks, `chunk_concurrent_minimum` and codec recommendation
(`chunksAndCodec_options_preserved`); the two limits are at least one, lie within their recommendations, reach the
target exactly when the two maxima allow it, and grow with the target (`calcOuterInner_*`); the chunk limit is
between 1 and `max(num_chunks, chunk_concurrent_minimum)`, so `iter_concurrent_limit!` always runs a bounded,
non-empty pool (`chunks_limit_le`, `chunks_pool_progress`).  The seeded variant that rebuilds the options from the
global defaults loses `store_empty_chunks` (`chunksAndCodecSeeded_loses_storeEmptyChunks`).

`o.WF` / `i.WF` ("both ends ≥ 1") holds of EVERY `RecommendedConcurrency` value of the Rust code (`ofBounds_wf`: `new`
is the only constructor of the private field);
`Ordered` (`min() ≤ max()`) holds of every recommendation zarrs builds itself (`chunksRec_ordered`, `chainRec_sound`)
but not of `RecommendedConcurrency::new(5..3)`.
-/
namespace Zarrs.C16Conc
open Zarrs.Concurrency

def exOuter : RecConc := chunksRec 4 9
def exInner : RecConc := shardRec 6
def exOpts : Opts := ⟨false, true, 7, true⟩
def exCfg : GlobalCfg := { codecConcurrentTarget := 8 }

/-- every `RecommendedConcurrency` is well formed: both ends at least one, whatever the bounds -/
theorem new_wf (s e : Bound) : (RecConc.ofBounds s e).WF := ofBounds_wf s e

example : (RecConc.ofBounds (.excluded 0) (.included 0)) = ⟨1, some 1⟩ := by decide +kernel

/-- "a minimum concurrency of zero is interpreted as a minimum concurrency of one", and so is a maximum of zero -/
theorem new_zero (hi : Nat) : (RecConc.new 0 hi).min = 1 ∧ (RecConc.new 0 0).max = some 1 ∧
    RecConc.newMaximum 0 = ⟨1, some 1⟩ ∧ RecConc.newMinimum 0 = ⟨1, none⟩ := ⟨rfl, rfl, rfl, rfl⟩

example : RecConc.new 0 7 = ⟨1, some 7⟩ := by decide +kernel

/-- `max()` is the EXCLUSIVE end of the range given to `new`: `new(a..b).max() == b`, `new(a..=b).max() == b + 1` -/
theorem new_max_is_exclusive_end (a b : Nat) (hb : 1 ≤ b) :
    (RecConc.new a b).max = some b ∧ (RecConc.ofBounds (.included a) (.included b)).max = some (b + 1) :=
  ⟨congrArg some (Nat.max_eq_left hb), congrArg some (Nat.max_eq_left (Nat.le_add_left 1 b))⟩

example : (RecConc.new 4 8).max = some 8 ∧ (RecConc.ofBounds (.included 4) (.included 8)).max = some 9 := by
  decide +kernel

/-- the empty range `k..k` that `concurrency_chunks_and_codec` builds for `num_chunks == chunk_concurrent_minimum`
    is stored as min = max = k (only the bounds are read); an inverted range is stored inverted (`example` below) -/
theorem new_empty_range (k : Nat) : RecConc.new k k = ⟨Nat.max k 1, some (Nat.max k 1)⟩ ∧
    chunksRec k k = ⟨Nat.max k 1, some (Nat.max k 1)⟩ := by
  refine ⟨rfl, ?_⟩
  simp only [chunksRec, Nat.min_self, Nat.max_self]
  rfl

example : chunksRec 4 4 = ⟨4, some 4⟩ ∧ RecConc.new 5 3 = ⟨5, some 3⟩ ∧ ¬ (RecConc.new 5 3).Ordered := by decide +kernel

/-- no division by zero: on well-formed recommendations the function returns, and returns the closed form -/
theorem calcOuterInner_total (t : Nat) (o i : RecConc) (ho : o.WF) (hi : i.WF) :
    calcOuterInner t o i = some (outerOf t o i, innerOf t o i) := calcOuterInner_eq ho hi

example : calcOuterInner 32 exOuter exInner = some (6, 6) := by decide +kernel
/-- the unit tests of concurrency.rs (`concurrent_limits`) -/
example : calcOuterInner 32 (.newMinimum 24) (.newMaximum 1) = some (32, 1) ∧
    calcOuterInner 32 (.newMinimum 24) (.new 4 8) = some (24, 4) ∧
    calcOuterInner 32 (.newMaximum 5) (.new 7 12) = some (3, 12) ∧
    calcOuterInner 32 (.newMaximum 2) (.new 7 14) = some (2, 14) := by decide +kernel

/-- both limits are at least one -/
theorem calcOuterInner_ge_one (t : Nat) (o i : RecConc) (ho : o.WF) (hi : i.WF) (a b : Nat)
    (h : calcOuterInner t o i = some (a, b)) : 1 ≤ a ∧ 1 ≤ b := by
  rewrite [calcOuterInner_eq ho hi] at h
  cases h
  exact ⟨outerOf_pos ho hi, innerOf_pos ho hi⟩

example : exOuter.WF ∧ exInner.WF ∧ calcOuterInner 0 exOuter exInner = some (4, 1) := by decide +kernel

/-- each limit lies within its recommendation, whenever min ≤ max -/
theorem calcOuterInner_within (t : Nat) (o i : RecConc) (ho : o.WF) (hi : i.WF) (hoo : o.Ordered) (hio : i.Ordered)
    (a b : Nat) (h : calcOuterInner t o i = some (a, b)) :
    (o.min ≤ a ∧ LeB a o.max) ∧ (i.min ≤ b ∧ LeB b i.max) := by
  rewrite [calcOuterInner_eq ho hi] at h
  cases h
  exact ⟨⟨outerOf_ge_min ho hi hoo, outerOf_le_max hoo⟩, ⟨innerOf_ge_min ho hio, innerOf_le_max hio⟩⟩

example : exOuter.Ordered ∧ exInner.Ordered ∧ calcOuterInner 17 exOuter exInner = some (4, 5) := by decide +kernel

/-- `min ≤ max` is needed: with the inverted recommendation `new(5..3)` the inner limit leaves its range on both sides -/
theorem calcOuterInner_within_needs_ordered :
    calcOuterInner 100 (.new 1 1) (.new 5 3) = some (1, 3) ∧ calcOuterInner 1 (.new 1 1) (.new 5 3) = some (1, 5) := by
  decide +kernel

/-- the exact condition under which the target is reached: `outer * inner ≥ target` iff
    `outer.max() * inner.max() ≥ target` (an unbounded maximum always suffices) -/
theorem calcOuterInner_reaches_target (t : Nat) (o i : RecConc) (ho : o.WF) (hi : i.WF) (hoo : o.Ordered)
    (hio : i.Ordered) (a b : Nat) (h : calcOuterInner t o i = some (a, b)) :
    t ≤ a * b ↔ LeB t (maxProduct o i) := by
  rewrite [calcOuterInner_eq ho hi] at h
  cases h
  exact product_reaches_iff ho hi hoo hio

example : maxProduct exOuter exInner = some 54 ∧ calcOuterInner 54 exOuter exInner = some (9, 6) ∧
    calcOuterInner 53 exOuter exInner = some (9, 6) ∧ calcOuterInner 48 exOuter exInner = some (8, 6) := by
  decide +kernel

/-- ... and it is NOT reached in general: a target above the product of the maxima ends at the two maxima -/
theorem calcOuterInner_saturates (t mo mi : Nat) (o i : RecConc) (ho : o.WF) (hi : i.WF) (hoo : o.Ordered)
    (hio : i.Ordered) (hom : o.max = some mo) (him : i.max = some mi) (h : mo * mi < t) :
    calcOuterInner t o i = some (mo, mi) := by
  obtain ⟨e1, e2⟩ := product_saturates ho hi hoo hio hom him h
  rw [calcOuterInner_eq ho hi, e1, e2]

theorem calcOuterInner_target_not_reached_witness :
    calcOuterInner 100 exOuter exInner = some (9, 6) ∧ ¬ (100 ≤ 9 * 6) := by decide +kernel

/-- a target of one (or any target the two minima already reach) gives the minima -/
theorem calcOuterInner_target_one (t : Nat) (o i : RecConc) (ho : o.WF) (hi : i.WF) (h : t ≤ i.min * o.min) :
    calcOuterInner t o i = some (o.min, i.min) := by
  have e : innerOf t o i = i.min := if_neg (Nat.not_lt.2 h)
  rw [calcOuterInner_eq ho hi, outerOf, e, if_neg (Nat.not_lt.2 h)]

theorem calcOuterInner_target_one' (o i : RecConc) (ho : o.WF) (hi : i.WF) :
    calcOuterInner 1 o i = some (o.min, i.min) :=
  calcOuterInner_target_one 1 o i ho hi (Nat.mul_le_mul hi.1 ho.1)

example : calcOuterInner 1 exOuter exInner = some (4, 1) ∧ calcOuterInner 4 exOuter exInner = some (4, 1) := by
  decide +kernel

/-- both limits are monotone in the target -/
theorem calcOuterInner_mono (t t' : Nat) (o i : RecConc) (ho : o.WF) (hi : i.WF) (hoo : o.Ordered) (hio : i.Ordered)
    (htt : t ≤ t') (a b a' b' : Nat) (h : calcOuterInner t o i = some (a, b))
    (h' : calcOuterInner t' o i = some (a', b')) : a ≤ a' ∧ b ≤ b' := by
  rewrite [calcOuterInner_eq ho hi] at h h'
  cases h
  cases h'
  exact ⟨outerOf_mono ho hi hoo htt, innerOf_mono ho hio htt⟩

example : calcOuterInner 20 exOuter exInner = some (4, 5) ∧ calcOuterInner 30 exOuter exInner = some (5, 6) := by
  decide +kernel

/-- neither limit is raised further than needed: a raised inner limit minus one does not reach the target with the
    minimal outer limit, a raised outer limit minus one does not reach it with the final inner limit -/
theorem calcOuterInner_tight (t : Nat) (o i : RecConc) (ho : o.WF) (hi : i.WF) (a b : Nat)
    (h : calcOuterInner t o i = some (a, b)) :
    (i.min < b → (b - 1) * o.min < t) ∧ (o.min < a → (a - 1) * b < t) := by
  rewrite [calcOuterInner_eq ho hi] at h
  cases h
  exact ⟨raise_tight ho.1, raise_tight (innerOf_pos ho hi)⟩

example : calcOuterInner 30 exOuter exInner = some (5, 6) ∧ (6 - 1) * exOuter.min < 30 ∧ (5 - 1) * 6 < 30 := by
  decide +kernel

/-- the function returns for every well-formed codec recommendation (every one the Rust code can build) -/
theorem chunksAndCodec_total (cfg : GlobalCfg) (t n : Nat) (opts : Opts) (codec : RecConc) (hc : codec.WF) :
    ∃ lim o', chunksAndCodec cfg t n opts codec = some (lim, o') := by
  unfold chunksAndCodec
  rewrite [calcOuterInner_eq (chunksRec_wf _ _) hc]
  exact ⟨_, _, rfl⟩

example : chunksAndCodec exCfg 32 9 exOpts exInner = some (6, ⟨false, true, 6, true⟩) := by decide +kernel

/-- EVERY field of the options except `concurrent_target` is exactly the caller's — for every target, number of chunks,
    global configuration (minimum setting and defaults) and codec recommendation — and `concurrent_target` is the
    inner limit of `calc_concurrency_outer_inner` -/
theorem chunksAndCodec_options_preserved (cfg : GlobalCfg) (t n : Nat) (opts : Opts) (codec : RecConc)
    (lim : Nat) (o' : Opts) (h : chunksAndCodec cfg t n opts codec = some (lim, o')) :
    o'.validateChecksums = opts.validateChecksums ∧ o'.storeEmptyChunks = opts.storeEmptyChunks ∧
    o'.experimentalPartialEncoding = opts.experimentalPartialEncoding ∧
    calcOuterInner t (chunksRec cfg.chunkConcurrentMinimum n) codec = some (lim, o'.concurrentTarget) := by
  unfold chunksAndCodec at h
  split at h
  · cases h
  · next hc =>
    cases h
    exact ⟨rfl, rfl, rfl, hc⟩

example : ∃ lim o', chunksAndCodec exCfg 5 9 exOpts exInner = some (lim, o') ∧ o'.storeEmptyChunks = true ∧
    o'.validateChecksums = false ∧ o'.experimentalPartialEncoding = true ∧ o'.concurrentTarget = 2 :=
  ⟨4, ⟨false, true, 2, true⟩, by decide +kernel⟩

/-- so two calls that differ only in the target (and in the global defaults) hand down options that differ at most
    in `concurrent_target` -/
theorem chunksAndCodec_options_independent_of_target (cfg cfg' : GlobalCfg) (t t' n : Nat) (opts : Opts)
    (codec : RecConc) (lim lim' : Nat) (o1 o2 : Opts) (h1 : chunksAndCodec cfg t n opts codec = some (lim, o1))
    (h2 : chunksAndCodec cfg' t' n opts codec = some (lim', o2)) :
    { o1 with concurrentTarget := 0 } = { o2 with concurrentTarget := 0 } := by
  obtain ⟨a1, a2, a3, _⟩ := chunksAndCodec_options_preserved _ _ _ _ _ _ _ h1
  obtain ⟨b1, b2, b3, _⟩ := chunksAndCodec_options_preserved _ _ _ _ _ _ _ h2
  rw [a1, a2, a3, b1, b2, b3]

example : chunksAndCodec exCfg 1 9 exOpts exInner = some (4, ⟨false, true, 1, true⟩) ∧
    chunksAndCodec { exCfg with chunkConcurrentMinimum := 1, storeEmptyChunks := false } 40 9 exOpts exInner
      = some (7, ⟨false, true, 6, true⟩) := by decide +kernel

/-- the `concurrent_target` handed down lies within the codec's recommendation -/
theorem chunksAndCodec_codec_limit_within (cfg : GlobalCfg) (t n : Nat) (opts : Opts) (codec : RecConc)
    (hc : codec.WF) (hco : codec.Ordered) (lim : Nat) (o' : Opts)
    (h : chunksAndCodec cfg t n opts codec = some (lim, o')) :
    codec.min ≤ o'.concurrentTarget ∧ LeB o'.concurrentTarget codec.max := by
  obtain ⟨_, _, _, h4⟩ := chunksAndCodec_options_preserved _ _ _ _ _ _ _ h
  exact (calcOuterInner_within _ _ _ (chunksRec_wf _ _) hc (chunksRec_ordered _ _) hco _ _ h4).2

example : chunksAndCodec exCfg 1000 9 exOpts exInner = some (9, ⟨false, true, 6, true⟩) := by decide +kernel

/-- the outer limit never exceeds `max(num_chunks, chunk_concurrent_minimum)` (one, if both are zero), is at least
    `min(num_chunks, chunk_concurrent_minimum)` and at least one: `iter_concurrent_limit!` never gets the limit 0
    (which would mean "no limit"), whatever the codec recommends -/
theorem chunks_limit_le (cfg : GlobalCfg) (t n : Nat) (opts : Opts) (codec : RecConc) (hc : codec.WF)
    (lim : Nat) (o' : Opts) (h : chunksAndCodec cfg t n opts codec = some (lim, o')) :
    1 ≤ lim ∧ Nat.min cfg.chunkConcurrentMinimum n ≤ lim ∧ lim ≤ Nat.max (Nat.max n cfg.chunkConcurrentMinimum) 1 := by
  obtain ⟨_, _, _, h4⟩ := chunksAndCodec_options_preserved _ _ _ _ _ _ _ h
  have hw := chunksRec_wf cfg.chunkConcurrentMinimum n
  have hoo := chunksRec_ordered cfg.chunkConcurrentMinimum n
  rewrite [calcOuterInner_eq hw hc] at h4
  obtain ⟨rfl, -⟩ := Prod.mk.inj (Option.some.inj h4)
  -- the chunk-loop recommendation is `max(min(ccm, n), 1)..max(max(ccm, n), 1)`
  refine ⟨outerOf_pos hw hc, Nat.le_trans (Nat.le_max_left _ _) (outerOf_ge_min hw hc hoo), ?_⟩
  rewrite [show Nat.max n cfg.chunkConcurrentMinimum = Nat.max cfg.chunkConcurrentMinimum n from Nat.max_comm _ _]
  exact outerOf_le_max hoo _ rfl

example : chunksAndCodec exCfg 1000 9 exOpts (.newMinimum 1) = some (4, ⟨false, true, 250, true⟩) ∧
    chunksAndCodec exCfg 1000 0 exOpts leafRec = some (4, ⟨false, true, 1, true⟩) ∧
    chunksAndCodec { exCfg with chunkConcurrentMinimum := 0 } 1000 0 exOpts leafRec
      = some (1, ⟨false, true, 1, true⟩) := by decide +kernel

/-- `num_chunks == chunk_concurrent_minimum` (the empty range): the outer limit is exactly that number for every
    target -/
theorem chunks_limit_eq_minimum (cfg : GlobalCfg) (t : Nat) (opts : Opts) (codec : RecConc) (hc : codec.WF)
    (lim : Nat) (o' : Opts) (h : chunksAndCodec cfg t cfg.chunkConcurrentMinimum opts codec = some (lim, o')) :
    lim = Nat.max cfg.chunkConcurrentMinimum 1 := by
  obtain ⟨h1, h2, h3⟩ := chunks_limit_le _ _ _ _ _ hc _ _ h
  simp only [Nat.min_self, Nat.max_self] at h2 h3
  exact Nat.le_antisymm h3 (Nat.max_le.2 ⟨h2, h1⟩)

example : chunksAndCodec exCfg 1000 4 exOpts exInner = some (4, ⟨false, true, 6, true⟩) := by decide +kernel

/-- how `iter_concurrent_limit!` uses the limit (`iter_subdivide`): the `n` chunk indices are cut into groups of a
    positive size, every index is in a group, and the number of groups — the chunks in flight — is at most the limit;
    with at least one chunk there is at least one group: the operation makes progress and the pool is bounded -/
theorem chunks_pool_progress (cfg : GlobalCfg) (t n : Nat) (opts : Opts) (codec : RecConc) (hc : codec.WF)
    (lim : Nat) (o' : Opts) (h : chunksAndCodec cfg t n opts codec = some (lim, o')) :
    1 ≤ subdivideChunkSize lim n ∧ n ≤ subdivideGroups lim n * subdivideChunkSize lim n ∧
    subdivideGroups lim n ≤ lim ∧ (1 ≤ n → 1 ≤ subdivideGroups lim n) := by
  obtain ⟨h1, _, _⟩ := chunks_limit_le _ _ _ _ _ hc _ _ h
  have hpos := subdivideChunkSize_pos lim n
  exact ⟨hpos, le_divCeil_mul hpos, (divCeil_le_iff hpos).2 (le_subdivide_mul h1), fun hn => divCeil_pos hn hpos⟩

example : subdivideChunkSize 4 9 = 3 ∧ subdivideGroups 4 9 = 3 ∧ subdivideChunkSize 0 9 = 1 ∧
    subdivideGroups 0 9 = 9 := by decide +kernel

/-- the seeded variant (options rebuilt from the global defaults unless the inner limit equals the caller's target)
    loses `store_empty_chunks` (and the other two flags): 4 chunks, minimum 4, a plain codec chain, target 2 -/
theorem chunksAndCodecSeeded_loses_storeEmptyChunks :
    chunksAndCodec exCfg 2 4 ⟨false, true, 2, true⟩ leafRec = some (4, ⟨false, true, 1, true⟩) ∧
    chunksAndCodecSeeded exCfg 2 4 ⟨false, true, 2, true⟩ leafRec = some (4, ⟨true, false, 1, false⟩) ∧
    chunksAndCodecSeeded exCfg 1 4 ⟨false, true, 1, true⟩ leafRec = some (4, ⟨false, true, 1, true⟩) := by
  decide +kernel

/-- exactly when the seeded variant is observable: it differs from the code iff the inner limit differs from the target
    and the caller's flags are not the global defaults -/
theorem chunksAndCodecSeeded_differs_iff (cfg : GlobalCfg) (t n : Nat) (opts : Opts) (codec : RecConc) (hc : codec.WF) :
    chunksAndCodecSeeded cfg t n opts codec ≠ chunksAndCodec cfg t n opts codec ↔
      innerOf t (chunksRec cfg.chunkConcurrentMinimum n) codec ≠ t ∧
      (opts.validateChecksums ≠ cfg.validateChecksums ∨ opts.storeEmptyChunks ≠ cfg.storeEmptyChunks ∨
       opts.experimentalPartialEncoding ≠ cfg.experimentalPartialEncoding) := by
  unfold chunksAndCodecSeeded chunksAndCodec
  rewrite [calcOuterInner_eq (chunksRec_wf _ _) hc]
  dsimp only
  by_cases he : innerOf t (chunksRec cfg.chunkConcurrentMinimum n) codec = t
  · rewrite [if_pos he]
    exact ⟨fun h => absurd rfl h, fun h => absurd he h.1⟩
  · -- the two results differ in the options only, field by field; then De Morgan on the three flags
    rewrite [if_neg he]
    simp only [OptsBuilder.new, OptsBuilder.setConcurrentTarget, OptsBuilder.build, Opts.intoBuilder, ne_eq,
      Option.some.injEq, Prod.mk.injEq, true_and, Opts.mk.injEq, he, not_false_eq_true,
      Decidable.not_and_iff_not_or_not, eq_comm (a := cfg.validateChecksums), eq_comm (a := cfg.storeEmptyChunks),
      eq_comm (a := cfg.experimentalPartialEncoding)]

example : innerOf 2 (chunksRec 4 4) leafRec = 1 := by decide +kernel

/-- `CodecChain::recommended_concurrency` always returns a well-formed recommendation with `min() ≤ max()`, so every
    array method's call of `concurrency_chunks_and_codec` returns, with limits inside the recommendations -/
theorem chainRec_sound (a2b : RecConc) (others : List RecConc) :
    (chainRec a2b others).WF ∧ (chainRec a2b others).Ordered := by
  unfold chainRec
  dsimp only
  split
  · exact ⟨ofBounds_wf _ _, leB_none _⟩
  · exact ⟨ofBounds_wf _ _, new_ordered (Nat.le_trans (Nat.min_le_right _ _) (Nat.le_max_left _ _))⟩

example : chainRec (shardRec 6) [leafRec, leafRec] = ⟨1, some 6⟩ ∧ chainRec leafRec [leafRec] = ⟨1, some 1⟩ ∧
    chainRec (shardRec 0) [] = ⟨1, some 1⟩ ∧ chainRec (.new 5 3) [.newMinimum 7] = ⟨5, none⟩ := by decide +kernel

/-- a chain of codecs that all recommend `new_maximum(..)` (every codec of zarrs does) starts at one -/
theorem chainRec_min_one (a2b : RecConc) (others : List RecConc) (h : a2b.min = 1)
    (hall : ∀ r ∈ others, 1 ≤ r.min) : (chainRec a2b others).min = 1 := by
  have hf : others.foldl (fun a r => Nat.min a r.min) a2b.min = 1 :=
    Nat.le_antisymm (h ▸ foldl_min_le others a2b.min) (le_foldl_min others a2b.min (Nat.le_of_eq h.symm) hall)
  unfold chainRec
  dsimp only
  rewrite [hf]
  split
  · rfl
  · exact Nat.max_eq_right (Nat.min_le_left 1 _)

example : (chainRec (shardRec 64) [leafRec, leafRec, leafRec]).min = 1 := by decide +kernel

end Zarrs.C16Conc
