import ZarrsModel.Model.ShardAsm
import ZarrsModel.Lemmas.ShardAsmSched
import ZarrsModel.Lemmas.PoolProg
import ZarrsModel.Props.C03Chain
import ZarrsModel.Lemmas.ShardAsmFinal
/-
C16 (results do not depend on parallelism or thread interleaving) for the INTERNAL parallelism of the sharding codec
(`ShardingCodec::encode_bounded` / `encode_unbounded`, zarrs/src/array/codec/array_to_bytes/sharding/sharding_codec.rs):
the inner-chunk tasks of the parallel loop share an atomic offset, an unsafely shared buffer and an unsafely shared index
(machine in Model/ShardAsm.lean).  The BYTES of the shard depend on the schedule (`asm_bytes_depend_on_schedule`); the
claim is that under every schedule they are a legal shard of the same inner chunks and so decode alike.
-/
namespace Zarrs.C16Shard
open Zarrs Zarrs.Codec Zarrs.Partial Zarrs.C02 Zarrs.C02S Zarrs.ShardAsm

def exP : Params := ⟨⟨3, true, false, false⟩, [some [1, 2], none, some [3, 4, 5]], .bounded 3⟩
def exQ : Params := ⟨⟨3, false, false, true⟩, [some [1, 2], none, some [3, 4, 5]], .unbounded⟩
def exS1 : List Nat := [0, 2, 0, 2, 2, 0]
def exS2 : List Nat := [2, 0, 0, 2, 1, 2, 0]

theorem fits_of_boundOk (p : Params) (h : p.boundOk = true) : p.fits = true := by
  unfold Params.fits Params.cap
  unfold Params.boundOk at h
  cases hm : p.mode with
  | unbounded => simp
  | bounded bound =>
    rw [hm] at h
    simp only [decide_eq_true_eq, Nat.add_le_add_iff_right]
    simp only [List.all_eq_true] at h
    unfold Params.total lens
    generalize p.chunks = cs at h
    induction cs with
    | nil => simp
    | cons c cs ih =>
      have h1 := h c List.mem_cons_self
      have h2 := ih (fun x hx => h x (List.mem_cons_of_mem _ hx))
      simp only [List.map_cons, List.sum_cons, List.length_cons, Nat.succ_mul]
      cases c with
      | none => simp only; omega
      | some b => simp only [decide_eq_true_eq] at h1 ⊢; omega
example : exP.boundOk = true ∧ exP.fits = true ∧ exQ.boundOk = true := by decide +kernel
/-- the capacity check of `encode_bounded` is part of the machine.  It compares the END of each reservation with the
whole buffer (`num_chunks * bound + index size`), so a declared bound of 2 bytes — wrong for inner chunk 2, which has 3 —
still passes thanks to the slack left by the all-fill chunk; with a bound of 1 (51 bytes, index at the start) task 2
reserves `[48, 51)` and task 0's reservation fails the check: `Err("Sharding did not allocate a large enough buffer")` -/
example : ShardAsm.assemble false { exP with mode := .bounded 2 } exS2 = .ok ([3, 4, 5, 1, 2] ++ Shard.encodeIndex exP.cfg [(3, 2), (Shard.sentinel, Shard.sentinel), (0, 3)]) ∧
    ({ exP with mode := .bounded 2 } : Params).fits = true ∧
    ({ exP with mode := .bounded 1 } : Params).fits = false ∧
    ShardAsm.assemble false { exP with cfg := ⟨3, false, false, false⟩, mode := .bounded 1 } exS2 = .tooSmall :=
  ⟨assemble_eq_of_parts (by decide +kernel),
    by decide +kernel, by decide +kernel, by decide +kernel⟩

/-- **disjoint, gap-free reservations under every schedule.**  Any parameters whose buffer is large enough, ANY schedule
(any interleaving of the tasks' steps, complete or not).  In the state reached: ranges owned by different tasks are
disjoint; every owned range lies in `[base, offset)`, which lies in `[base, base + Σ len)`; every position of
`[base, offset)` is owned by some task; and once every task has finished `offset = base + Σ len`. -/
theorem asm_ranges_disjoint (p : Params) (hfit : p.fits = true) (sched : List Nat) :
    let s := run false p (init p) sched
    (∀ i j a b c d, i ≠ j → rangeOf p s i = some (a, b) → rangeOf p s j = some (c, d) → b ≤ c ∨ d ≤ a) ∧
    (∀ i a b, rangeOf p s i = some (a, b) → p.base ≤ a ∧ b ≤ s.offset) ∧
    s.offset ≤ p.base + p.total ∧
    (∀ k, p.base ≤ k → k < s.offset → ∃ i a b, rangeOf p s i = some (a, b) ∧ a ≤ k ∧ k < b) ∧
    (complete s = true → s.offset = p.base + p.total) := by
  intro s
  have inv : Inv p s := inv_run hfit sched (inv_init p)
  exact ⟨inv.tiles.disj, inv.tiles.within, by have := inv.acct; omega, inv.tiles.cover, final_offset inv⟩

example : exP.fits = true := by decide +kernel
example : rangeOf exP (run false exP (init exP) [2, 0]) 2 = some (0, 3) ∧
    rangeOf exP (run false exP (init exP) [2, 0]) 0 = some (3, 5) ∧
    rangeOf exP (run false exP (init exP) [2, 0]) 1 = none ∧
    (run false exP (init exP) [2, 0]).offset = 5 ∧ complete (run false exP (init exP) [2, 0]) = false ∧
    complete (run false exP (init exP) exS2) = true := by decide +kernel

/-- **fair schedules are complete**: if every task is scheduled at least three times (reserve, index entry, copy),
in any interleaving, every task finishes and none fails the capacity check -/
theorem asm_fair_complete (p : Params) (hfit : p.fits = true) (sched : List Nat) (hfair : fair p sched = true) :
    complete (run false p (init p) sched) = true :=
  fair_complete hfit hfair
example : fair exP exS1 = false ∧ fair exP (exS1 ++ [1, 1, 1]) = true ∧ fair exP [1, 2, 0, 1, 0, 2, 2, 0, 1] = true := by decide +kernel

/-- **the result is a legal shard.**  Well-formed parameters, buffer large enough, shard shorter than 2^64 - 1 bytes; ANY
schedule that runs every task to its end.  The assembly returns a value, and that value is a `Shard.Legal` shard holding
exactly the encoded inner chunks. -/
theorem asm_result_legal (p : Params) (hwf : p.wf = true) (hfit : p.fits = true) (hsmall : p.small = true)
    (sched : List Nat) (hcomp : complete (run false p (init p) sched) = true) :
    ∃ v, assemble false p sched = .ok v ∧ Shard.Legal p.cfg v p.chunks := by
  exact ⟨_, assemble_value hwf hfit hcomp, final_legal hwf hfit hsmall (inv_run hfit sched (inv_init p)) hcomp⟩

example : exP.wf = true ∧ exP.fits = true ∧ exP.small = true ∧ complete (run false exP (init exP) exS2) = true ∧
    exQ.wf = true ∧ exQ.fits = true ∧ exQ.small = true ∧ complete (run false exQ (init exQ) exS2) = true := by decide +kernel
theorem exP_exS2 : assemble false exP exS2 =
    .ok ([3, 4, 5, 1, 2] ++ Shard.encodeIndex exP.cfg [(3, 2), (Shard.sentinel, Shard.sentinel), (0, 3)]) :=
  assemble_eq_of_parts (by decide +kernel)

example : assemble false exP exS2 = .ok ([3, 4, 5, 1, 2] ++ Shard.encodeIndex exP.cfg [(3, 2), (Shard.sentinel, Shard.sentinel), (0, 3)]) ∧
    assemble false exQ exS2 = .ok (Shard.encodeIndex exQ.cfg [(55, 2), (Shard.sentinel, Shard.sentinel), (52, 3)] ++ [3, 4, 5, 1, 2]) := by
  exact ⟨exP_exS2, assemble_eq_of_parts (by decide +kernel)⟩

/-- … in particular for every fair schedule -/
theorem asm_result_legal_fair (p : Params) (hwf : p.wf = true) (hfit : p.fits = true) (hsmall : p.small = true)
    (sched : List Nat) (hfair : fair p sched = true) :
    ∃ v, assemble false p sched = .ok v ∧ Shard.Legal p.cfg v p.chunks :=
  asm_result_legal p hwf hfit hsmall sched (fair_complete hfit hfair)

/-- **what is decoded does not depend on the schedule**: the values two complete schedules produce both decode (index
checksum validated) to the inner chunks that were put in -/
theorem asm_decode_schedule_independent (p : Params) (hwf : p.wf = true) (hfit : p.fits = true) (hsmall : p.small = true)
    (s1 s2 : List Nat) (h1 : complete (run false p (init p) s1) = true) (h2 : complete (run false p (init p) s2) = true) :
    ∃ v1 v2, assemble false p s1 = .ok v1 ∧ assemble false p s2 = .ok v2 ∧
      Shard.decode p.cfg true v1 = .ok p.chunks ∧ Shard.decode p.cfg true v2 = Shard.decode p.cfg true v1 := by
  obtain ⟨v1, ha1, hl1⟩ := asm_result_legal p hwf hfit hsmall s1 h1
  obtain ⟨v2, ha2, hl2⟩ := asm_result_legal p hwf hfit hsmall s2 h2
  exact ⟨v1, v2, ha1, ha2, Shard.legal_decodes _ _ _ hl1,
    by rw [Shard.legal_decodes _ _ _ hl1, Shard.legal_decodes _ _ _ hl2]⟩

example : complete (run false exQ (init exQ) exS1) = true ∧ complete (run false exQ (init exQ) exS2) = true := by decide +kernel

/-- **the length is schedule independent**: `Σ len + index size` -/
theorem asm_final_length (p : Params) (hwf : p.wf = true) (hfit : p.fits = true)
    (sched : List Nat) (hcomp : complete (run false p (init p) sched) = true) :
    ∃ v, assemble false p sched = .ok v ∧ v.length = p.total + Shard.indexSize p.cfg := by
  have inv : Inv p (run false p (init p) sched) := inv_run hfit sched (inv_init p)
  obtain ⟨hdl, hil⟩ := final_lengths hwf hfit inv
  refine ⟨_, final_value hwf hfit inv hcomp, ?_⟩
  split <;> simp only [List.length_append, hil, hdl] <;> omega

/-- … although the bytes are not -/
theorem asm_bytes_depend_on_schedule :
    assemble false exP exS1 ≠ assemble false exP exS2 ∧
    (∃ v1 v2, assemble false exP exS1 = .ok v1 ∧ assemble false exP exS2 = .ok v2 ∧ v1.length = 53 ∧ v2.length = 53 ∧
      v1.take 5 = [1, 2, 3, 4, 5] ∧ v2.take 5 = [3, 4, 5, 1, 2]) := by
  have h1 : assemble false exP exS1 =
      .ok ([1, 2, 3, 4, 5] ++ Shard.encodeIndex exP.cfg [(0, 2), (Shard.sentinel, Shard.sentinel), (2, 3)]) :=
    assemble_eq_of_parts (by decide +kernel)
  rw [h1, exP_exS2]
  exact ⟨by decide, _, _, rfl, rfl, by decide +kernel⟩


/-- the assembly parameters of a sharding chain on a chunk: the inner chunks encoded by the inner chain, `none` for
all-fill ones (`encode_bounded` / `encode_unbounded`: `extract_array_subset`, `is_fill_value`, `inner_codecs.encode`) -/
def asmParams (a2a : List AStage) (cfg : Shard.Cfg) (ish : Shape) (inner : ChainS) (sh : Shape) (fill : Elem)
    (xs : List Elem) (mode : Mode) : Params :=
  ⟨{ cfg with nChunks := prod (zipDiv (encodeA2A a2a sh xs).2 ish) },
   shardChunks (inner.encode ish fill) fill (encodeA2A a2a sh xs).2 ish (encodeA2A a2a sh xs).1, mode⟩

theorem asmParams_wf (a2a : List AStage) (cfg : Shard.Cfg) (ish : Shape) (inner : ChainS) (sh : Shape) (fill : Elem)
    (xs : List Elem) (mode : Mode) : (asmParams a2a cfg ish inner sh fill xs mode).wf = true := by
  simp [asmParams, Params.wf, shardChunks, splitShard_length]

/-- **C16 for the parallel encoder, end to end.**  A well-formed sharding chain `a2a ; sharding(cfg, ish, inner) ; b2b`
(`C02S.chainSOk`), a chunk of its shape; the inner chunks are encoded by the inner chain and assembled by the
parallel loop under ANY complete schedule (the declared bound is right, shard shorter than 2^64 - 1 bytes).  The
assembly returns a value, and the full decoder (`CodecChain::decode` + `ShardingCodec::decode`) applied to its
bytes-to-bytes encoding returns the chunk, so the decoded result is the same for any two complete schedules. -/
theorem asm_chain_decode_schedule_independent (a2a : List AStage) (cfg : Shard.Cfg) (ish : Shape) (es : Nat)
    (inner : ChainS) (b2b : List BStage) (sh : Shape) (fill : Elem) (xs : List Elem) (mode : Mode)
    (hok : chainSOk (.shard a2a cfg ish es inner b2b) sh fill) (hx : chunkOk es sh xs)
    (hfits : ∀ q ∈ splitShard (encodeA2A a2a sh xs).2 ish (encodeA2A a2a sh xs).1, inner.fits ish fill q)
    (hfit : (asmParams a2a cfg ish inner sh fill xs mode).fits = true)
    (hsmall : (asmParams a2a cfg ish inner sh fill xs mode).small = true) :
    (∀ sched, complete (run false (asmParams a2a cfg ish inner sh fill xs mode) (init (asmParams a2a cfg ish inner sh fill xs mode)) sched) = true →
      ∃ v, assemble false (asmParams a2a cfg ish inner sh fill xs mode) sched = .ok v ∧
        (ChainS.shard a2a cfg ish es inner b2b).decode sh fill (b2b.foldl (fun b st => st.enc b) v) = some xs) ∧
    (∀ s1 s2 v1 v2, assemble false (asmParams a2a cfg ish inner sh fill xs mode) s1 = .ok v1 →
      assemble false (asmParams a2a cfg ish inner sh fill xs mode) s2 = .ok v2 →
      (ChainS.shard a2a cfg ish es inner b2b).decode sh fill (b2b.foldl (fun b st => st.enc b) v1) =
      (ChainS.shard a2a cfg ish es inner b2b).decode sh fill (b2b.foldl (fun b st => st.enc b) v2)) := by
  have key : ∀ sched v, assemble false (asmParams a2a cfg ish inner sh fill xs mode) sched = .ok v →
      (ChainS.shard a2a cfg ish es inner b2b).decode sh fill (b2b.foldl (fun b st => st.enc b) v) = some xs := by
    intro sched v hv
    obtain ⟨v', hv', hl⟩ := asm_result_legal _ (asmParams_wf a2a cfg ish inner sh fill xs mode) hfit hsmall sched
      (finish_ok_complete hv)
    rw [hv] at hv'
    cases hv'
    exact C03Chain.chainS_decode_relayout a2a cfg ish es inner b2b sh fill xs v hok hx hfits hl
  refine ⟨?_, ?_⟩
  · intro sched hcomp
    obtain ⟨v, hv, _⟩ := asm_result_legal _ (asmParams_wf a2a cfg ish inner sh fill xs mode) hfit hsmall sched hcomp
    exact ⟨v, hv, key sched v hv⟩
  · intro s1 s2 v1 v2 h1 h2
    rw [key s1 v1 h1, key s2 v2 h2]


def exLeaf : Chain := { a2a := [], big := false, es := 1, unit := 1, b2b := [] }
def exXs : List Elem := [[1], [2], [0], [0], [5], [6]]
theorem exChain_ok : chainSOk (.shard [] ⟨0, true, false, false⟩ [2] 1 (.leaf exLeaf []) [.stripSuffix 4 crc32c]) [6] [0] := by
  refine ⟨trivial, by decide, ?_, rfl, rfl, ⟨by decide, by decide, by decide, trivial, ?_, trivial⟩⟩
  · intro st hst
    simp only [List.mem_singleton] at hst
    subst hst; rfl
  · intro st hst
    cases hst

example : chainSOk (.shard [] ⟨0, true, false, false⟩ [2] 1 (.leaf exLeaf []) [.stripSuffix 4 crc32c]) [6] [0] ∧
    chunkOk 1 [6] exXs ∧
    (∀ q ∈ splitShard (encodeA2A [] [6] exXs).2 [2] (encodeA2A [] [6] exXs).1, (ChainS.leaf exLeaf []).fits [2] [0] q) ∧
    (asmParams [] ⟨0, true, false, false⟩ [2] (.leaf exLeaf []) [6] [0] exXs (.bounded 2)).fits = true ∧
    (asmParams [] ⟨0, true, false, false⟩ [2] (.leaf exLeaf []) [6] [0] exXs (.bounded 2)).small = true ∧
    asmParams [] ⟨0, true, false, false⟩ [2] (.leaf exLeaf []) [6] [0] exXs (.bounded 2) =
      ⟨⟨3, true, false, false⟩, [some [1, 2], none, some [5, 6]], .bounded 2⟩ ∧
    complete (run false (asmParams [] ⟨0, true, false, false⟩ [2] (.leaf exLeaf []) [6] [0] exXs (.bounded 2))
      (init (asmParams [] ⟨0, true, false, false⟩ [2] (.leaf exLeaf []) [6] [0] exXs (.bounded 2))) exS2) = true := by
  refine ⟨exChain_ok, ⟨by decide, by decide⟩, ?_, by decide +kernel, by decide +kernel, by decide +kernel, by decide +kernel⟩
  simp only [ChainS.fits]
  decide
example : ∃ v1 v2, ShardAsm.assemble false (asmParams [] ⟨0, true, false, false⟩ [2] (.leaf exLeaf []) [6] [0] exXs (.bounded 2)) exS1 = .ok v1 ∧
    ShardAsm.assemble false (asmParams [] ⟨0, true, false, false⟩ [2] (.leaf exLeaf []) [6] [0] exXs (.bounded 2)) exS2 = .ok v2 ∧
    v1 ≠ v2 ∧
    (ChainS.shard [] ⟨0, true, false, false⟩ [2] 1 (.leaf exLeaf []) [.stripSuffix 4 crc32c]).decode [6] [0] (checksumEnc crc32c v1) = some exXs ∧
    (ChainS.shard [] ⟨0, true, false, false⟩ [2] 1 (.leaf exLeaf []) [.stripSuffix 4 crc32c]).decode [6] [0] (checksumEnc crc32c v2) = some exXs := by
  exact ⟨[1, 2, 5, 6] ++ Shard.encodeIndex ⟨3, true, false, false⟩ [(0, 2), (Shard.sentinel, Shard.sentinel), (2, 2)],
    [5, 6, 1, 2] ++ Shard.encodeIndex ⟨3, true, false, false⟩ [(2, 2), (Shard.sentinel, Shard.sentinel), (0, 2)],
    assemble_eq_of_parts (by decide +kernel),
    assemble_eq_of_parts (by decide +kernel),
    by decide +kernel, by decide +kernel, by decide +kernel⟩

def exR : Params := ⟨⟨2, true, false, false⟩, [some [1, 2], some [3, 4]], .bounded 2⟩

/-- **the lost update** (the racy machine: the reservation is `load … store` instead of `fetch_add`, seeded change
`C16_m3`).  Under the schedule "0 loads, 1 loads, 0 stores, 1 stores, …" both tasks read offset 0 and both store 2:
both index entries name the range `[0, 2)`, the shard is 34 bytes instead of 36, no error is reported (the entries lie
inside the value), and decoding returns inner chunk 1's bytes for BOTH inner chunks.  The atomic machine under the same
interleaving (one step less per task) is correct. -/
theorem asm_racy_loses_update :
    (run true exR (init exR) [0, 1, 0, 1, 0, 1, 0, 1]).index = [(0, 2), (0, 2)] ∧
    (run true exR (init exR) [0, 1, 0, 1, 0, 1, 0, 1]).offset = 2 ∧
    (∃ v, ShardAsm.assemble true exR [0, 1, 0, 1, 0, 1, 0, 1] = .ok v ∧ v.length = 34 ∧
      (Shard.decode exR.cfg true v).toOption = some [some [3, 4], some [3, 4]]) ∧
    (∃ v, ShardAsm.assemble false exR [0, 1, 0, 1, 0, 1] = .ok v ∧ v.length = 36 ∧
      (Shard.decode exR.cfg true v).toOption = some [some [1, 2], some [3, 4]]) := by
  exact ⟨by decide +kernel, by decide +kernel,
    ⟨[3, 4] ++ Shard.encodeIndex exR.cfg [(0, 2), (0, 2)], by decide +kernel, by decide +kernel, by decide +kernel⟩,
    ⟨[1, 2, 3, 4] ++ Shard.encodeIndex exR.cfg [(0, 2), (2, 2)],
      assemble_eq_of_parts (by decide +kernel),
      by decide +kernel, by decide +kernel⟩⟩

/-- in `encode_unbounded` (precomputed length) the same race leaves bytes of the returned vector unwritten -/
example : ShardAsm.assemble true { exR with mode := .unbounded } [0, 1, 0, 1, 0, 1, 0, 1] = .uninit := by decide +kernel

/-- **sequential schedules hide the defect.**  ANY schedule of the racy machine that runs the tasks one at a time (in
any order, four consecutive steps each: load, store, index entry, copy) ends in the same state as the atomic machine
under the corresponding sequential schedule, and so yields a legal shard of the inner chunks: a test that encodes with
a concurrency limit of 1 cannot see the lost update. -/
theorem asm_racy_sequential_ok (p : Params) (hwf : p.wf = true) (hfit : p.fits = true) (hsmall : p.small = true)
    (order : List Nat) (hall : ∀ i, i < p.chunks.length → i ∈ order) :
    run true p (init p) (seqSched 4 order) = run false p (init p) (seqSched 3 order) ∧
    ∃ v, ShardAsm.assemble true p (seqSched 4 order) = .ok v ∧ Shard.Legal p.cfg v p.chunks := by
  have heq := racy_seq_eq hfit order (inv_init p)
  refine ⟨heq, ?_⟩
  obtain ⟨v, hv, hl⟩ := asm_result_legal_fair p hwf hfit hsmall (seqSched 3 order) (seq_fair p order hall)
  refine ⟨v, ?_, hl⟩
  unfold ShardAsm.assemble at hv ⊢
  rw [heq]; exact hv

example : exR.wf = true ∧ exR.fits = true ∧ exR.small = true ∧ ∀ i, i < exR.chunks.length → i ∈ [1, 0] := by decide +kernel
example : ShardAsm.assemble true { exR with chunks := [none, some [3, 4]] } [1, 0, 1, 1, 0, 1] =
    ShardAsm.assemble false { exR with chunks := [none, some [3, 4]] } [1, 0, 1, 0, 1] := by decide +kernel
example : ShardAsm.assemble true exR (seqSched 4 [1, 0]) = ShardAsm.assemble false exR (seqSched 3 [1, 0]) ∧
    seqSched 4 [1, 0] = [1, 1, 1, 1, 0, 0, 0, 0] ∧
    ∃ v, ShardAsm.assemble true exR (seqSched 4 [1, 0]) = .ok v ∧ v.take 4 = [3, 4, 1, 2] ∧
      (Shard.decode exR.cfg true v).toOption = some [some [1, 2], some [3, 4]] := by
  have h3 : ShardAsm.assemble false exR (seqSched 3 [1, 0]) = .ok ([3, 4, 1, 2] ++ Shard.encodeIndex exR.cfg [(2, 2), (0, 2)]) :=
    assemble_eq_of_parts (by decide +kernel)
  have h4 : ShardAsm.assemble true exR (seqSched 4 [1, 0]) = ShardAsm.assemble false exR (seqSched 3 [1, 0]) := by
    rw [h3]; decide +kernel
  exact ⟨h4, by decide, _, h4.trans h3, by decide, by decide +kernel⟩


/-! ### the mutex of the shard-index cache and work-stealing joins

`ArrayShardedReadableExtCache::retrieve` (zarrs/src/array/array_sync_sharded_readable_ext.rs) holds the cache's
`std::sync::Mutex` while it creates the partial decoder of a shard (which decodes the shard index).  The callers are
rayon tasks, one per shard.  Pool model in Model/ShardAsm.lean (`pstep`): root tasks are queued, `fork c` queues a
child, a worker at `wait c` whose child is unfinished takes any queued task on top of its stack. -/

/-- seeded change `C16_m4` (`decode_shard_index` converts the index with a rayon parallel iterator, which then runs
under the cache's mutex): task 0 = a shard task that takes the mutex, splits work under it (`fork 2 … wait 2`: the
parallel index conversion) and releases it afterwards; task 1 = another shard task that needs the mutex; task 2 = the
forked piece.  Two workers. -/
def exPoolBad : Pool := ⟨[[.lock, .fork 2, .wait 2, .unlock], [.lock, .unlock], [.work]], [0, 1], 2⟩
/-- the code as it is: the mutex is released before anything is split -/
def exPoolGood : Pool := ⟨[[.lock, .unlock, .fork 2, .wait 2], [.lock, .unlock], [.work]], [0, 1], 2⟩
/-- re-entrancy with a single worker: the forked piece itself needs the mutex its parent holds -/
def exPoolReentrant : Pool := ⟨[[.lock, .fork 1, .wait 1, .unlock], [.lock, .unlock]], [0], 1⟩

theorem prun_reach (P : Pool) (sched : List (Nat × Nat)) : ∀ (s s' : PState), PReach P s → prun P s sched = some s' → PReach P s' := by
  induction sched with
  | nil => intro s s' hr h; simp only [prun, Option.some.injEq] at h; rw [← h]; exact hr
  | cons x rest ih =>
    intro s s' hr h
    obtain ⟨w, c⟩ := x
    simp only [prun] at h
    split at h
    · rename_i s1 hs1
      exact ih s1 s' (PReach.step s s1 w c hr hs1) h
    · cases h

/-- **holding the mutex across a join can deadlock.**  Worker 0 takes task 0, locks, forks the piece and reaches the
join; worker 1 steals the piece; worker 0, waiting, takes the still queued task 1 on top of its stack, whose `lock`
blocks on the mutex held by the frame below it; worker 1 finishes the piece and goes idle.  Nothing can move: tasks 0
and 1 are unfinished, worker 0 is blocked on its own mutex.  (With one worker and a piece that needs the mutex itself
the same happens without any stealing.)  The pool is well formed; the only rule it breaks is `noLockAcrossJoin`. -/
theorem lock_across_join_can_deadlock :
    exPoolBad.wf = true ∧ exPoolBad.noLockAcrossJoin = false ∧
    (∃ s, PReach exPoolBad s ∧
      prun exPoolBad (pinit exPoolBad) [(0, 0), (0, 0), (0, 0), (1, 2), (0, 1), (1, 0), (1, 0)] = some s ∧
      s = ⟨[[(1, 0), (0, 2)], []], [], [2], some 0⟩ ∧ pdeadlocked exPoolBad s = true) ∧
    (∃ s, PReach exPoolReentrant s ∧ pdeadlocked exPoolReentrant s = true) := by
  refine ⟨by decide +kernel, by decide +kernel, ?_, ?_⟩
  · have h : prun exPoolBad (pinit exPoolBad) [(0, 0), (0, 0), (0, 0), (1, 2), (0, 1), (1, 0), (1, 0)] =
        some ⟨[[(1, 0), (0, 2)], []], [], [2], some 0⟩ := by decide +kernel
    exact ⟨_, prun_reach _ _ _ _ PReach.init h, h, rfl, by decide +kernel⟩
  · have h : prun exPoolReentrant (pinit exPoolReentrant) [(0, 0), (0, 0), (0, 0), (0, 1)] =
        some ⟨[[(1, 0), (0, 2)]], [], [], some 0⟩ := by decide +kernel
    exact ⟨_, prun_reach _ _ _ _ PReach.init h, by decide +kernel⟩

/-- **no mutex across a join ⇒ no deadlock.**  ANY well-formed pool (`Pool.wf`: workers ≥ 1, root tasks that fork and
join leaf tasks, waits after their forks, every program locks and unlocks in turn and ends unlocked) in which no program
holds the mutex at a `fork` or a `wait` (`noLockAcrossJoin`): in EVERY reachable state, under every stealing order,
either all tasks have finished or some worker can take a step. -/
theorem no_lock_across_join_no_deadlock (P : Pool) (hwf : P.wf = true) (hnj : P.noLockAcrossJoin = true)
    (s : PState) (hr : PReach P s) : pdeadlocked P s = false := by
  unfold pdeadlocked
  cases hf : allFinished P s with
  | true => rfl
  | false =>
    obtain ⟨w, hw, he⟩ := pool_progress hwf hnj hr hf
    simp only [Bool.not_false, Bool.true_and]
    rw [Bool.eq_false_iff]
    intro hall
    have := List.all_eq_true.mp hall w (List.mem_range.mpr hw)
    rw [he] at this; cases this

example : exPoolGood.wf = true ∧ exPoolGood.noLockAcrossJoin = true := by decide +kernel
/-- the interleaving that deadlocked `exPoolBad`, replayed on the good pool as far as it goes: worker 0 releases the
mutex before the join, so task 1 on top of its stack gets the mutex; and a complete run -/
example : (prun exPoolGood (pinit exPoolGood) [(0, 0), (0, 0), (0, 0), (0, 0), (1, 2), (0, 1), (0, 1)]).map (·.holder) = some (some 0) ∧
    (prun exPoolGood (pinit exPoolGood)
      [(0, 0), (0, 0), (0, 0), (0, 0), (1, 2), (0, 1), (0, 1), (0, 1), (0, 1), (1, 0), (1, 0), (0, 0), (0, 0)]).map
        (allFinished exPoolGood) = some true := by decide +kernel

end Zarrs.C16Shard
