import ZarrsModel.Model.ChainSDec
import ZarrsModel.Lemmas.ChainSStores
import ZarrsModel.Props.C02Shard
/-
C03 for codec chains whose array-to-bytes codec is `bytes` or `sharding_indexed`, nested to any depth
(`ChainS`, encoder and partial decoder in Model/ShardPD.lean, FULL decoder `ChainS.decode` in Model/ChainSDec.lean =
`CodecChain::decode` + `ShardingCodec::decode`): the full decoder inverts the encoder at every nesting depth and accepts
ANY legal layout of stored inner chunks that decode to the pieces of the chunk (any order, gaps, all-fill chunks stored
or not) with the same result; the partial decoder answers with the regions of what this decoder returns (C02 against the
REAL full decoder); every encoding is within the size `encoded_representation` declares; whatever `decode` accepts is a
chunk of the requested shape and element size.
-/
namespace Zarrs.C03Chain
open Zarrs Zarrs.Codec Zarrs.Partial Zarrs.C02 Zarrs.C02S

theorem bStageOk_BDec (st : BStage) (h : bStageOk st) : BDec st := (bStageOk_lawful st h).dec

/-! the example: the two-level sharding chain `exNested` of `C02Shard`; in `exData` the outer inner chunk 2 is all fill
(not stored) and, inside the outer inner chunk 1, the innermost chunk 0 is all fill -/

private def exFill : Elem := [7, 7]
private def exLeaf : Chain := { a2a := [.transpose [1, 0]], big := true, es := 2, unit := 2, b2b := [.stripSuffix 4 crc32c] }
private def exInnerS : ChainS := .shard [] ⟨0, true, false, true⟩ [1, 2] 2 (.leaf exLeaf []) []
private def exNested : ChainS :=
  .shard [.transpose [1, 0]] ⟨0, false, true, false⟩ [2, 2] 2 exInnerS [.stripSuffix 4 crc32c]
private def exData : List Elem :=
  (List.range 16).map (fun i => if (i % 4 ≥ 2 ∧ i < 8) ∨ (i = 12 ∨ i = 8) then [7, 7] else [i, 100 + i])
/-- the stored chunks of the outer level: encoded 2×2 shards, the third one missing -/
private def exChunks : List (Option Bytes) :=
  shardChunks (exInnerS.encode [2, 2] exFill) exFill [4, 4] [2, 2] (transposeEnc [1, 0] [4, 4] exData)

private def exPieces : List (List Elem) :=
  splitShard (encodeA2A [.transpose [1, 0]] [4, 4] exData).2 [2, 2] (encodeA2A [.transpose [1, 0]] [4, 4] exData).1
private theorem exPieces_val : exPieces =
    [[[0, 100], [4, 104], [1, 101], [5, 105]], [[7, 7], [7, 7], [9, 109], [13, 113]],
     [[7, 7], [7, 7], [7, 7], [7, 7]], [[10, 110], [14, 114], [11, 111], [15, 115]]] := by decide +kernel

private theorem exNested_ok : chainSOk exNested [4, 4] exFill := by
  refine ⟨⟨by decide, trivial⟩, by decide, ?_, by decide, rfl, ⟨trivial, by decide, ?_, by decide, rfl,
    ⟨by decide, by decide, by decide, ⟨by decide, trivial⟩, ?_, ⟨trivial, trivial⟩⟩⟩⟩
  · intro st hst
    simp only [List.mem_singleton] at hst
    subst hst; rfl
  · intro st hst
    cases hst
  · intro st hst
    simp only [exLeaf, List.mem_singleton] at hst
    subst hst; rfl

private theorem exData_ok : chunkOk exNested.es [4, 4] exData := ⟨by decide, by decide⟩

private theorem exNested_fits : exNested.fits [4, 4] exFill exData := by
  simp only [exNested, exInnerS, ChainS.fits]
  decide +kernel

private theorem exChunks_val : exChunks =
    [some [100, 0, 104, 4, 249, 64, 212, 149, 101, 1, 105, 5, 75, 99, 25, 12, 0, 0, 0, 0, 0, 0, 0, 0, 8, 0, 0, 0, 0, 0, 0,
       0, 8, 0, 0, 0, 0, 0, 0, 0, 8, 0, 0, 0, 0, 0, 0, 0, 18, 164, 108, 129],
     some [109, 9, 113, 13, 158, 84, 4, 234, 255, 255, 255, 255, 255, 255, 255, 255, 255, 255, 255, 255, 255, 255, 255,
       255, 0, 0, 0, 0, 0, 0, 0, 0, 8, 0, 0, 0, 0, 0, 0, 0, 99, 121, 204, 141],
     none,
     some [110, 10, 114, 14, 185, 70, 191, 69, 111, 11, 115, 15, 11, 101, 114, 220, 0, 0, 0, 0, 0, 0, 0, 0, 8, 0, 0, 0, 0,
       0, 0, 0, 8, 0, 0, 0, 0, 0, 0, 0, 8, 0, 0, 0, 0, 0, 0, 0, 18, 164, 108, 129]] := by decide +kernel
/-- the missing innermost chunk inside the second stored shard: its index (at the end, before the crc32c) starts with
a sentinel entry -/
example : shardChunks ((ChainS.leaf exLeaf []).encode [1, 2] exFill) exFill [2, 2] [1, 2]
    ((splitShard [4, 4] [2, 2] (transposeEnc [1, 0] [4, 4] exData)).getD 1 []) =
    [none, some [109, 9, 113, 13, 158, 84, 4, 234]] := by decide +kernel

/-- **C03 for (nested) sharded chains: `decode ∘ encode = id`.**  For every well-formed chain (`chainSOk`: lawful
stages at every level, every sharding level tiles the shape it sees, one element size, fill value of that size),
every chunk of the shape and element size, provided every encoded shard is shorter than 2^64 - 1 bytes (`fits`), the
full decoder (`CodecChain::decode` + `ShardingCodec::decode`, checksum validation on) returns the chunk. -/
theorem chainS_dec_enc (c : ChainS) (sh : Shape) (fill : Elem) (xs : List Elem)
    (hok : chainSOk c sh fill) (hx : chunkOk c.es sh xs) (hfits : c.fits sh fill xs) :
    c.decode sh fill (c.encode sh fill xs) = some xs :=
  chainS_dec_enc' c sh fill xs hok.lawful hx.1 hx.2 hfits

example : chainSOk exNested [4, 4] exFill ∧ chunkOk exNested.es [4, 4] exData ∧ exNested.fits [4, 4] exFill exData :=
  ⟨exNested_ok, exData_ok, exNested_fits⟩

private theorem exDec_val : exNested.decode [4, 4] exFill (exNested.encode [4, 4] exFill exData) = some exData :=
  chainS_dec_enc exNested [4, 4] exFill exData exNested_ok exData_ok exNested_fits
private theorem exEnc_length : (exNested.encode [4, 4] exFill exData).length = 216 := by decide +kernel

example : exNested.decode [4, 4] exFill (exNested.encode [4, 4] exFill exData) = some exData := exDec_val
example : (exNested.encode [4, 4] exFill exData).length = 216 := exEnc_length
/-- a flipped payload byte of an innermost chunk, a flipped index byte, a truncated value are errors -/
example : exNested.decode [4, 4] exFill ((exNested.encode [4, 4] exFill exData).set 66 0) = none ∧
    exNested.decode [4, 4] exFill ((exNested.encode [4, 4] exFill exData).set 7 65) = none ∧
    exNested.decode [4, 4] exFill ((exNested.encode [4, 4] exFill exData).take 215) = none := by decide +kernel

/-- **whatever the decoder accepts is a chunk**: `prod sh` elements of `c.es` bytes — for ANY chain and ANY bytes (the
final `bytes.validate` of `CodecChain::decode`) -/
theorem chainS_decode_valid (c : ChainS) (sh : Shape) (fill : Elem) (b : Bytes) (xs : List Elem)
    (h : c.decode sh fill b = some xs) : chunkOk c.es sh xs :=
  ChainS.decode_valid c sh fill b xs h

example : exNested.decode [4, 4] exFill (exNested.encode [4, 4] exFill exData) = some exData := exDec_val
example : (ChainS.leaf { a2a := [], big := false, es := 2, unit := 2, b2b := [] } []).decode [3] exFill [1, 2, 3, 4, 5, 6, 7] = none ∧
    (ChainS.leaf { a2a := [], big := false, es := 2, unit := 2, b2b := [] } []).decode [3] exFill [1, 2, 3, 4, 5, 6] =
      some [[1, 2], [3, 4], [5, 6]] := by decide +kernel

/-! two other legal values holding the same chunk: (1) the encoder's inner chunks in another order with gaps — index,
3 stray bytes, chunk 3, chunk 1, 1 stray byte, chunk 0; (2) the same followed by a STORED encoding of the all-fill chunk 2
that the encoder never writes (a 2×2 shard whose two innermost all-fill chunks are both stored) -/
private def exCfg4 : Shard.Cfg := ⟨4, false, true, false⟩
private def exCh (i : Nat) : Bytes := (exChunks.getD i none).getD []
private def exEntries : List (Nat × Nat) := [(164, 52), (119, 44), (Shard.sentinel, Shard.sentinel), (67, 52)]
private def exRelayout : Bytes := Shard.encodeIndex exCfg4 exEntries ++ [9, 9, 9] ++ exCh 3 ++ exCh 1 ++ [9] ++ exCh 0
private def exStoredFill : Bytes :=
  Shard.encode ⟨2, true, false, true⟩ [some [7, 7, 7, 7, 202, 58, 48, 139], some [7, 7, 7, 7, 202, 58, 48, 139]]
private def exEntries2 : List (Nat × Nat) := [(164, 52), (119, 44), (216, 52), (67, 52)]
private def exChunks2 : List (Option Bytes) := [exChunks.getD 0 none, exChunks.getD 1 none, some exStoredFill, exChunks.getD 3 none]
private def exRelayout2 : Bytes :=
  Shard.encodeIndex exCfg4 exEntries2 ++ [9, 9, 9] ++ exCh 3 ++ exCh 1 ++ [9] ++ exCh 0 ++ exStoredFill

private theorem exChunks2_val : exChunks2 =
    [some [100, 0, 104, 4, 249, 64, 212, 149, 101, 1, 105, 5, 75, 99, 25, 12, 0, 0, 0, 0, 0, 0, 0, 0, 8, 0, 0, 0, 0, 0, 0,
       0, 8, 0, 0, 0, 0, 0, 0, 0, 8, 0, 0, 0, 0, 0, 0, 0, 18, 164, 108, 129],
     some [109, 9, 113, 13, 158, 84, 4, 234, 255, 255, 255, 255, 255, 255, 255, 255, 255, 255, 255, 255, 255, 255, 255,
       255, 0, 0, 0, 0, 0, 0, 0, 0, 8, 0, 0, 0, 0, 0, 0, 0, 99, 121, 204, 141],
     some [7, 7, 7, 7, 202, 58, 48, 139, 7, 7, 7, 7, 202, 58, 48, 139, 0, 0, 0, 0, 0, 0, 0, 0, 8, 0, 0, 0, 0, 0, 0, 0,
       8, 0, 0, 0, 0, 0, 0, 0, 8, 0, 0, 0, 0, 0, 0, 0, 18, 164, 108, 129],
     some [110, 10, 114, 14, 185, 70, 191, 69, 111, 11, 115, 15, 11, 101, 114, 220, 0, 0, 0, 0, 0, 0, 0, 0, 8, 0, 0, 0, 0,
       0, 0, 0, 8, 0, 0, 0, 0, 0, 0, 0, 8, 0, 0, 0, 0, 0, 0, 0, 18, 164, 108, 129]] := by
  rw [exChunks2, exChunks_val]
  decide +kernel

private theorem exRelayout_legal : Shard.Legal exCfg4 exRelayout exChunks := by
  -- the value as a concatenation of literals, so that no step evaluates the nested encoder again; then the executable
  -- checks (`Shard.decode`, `Shard.wellFormed`) decide: `legal_of_wf`
  simp only [exRelayout, exCh, exChunks_val, List.getD_cons_zero, List.getD_cons_succ, Option.getD_some]
  exact Shard.legal_of_wf _ _ _ (by decide +kernel) (by decide +kernel) (Shard.pos_of_all (by decide))

private theorem exRelayout2_legal : Shard.Legal exCfg4 exRelayout2 exChunks2 := by
  simp only [exRelayout2, exChunks2_val, exCh, exChunks_val, List.getD_cons_zero, List.getD_cons_succ, Option.getD_some]
  exact Shard.legal_of_wf _ _ _ (by decide +kernel) (by decide +kernel) (Shard.pos_of_all (by decide))

/-- **the decoder accepts ANY legal layout, with the same result.**  A sharding chain `a2a ; sharding(cfg, ish, inner) ; b2b`.
`v` is any legal shard value (`Shard.Legal`: the index at its declared place decodes, live entries lie inside the
value and outside the index, do not overlap, hold their chunk's bytes — any offsets, any order, gaps) holding stored
chunks `chunks`, where a missing chunk stands for an all-fill piece of the (array-to-array encoded) chunk `xs` and a
stored chunk is ANY byte string the inner chain decodes to its piece (not necessarily what the inner encoder would
write: the nested shards may themselves have any legal layout, an all-fill piece may be stored).  Then decoding the
bytes-to-bytes encoding of `v` returns `xs`. -/
theorem chainS_decode_legal_layout (a2a : List AStage) (cfg : Shard.Cfg) (ish : Shape) (es : Nat) (inner : ChainS)
    (b2b : List BStage) (sh : Shape) (fill : Elem) (xs : List Elem) (v : Bytes) (chunks : List (Option Bytes))
    (hok : chainSOk (.shard a2a cfg ish es inner b2b) sh fill) (hx : chunkOk es sh xs)
    (hlegal : Shard.Legal { cfg with nChunks := prod (zipDiv (encodeA2A a2a sh xs).2 ish) } v chunks)
    (hc : ∀ i (h1 : i < chunks.length) (h2 : i < (splitShard (encodeA2A a2a sh xs).2 ish (encodeA2A a2a sh xs).1).length),
      match chunks[i] with
      | none => (splitShard (encodeA2A a2a sh xs).2 ish (encodeA2A a2a sh xs).1)[i] = List.replicate (prod ish) fill
      | some b => inner.decode ish fill b = some (splitShard (encodeA2A a2a sh xs).2 ish (encodeA2A a2a sh xs).1)[i]) :
    (ChainS.shard a2a cfg ish es inner b2b).decode sh fill (b2b.foldl (fun b st => st.enc b) v) = some xs := by
  have hok' := hok.lawful
  rw [encodeA2A_eq] at hlegal hc
  simp only at hlegal hc
  obtain ⟨hyl, hye⟩ := aEnc_chunk es a2a sh xs hok'.a2a hx.1 hx.2
  apply chainS_shard_decode hok' xs v chunks hx.1 hx.2 (Shard.legal_decodes _ v chunks hlegal)
  refine ChunksDecode.intro (by rw [hlegal.1, splitShard_length]) (fun i h1 h2 heq => ?_) fun i h1 h2 b heq => ?_
  · have := hc i h1 h2
    rw [heq] at this
    exact this
  · have := hc i h1 h2
    rw [heq] at this
    exact ⟨this, splitShard_chunkOk hok'.tiles hyl hye _ (List.getElem_mem h2)⟩

private theorem exChunks2_decode : ∀ i (_ : i < exChunks2.length) (h2 : i < exPieces.length),
    match exChunks2[i] with
    | none => exPieces[i] = List.replicate (prod [2, 2]) exFill
    | some b => exInnerS.decode [2, 2] exFill b = some exPieces[i] := by
  intro i h1 h2
  have h4 : i < 4 := h1
  have : i = 0 ∨ i = 1 ∨ i = 2 ∨ i = 3 := by omega
  rcases this with rfl | rfl | rfl | rfl <;>
    simp only [exChunks2_val, exPieces_val, List.getElem_cons_zero, List.getElem_cons_succ] <;> decide +kernel

/-- on `exRelayout2`: the stored third chunk is a byte string the encoder never writes, yet the inner chain decodes it to
the all-fill piece -/
example : chainSOk exNested [4, 4] exFill ∧ chunkOk 2 [4, 4] exData ∧
    Shard.Legal { (⟨0, false, true, false⟩ : Shard.Cfg) with nChunks := prod (zipDiv (encodeA2A [.transpose [1, 0]] [4, 4] exData).2 [2, 2]) }
      exRelayout2 exChunks2 ∧
    (∀ i (_ : i < exChunks2.length) (h2 : i < exPieces.length),
      match exChunks2[i] with
      | none => exPieces[i] = List.replicate (prod [2, 2]) exFill
      | some b => exInnerS.decode [2, 2] exFill b = some exPieces[i]) ∧
    exChunks2[2]? ≠ exChunks[2]? :=
  ⟨exNested_ok, exData_ok, exRelayout2_legal, exChunks2_decode, by rw [exChunks2_val, exChunks_val]; decide⟩
example : exNested.decode [4, 4] exFill (checksumEnc crc32c exRelayout2) = some exData :=
  chainS_decode_legal_layout [.transpose [1, 0]] ⟨0, false, true, false⟩ [2, 2] 2 exInnerS [.stripSuffix 4 crc32c] [4, 4]
    exFill exData exRelayout2 exChunks2 exNested_ok exData_ok exRelayout2_legal exChunks2_decode
example : exRelayout2.length = 268 ∧ Shard.wellFormed exCfg4 exRelayout2 = true := by decide +kernel

/-- … in particular ANY legal re-layout of the inner chunks the encoder itself produces (inner chunks in any order, with
gaps) decodes to the chunk.  (The order in which `ShardingCodec::encode_bounded` / `encode_unbounded` lay the inner
chunks out depends on the schedule of the parallel loop: `encoded_shard_offset.fetch_add`.) -/
theorem chainS_decode_relayout (a2a : List AStage) (cfg : Shard.Cfg) (ish : Shape) (es : Nat) (inner : ChainS)
    (b2b : List BStage) (sh : Shape) (fill : Elem) (xs : List Elem) (v : Bytes)
    (hok : chainSOk (.shard a2a cfg ish es inner b2b) sh fill) (hx : chunkOk es sh xs)
    (hfits : ∀ p ∈ splitShard (encodeA2A a2a sh xs).2 ish (encodeA2A a2a sh xs).1, inner.fits ish fill p)
    (hlegal : Shard.Legal { cfg with nChunks := prod (zipDiv (encodeA2A a2a sh xs).2 ish) } v
      (shardChunks (inner.encode ish fill) fill (encodeA2A a2a sh xs).2 ish (encodeA2A a2a sh xs).1)) :
    (ChainS.shard a2a cfg ish es inner b2b).decode sh fill (b2b.foldl (fun b st => st.enc b) v) = some xs := by
  have hok' := hok.lawful
  rw [encodeA2A_eq] at hlegal hfits
  simp only at hlegal hfits
  obtain ⟨hyl, hye⟩ := aEnc_chunk es a2a sh xs hok'.a2a hx.1 hx.2
  apply chainS_shard_decode hok' xs v _ hx.1 hx.2 (Shard.legal_decodes _ v _ hlegal)
  apply shardChunks_decode es fill _ ish _ _ _ hok'.tiles hyl hye
  intro p hp hpl hpe
  exact chainS_dec_enc' inner ish fill p hok'.inner hpl (by rw [hok'.inner_es]; exact hpe) (hfits p hp)

example : chainSOk exNested [4, 4] exFill ∧ chunkOk 2 [4, 4] exData ∧
    (∀ p ∈ splitShard (encodeA2A [.transpose [1, 0]] [4, 4] exData).2 [2, 2] (encodeA2A [.transpose [1, 0]] [4, 4] exData).1,
      exInnerS.fits [2, 2] exFill p) ∧
    Shard.Legal { (⟨0, false, true, false⟩ : Shard.Cfg) with nChunks := prod (zipDiv (encodeA2A [.transpose [1, 0]] [4, 4] exData).2 [2, 2]) }
      exRelayout (shardChunks (exInnerS.encode [2, 2] exFill) exFill (encodeA2A [.transpose [1, 0]] [4, 4] exData).2 [2, 2]
        (encodeA2A [.transpose [1, 0]] [4, 4] exData).1) ∧
    exRelayout ≠ Shard.encode exCfg4 exChunks :=
  ⟨exNested_ok, exData_ok, exNested_fits.1, exRelayout_legal, by decide +kernel⟩
example : exNested.decode [4, 4] exFill (checksumEnc crc32c exRelayout) = some exData :=
  chainS_decode_relayout [.transpose [1, 0]] ⟨0, false, true, false⟩ [2, 2] 2 exInnerS [.stripSuffix 4 crc32c] [4, 4]
    exFill exData exRelayout exNested_ok exData_ok exNested_fits.1 exRelayout_legal
example : exNested.encode [4, 4] exFill exData = checksumEnc crc32c (Shard.encode exCfg4 exChunks) := rfl

/-- **C02 against the real full decoder.**  On ANY handle serving the chain's encoding of a chunk, the partial decoder
answers every in-bounds list of regions with the regions (`extract`) of what the FULL decoder returns on the stored
bytes (and the full decoder does return a value). -/
theorem chainS_partial_eq_decode_slice (c : ChainS) (sh : Shape) (fill : Elem) (xs : List Elem)
    (hok : chainSOk c sh fill) (hx : chunkOk c.es sh xs) (hfits : c.fits sh fill xs)
    (g : BHandle) (hg : BHandleOk g (c.encode sh fill xs))
    (rs : List Subset) (hrs : ∀ r ∈ rs, r.wf = true ∧ r.inboundsShape sh = true) :
    (c.decode sh fill (c.encode sh fill xs)).isSome = true ∧
    c.partialDecoder sh fill g rs =
      (c.decode sh fill (c.encode sh fill xs)).map (fun ys => rs.map (fun r => r.extract sh ys)) := by
  rw [chainS_dec_enc c sh fill xs hok hx hfits]
  exact ⟨rfl, chainS_partial_eq_full_slice c sh fill xs hok hx hfits g hg rs hrs⟩

example : chainSOk exNested [4, 4] exFill ∧ chunkOk exNested.es [4, 4] exData ∧ exNested.fits [4, 4] exFill exData ∧
    BHandleOk (storeHandle (some (exNested.encode [4, 4] exFill exData))) (exNested.encode [4, 4] exFill exData) ∧
    ∀ r ∈ [Subset.mk [1, 1] [2, 2], ⟨[0, 1], [4, 2]⟩, ⟨[0, 2], [1, 0]⟩], r.wf = true ∧ r.inboundsShape [4, 4] = true :=
  ⟨exNested_ok, exData_ok, exNested_fits, storeHandle_some_ok _, by decide⟩
example : exNested.partialDecoder [4, 4] exFill (storeHandle (some (exNested.encode [4, 4] exFill exData)))
      [⟨[1, 1], [2, 2]⟩, ⟨[0, 1], [4, 2]⟩, ⟨[0, 2], [1, 0]⟩] =
    some [[[5, 105], [7, 7], [9, 109], [10, 110]],
          [[1, 101], [7, 7], [5, 105], [7, 7], [9, 109], [10, 110], [13, 113], [14, 114]], []] :=
  (chainS_partial_eq_full_slice exNested [4, 4] exFill exData exNested_ok exData_ok exNested_fits _
    (storeHandle_some_ok _) _ (by decide)).trans (by decide +kernel)
example : (exNested.decode [4, 4] exFill (exNested.encode [4, 4] exFill exData)).map (fun ys =>
      [Subset.mk [1, 1] [2, 2], ⟨[0, 1], [4, 2]⟩, ⟨[0, 2], [1, 0]⟩].map (fun r => r.extract [4, 4] ys)) =
    some [[[5, 105], [7, 7], [9, 109], [10, 110]],
          [[1, 101], [7, 7], [5, 105], [7, 7], [9, 109], [10, 110], [13, 113], [14, 114]], []] := by
  rw [exDec_val]
  decide +kernel

/-- … the whole chunk asked of the partial decoder is exactly what `decode` returns -/
theorem chainS_decode_eq_partial_whole (c : ChainS) (sh : Shape) (fill : Elem) (xs : List Elem)
    (hok : chainSOk c sh fill) (hx : chunkOk c.es sh xs) (hfits : c.fits sh fill xs)
    (g : BHandle) (hg : BHandleOk g (c.encode sh fill xs)) :
    c.partialDecoder sh fill g [Subset.ofShape sh] = (c.decode sh fill (c.encode sh fill xs)).map (fun ys => [ys]) := by
  rw [(chainS_partial_eq_full_slice c sh fill xs hok hx hfits g hg).whole hx.1,
    chainS_dec_enc c sh fill xs hok hx hfits]
  rfl

example : exNested.partialDecoder [4, 4] exFill (storeHandle (some (exNested.encode [4, 4] exFill exData)))
    [Subset.ofShape [4, 4]] = some [exData] :=
  (chainS_decode_eq_partial_whole exNested [4, 4] exFill exData exNested_ok exData_ok exNested_fits _
    (storeHandle_some_ok _)).trans (by rw [exDec_val]; rfl)

/-- **declared size.**  `c.bound sh` is what `CodecChain::encoded_representation` declares as an upper bound
(`FixedSize n` / `BoundedSize n`; for a sharding codec `num_chunks * inner bound + index size`, then `+ 4` per checksum
codec; `none` = `UnboundedSize` or a compressor whose bound the model does not know): every encoding is within it, and
has exactly the declared size when the chain declares a FIXED size. -/
theorem chainS_size (c : ChainS) (sh : Shape) (fill : Elem) (xs : List Elem)
    (hok : chainSOk c sh fill) (hx : chunkOk c.es sh xs) :
    (∀ n, c.bound sh = some n → (c.encode sh fill xs).length ≤ n) ∧
    (∀ n, c.fixedSize sh = some n → (c.encode sh fill xs).length = n) :=
  ⟨fun n hn => chainS_size' c sh fill xs n hok.lawful hx.1 hx.2 hn,
   fun n hn => chainS_encode_fixed_length c sh fill xs n hok hx hn⟩

/-- the nested example: the innermost chain declares 2·2+4 = 8 bytes (fixed), the 2×2 shards 2·8 + (2·16+4) = 52
(bounded), the outer chain 4·52 + 4·16 + 4 = 276; the encoding has 216 bytes (one missing shard, one missing innermost
chunk) -/
example : chainSOk exNested [4, 4] exFill ∧ chunkOk exNested.es [4, 4] exData ∧ exNested.bound [4, 4] = some 276 ∧
    exInnerS.bound [2, 2] = some 52 ∧ (ChainS.leaf exLeaf []).fixedSize [1, 2] = some 8 ∧
    (exNested.encode [4, 4] exFill exData).length = 216 :=
  ⟨exNested_ok, exData_ok, by decide +kernel, by decide +kernel, by decide +kernel, exEnc_length⟩
/-- the bound is attained when nothing is elided -/
example : (exNested.encode [4, 4] exFill ((List.range 16).map (fun i => [i, 100 + i]))).length = 276 := by
  decide +kernel

end Zarrs.C03Chain
