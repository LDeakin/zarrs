import ZarrsModel.Model.ChainSPE
import ZarrsModel.Lemmas.ChainSPETop
import ZarrsModel.Props.C03Chain
import ZarrsModel.Props.C05
/-
C05 / C04 for codec chains at ELEMENT level: `CodecChain::partial_encoder(…).partial_encode(region writes)` (model
`ChainS.partialEncode`, Model/ChainSPE.lean: the sharding partial encoder from region writes to inner-chunk updates,
its index and append logic `shardPlan`, the default decode-update-re-encode partial encoders of the array-to-array and
bytes-to-bytes codecs and of `bytes`, stacked as `CodecChain::partial_encoder` stacks them; any nesting depth) composed
with the full decoder `ChainS.decode` and the partial decoder `ChainS.partialDecoder`.  Partial encoding = rewriting the
whole chunk, as far as any reader can tell: the invariant is `ChainS.Holds` (absent and all fill, or a well-formed stored
value, `ChainS.Stores`), which the full encoder establishes, every call keeps, and from which every reader gets the chunk;
tightness of the old value cannot be dropped from it (`refines_needs_tight`).  Also here: the two halves of
`ShardingPartialEncoder::partial_encode` on their own, the seeded `&&`-for-`||` straddle test, and C04 at shard level
(`chainS_index_fill`).
-/
namespace Zarrs.C05Chain
open Zarrs Zarrs.Codec Zarrs.Partial Zarrs.C02 Zarrs.C02S Zarrs.Shard

/-- the hypotheses on the chain: well formed, a fill value of the element size, no cache among the top stages
(`CodecChain::partial_encoder` inserts none), the inner chain of a top-level sharding codec declares a size bound and
the shards nested in it are shorter than 2^64 - 1 bytes -/
def peChainOk (c : ChainS) (sh : Shape) (fill : Elem) : Prop :=
  chainSOk c sh fill ∧ fill.length = c.es ∧ c.topNoCache ∧ c.innerSmall


private def exLeaf : Chain := { a2a := [], big := false, es := 1, unit := 1, b2b := [.stripSuffix 4 crc32c] }
private def exC : ChainS := .shard [] ⟨0, true, false, true⟩ [2, 2] 1 (.leaf exLeaf []) []
private def exT : ChainS :=
  .shard [.transpose [1, 0]] ⟨0, false, true, false⟩ [2, 2] 1 (.leaf exLeaf []) [.stripSuffix 4 crc32c]
private def exFill : Elem := [0]
/-- covers inner chunk (0,0), the other three straddle it -/
private def w33 : RWrite := (⟨[0, 0], [3, 3]⟩, (List.range 9).map (fun i => [i + 1]))
private def wFill : RWrite := (⟨[0, 0], [2, 2]⟩, List.replicate 4 [0])
/-- one element of each inner chunk: all four straddle it -/
private def wMid : RWrite := (⟨[1, 1], [2, 2]⟩, List.replicate 4 [77])

private theorem exC_ok : peChainOk exC [4, 4] exFill := by
  refine ⟨⟨trivial, by decide, ?_, by decide, rfl, ⟨by decide, by decide, by decide, trivial, ?_, ⟨trivial, trivial⟩⟩⟩,
    rfl, ⟨fun st h => (by cases h), fun st h => (by cases h)⟩, ⟨trivial, by decide⟩⟩
  · intro st hst; cases hst
  · intro st hst
    simp only [exLeaf, List.mem_singleton] at hst
    subst hst; rfl

private theorem exT_ok : peChainOk exT [4, 4] exFill := by
  refine ⟨⟨⟨by decide, trivial⟩, by decide, ?_, by decide, rfl,
      ⟨by decide, by decide, by decide, trivial, ?_, ⟨trivial, trivial⟩⟩⟩,
    rfl, ⟨?_, ?_⟩, ⟨trivial, by decide⟩⟩
  all_goals
    intro st hst
    simp only [exLeaf, List.mem_singleton] at hst
    subst hst; rfl

private theorem ex_writes_ok : ∀ w ∈ [w33, wFill, wMid], writeOk 1 [4, 4] w := by
  intro w hw
  simp only [List.mem_cons, List.not_mem_nil, or_false] at hw
  rcases hw with rfl | rfl | rfl <;> exact ⟨by decide, by decide, by decide, by decide⟩

/-- the stored value `store_chunk` leaves (all fill → erased) -/
def rewriteValue (c : ChainS) (sh : Shape) (fill : Elem) (xs : List Elem) : Option Bytes :=
  if xs.all (· == fill) then none else some (c.encode sh fill xs)

/-- what any reader gets from a stored value; `none` = error -/
def readValue (c : ChainS) (sh : Shape) (fill : Elem) (v : Option Bytes) : Option (List Elem) :=
  match v with
  | none => some (List.replicate (prod sh) fill)
  | some b => c.decode sh fill b

theorem rewriteValue_eq_none_iff (c : ChainS) (sh : Shape) (fill : Elem) (xs : List Elem) :
    rewriteValue c sh fill xs = none ↔ xs.all (· == fill) = true := by
  unfold rewriteValue
  split <;> simp [*]

theorem readValue_rewriteValue (c : ChainS) (sh : Shape) (fill : Elem) (hok : chainSOk c sh fill) (xs : List Elem)
    (hx : chunkOk c.es sh xs) (hfits : c.fits sh fill xs) :
    readValue c sh fill (rewriteValue c sh fill xs) = some xs := by
  unfold rewriteValue
  split
  · rename_i hall
    simp only [readValue]
    rw [(all_beq_iff_replicate fill _ _ hx.1).mp hall]
  · exact C03Chain.chainS_dec_enc c sh fill xs hok hx hfits

theorem readValue_of_holds (c : ChainS) (sh : Shape) (fill : Elem) (hok : c.okWith aOk BLawful sh fill)
    (v : Option Bytes) (xs : List Elem) (hx : chunkOk c.es sh xs) (hH : c.Holds sh fill v xs) :
    readValue c sh fill v = some xs := by
  cases v with
  | none => rw [hH.of_none]; rfl
  | some b => exact stores_decode c sh fill b _ hok hx.1 hx.2 hH.of_some

/-- **partial encoding refines the full rewrite.**  `v` is absent with `old` all fill, or a well-formed stored value of
`old` (`Holds`: what `ChainS.encode` writes — `holds_encode` — and what every earlier `partial_encode` call left); the
stored shard can grow by `stepCost` without reaching 2^64 - 1 bytes.  Then the call succeeds, the new value is erased
iff the updated chunk `new` is all fill, it is again a well-formed stored value of `new`, the full decoder returns `new`
and the partial decoder on any handle serving the new value (absent: any absent handle) serves `new`. -/
theorem chainS_partial_encode_refines (c : ChainS) (sh : Shape) (fill : Elem) (hc : peChainOk c sh fill)
    (v : Option Bytes) (old : List Elem) (hold : chunkOk c.es sh old) (hH : c.Holds sh fill v old)
    (hlen : c.shardLen v + c.stepCost sh < sentinel)
    (ws : List RWrite) (hws : ∀ w ∈ ws, writeOk c.es sh w) :
    ∃ v', c.partialEncode sh fill v ws = some v' ∧
      (v' = none ↔ (applyRegionWrites sh old ws).all (· == fill) = true) ∧
      c.Holds sh fill v' (applyRegionWrites sh old ws) ∧
      readValue c sh fill v' = some (applyRegionWrites sh old ws) ∧
      (∀ g : BHandle, (match v' with
          | none => BHandleAbsent g
          | some b => BHandleOk g b) → AHandleOk (c.partialDecoder sh fill g) sh (applyRegionWrites sh old ws)) ∧
      c.shardLen v' ≤ c.shardLen v + c.stepCost sh := by
  obtain ⟨hok, hfl, hnc, hsm⟩ := hc
  have hok2 := hok.lawful
  obtain ⟨v', h1, h2, h3, h4⟩ := chainS_pe_step c sh fill hok2 hfl hnc hsm v old hold.1 hold.2 hH hlen ws hws
  obtain ⟨hnewl, hnewe⟩ := applyRegionWrites_ok sh c.es ws old hold.1 hold.2 hws
  exact ⟨v', h1, h3, h2, readValue_of_holds c sh fill hok2 v' _ ⟨hnewl, hnewe⟩ h2,
    fun g hg => holds_pd c sh fill hok2 v' _ hnewl hnewe g hg h2, h4⟩


/-! The stored values of the running examples, each evaluated once; the examples below rewrite along these steps.
`exC` from an absent key: `w33` leaves `exV1`, then `wMid` (it touches all four inner chunks, so the shard is rebuilt from
offset 0) leaves `exV2`, then `wFill` leaves `exV3` (the data stays, entry 0 of the index becomes the sentinel). -/

private def exOld : List Elem := applyRegionWrites [4, 4] (List.replicate 16 exFill) [w33]
private def exOld2 : List Elem := applyRegionWrites [4, 4] exOld [wMid]
private def exIdx : Bytes :=
  [0, 0, 0, 0, 0, 0, 0, 0, 8, 0, 0, 0, 0, 0, 0, 0, 8, 0, 0, 0, 0, 0, 0, 0, 8, 0, 0, 0, 0, 0, 0, 0,
   16, 0, 0, 0, 0, 0, 0, 0, 8, 0, 0, 0, 0, 0, 0, 0, 24, 0, 0, 0, 0, 0, 0, 0, 8, 0, 0, 0, 0, 0, 0, 0, 153, 133, 140, 60]
private def exV1 : Bytes :=
  [1, 2, 4, 5, 178, 198, 54, 161, 3, 0, 6, 0, 204, 147, 138, 67, 7, 8, 0, 0, 200, 205, 54, 105, 9, 0, 0, 0, 153, 130, 102,
   99] ++ exIdx
private def exV2 : Bytes :=
  [1, 2, 4, 77, 193, 131, 148, 106, 3, 0, 77, 0, 233, 62, 110, 21, 7, 77, 0, 0, 117, 123, 204, 149, 77, 0, 0, 0, 141, 236,
   226, 179] ++ exIdx
private def exV3 : Bytes :=
  exV2.take 32 ++ List.replicate 16 255 ++ (exIdx.drop 16).take 48 ++ [159, 31, 137, 254]
/-- `exT` after `[w33]`, `[wFill]`, `[wMid]` -/
private def exTV : Bytes :=
  [0, 0, 0, 0, 0, 0, 0, 64, 0, 0, 0, 0, 0, 0, 0, 8, 0, 0, 0, 0, 0, 0, 0, 72, 0, 0, 0, 0, 0, 0, 0, 8, 0, 0, 0, 0, 0, 0, 0,
   80, 0, 0, 0, 0, 0, 0, 0, 8, 0, 0, 0, 0, 0, 0, 0, 88, 0, 0, 0, 0, 0, 0, 0, 8, 0, 0, 0, 77, 168, 26, 52, 182, 7, 0, 77,
   0, 26, 15, 76, 110, 3, 77, 0, 0, 134, 74, 238, 238, 77, 0, 0, 0, 141, 236, 226, 179, 69, 133, 72, 246]

private theorem exOld_eq :
    exOld = [[1], [2], [3], [0], [4], [5], [6], [0], [7], [8], [9], [0], [0], [0], [0], [0]] := by decide +kernel
private theorem exOld2_eq :
    exOld2 = [[1], [2], [3], [0], [4], [77], [77], [0], [7], [77], [77], [0], [0], [0], [0], [0]] := by decide +kernel

private theorem exC_pe1 : exC.partialEncode [4, 4] exFill none [w33] = some (some exV1) := by decide +kernel
private theorem exC_pe2 : exC.partialEncode [4, 4] exFill (some exV1) [wMid] = some (some exV2) := by decide +kernel
private theorem exC_dec1 : exC.decode [4, 4] exFill exV1 = some exOld := by decide +kernel
private theorem exC_dec2 : exC.decode [4, 4] exFill exV2 = some exOld2 := by decide +kernel
private theorem exC_dec3 : exC.decode [4, 4] exFill exV3 =
    some [[0], [0], [3], [0], [0], [0], [77], [0], [7], [77], [77], [0], [0], [0], [0], [0]] := by decide +kernel
private theorem exC_enc1 : exC.encode [4, 4] exFill exOld = exV1 := by decide +kernel

private theorem exC_rw2 : rewriteValue exC [4, 4] exFill (applyRegionWrites [4, 4] exOld [wMid]) = some exV2 := by
  decide +kernel

private theorem exC_run12 (h : List (List RWrite)) :
    exC.runPE [4, 4] exFill none ([w33] :: [wMid] :: h) = exC.runPE [4, 4] exFill (some exV2) h := by
  rw [ChainS.runPE, exC_pe1, Option.bind_some, ChainS.runPE, exC_pe2, Option.bind_some]
private theorem exC_run3 : exC.runPE [4, 4] exFill none [[w33], [wMid], [wFill]] = some (some exV3) := by
  rw [exC_run12]
  decide +kernel

private theorem exT_run : exT.runPE [4, 4] exFill none [[w33], [wFill], [wMid]] = some (some exTV) := by
  decide +kernel

example : peChainOk exC [4, 4] exFill ∧ chunkOk exC.es [4, 4] (List.replicate 16 exFill) ∧
    exC.Holds [4, 4] exFill none (List.replicate (prod [4, 4]) exFill) ∧
    exC.shardLen none + exC.stepCost [4, 4] < sentinel ∧ (∀ w ∈ [w33], writeOk exC.es [4, 4] w) :=
  ⟨exC_ok, ⟨by decide, by decide⟩, rfl, by decide, fun w hw => ex_writes_ok w (by simp at hw; simp [hw])⟩
example : peChainOk exT [4, 4] exFill ∧ exT.shardLen none + exT.stepCost [4, 4] < sentinel := ⟨exT_ok, by decide⟩
example : (exC.partialEncode [4, 4] exFill none [w33]).map (fun r => r.map (exC.decode [4, 4] exFill)) =
    some (some (some [[1], [2], [3], [0], [4], [5], [6], [0], [7], [8], [9], [0], [0], [0], [0], [0]])) := by
  rw [exC_pe1, ← exOld_eq, ← exC_dec1]
  rfl
example : applyRegionWrites [4, 4] (List.replicate 16 exFill) [w33] =
    [[1], [2], [3], [0], [4], [5], [6], [0], [7], [8], [9], [0], [0], [0], [0], [0]] := exOld_eq
example : (exT.runPE [4, 4] exFill none [[w33], [wFill], [wMid]]).map (fun r => r.map (exT.decode [4, 4] exFill)) =
    some (some (some (applyHistory [4, 4] (List.replicate 16 exFill) [[w33], [wFill], [wMid]]))) := by
  rw [exT_run]
  decide +kernel

/-- what the full encoder (`store_chunk`) writes satisfies the invariant of `chainS_partial_encode_refines` -/
theorem holds_encode (c : ChainS) (sh : Shape) (fill : Elem) (hok : chainSOk c sh fill) (xs : List Elem)
    (hx : chunkOk c.es sh xs) (hfits : c.fits sh fill xs) : c.Holds sh fill (some (c.encode sh fill xs)) xs :=
  stores_encode c sh fill xs hok.lawful hx.1 hx.2 hfits

theorem holds_absent (c : ChainS) (sh : Shape) (fill : Elem) : c.Holds sh fill none (List.replicate (prod sh) fill) := rfl

/-- **… in the form "reads the same as the full rewrite"**: the partially encoded value and the value `store_chunk`
would write for the updated chunk (`ChainS.encode`, or erase when all fill) are both present or both absent, and every
reader gets the same chunk from either (`hfits`: the hypothesis of `C03Chain.chainS_dec_enc` for the encoder's value) -/
theorem chainS_partial_encode_eq_rewrite (c : ChainS) (sh : Shape) (fill : Elem) (hc : peChainOk c sh fill)
    (v : Option Bytes) (old : List Elem) (hold : chunkOk c.es sh old) (hH : c.Holds sh fill v old)
    (hlen : c.shardLen v + c.stepCost sh < sentinel)
    (ws : List RWrite) (hws : ∀ w ∈ ws, writeOk c.es sh w)
    (hfits : c.fits sh fill (applyRegionWrites sh old ws)) :
    ∃ v', c.partialEncode sh fill v ws = some v' ∧
      (v' = none ↔ rewriteValue c sh fill (applyRegionWrites sh old ws) = none) ∧
      readValue c sh fill v' = readValue c sh fill (rewriteValue c sh fill (applyRegionWrites sh old ws)) := by
  obtain ⟨v', h1, h2, _, h4, _⟩ := chainS_partial_encode_refines c sh fill hc v old hold hH hlen ws hws
  obtain ⟨hnewl, hnewe⟩ := applyRegionWrites_ok sh c.es ws old hold.1 hold.2 hws
  exact ⟨v', h1, by rw [h2, rewriteValue_eq_none_iff],
    by rw [h4, readValue_rewriteValue c sh fill hc.1 _ ⟨hnewl, hnewe⟩ hfits]⟩


example : chainSOk exC [4, 4] exFill ∧ chunkOk exC.es [4, 4] exOld ∧ exC.fits [4, 4] exFill exOld := by
  refine ⟨exC_ok.1, ⟨by decide, by decide⟩, ?_⟩
  simp only [exC, ChainS.fits]
  decide +kernel
example : exC.shardLen (some (exC.encode [4, 4] exFill exOld)) + exC.stepCost [4, 4] < sentinel ∧
    exC.fits [4, 4] exFill (applyRegionWrites [4, 4] exOld [wMid]) := by
  refine ⟨by decide +kernel, ?_⟩
  simp only [exC, ChainS.fits]
  decide +kernel
example : (exC.partialEncode [4, 4] exFill (some (exC.encode [4, 4] exFill exOld)) [wMid]).map (readValue exC [4, 4] exFill) =
    some (readValue exC [4, 4] exFill (rewriteValue exC [4, 4] exFill (applyRegionWrites [4, 4] exOld [wMid]))) := by
  rw [exC_enc1, exC_pe2, exC_rw2]
  rfl
example : exC.partialEncode [4, 4] exFill (some (exC.encode [4, 4] exFill exOld))
      [(⟨[0, 0], [4, 4]⟩, List.replicate 16 exFill)] = some none ∧
    rewriteValue exC [4, 4] exFill (applyRegionWrites [4, 4] exOld [(⟨[0, 0], [4, 4]⟩, List.replicate 16 exFill)]) = none := by
  rw [exC_enc1]
  exact ⟨by decide +kernel, by decide +kernel⟩



/-- **from region writes to inner-chunk updates** (`shardPEElems`): from an index, stored inner chunks that decode to
the pieces of `old`, and a handle serving them (`PEOld`), the call succeeds with the updates of a map `st` that holds,
for every inner chunk it contains, exactly that inner chunk of the updated shard (all fill: dropped, else re-encoded),
and that leaves out only inner chunks the writes do not change -/
theorem shardPEElems_updates {inner shard : Shape} (ht : tiles inner shard = true) (es : Nat) (fill : Elem)
    (hfill : fill.length = es) (entries : List (Nat × Nat)) (chunks : List (Option Bytes))
    (innerDec : Bytes → Option (List Elem)) (innerEnc : List Elem → Bytes) (h : BHandle)
    (old : List Elem) (hold : old.length = prod shard)
    (O : PEOld entries chunks h (prod (zipDiv shard inner)))
    (hcd : ChunksDecode es fill inner innerDec chunks (splitShard shard inner old))
    (ws : List RWrite) (hws : ∀ w ∈ ws, writeOk es shard w) :
    ∃ st, shardPEElems es fill shard inner (zipDiv shard inner) entries innerDec innerEnc h ws =
        some (peEncode fill innerEnc st) ∧
      st.length = prod (zipDiv shard inner) ∧
      ∀ c, inB c (zipDiv shard inner) = true →
        match st.getD (ravel c (zipDiv shard inner)) none with
        | some x => x = (cellBox inner c).extract shard (applyRegionWrites shard old ws)
        | none => (cellBox inner c).extract shard (applyRegionWrites shard old ws) =
            (cellBox inner c).extract shard old := by
  obtain ⟨st, h1, h2, h3⟩ := shardPEElems_spec ht es fill hfill entries chunks innerDec innerEnc h old hold O hcd ws hws
  refine ⟨st, h1, h2, fun c hc => ?_⟩
  have := h3 _ (ravel_lt _ _ hc)
  rw [splitShard_getElem? _ _ _ c hc] at this
  split <;> rename_i heq <;> rw [heq] at this
  · exact (Option.some.inj this).symm
  · rw [splitShard_getElem? _ _ _ c hc] at this
    exact Option.some.inj this

example : tiles [2, 2] [4, 4] = true ∧
    PEOld (List.replicate 4 (sentinel, sentinel)) (List.replicate 4 none) (storeHandle none) (prod (zipDiv [4, 4] [2, 2])) ∧
    ChunksDecode 1 exFill [2, 2] ((ChainS.leaf exLeaf []).decode [2, 2] exFill) (List.replicate 4 none)
      (splitShard [4, 4] [2, 2] (List.replicate 16 exFill)) :=
  ⟨by decide, peOld_absent _ storeHandle_none_absent 4, by decide, fun i h1 h2 => by
    simp only [List.getElem_replicate]
    exact splitShard_fill (inner := [2, 2]) (shard := [4, 4]) (by decide) exFill i h2⟩
example : (shardPEElems 1 exFill [4, 4] [2, 2] [2, 2] (List.replicate 4 (sentinel, sentinel))
      ((ChainS.leaf exLeaf []).decode [2, 2] exFill) ((ChainS.leaf exLeaf []).encode [2, 2] exFill) (storeHandle none)
      [w33]).map (fun us => us.map (fun u => (u.1, u.2.map (fun b => b.take 4)))) =
    some [(0, some [1, 2, 4, 5]), (1, some [3, 0, 6, 0]), (2, some [7, 8, 0, 0]), (3, some [9, 0, 0, 0])] := by
  decide +kernel

/-- **the index and append half, run on the storage handle, IS `ShardPE.partialEncode`** (Model/ShardPE.lean, about which
`C05.shard_partial_encode` / `C05.shard_history` speak) -/
theorem shardPlan_on_storage (c : Shard.Cfg) (v : Option Bytes) (idx : List (Nat × Nat))
    (us : List (Nat × Option Bytes)) (hcur : ShardPE.currentIndex c v = some idx)
    (hle : ∀ b, v = some b → ShardPE.liveEnd idx ≤ b.length) :
    runPlan [] v (shardPlan c idx us) = ShardPE.partialEncode c v us :=
  runPlan_nil c v idx us hcur hle

example : ShardPE.currentIndex ⟨2, true, false, true⟩ (some C05.exEnd) = some [(0, 4), (4, 6)] ∧
    ∀ b, some C05.exEnd = some b → ShardPE.liveEnd [(0, 4), (4, 6)] ≤ b.length := by
  refine ⟨C05.exEnd_index, ?_⟩
  intro b hb
  cases hb
  decide
example : runPlan [] (some C05.exEnd) (shardPlan ⟨2, true, false, true⟩ [(0, 4), (4, 6)] [(1, none)]) =
    ShardPE.partialEncode ⟨2, true, false, true⟩ (some C05.exEnd) [(1, none)] := by decide +kernel

/-- … and run through lawful bytes-to-bytes codecs (their default partial encoders) it is the encoding of what
`ShardPE.partialEncode` makes of a well-formed tight shard of the same inner chunks, no longer than the old one (the old
shard, or — index at the start, where `resize` cuts the value behind the new data — the old shard cut behind its live
data) -/
theorem shardPlan_through_codecs (c : Shard.Cfg) (b2b : List BStage)
    (hb : ∀ st ∈ b2b, bStageOk st ∧ st.isCache = false) (v0 : Option Bytes)
    (chunks : List (Option Bytes)) (hst : ShardPE.St c v0 chunks) (hsm : (v0.getD []).length < sentinel)
    (idx : List (Nat × Nat)) (us : List (Nat × Option Bytes)) (hcur : ShardPE.currentIndex c v0 = some idx) :
    ∃ v0pre, ShardPE.St c v0pre chunks ∧ (v0pre.getD []).length ≤ (v0.getD []).length ∧
      runPlan b2b (v0.map (encB b2b)) (shardPlan c idx us) =
        (ShardPE.partialEncode c v0pre us).map (fun r => r.map (encB b2b)) :=
  have _ := hsm   -- not needed: nothing here decodes the index the plan writes
  runPlan_lawful c b2b (fun st hst => ⟨bStageOk_lawful st (hb st hst).1, (hb st hst).2⟩) v0 chunks hst idx us hcur

example : (∀ st ∈ [BStage.stripSuffix 4 crc32c], bStageOk st ∧ st.isCache = false) ∧
    ShardPE.St ⟨2, false, true, false⟩ (some C05.exStart) [some [1, 2, 3, 4], some [5, 6, 7, 8, 9, 10]] ∧
    ShardPE.currentIndex ⟨2, false, true, false⟩ (some C05.exStart) = some [(32, 4), (36, 6)] := by
  refine ⟨?_, ⟨by decide +kernel, by decide +kernel, by decide +kernel⟩, by decide +kernel⟩
  intro st hst
  simp only [List.mem_singleton] at hst
  subst hst
  exact ⟨rfl, rfl⟩
example : runPlan [.stripSuffix 4 crc32c] (some (checksumEnc crc32c C05.exStart))
      (shardPlan ⟨2, false, true, false⟩ [(32, 4), (36, 6)] [(1, none)]) =
    (ShardPE.partialEncode ⟨2, false, true, false⟩ (some C05.exStart) [(1, none)]).map (fun r =>
      r.map (encB [.stripSuffix 4 crc32c])) := by decide +kernel
/-- the cut of `shardPlan_through_codecs`: the last of three inner chunks is dropped, then the second rewritten shorter; on
the storage handle the value keeps its 57 bytes, through a crc32c `resize` cuts the shard to 55 (+ 4 of checksum) -/
example : let c3 : Shard.Cfg := ⟨3, false, true, false⟩
    let v3 := Shard.encode c3 [some [1, 2, 3, 4], some [5, 6], some [7, 8, 9]]
    let s1 := (runPlan [] (some v3) (shardPlan c3 [(48, 4), (52, 2), (54, 3)] [(2, none)])).join
    let idx1 := [(48, 4), (52, 2), (sentinel, sentinel)]
    s1.map List.length = some 57 ∧ ShardPE.currentIndex c3 s1 = some idx1 ∧
    (runPlan [] s1 (shardPlan c3 idx1 [(1, some [9])])).map (fun r => r.map List.length) = some (some 57) ∧
    (runPlan [.stripSuffix 4 crc32c] (s1.map (checksumEnc crc32c)) (shardPlan c3 idx1 [(1, some [9])])).map
      (fun r => r.map List.length) = some (some 59) ∧
    (runPlan [.stripSuffix 4 crc32c] (s1.map (checksumEnc crc32c)) (shardPlan c3 idx1 [(1, some [9])])).map
      (fun r => r.map (fun b => (decodeB2B [.stripSuffix 4 crc32c] b).map (Shard.decode c3 true))) =
      some (some (some (.ok [some [1, 2, 3, 4], some [9], none]))) := by decide +kernel

/-- every sharding level of a stored value: below the bytes-to-bytes codecs lies a value that `Shard.decode` accepts,
that passes `Shard.wellFormed` and is tight, that is a legal shard (`Shard.Legal`) of its stored chunks whenever these
are non-empty and it is shorter than 2^64 - 1 bytes; and every stored chunk is again such a value -/
def LevelsOk : ChainS → Shape → Bytes → Prop
  | .leaf _ _, _, _ => True
  | .shard a2a cfg ish _ inner b2b, sh, v =>
    ∃ v0 chunks, v = encB b2b v0 ∧
      Shard.decode { cfg with nChunks := prod (zipDiv (shapesOf a2a sh) ish) } true v0 = .ok chunks ∧
      Shard.wellFormed { cfg with nChunks := prod (zipDiv (shapesOf a2a sh) ish) } v0 = true ∧
      ShardPE.tight { cfg with nChunks := prod (zipDiv (shapesOf a2a sh) ish) } v0 = true ∧
      ((∀ ch, some ch ∈ chunks → 0 < ch.length) → v0.length < sentinel →
        Shard.Legal { cfg with nChunks := prod (zipDiv (shapesOf a2a sh) ish) } v0 chunks) ∧
      ∀ ch, some ch ∈ chunks → LevelsOk inner ish ch

/-- **every sharding level of a well-formed stored value is well formed** — in particular of the value a
`partial_encode` call leaves (`chainS_partial_encode_wellformed`) -/
theorem stores_levelsOk : ∀ (c : ChainS) (sh : Shape) (fill : Elem) (v : Bytes) (xs : List Elem),
    c.Stores sh fill v xs → LevelsOk c sh v := by
  intro c
  induction c with
  | leaf c keep => intro _ _ _ _ _; trivial
  | shard a2a cfg ish es inner b2b ih =>
    intro sh fill v xs hst
    obtain ⟨v0, chunks, hv, hSt, hh⟩ := (stores_shard_iff ..).mp hst
    obtain ⟨hdec, hwf, htt⟩ := hSt.of_some
    refine ⟨v0, chunks, hv, hdec, hwf, htt, fun hpos _ => Shard.legal_of_wf _ v0 chunks hdec hwf hpos, ?_⟩
    intro ch hmem
    obtain ⟨i, hi, hie⟩ := List.mem_iff_getElem.mp hmem
    exact ih ish fill ch _ (hh.of_some (hh.1 ▸ hi) hie).2

theorem chainS_partial_encode_wellformed (c : ChainS) (sh : Shape) (fill : Elem) (hc : peChainOk c sh fill)
    (v : Option Bytes) (old : List Elem) (hold : chunkOk c.es sh old) (hH : c.Holds sh fill v old)
    (hlen : c.shardLen v + c.stepCost sh < sentinel)
    (ws : List RWrite) (hws : ∀ w ∈ ws, writeOk c.es sh w) :
    ∃ v', c.partialEncode sh fill v ws = some v' ∧ ∀ b, v' = some b → LevelsOk c sh b := by
  obtain ⟨v', h1, _, h3, _⟩ := chainS_partial_encode_refines c sh fill hc v old hold hH hlen ws hws
  refine ⟨v', h1, ?_⟩
  intro b hb
  subst hb
  exact stores_levelsOk c sh fill b _ h3


/-- hypotheses as for `chainS_partial_encode_refines`; the executable part of the conclusion on `exT` -/
example : ((exT.runPE [4, 4] exFill none [[w33], [wFill], [wMid]]).bind (fun r => r.bind (decodeB2B [.stripSuffix 4 crc32c]))).map
    (Shard.wellFormed ⟨4, false, true, false⟩) = some true := by
  rw [exT_run]
  decide +kernel

/-- one subset write WITHOUT partial encoding (`store_chunk_subset_opt`: read the whole chunk, update it, store it
whole — erase it when all fill); `none` = the stored value cannot be read -/
def rewriteStep (c : ChainS) (sh : Shape) (fill : Elem) (v : Option Bytes) (ws : List RWrite) : Option (Option Bytes) :=
  (readValue c sh fill v).map (fun cur => rewriteValue c sh fill (applyRegionWrites sh cur ws))

def runRewrites (c : ChainS) (sh : Shape) (fill : Elem) : Option Bytes → List (List RWrite) → Option (Option Bytes)
  | v, [] => some v
  | v, ws :: rest => (rewriteStep c sh fill v ws).bind (fun v' => runRewrites c sh fill v' rest)

private theorem runRewrites_spec (c : ChainS) (sh : Shape) (fill : Elem) (hok : chainSOk c sh fill)
    (hsmall : c.small sh) :
    ∀ (hist : List (List RWrite)) (xs : List Elem), chunkOk c.es sh xs →
      (∀ ws ∈ hist, ∀ w ∈ ws, writeOk c.es sh w) →
      runRewrites c sh fill (rewriteValue c sh fill xs) hist =
        some (rewriteValue c sh fill (applyHistory sh xs hist)) := by
  intro hist
  induction hist with
  | nil => intro xs _ _; rfl
  | cons ws rest ih =>
    intro xs hx hws
    have hread := readValue_rewriteValue c sh fill hok xs hx
      (fits_of_small c sh fill xs hok.lawful hx.1 hx.2 hsmall)
    have hnew : chunkOk c.es sh (applyRegionWrites sh xs ws) :=
      applyRegionWrites_ok sh c.es ws xs hx.1 hx.2 (hws ws (by simp))
    simp only [runRewrites, rewriteStep, hread, Option.map_some, Option.bind_some]
    exact ih _ hnew (fun ws' h' => hws ws' (by simp [h']))

/-- **every history of partial-encode calls from an absent key** leaves a value that is present exactly when, and
reads exactly as, the value the same history of full rewrites leaves -/
theorem chainS_partial_history (c : ChainS) (sh : Shape) (fill : Elem) (hc : peChainOk c sh fill) (hsmall : c.small sh)
    (hist : List (List RWrite)) (hws : ∀ ws ∈ hist, ∀ w ∈ ws, writeOk c.es sh w)
    (hlen : hist.length * c.stepCost sh < sentinel) :
    ∃ v' r', c.runPE sh fill none hist = some v' ∧ runRewrites c sh fill none hist = some r' ∧
      r' = (if hist = [] then none else rewriteValue c sh fill (applyHistory sh (List.replicate (prod sh) fill) hist)) ∧
      (v' = none ↔ r' = none) ∧
      readValue c sh fill v' = some (applyHistory sh (List.replicate (prod sh) fill) hist) ∧
      readValue c sh fill r' = some (applyHistory sh (List.replicate (prod sh) fill) hist) ∧
      c.Holds sh fill v' (applyHistory sh (List.replicate (prod sh) fill) hist) := by
  obtain ⟨hok, hfl, hnc, _⟩ := hc
  have hok2 := hok.lawful
  have hx0 : chunkOk c.es sh (List.replicate (prod sh) fill) :=
    ⟨List.length_replicate .., fun x hx => by rw [List.eq_of_mem_replicate hx]; exact hfl⟩
  obtain ⟨v', h1, h2, h3⟩ := chainS_pe_history c sh fill hok2 hfl hnc hsmall.innerSmall hist none _ hx0.1 hx0.2
    (holds_absent c sh fill) (by rw [c.shardLen_none]; omega) hws
  have hfin : ∀ (h : List (List RWrite)) (xs : List Elem), chunkOk c.es sh xs →
      (∀ ws ∈ h, ∀ w ∈ ws, writeOk c.es sh w) → chunkOk c.es sh (applyHistory sh xs h) := by
    intro h
    induction h with
    | nil => intro xs hx _; exact hx
    | cons ws rest ih =>
      intro xs hx hw
      exact ih _ (applyRegionWrites_ok sh c.es ws xs hx.1 hx.2 (hw ws (by simp))) (fun ws' h' => hw ws' (by simp [h']))
  have hfinal := hfin hist _ hx0 hws
  have hreadv := readValue_of_holds c sh fill hok2 v' _ hfinal h2
  have hrv := readValue_rewriteValue c sh fill hok _ hfinal
    (fits_of_small c sh fill _ hok2 hfinal.1 hfinal.2 hsmall)
  cases hist with
  | nil =>
    simp only [ChainS.runPE, Option.some.injEq] at h1
    subst h1
    exact ⟨none, none, rfl, rfl, by simp, by simp, hreadv, hreadv, h2⟩
  | cons ws rest =>
    have hr0 := (rewriteValue_eq_none_iff c sh fill _).mpr (replicate_all_beq fill (prod sh))
    have hrun := runRewrites_spec c sh fill hok hsmall (ws :: rest) _ hx0 hws
    rw [hr0] at hrun
    exact ⟨v', _, h1, hrun, by simp, by rw [h3 (by simp), rewriteValue_eq_none_iff], hreadv, hrv, h2⟩



private theorem exC_rew12 (h : List (List RWrite)) :
    runRewrites exC [4, 4] exFill none ([w33] :: [wMid] :: h) = runRewrites exC [4, 4] exFill (some exV2) h := by
  have h1 : rewriteStep exC [4, 4] exFill none [w33] = some (some exV1) := by
    show some (rewriteValue exC [4, 4] exFill exOld) = _
    rw [rewriteValue, if_neg (by decide +kernel), exC_enc1]
  have h2 : rewriteStep exC [4, 4] exFill (some exV1) [wMid] = some (some exV2) := by
    rw [rewriteStep, readValue, exC_dec1, Option.map_some, exC_rw2]
  rw [runRewrites, h1, Option.bind_some, runRewrites, h2, Option.bind_some]

example : peChainOk exC [4, 4] exFill ∧ exC.small [4, 4] ∧
    (∀ ws ∈ [[w33], [wMid], [wFill]], ∀ w ∈ ws, writeOk exC.es [4, 4] w) ∧
    [[w33], [wMid], [wFill]].length * exC.stepCost [4, 4] < sentinel := by
  refine ⟨exC_ok, ⟨trivial, 8, by decide, by decide⟩, ?_, by decide⟩
  intro ws hws w hw
  apply ex_writes_ok
  simp only [List.mem_cons, List.not_mem_nil, or_false] at hws
  rcases hws with rfl | rfl | rfl <;> simp at hw <;> simp [hw]
example : (exC.runPE [4, 4] exFill none [[w33], [wMid], [wFill]]).map (readValue exC [4, 4] exFill) =
    (runRewrites exC [4, 4] exFill none [[w33], [wMid], [wFill]]).map (readValue exC [4, 4] exFill) := by
  rw [exC_run3, exC_rew12]
  show some (exC.decode [4, 4] exFill exV3) = _
  rw [exC_dec3]
  decide +kernel
example : exC.runPE [4, 4] exFill none [[w33], [wMid], [(⟨[0, 0], [4, 4]⟩, List.replicate 16 exFill)]] = some none ∧
    runRewrites exC [4, 4] exFill none [[w33], [wMid], [(⟨[0, 0], [4, 4]⟩, List.replicate 16 exFill)]] = some none := by
  rw [exC_run12, exC_rew12]
  exact ⟨by decide +kernel, by decide +kernel⟩

/-- **the invariant cannot be weakened to "the old value decodes to `old`"**: the encoder's value with 20 stray bytes
between the data and the index (at the end) still decodes to the same chunk and passes `Shard.wellFormed`, but it is not
tight, and a one-element partial write turns it into a value that no longer decodes (the last bytes are not the index),
while from the tight value the same write is fine -/
theorem refines_needs_tight :
    ∃ (v vbad : Bytes) (old : List Elem) (w : RWrite),
      exC.partialEncode [4, 4] exFill none [w33] = some (some v) ∧
      vbad = v.take 32 ++ List.replicate 20 9 ++ v.drop 32 ∧
      exC.decode [4, 4] exFill v = some old ∧ exC.decode [4, 4] exFill vbad = some old ∧
      Shard.wellFormed ⟨4, true, false, true⟩ vbad = true ∧ ShardPE.tight ⟨4, true, false, true⟩ vbad = false ∧
      (exC.partialEncode [4, 4] exFill (some vbad) [w]).map (fun r => r.map (exC.decode [4, 4] exFill)) =
        some (some none) ∧
      (exC.partialEncode [4, 4] exFill (some v) [w]).map (fun r => r.map (exC.decode [4, 4] exFill)) =
        some (some (some (applyRegionWrites [4, 4] old [w]))) := by
  refine ⟨exV1, _, exOld, (⟨[0, 0], [1, 1]⟩, [[55]]), exC_pe1, rfl, exC_dec1, ?_, ?_, ?_, ?_, ?_⟩ <;> decide +kernel

/-- **the straddling inner chunks must be read** (non-vacuity of the read path): a 3×3 write from nothing, then a 2×2
write in the middle that all four inner chunks straddle: every element outside the second region survives, through
`ChainS.partialEncode` and the full decoder; then the write that makes inner chunk (0,0) all fill: its index entry
becomes the sentinel (the first 16 bytes of the index at the end), the other three stay; the final value passes
`Shard.wellFormed` -/
theorem straddle_reads_needed :
    (exC.runPE [4, 4] exFill none [[w33], [wMid]]).map (fun r => r.map (exC.decode [4, 4] exFill)) =
      some (some (some [[1], [2], [3], [0], [4], [77], [77], [0], [7], [77], [77], [0], [0], [0], [0], [0]])) ∧
    (exC.runPE [4, 4] exFill none [[w33], [wMid], [wFill]]).map (fun r => r.map (exC.decode [4, 4] exFill)) =
      some (some (some [[0], [0], [3], [0], [0], [0], [77], [0], [7], [77], [77], [0], [0], [0], [0], [0]])) ∧
    (exC.runPE [4, 4] exFill none [[w33], [wMid], [wFill]]).map (fun r => r.map (fun b =>
        (ShardPE.currentIndex ⟨4, true, false, true⟩ (some b)).map (fun idx => idx.map Shard.isLive))) =
      some (some (some [false, true, true, true])) ∧
    (exC.runPE [4, 4] exFill none [[w33], [wMid], [wFill]]).map (fun r => r.map
        (Shard.wellFormed ⟨4, true, false, true⟩)) = some (some true) := by
  rw [exC_run12, exC_run3]
  refine ⟨?_, ?_, by decide +kernel, by decide +kernel⟩
  · rw [← exOld2_eq, ← exC_dec2]
    rfl
  · rw [← exC_dec3]
    rfl

/-- **`&&` in place of `||` in the straddle test loses data** (the seeded defect): with `straddlesAnd` the inner chunks
that start before the region OR end after it, but not both, are not read; the same two writes lose the elements 1, 2
and 4 of inner chunk (0,0) (inner chunk (1,1) is not read either, but the second write covers its only non-fill
element), while `||` keeps them -/
theorem straddle_and_loses_data :
    ((exC.partialEncode [4, 4] exFill none [w33]).bind (fun v1 =>
        exC.partialEncodeWith straddlesAnd [4, 4] exFill v1 [wMid])).map (fun r => r.map (exC.decode [4, 4] exFill)) =
      some (some (some [[0], [0], [3], [0], [0], [77], [77], [0], [7], [77], [77], [0], [0], [0], [0], [0]])) ∧
    ((exC.partialEncode [4, 4] exFill none [w33]).bind (fun v1 =>
        exC.partialEncodeWith straddles [4, 4] exFill v1 [wMid])).map (fun r => r.map (exC.decode [4, 4] exFill)) =
      some (some (some (applyHistory [4, 4] (List.replicate 16 exFill) [[w33], [wMid]]))) ∧
    applyHistory [4, 4] (List.replicate 16 exFill) [[w33], [wMid]] =
      [[1], [2], [3], [0], [4], [77], [77], [0], [7], [77], [77], [0], [0], [0], [0], [0]] := by
  rw [exC_pe1]
  refine ⟨by decide +kernel, ?_, exOld2_eq⟩
  rw [Option.bind_some, ChainS.partialEncodeWith_straddles, exC_pe2]
  exact congrArg (fun x => some (some x)) exC_dec2

/-- for the middle 2×2 region all four inner chunks straddle, and `&&` recognises only (0,1) and (1,0): (0,0) starts before
the region but does not end after it, (1,1) ends after it but does not start before it -/
example : ((Subset.mk [0, 0] [3, 3]).chunks [2, 2]).map (fun p => (straddles p.2 ⟨[0, 0], [3, 3]⟩,
      straddlesAnd p.2 ⟨[0, 0], [3, 3]⟩)) = [(false, false), (true, false), (true, false), (true, false)] ∧
    ((Subset.mk [1, 1] [2, 2]).chunks [2, 2]).map (fun p => (straddles p.2 ⟨[1, 1], [2, 2]⟩,
      straddlesAnd p.2 ⟨[1, 1], [2, 2]⟩)) = [(true, false), (true, true), (true, true), (true, false)] := by decide +kernel

/-! ### C04 at shard level: the index and the fill value -/

/-- **index entry `i` is the sentinel exactly when inner chunk `i` of the decoded shard is all fill**, for every
well-formed stored value of a chain whose array-to-bytes codec is `sharding_indexed` (the inner chunks are those the
sharding codec sees, i.e. after the array-to-array codecs) -/
theorem chainS_index_fill (a2a : List AStage) (cfg : Shard.Cfg) (ish : Shape) (es : Nat) (inner : ChainS)
    (b2b : List BStage) (sh : Shape) (fill : Elem) (hok : chainSOk (.shard a2a cfg ish es inner b2b) sh fill)
    (v : Bytes) (xs : List Elem) (hx : chunkOk es sh xs)
    (hst : (ChainS.shard a2a cfg ish es inner b2b).Stores sh fill v xs) :
    (ChainS.shard a2a cfg ish es inner b2b).decode sh fill v = some xs ∧
    ∃ v0 entries, v = encB b2b v0 ∧
      ShardPE.currentIndex { cfg with nChunks := prod (zipDiv (shapesOf a2a sh) ish) } (some v0) = some entries ∧
      entries.length = (splitShard (shapesOf a2a sh) ish (aEnc a2a sh xs)).length ∧
      ∀ i (h1 : i < entries.length) (h2 : i < (splitShard (shapesOf a2a sh) ish (aEnc a2a sh xs)).length),
        (Shard.isLive entries[i] = false ↔
          (splitShard (shapesOf a2a sh) ish (aEnc a2a sh xs))[i].all (· == fill) = true) := by
  have hok2 := hok.lawful
  refine ⟨stores_decode _ sh fill v xs hok2 hx.1 hx.2 hst, ?_⟩
  obtain ⟨hyl, _⟩ := aEnc_chunk es a2a sh xs hok2.a2a hx.1 hx.2
  obtain ⟨v0, chunks, hv, hSt, hh⟩ := (stores_shard_iff ..).mp hst
  obtain ⟨ib, idx, hib, hdi, hdec⟩ := (Shard.decode_ok_iff _ true v0 chunks).mp hSt.of_some.1
  have hcur := ShardPE.currentIndex_of hib hdi
  obtain ⟨hlc, hpt⟩ := (mapM_ok_iff _ _ _).mp hdec
  refine ⟨v0, idx, hv, hcur, by rw [hlc, hh.1], ?_⟩
  intro i h1 h2
  have hic : i < chunks.length := by rw [← hlc]; exact h1
  obtain ⟨ch, hch', hde⟩ := hpt i idx[i] (List.getElem?_eq_getElem h1)
  rw [List.getElem?_eq_getElem hic] at hch'
  have hce : chunks[i] = ch := Option.some.inj hch'
  obtain ⟨hpl, _⟩ := splitShard_piece hok2.tiles _ hyl _ (List.getElem_mem h2)
  rw [all_beq_iff_replicate fill _ _ hpl]
  rcases (Shard.decEntry_ok_iff v0 _ _).mp hde with ⟨hl, hc⟩ | ⟨hl, _, hc⟩
  · exact ⟨fun _ => hh.of_none h2 (hce.trans hc), fun _ => hl⟩
  · rw [hl]
    exact ⟨fun h => (by cases h), fun h => absurd h (hh.of_some h2 (hce.trans hc)).1⟩

/-- … for what `ChainS.encode` writes -/
theorem chainS_index_fill_encode (a2a : List AStage) (cfg : Shard.Cfg) (ish : Shape) (es : Nat) (inner : ChainS)
    (b2b : List BStage) (sh : Shape) (fill : Elem) (hok : chainSOk (.shard a2a cfg ish es inner b2b) sh fill)
    (xs : List Elem) (hx : chunkOk es sh xs) (hfits : (ChainS.shard a2a cfg ish es inner b2b).fits sh fill xs) :
    ∃ v0 entries, (ChainS.shard a2a cfg ish es inner b2b).encode sh fill xs = encB b2b v0 ∧
      ShardPE.currentIndex { cfg with nChunks := prod (zipDiv (shapesOf a2a sh) ish) } (some v0) = some entries ∧
      entries.length = (splitShard (shapesOf a2a sh) ish (aEnc a2a sh xs)).length ∧
      ∀ i (h1 : i < entries.length) (h2 : i < (splitShard (shapesOf a2a sh) ish (aEnc a2a sh xs)).length),
        (Shard.isLive entries[i] = false ↔
          (splitShard (shapesOf a2a sh) ish (aEnc a2a sh xs))[i].all (· == fill) = true) :=
  (chainS_index_fill a2a cfg ish es inner b2b sh fill hok _ xs hx (holds_encode _ sh fill hok xs hx hfits)).2

/-- … and for what `ChainS.partialEncode` writes -/
theorem chainS_index_fill_partial (a2a : List AStage) (cfg : Shard.Cfg) (ish : Shape) (es : Nat) (inner : ChainS)
    (b2b : List BStage) (sh : Shape) (fill : Elem) (hc : peChainOk (.shard a2a cfg ish es inner b2b) sh fill)
    (v : Option Bytes) (old : List Elem) (hold : chunkOk es sh old)
    (hH : (ChainS.shard a2a cfg ish es inner b2b).Holds sh fill v old)
    (hlen : (ChainS.shard a2a cfg ish es inner b2b).shardLen v +
      (ChainS.shard a2a cfg ish es inner b2b).stepCost sh < sentinel)
    (ws : List RWrite) (hws : ∀ w ∈ ws, writeOk es sh w) (b : Bytes)
    (hb : (ChainS.shard a2a cfg ish es inner b2b).partialEncode sh fill v ws = some (some b)) :
    ∃ v0 entries, b = encB b2b v0 ∧
      ShardPE.currentIndex { cfg with nChunks := prod (zipDiv (shapesOf a2a sh) ish) } (some v0) = some entries ∧
      entries.length = (splitShard (shapesOf a2a sh) ish (aEnc a2a sh (applyRegionWrites sh old ws))).length ∧
      ∀ i (h1 : i < entries.length)
        (h2 : i < (splitShard (shapesOf a2a sh) ish (aEnc a2a sh (applyRegionWrites sh old ws))).length),
        (Shard.isLive entries[i] = false ↔
          (splitShard (shapesOf a2a sh) ish (aEnc a2a sh (applyRegionWrites sh old ws)))[i].all (· == fill) = true) := by
  obtain ⟨v', h1, _, h3, _⟩ := chainS_partial_encode_refines _ sh fill hc v old hold hH hlen ws hws
  rw [hb] at h1
  cases h1
  exact (chainS_index_fill a2a cfg ish es inner b2b sh fill hc.1 b _
    (applyRegionWrites_ok sh es ws old hold.1 hold.2 hws) h3).2

example : let xs := applyRegionWrites [4, 4] exOld [wFill]
    (ShardPE.currentIndex ⟨4, true, false, true⟩ (some (exC.encode [4, 4] exFill xs))).map (fun idx => idx.map Shard.isLive) =
      some [false, true, true, true] ∧
    (splitShard [4, 4] [2, 2] xs).map (fun p => p.all (· == exFill)) = [true, false, false, false] := by
  decide +kernel

end Zarrs.C05Chain
