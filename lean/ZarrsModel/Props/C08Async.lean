import ZarrsModel.Model.AsyncRmw
import ZarrsModel.Lemmas.AsyncRmw
/-
C08 (asynchronous stores) — the generic asynchronous read-modify-write partial write
`async_store_set_partial_values` (zarrs_storage/src/storage_async.rs; the `set_partial_values` of the object_store and
opendal asynchronous stores) behaves as the ordered key-value map: one call equals the sequential application of its
entries, for EVERY order in which the gets and sets of its concurrently running per-key futures take effect.

`Props/C08.lean: rmw_refines` is the same statement for the synchronous, sequential `store_set_partial_values`; there the
way entries are grouped is irrelevant.  Here it is essential: the theorems hold because the loop groups by key over the
whole call (`groupByKey`), so no two concurrent futures touch the same key.  `groupLast_loses_a_write`: the variant that
only looks at the most recent group (`groupLast`) loses a write under a schedule the executor can produce.
-/
namespace Zarrs.C08Async
open Zarrs Zarrs.AsyncRmw

/-- **the groups of a call**: one group per key that occurs in the call, holding exactly the entries of that key in
call order; no key has two groups -/
theorem groups_by_key (kovs : List (Key × Nat × Bytes)) :
    ((groupByKey kovs).map (·.1)).Nodup ∧
    ∀ k, glookup (groupByKey kovs) k = if entriesOf k kovs = [] then none else some (entriesOf k kovs) :=
  ⟨nodup_groupByKey kovs, glookup_groupByKey kovs⟩

def exStore : KV := [("a/b".toList, [1, 2]), ("e".toList, [9])]
def exCall : List (Key × Nat × Bytes) :=
  [("a/b".toList, 0, [7]), ("j".toList, 1, [5, 6]), ("a/b".toList, 4, [8]), ("a/b".toList, 2, [3, 4, 5])]
example : groupByKey exCall =
    [("a/b".toList, [(0, [7]), (4, [8]), (2, [3, 4, 5])]), ("j".toList, [(1, [5, 6])])] := by decide +kernel

/-- **any interleaving equals the sequential specification**: when every future of the call has completed, whatever
the order in which their reads and writes took effect, every key holds exactly what the ordered-map specification
`Spec.step m (.setPartial kovs)` (the entries applied one after the other: zero-extend, never truncate) leaves -/
theorem async_rmw_refines (m : KV) (kovs : List (Key × Nat × Bytes)) (evs : List Ev)
    (hdone : allDone (groupByKey kovs) (run (groupByKey kovs) m evs) = true) (k : Key) :
    (run (groupByKey kovs) m evs).m.get k = ((Spec.step m (.setPartial kovs)).1).get k := by
  rw [run_get (groupByKey kovs) (nodup_groupByKey kovs) m evs hdone k, spec_get_groups]
example : allDone (groupByKey exCall) (run (groupByKey exCall) exStore [.read 1, .read 0, .write 0, .write 1]) = true := by
  decide +kernel
example : (run (groupByKey exCall) exStore [.read 1, .read 0, .write 0, .write 1]).m =
    (Spec.step exStore (.setPartial exCall)).1 ∧
    (Spec.step exStore (.setPartial exCall)).1 =
      [("a/b".toList, [7, 2, 3, 4, 5]), ("e".toList, [9]), ("j".toList, [0, 5, 6])] := by decide +kernel

/-- the same key set -/
theorem async_rmw_keys (m : KV) (kovs : List (Key × Nat × Bytes)) (evs : List Ev)
    (hdone : allDone (groupByKey kovs) (run (groupByKey kovs) m evs) = true) (k : Key) :
    k ∈ (run (groupByKey kovs) m evs).m.keys ↔ k ∈ ((Spec.step m (.setPartial kovs)).1).keys := by
  rw [KV.mem_keys_iff_get, KV.mem_keys_iff_get, async_rmw_refines m kovs evs hdone k]
example : allDone (groupByKey exCall) (run (groupByKey exCall) exStore [.read 0, .write 0, .read 1, .write 1]) = true := by
  decide +kernel

/-- the store stays a sorted, duplicate-free map during the whole run (any prefix of any schedule, any grouping) -/
theorem async_rmw_sorted (tasks : List Group) (m : KV) (hs : m.sorted) (evs : List Ev) :
    (run tasks m evs).m.sorted :=
  run_sorted tasks m hs evs
example : exStore.sorted := by unfold KV.sorted; decide +kernel

/-- during the run every key holds either its original value or its final value (no intermediate state of a value is ever
visible) -/
theorem async_rmw_atomic_per_key (m : KV) (kovs : List (Key × Nat × Bytes)) (evs : List Ev) (k : Key) :
    (run (groupByKey kovs) m evs).m.get k = m.get k ∨
    (run (groupByKey kovs) m evs).m.get k = ((Spec.step m (.setPartial kovs)).1).get k := by
  have hI := inv_run (groupByKey kovs) (nodup_groupByKey kovs) m evs
  cases hg : glookup (groupByKey kovs) k with
  | none => exact .inl (hI.get_of_glookup_none hg)
  | some g =>
    obtain ⟨i, hi⟩ := glookup_some_idx _ k g hg
    by_cases hd : i ∈ (run (groupByKey kovs) m evs).done
    · right
      rw [hI.written i k g hi hd, spec_get_groups, hg]
    · left
      apply hI.untouched
      intro i' g' hi' hd'
      have : i' = i := idx_eq_of_key _ (nodup_groupByKey kovs) hi' hi
      subst this
      exact hd hd'
example : (run (groupByKey exCall) exStore [.read 1, .read 0, .write 0]).m =
    [("a/b".toList, [7, 2, 3, 4, 5]), ("e".toList, [9])] := by decide +kernel

example : groupLast exCall =
    [("a/b".toList, [(0, [7])]), ("j".toList, [(1, [5, 6])]), ("a/b".toList, [(4, [8]), (2, [3, 4, 5])])] := by decide +kernel

/-- **a lost write**: with `groupLast` two futures read `a/b` before either writes; the second write replaces the
first, and the write at offset 0 is lost — although every future completed.  (Run one after the other, in issue order,
the same groups give the specified result: the defect is invisible on a store whose futures complete immediately.) -/
theorem groupLast_loses_a_write :
    ∃ (m : KV) (kovs : List (Key × Nat × Bytes)) (evs : List Ev) (k : Key),
      allDone (groupLast kovs) (run (groupLast kovs) m evs) = true ∧
      (run (groupLast kovs) m evs).m.get k ≠ ((Spec.step m (.setPartial kovs)).1).get k ∧
      (run (groupLast kovs) m [.read 0, .write 0, .read 1, .write 1, .read 2, .write 2]).m =
        (Spec.step m (.setPartial kovs)).1 :=
  ⟨exStore, exCall, [.read 0, .read 1, .read 2, .write 0, .write 1, .write 2], "a/b".toList, by decide +kernel⟩
example : (run (groupLast exCall) exStore [.read 0, .read 1, .read 2, .write 0, .write 1, .write 2]).m.get "a/b".toList
    = some [1, 2, 3, 4, 5] ∧ ((Spec.step exStore (.setPartial exCall)).1).get "a/b".toList = some [7, 2, 3, 4, 5] := by
  decide +kernel

end Zarrs.C08Async
