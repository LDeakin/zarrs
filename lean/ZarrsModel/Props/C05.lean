import ZarrsModel.Model.ShardPE
import ZarrsModel.Lemmas.ShardPE
import ZarrsModel.Props.C08
/-
C05 — partial encoding is equivalent to rewriting the whole chunk.
This file: the inner-chunk level (Model/ShardPE.lean) — the index and append logic of
`ShardingPartialEncoder::partial_encode` on the stored bytes of one shard, and the default decode–update–re-encode
partial encoders, for the code as found on the pinned tree (`…Pinned`, with the witnesses of F-C05-K1 and F-C05-2) and
for the repaired code. Region writes and whole codec chains are in Props/C05Chain.lean.
-/
namespace Zarrs.C05
open Zarrs Zarrs.Codec Zarrs.Shard Zarrs.ShardPE

/-- the updated inner chunks of one `partial_encode` call are the entries of a map keyed by inner chunk index
(`inner_chunks_decoded`) -/
def updatesOk (c : Cfg) (updates : List (Nat × Option Bytes)) : Prop :=
  (∀ u ∈ updates, u.1 < c.nChunks) ∧ (updates.map (·.1)).Nodup

/-- **sharding partial encoder as found, from an absent value**: the result is erased (everything fill) or a shard that
decodes to exactly the written inner chunks and passes the layout check -/
theorem shard_partial_from_absent_pinned (c : Cfg) (updates : List (Nat × Option Bytes)) (hu : updatesOk c updates)
    (hsmall : ((updates.filterMap (·.2)).map List.length).sum + indexSize c < sentinel) :
    match partialEncodePinned c none updates with
    | some none => ∀ u ∈ updates, u.2 = none
    | some (some v') => decode c true v' = .ok (applyUpdates (List.replicate c.nChunks none) updates) ∧ wellFormed c v' = true
    | none => False :=
  (pinned_outcome (vo := none) rfl updates hu (by simpa [dataNew_length] using hsmall)).byCases (·.1)
    (fun _ h => ⟨h.1, h.2.1⟩)

example : let c : Cfg := ⟨2, true, false, true⟩
    let updates : List (Nat × Option Bytes) := [(0, some [1, 2, 3, 4]), (1, some [5, 6, 7, 8, 9, 10])]
    updatesOk c updates ∧ ((updates.filterMap (·.2)).map List.length).sum + indexSize c < sentinel := by
  unfold updatesOk; decide
example : let c : Cfg := ⟨3, false, true, false⟩
    let updates : List (Nat × Option Bytes) := [(2, some [1, 2, 3]), (0, none), (1, some [])]
    updatesOk c updates ∧ ((updates.filterMap (·.2)).map List.length).sum + indexSize c < sentinel := by
  unfold updatesOk; decide

/-- **sharding partial encoder as found, from an existing well-formed tight value** (partial statement: `hgrow` excludes
finding F-C05-K1 — an index at the end whose rewritten suffix would end before the old value's end — and somewhat more;
the exact condition is `Grow`, below): the new value decodes to the updated inner chunks and is again well formed and
tight -/
theorem shard_wellformed_partial_pinned (c : Cfg) (v : Bytes) (chunks : List (Option Bytes))
    (hdec : decode c true v = .ok chunks) (hwf : wellFormed c v = true) (ht : tight c v = true)
    (updates : List (Nat × Option Bytes)) (hu : updatesOk c updates)
    (hsmall : v.length + ((updates.filterMap (·.2)).map List.length).sum + indexSize c < sentinel)
    (hgrow : c.indexAtEnd = true →
      ∀ idx, currentIndex c (some v) = some idx →
        liveEnd (updates.foldl (fun ix u => setEntry ix u.1 (sentinel, sentinel)) idx) = liveEnd idx ∨
        (updates.foldl (fun ix u => setEntry ix u.1 (sentinel, sentinel)) idx).all (fun e => !isLive e) = true) :
    match partialEncodePinned c (some v) updates with
    | some none => ∀ ch ∈ applyUpdates chunks updates, ch = none
    | some (some v') => decode c true v' = .ok (applyUpdates chunks updates) ∧ wellFormed c v' = true ∧ tight c v' = true
    | none => False := by
  have hg : Grow c v updates := fun hc idx hidx => Or.inr (by
    have := hgrow hc idx hidx
    rwa [show updates.foldl (fun ix u => setEntry ix u.1 (sentinel, sentinel)) idx = idxDead idx updates from
      fold_step1 updates idx] at this)
  exact (pinned_outcome (vo := some v) ⟨hdec, hwf, ht⟩ updates hu (dataNew_length updates ▸ hsmall)).byCases (·.2)
    (fun _ h => ⟨h.1, h.2.1, h.2.2 hg⟩)

/-- the value written by the first step of `shard_index_end_stale_tail` -/
def exEnd : Bytes :=
  [1, 2, 3, 4, 5, 6, 7, 8, 9, 10, 0, 0, 0, 0, 0, 0, 0, 0, 4, 0, 0, 0, 0, 0, 0, 0, 4, 0, 0, 0, 0, 0, 0, 0, 6, 0, 0, 0, 0,
    0, 0, 0, 184, 5, 23, 29]
/-- the same two inner chunks with a big-endian index at the start (no checksum) -/
def exStart : Bytes :=
  [0, 0, 0, 0, 0, 0, 0, 32, 0, 0, 0, 0, 0, 0, 0, 4, 0, 0, 0, 0, 0, 0, 0, 36, 0, 0, 0, 0, 0, 0, 0, 6,
    1, 2, 3, 4, 5, 6, 7, 8, 9, 10]

theorem exEnd_ok : decode ⟨2, true, false, true⟩ true exEnd = .ok [some [1, 2, 3, 4], some [5, 6, 7, 8, 9, 10]] ∧
    wellFormed ⟨2, true, false, true⟩ exEnd = true ∧ tight ⟨2, true, false, true⟩ exEnd = true := by decide +kernel

theorem exEnd_index : currentIndex ⟨2, true, false, true⟩ (some exEnd) = some [(0, 4), (4, 6)] := by decide +kernel

/-- index at the end: rewriting the FIRST inner chunk satisfies `hgrow` -/
example : let c : Cfg := ⟨2, true, false, true⟩
    let updates : List (Nat × Option Bytes) := [(0, some [9, 9])]
    decode c true exEnd = .ok [some [1, 2, 3, 4], some [5, 6, 7, 8, 9, 10]] ∧ wellFormed c exEnd = true ∧
    tight c exEnd = true ∧ updatesOk c updates ∧
    exEnd.length + ((updates.filterMap (·.2)).map List.length).sum + indexSize c < sentinel ∧
    (c.indexAtEnd = true → ∀ idx, currentIndex c (some exEnd) = some idx →
      liveEnd (updates.foldl (fun ix u => setEntry ix u.1 (sentinel, sentinel)) idx) = liveEnd idx ∨
      (updates.foldl (fun ix u => setEntry ix u.1 (sentinel, sentinel)) idx).all (fun e => !isLive e) = true) := by
  refine ⟨exEnd_ok.1, exEnd_ok.2.1, exEnd_ok.2.2, by unfold updatesOk; decide, by decide, ?_⟩
  intro _ idx hidx
  rw [exEnd_index] at hidx
  cases hidx
  decide +kernel
/-- index at the start: `hgrow` is vacuous -/
example : let c : Cfg := ⟨2, false, true, false⟩
    let updates : List (Nat × Option Bytes) := [(1, none), (0, some [9, 9])]
    decode c true exStart = .ok [some [1, 2, 3, 4], some [5, 6, 7, 8, 9, 10]] ∧ wellFormed c exStart = true ∧
    tight c exStart = true ∧ updatesOk c updates ∧
    exStart.length + ((updates.filterMap (·.2)).map List.length).sum + indexSize c < sentinel ∧
    (c.indexAtEnd = true → ∀ idx, currentIndex c (some exStart) = some idx →
      liveEnd (updates.foldl (fun ix u => setEntry ix u.1 (sentinel, sentinel)) idx) = liveEnd idx ∨
      (updates.foldl (fun ix u => setEntry ix u.1 (sentinel, sentinel)) idx).all (fun e => !isLive e) = true) := by
  refine ⟨by decide +kernel, by decide +kernel, by decide +kernel, by unfold updatesOk; decide, by decide, ?_⟩
  intro h; cases h

/-- **the same, with the exact condition for tightness** (`Grow`: some update stores data, or dropping the touched
inner chunks does not lower the end of the live data, or nothing survives). The new value ALWAYS decodes to the updated
inner chunks and is well formed; only its tightness can be lost, and a value that is not tight is what the next partial
write corrupts (`shard_index_end_stale_tail`) -/
theorem shard_wellformed_partial_sharp_pinned (c : Cfg) (v : Bytes) (chunks : List (Option Bytes))
    (hdec : decode c true v = .ok chunks) (hwf : wellFormed c v = true) (ht : tight c v = true)
    (updates : List (Nat × Option Bytes)) (hu : updatesOk c updates)
    (hsmall : v.length + ((updates.filterMap (·.2)).map List.length).sum + indexSize c < sentinel) :
    match partialEncodePinned c (some v) updates with
    | some none => ∀ ch ∈ applyUpdates chunks updates, ch = none
    | some (some v') => decode c true v' = .ok (applyUpdates chunks updates) ∧ wellFormed c v' = true ∧
        (Grow c v updates → tight c v' = true)
    | none => False := by
  exact (pinned_outcome (vo := some v) ⟨hdec, hwf, ht⟩ updates hu (dataNew_length updates ▸ hsmall)).byCases (·.2)
    (fun _ h => h)
/-- `Grow` holds where `hgrow` does not: rewriting the LAST inner chunk of `exEnd` -/
example : Grow ⟨2, true, false, true⟩ exEnd [(1, some [7])] := fun _ _ _ => Or.inl (by decide)

/-- **the full statement is false for the code as found** (finding F-C05-K1; repaired: `partialEncode`, below): index at
the end, write two inner chunks, set the second to fill, write it again smaller — the stored value keeps its old length
and its last `indexSize` bytes are no longer the index -/
theorem shard_index_end_stale_tail :
    ∃ (c : Cfg) (v1 v2 v3 : Bytes),
      c.indexAtEnd = true ∧
      partialEncodePinned c none [(0, some [1, 2, 3, 4]), (1, some [5, 6, 7, 8, 9, 10])] = some (some v1) ∧
      partialEncodePinned c (some v1) [(1, none)] = some (some v2) ∧
      partialEncodePinned c (some v2) [(1, some [7])] = some (some v3) ∧
      decode c true v1 = .ok [some [1, 2, 3, 4], some [5, 6, 7, 8, 9, 10]] ∧
      decode c true v2 = .ok [some [1, 2, 3, 4], none] ∧
      decode c true v3 ≠ .ok [some [1, 2, 3, 4], some [7]] := by
  refine ⟨⟨2, true, false, true⟩, exEnd,
    [1, 2, 3, 4, 5, 6, 7, 8, 9, 10, 0, 0, 0, 0, 0, 0, 0, 0, 4, 0, 0, 0, 0, 0, 0, 0, 255, 255, 255, 255, 255, 255, 255, 255,
      255, 255, 255, 255, 255, 255, 255, 255, 138, 7, 41, 197],
    [1, 2, 3, 4, 7, 0, 0, 0, 0, 0, 0, 0, 0, 4, 0, 0, 0, 0, 0, 0, 0, 4, 0, 0, 0, 0, 0, 0, 0, 1, 0, 0, 0, 0, 0, 0, 0, 188, 0,
      78, 231, 255, 138, 7, 41, 197], ?_⟩
  decide +kernel

/-- **non-sharded values**: after the (repaired) default partial encoder the stored value is exactly the encoding
of the updated chunk -/
theorem unsharded_exact (enc : Bytes → Bytes) (dec : Bytes → Option Bytes) (hinv : ∀ b, dec (enc b) = some b)
    (old : Bytes) (update : Bytes → Bytes) (empty : Bytes) :
    defaultPartialEncode enc dec (some (enc old)) update empty = some (some (enc (update old))) ∧
    defaultPartialEncode enc dec none update empty = some (some (enc (update empty))) := by
  simp [defaultPartialEncode, hinv, writeAt, specSetPartial_nil]

example : ∀ b : Bytes, (fun e : Bytes => some (e.tail.take (e.headD 0))) ((fun b : Bytes => b.length :: b) b) = some b := by
  intro b; simp

/-- the code as found kept the tail of a longer previous encoding (finding F-C05-2) -/
theorem unsharded_pinned_stale_tail :
    ∃ (enc : Bytes → Bytes) (dec : Bytes → Option Bytes) (old : Bytes) (update : Bytes → Bytes),
      (∀ b, dec (enc b) = some b) ∧
      defaultPartialEncodePinned enc dec (some (enc old)) update [] ≠ some (some (enc (update old))) := by
  refine ⟨fun b => b.length :: b, fun e => some (e.tail.take (e.headD 0)), [1, 2, 3], fun _ => [9], ?_, ?_⟩
  · intro b; simp
  · decide +kernel

/-- partial writes extend and never truncate (the root cause of both findings) -/
theorem writeAt_never_truncates (v : Bytes) (off : Nat) (b : Bytes) :
    ∃ v', writeAt (some v) off b = some v' ∧ v'.length = max v.length (off + b.length) :=
  ⟨_, rfl, (C08.setPartial_zero_extends v b off).1⟩

/-! The repaired encoder (`ShardPE.partialEncode`): the full statement, for every history. -/

/-- **from an absent value**: erased only if every update is fill, else a well-formed tight shard of exactly the
written inner chunks -/
theorem shard_partial_from_absent (c : Cfg) (updates : List (Nat × Option Bytes)) (hu : updatesOk c updates)
    (hsmall : ((updates.filterMap (·.2)).map List.length).sum + indexSize c < sentinel) :
    match partialEncode c none updates with
    | some none => ∀ u ∈ updates, u.2 = none
    | some (some v') => decode c true v' = .ok (applyUpdates (List.replicate c.nChunks none) updates) ∧
        wellFormed c v' = true ∧ tight c v' = true
    | none => False := by
  exact (partialEncode_outcome (vo := none) rfl updates hu (by simpa [dataNew_length] using hsmall)).byCases (·.1)
    (fun _ h => ⟨h.1, h.2.1, h.2.2 trivial⟩)

/-- **from any well-formed tight value, with no further condition**: the new value decodes to exactly the updated
inner chunks, is well formed, and is tight again, for either index location -/
theorem shard_partial_encode (c : Cfg) (v : Bytes) (chunks : List (Option Bytes))
    (hdec : decode c true v = .ok chunks) (hwf : wellFormed c v = true) (ht : tight c v = true)
    (updates : List (Nat × Option Bytes)) (hu : updatesOk c updates)
    (hsmall : v.length + ((updates.filterMap (·.2)).map List.length).sum + indexSize c < sentinel) :
    match partialEncode c (some v) updates with
    | some none => ∀ ch ∈ applyUpdates chunks updates, ch = none
    | some (some v') => decode c true v' = .ok (applyUpdates chunks updates) ∧ wellFormed c v' = true ∧ tight c v' = true
    | none => False := by
  exact (partialEncode_outcome (vo := some v) ⟨hdec, hwf, ht⟩ updates hu (dataNew_length updates ▸ hsmall)).byCases (·.2)
    (fun _ h => ⟨h.1, h.2.1, h.2.2 trivial⟩)

/-- the repaired encoder on the history of `shard_index_end_stale_tail`: the first step writes `exEnd`, the second takes
the repair branch -/
theorem exEnd_write :
    partialEncode ⟨2, true, false, true⟩ none [(0, some [1, 2, 3, 4]), (1, some [5, 6, 7, 8, 9, 10])] = some (some exEnd) := by
  decide +kernel
theorem exEnd_drop : partialEncode ⟨2, true, false, true⟩ (some exEnd) [(1, none)] =
    some (some ([1, 2, 3, 4] ++ encodeIndex ⟨2, true, false, true⟩ [(0, 4), (sentinel, sentinel)])) := by decide +kernel

/-- this instance takes the repair branch: the update drops the LAST inner chunk of `exEnd` and stores nothing
(excluded by `hgrow` above) -/
example : let c : Cfg := ⟨2, true, false, true⟩
    let updates : List (Nat × Option Bytes) := [(1, none)]
    decode c true exEnd = .ok [some [1, 2, 3, 4], some [5, 6, 7, 8, 9, 10]] ∧ wellFormed c exEnd = true ∧
    tight c exEnd = true ∧ updatesOk c updates ∧
    exEnd.length + ((updates.filterMap (·.2)).map List.length).sum + indexSize c < sentinel ∧
    partialEncode c (some exEnd) updates = some (some ([1, 2, 3, 4] ++ encodeIndex c [(0, 4), (sentinel, sentinel)])) ∧
    partialEncode c (some exEnd) updates ≠ partialEncodePinned c (some exEnd) updates := by
  refine ⟨exEnd_ok.1, exEnd_ok.2.1, exEnd_ok.2.2, by unfold updatesOk; decide, by decide, exEnd_drop, ?_⟩
  rw [exEnd_drop]
  decide +kernel

/-- under the repaired encoder the history of the witness of F-C05-K1 ends in a shard that decodes to what was written -/
example : let c : Cfg := ⟨2, true, false, true⟩
    ((partialEncode c none [(0, some [1, 2, 3, 4]), (1, some [5, 6, 7, 8, 9, 10])]).bind (fun v1 =>
      (partialEncode c v1 [(1, none)]).bind (fun v2 => partialEncode c v2 [(1, some [7])]))).map
        (fun v3 => v3.map (decode c true)) = some (some (.ok [some [1, 2, 3, 4], some [7]])) := by
  dsimp only
  rw [exEnd_write, Option.bind_some, exEnd_drop]
  decide +kernel

/-- a history of `partial_encode` calls on one shard (outer `none`: some call failed) -/
def runUpdates (c : Cfg) (v : Option Bytes) : List (List (Nat × Option Bytes)) → Option (Option Bytes)
  | [] => some v
  | u :: rest => (partialEncode c v u).bind (fun v' => runUpdates c v' rest)

/-- **every history**: after any sequence of partial encodes starting from an absent value, the stored value is
absent with every inner chunk fill, or decodes to exactly the inner chunks the updates leave, and is a well-formed,
tight shard -/
theorem shard_history (c : Cfg) (hist : List (List (Nat × Option Bytes))) (hu : ∀ u ∈ hist, updatesOk c u)
    (hsmall : ((hist.map (fun u => ((u.filterMap (·.2)).map List.length).sum + indexSize c)).sum + indexSize c < sentinel)) :
    match runUpdates c none hist with
    | some none => ∀ ch ∈ hist.foldl applyUpdates (List.replicate c.nChunks none), ch = none
    | some (some v) => decode c true v = .ok (hist.foldl applyUpdates (List.replicate c.nChunks none)) ∧
        wellFormed c v = true ∧ tight c v = true
    | none => False := by
  have hrun : ∀ (v : Option Bytes) (h : List (List (Nat × Option Bytes))), runUpdates c v h = runHist c v h := by
    intro v h
    induction h generalizing v with
    | nil => rfl
    | cons u rest ih => simp only [runUpdates, runHist, ih]
  obtain ⟨vo', hr, hst⟩ := history_inv c hist none _ rfl hu (by simpa [histCost, dataNew_length] using hsmall)
  rw [hrun, hr]
  cases vo' with
  | none =>
    intro ch hch
    rw [show hist.foldl applyUpdates (List.replicate c.nChunks none) = List.replicate c.nChunks none from hst] at hch
    exact List.eq_of_mem_replicate hch
  | some v => exact hst

/-- the witness history of F-C05-K1 (its second step takes the repair branch), then a rewrite of the first inner chunk -/
example : let c : Cfg := ⟨2, true, false, true⟩
    let hist : List (List (Nat × Option Bytes)) :=
      [[(0, some [1, 2, 3, 4]), (1, some [5, 6, 7, 8, 9, 10])], [(1, none)], [(1, some [7])], [(0, some [9, 9])]]
    (∀ u ∈ hist, updatesOk c u) ∧
    (hist.map (fun u => ((u.filterMap (·.2)).map List.length).sum + indexSize c)).sum + indexSize c < sentinel ∧
    hist.foldl applyUpdates (List.replicate c.nChunks none) = [some [9, 9], some [7]] ∧
    runUpdates c none (hist.take 2) = some (some ([1, 2, 3, 4] ++ encodeIndex c [(0, 4), (sentinel, sentinel)])) ∧
    (runUpdates c none hist).map (fun r => r.map (decode c true)) = some (some (.ok [some [9, 9], some [7]])) := by
  have h2 : ∀ rest, runUpdates ⟨2, true, false, true⟩ none
      ([(0, some [1, 2, 3, 4]), (1, some [5, 6, 7, 8, 9, 10])] :: [(1, none)] :: rest) =
      runUpdates ⟨2, true, false, true⟩
        (some ([1, 2, 3, 4] ++ encodeIndex ⟨2, true, false, true⟩ [(0, 4), (sentinel, sentinel)])) rest := by
    intro rest
    rw [runUpdates, exEnd_write, Option.bind_some, runUpdates, exEnd_drop, Option.bind_some]
  refine ⟨?_, by decide, by decide, h2 [], ?_⟩
  · intro u hu
    simp only [List.mem_cons, List.not_mem_nil, or_false] at hu
    rcases hu with rfl | rfl | rfl | rfl <;> (unfold updatesOk; decide)
  · rw [h2]
    decide +kernel

end Zarrs.C05
