import ZarrsModel.Model.IndexEntry
import ZarrsModel.Model.Bytes
import ZarrsModel.Lemmas.IndexEntry
/-
C15, the bounds test of one shard index entry on 64-bit integers (`Model/IndexEntry.lean`; code:
zarrs/src/array/codec/array_to_bytes/sharding/sharding_codec.rs `decode` (both branches) and `decode_into`).

The checked test of the code is, for EVERY triple of `u64`, the test on unbounded naturals that the rest of the model and
the driver use; the seeded wrapping variant is not; an entry that passes denotes a slice inside the value.
-/
namespace Zarrs.C15Entry
open Zarrs Zarrs.IndexEntry

/-- `u64::checked_add` returns `None` exactly on overflow, and otherwise the true sum -/
theorem checkedAdd_spec (a b : UInt64) :
    (a.toNat + b.toNat < 2 ^ 64 → ∃ s, checkedAdd a b = some s ∧ s.toNat = a.toNat + b.toNat) ∧
    (2 ^ 64 ≤ a.toNat + b.toNat → checkedAdd a b = none) :=
  ⟨fun h => ⟨a + b, checkedAdd_of_lt a b h, toNat_add_of_lt a b h⟩, checkedAdd_of_ge a b⟩
example : checkedAdd 7 9 = some 16 ∧ checkedAdd 18446744073709551608 16 = none := by decide +kernel

/-- for every `off`, `size`, `len` the test of the code
`off.checked_add(size).is_none_or(|end| end > len)` IS the test on unbounded naturals `off + size > len` -/
theorem entryBadChecked_iff_nat (off size len : UInt64) :
    entryBadChecked off size len = decide (off.toNat + size.toNat > len.toNat) := by
  have hl := len.toNat_lt
  obtain ⟨h1, h2⟩ := checkedAdd_spec off size
  by_cases h : off.toNat + size.toNat < 2 ^ 64
  · obtain ⟨s, hs, hv⟩ := h1 h
    simp only [entryBadChecked, hs, isNoneOr]
    rw [decide_eq_decide, gt_iff_lt, UInt64.lt_iff_toNat_lt, hv]
  · have hn := h2 (by omega)
    simp only [entryBadChecked, hn, isNoneOr]
    symm
    rw [decide_eq_true_eq]
    omega
example : entryBadChecked 10 20 100 = false ∧ entryBadChecked 90 10 100 = false ∧ entryBadChecked 90 11 100 = true ∧
    entryBadChecked 18446744073709551608 16 100 = true := by decide +kernel

theorem classify_eq (off size len : UInt64) : classify off size len =
    if off = u64Max ∧ size = u64Max then .fill
    else if off.toNat + size.toNat > len.toNat then .err else .slice off.toNat size.toNat := by
  simp only [classify, isSentinel, Bool.and_eq_true, beq_iff_eq, entryBadChecked_iff_nat, decide_eq_true_eq]

/-- **the three-way branch, sentinel where the code tests it (first)**: the verdict of `decode` / `decode_into` on an
entry is an error exactly when the driver's `entryOutOfBounds` on unbounded naturals says so; the sentinel `(MAX, MAX)`
is never an error (it is tested BEFORE the bounds test, which it would fail for every `len`) -/
theorem classify_err_iff_nat (off size len : UInt64) :
    (classify off size len = .err ↔ entryOutOfBoundsNat off.toNat size.toNat len.toNat = true) ∧
    (classify off size len = .fill ↔ (off = u64Max ∧ size = u64Max)) := by
  have hs : (off.toNat == 18446744073709551615 && size.toNat == 18446744073709551615) = true ↔
      (off = u64Max ∧ size = u64Max) := by
    rw [Bool.and_eq_true, beq_iff_eq, beq_iff_eq, ← UInt64.toNat_inj, ← UInt64.toNat_inj]; rfl
  rw [classify_eq, entryOutOfBoundsNat, Bool.and_eq_true, Bool.not_eq_true', ← Bool.not_eq_true, hs, decide_eq_true_eq]
  by_cases h1 : off = u64Max ∧ size = u64Max <;> by_cases h2 : off.toNat + size.toNat > len.toNat <;> simp [h1, h2]
example : classify u64Max u64Max 0 = .fill ∧ entryBadChecked u64Max u64Max 0 = true ∧
    classify u64Max 0 100 = .err ∧ classify 0 u64Max 100 = .err ∧ classify 4 8 100 = .slice 4 8 := by decide +kernel

/-- the seeded test `off + size > len` with wrap-around ACCEPTS the entry
`off = 2^64 − 8`, `size = 16` against a value of 100 bytes (the sum wraps to 8) that the checked test rejects — and the
entry is live (not the sentinel), so the code goes on to slice `[2^64 − 8 .. 8)` -/
theorem entryBadWrapping_counterexample :
    entryBadWrapping 18446744073709551608 16 100 = false ∧ entryBadChecked 18446744073709551608 16 100 = true ∧
    classifyWrapping 18446744073709551608 16 100 = .slice 18446744073709551608 16 ∧
    classify 18446744073709551608 16 100 = .err ∧
    (18446744073709551608 : UInt64) + 16 = 8 := by decide +kernel

/-- the wrapping test agrees with the checked test exactly when the sum does not wrap; when it wraps the checked test
rejects and the wrapping test judges the wrapped end -/
theorem entryBadWrapping_iff_nat (off size len : UInt64) :
    (off.toNat + size.toNat < 2 ^ 64 → entryBadWrapping off size len = entryBadChecked off size len) ∧
    (2 ^ 64 ≤ off.toNat + size.toNat → entryBadChecked off size len = true ∧
      entryBadWrapping off size len = decide (off.toNat + size.toNat - 2 ^ 64 > len.toNat)) := by
  constructor
  · intro h
    rw [entryBadChecked_iff_nat]
    simp only [entryBadWrapping]
    rw [decide_eq_decide, gt_iff_lt, UInt64.lt_iff_toNat_lt, toNat_add_of_lt off size h]
  · intro h
    constructor
    · rw [entryBadChecked_iff_nat, decide_eq_true_eq]
      exact Nat.lt_of_lt_of_le len.toNat_lt h
    · simp only [entryBadWrapping]
      rw [decide_eq_decide, gt_iff_lt, UInt64.lt_iff_toNat_lt, toNat_add_of_ge off size h]
example : (18446744073709551608 : UInt64).toNat + (16 : UInt64).toNat ≥ 2 ^ 64 := by decide +kernel

/-- an entry that passes the checked test denotes a slice `[off, off + size)` inside
the value: the end computed on machine integers (`offset + size` on `usize`) does not wrap and is the true end, it is
at most the length of the value, and the slice `&encoded_shard[off..off + size]` of any value `b` of `len` bytes
exists and has exactly `size` bytes — the slicing cannot panic -/
theorem entry_ok_slice_in_bounds (off size len : UInt64) (h : entryBadChecked off size len = false) :
    (off + size).toNat = off.toNat + size.toNat ∧ off.toNat ≤ off.toNat + size.toNat ∧
    off.toNat + size.toNat ≤ len.toNat ∧
    ∀ b : Bytes, b.length = len.toNat → ((b.drop off.toNat).take size.toNat).length = size.toNat := by
  rw [entryBadChecked_iff_nat, decide_eq_false_iff_not] at h
  have hle : off.toNat + size.toNat ≤ len.toNat := Nat.le_of_not_gt h
  refine ⟨toNat_add_of_lt off size (Nat.lt_of_le_of_lt hle len.toNat_lt), Nat.le_add_right _ _, hle, ?_⟩
  intro b hb
  rw [List.length_take, List.length_drop, hb]
  exact Nat.min_eq_left (Nat.le_sub_of_add_le' hle)
example : entryBadChecked 90 10 100 = false ∧
    (((List.range 100 : Bytes).drop (90 : UInt64).toNat).take (10 : UInt64).toNat) = [90, 91, 92, 93, 94, 95, 96, 97, 98, 99] := by
  decide +kernel

/-- the slice the code takes after a passed test, through `classify`: every `.slice o s` verdict is in bounds -/
theorem classify_slice_in_bounds (off size len : UInt64) (o s : Nat) (h : classify off size len = .slice o s) :
    o = off.toNat ∧ s = size.toNat ∧ o + s ≤ len.toNat := by
  rw [classify_eq] at h
  split at h
  · cases h
  · split at h
    · cases h
    · next hb => cases h; exact ⟨rfl, rfl, Nat.le_of_not_gt hb⟩
example : classify 90 10 100 = .slice 90 10 := by decide +kernel

end Zarrs.C15Entry
