import ZarrsModel.Model.GridApi
import ZarrsModel.Lemmas.Grid
import ZarrsModel.Lemmas.GridApi
import ZarrsModel.Props.C09
/-
C10, the rest of the public API — the region covered by a box of chunks (`chunks_subset`, not covered by Props/C10)
and the grid-related `Array` methods (zarrs/src/array.rs), which are separate code from the
`ChunkGridTraits` methods: each is shown to be the trait-level query on matching ranks, and `Array::chunks_subset` /
`chunks_subset_bounded` to be exactly the union of the chunk subsets of the box (clipped to the array).
Grids are `Grid.new cfg` (regular = all dimensions fixed, rectangular = any mixture).
-/
namespace Zarrs.C10Api
open Zarrs

/-- `ChunkGridTraits::chunks_subset`: for a non-empty box of chunk indices, when the method answers `Some(sub)`
every chunk of the box exists and `sub` is exactly the union of their subsets -/
theorem chunks_subset_union (cfg : List DimCfg) (chunks sub : Subset) (hwf : chunks.wf = true)
    (hr : chunks.rank = cfg.length) (hne : chunks.isEmpty = false)
    (h : (Grid.new cfg).chunksSubset chunks = some sub) :
    (∀ c, chunks.contains c = true → ∃ csub, (Grid.new cfg).subset c = some csub) ∧
    ∀ i, sub.contains i = true ↔
      ∃ c csub, chunks.contains c = true ∧ (Grid.new cfg).subset c = some csub ∧ csub.contains i = true :=
  Grid.chunksSubset_union cfg chunks sub hwf hr hne h

example : ∃ (cfg : List DimCfg) (chunks sub : Subset), chunks.wf = true ∧ chunks.rank = cfg.length ∧
    chunks.isEmpty = false ∧ (Grid.new cfg).chunksSubset chunks = some sub ∧ sub = ⟨[3, 2], [6, 4]⟩ :=
  ⟨[.fixed 3, .varying [2, 3, 1]], ⟨[1, 1], [2, 2]⟩, ⟨[3, 2], [6, 4]⟩, by decide +kernel⟩

/-- the chunk queries of `Array` are the trait queries of its grid on indices of the array's rank (and
`InvalidChunkGridIndicesError`, `none`, on any other rank) -/
theorem array_queries_forward (a : ArrGrid) (ha : a.shape.length = a.grid.length) (c : Idx) :
    (c.length = a.grid.length →
      a.chunkOrigin c = a.grid.chunkOrigin c ∧ a.chunkShape c = a.grid.chunkShape c ∧
      a.chunkSubset c = a.grid.subset c) ∧
    (c.length ≠ a.grid.length →
      a.chunkOrigin c = none ∧ a.chunkShape c = none ∧ a.chunkSubset c = none) := by
  simp only [ArrGrid.chunkOrigin, ArrGrid.chunkShape, ArrGrid.chunkSubset, ha]
  constructor <;> intro h <;> simp [h]

example : ∃ (a : ArrGrid) (c : Idx), a.shape.length = a.grid.length ∧ c.length = a.grid.length ∧
    a.chunkSubset c = some ⟨[3, 2], [3, 3]⟩ :=
  ⟨⟨Grid.new [.fixed 3, .varying [2, 3, 1]], [7, 6]⟩, [1, 1], by decide +kernel⟩

/-- `Array::chunks_subset` (the Array-level copy) agrees with `ChunkGridTraits::chunks_subset` on every box of the
array's rank -/
theorem array_chunks_subset_eq_trait (a : ArrGrid) (ha : a.shape.length = a.grid.length) (chunks : Subset)
    (hwf : chunks.wf = true) (hr : chunks.rank = a.grid.length) :
    a.chunksSubset chunks = a.grid.chunksSubset chunks := by
  obtain ⟨cs, sh⟩ := chunks
  simp only [Subset.wf_iff] at hwf
  simp only [Subset.rank] at hr
  simp only [ArrGrid.chunksSubset, Grid.chunksSubset, Subset.endInc]
  by_cases he : (Subset.mk cs sh).isEmpty = true
  · simp only [he, if_true]
  · have h1 : ((addIdx cs sh).map (· - 1)).length = a.grid.length := by
      rw [List.length_map, addIdx_length_eq cs sh hwf]; exact hr
    simp only [he, if_false, ArrGrid.chunkSubset, ha, hr, h1, bne_self_eq_false, Bool.or_self,
      Bool.false_eq_true]
    cases a.grid.subset cs <;> cases a.grid.subset ((addIdx cs sh).map (· - 1)) <;> rfl

/-- a non-empty box of another rank is an error at the Array level -/
theorem array_chunks_subset_rank (a : ArrGrid) (chunks : Subset)
    (hne : chunks.isEmpty = false) (hr : chunks.rank ≠ a.grid.length) : a.chunksSubset chunks = none := by
  simp only [Subset.rank] at hr
  simp only [ArrGrid.chunksSubset, Subset.endInc, hne, Bool.false_eq_true, if_false, ArrGrid.chunkSubset]
  have : (chunks.start.length != a.grid.length) = true := by simp [hr]
  simp [this]

example : ∃ (a : ArrGrid) (chunks : Subset), chunks.isEmpty = false ∧
    chunks.rank ≠ a.grid.length := ⟨⟨Grid.new [.fixed 3], [7]⟩, ⟨[0, 0], [1, 1]⟩, by decide +kernel⟩

/-- `Array::chunks_subset` on a regular or rectangular grid: exactly the union of the chunk subsets of the box -/
theorem array_chunks_subset_union (cfg : List DimCfg) (shape : Shape) (hs : shape.length = cfg.length)
    (chunks sub : Subset) (hwf : chunks.wf = true) (hr : chunks.rank = cfg.length)
    (hne : chunks.isEmpty = false)
    (h : (ArrGrid.mk (Grid.new cfg) shape).chunksSubset chunks = some sub) :
    (∀ c, chunks.contains c = true → ∃ csub, (ArrGrid.mk (Grid.new cfg) shape).chunkSubset c = some csub) ∧
    ∀ i, sub.contains i = true ↔
      ∃ c csub, chunks.contains c = true ∧ (ArrGrid.mk (Grid.new cfg) shape).chunkSubset c = some csub ∧
        csub.contains i = true := by
  have hlen := Grid.new_length cfg
  have ha : (ArrGrid.mk (Grid.new cfg) shape).shape.length = (ArrGrid.mk (Grid.new cfg) shape).grid.length := by
    simp only [hlen, hs]
  rw [array_chunks_subset_eq_trait _ ha chunks hwf (by simp only [hlen, hr])] at h
  obtain ⟨hdef, hiff⟩ := chunks_subset_union cfg chunks sub hwf hr hne h
  have hcl : ∀ c, chunks.contains c = true → c.length = (Grid.new cfg).length := by
    intro c hc
    have := (mem_length hc).1
    simp only [Subset.rank] at hr
    omega
  have hfw : ∀ c, chunks.contains c = true →
      (ArrGrid.mk (Grid.new cfg) shape).chunkSubset c = (Grid.new cfg).subset c :=
    fun c hc => ((array_queries_forward _ ha c).1 (hcl c hc)).2.2
  refine ⟨fun c hc => by rw [hfw c hc]; exact hdef c hc, fun i => (hiff i).trans ?_⟩
  exact exists_congr fun c => exists_congr fun csub => and_congr_right fun a1 => by rw [hfw c a1]

example : ∃ (cfg : List DimCfg) (shape : Shape) (chunks sub : Subset), shape.length = cfg.length ∧
    chunks.wf = true ∧ chunks.rank = cfg.length ∧ chunks.isEmpty = false ∧
    (ArrGrid.mk (Grid.new cfg) shape).chunksSubset chunks = some sub ∧ sub = ⟨[3, 2], [6, 4]⟩ :=
  ⟨[.fixed 3, .varying [2, 3, 1]], [7, 6], ⟨[1, 1], [2, 2]⟩, ⟨[3, 2], [6, 4]⟩, by decide +kernel⟩

/-- `Array::chunks_subset_bounded`: the in-array part of that union -/
theorem array_chunks_subset_bounded_union (cfg : List DimCfg) (shape : Shape) (hs : shape.length = cfg.length)
    (chunks b : Subset) (hwf : chunks.wf = true) (hr : chunks.rank = cfg.length)
    (hne : chunks.isEmpty = false)
    (h : (ArrGrid.mk (Grid.new cfg) shape).chunksSubsetBounded chunks = some b) :
    ∀ i, b.contains i = true ↔
      (inB i shape = true ∧ ∃ c csub, chunks.contains c = true ∧
        (ArrGrid.mk (Grid.new cfg) shape).chunkSubset c = some csub ∧ csub.contains i = true) := by
  simp only [ArrGrid.chunksSubsetBounded, Option.map_eq_some_iff] at h
  obtain ⟨sub, hsub, rfl⟩ := h
  obtain ⟨_, hiff⟩ := array_chunks_subset_union cfg shape hs chunks sub hwf hr hne hsub
  have hlen := Grid.new_length cfg
  have hsubwf := Grid.chunksSubset_wf (Grid.new cfg) chunks sub hwf (hr.trans hlen.symm) hne
    (by rwa [array_chunks_subset_eq_trait _ (hs.trans hlen.symm) chunks hwf (hr.trans hlen.symm)] at hsub)
  intro i
  have := C09.bound_mem sub shape hsubwf.1 (hs.trans (hlen.symm.trans hsubwf.2.symm)) i
  rw [this, Bool.and_eq_true, hiff i, and_comm]

example : ∃ (cfg : List DimCfg) (shape : Shape) (chunks b : Subset), shape.length = cfg.length ∧
    chunks.wf = true ∧ chunks.rank = cfg.length ∧ chunks.isEmpty = false ∧
    (ArrGrid.mk (Grid.new cfg) shape).chunksSubsetBounded chunks = some b ∧ b = ⟨[3, 2], [4, 4]⟩ :=
  ⟨[.fixed 3, .varying [2, 3, 1]], [7, 6], ⟨[1, 1], [2, 2]⟩, ⟨[3, 2], [4, 4]⟩, by decide +kernel⟩

/-- `Array::chunks_in_array_subset` is the trait method on the array's own shape for every region of the array's
rank (Props/C10 `chunks_in_subset_exact` then applies), an error on a non-empty region of another rank -/
theorem array_chunks_in_array_subset_forward (a : ArrGrid) (ha : a.shape.length = a.grid.length) (r : Subset) :
    (r.rank = a.grid.length → a.chunksInArraySubset r = some (a.grid.chunksInArraySubset r a.shape)) ∧
    (r.rank ≠ a.grid.length → r.isEmpty = false → a.chunksInArraySubset r = none) := by
  constructor
  · intro hr
    simp only [ArrGrid.chunksInArraySubset, Grid.chunksInArraySubset, Subset.endInc]
    split
    · rfl
    · simp [hr, ha]
  · intro hr hne
    simp [ArrGrid.chunksInArraySubset, hne, hr]

example : ∃ (a : ArrGrid) (r : Subset), a.shape.length = a.grid.length ∧ r.rank = a.grid.length ∧
    a.chunksInArraySubset r = some (some ⟨[0, 0], [3, 2]⟩) :=
  ⟨⟨Grid.new [.fixed 3, .varying [2, 3, 1]], [7, 6]⟩, ⟨[2, 1], [5, 3]⟩, by decide +kernel⟩

/-- `Array::chunk_subset_bounded`: the in-array part of the chunk -/
theorem array_chunk_subset_bounded_mem (cfg : List DimCfg) (shape : Shape) (hs : shape.length = cfg.length)
    (c : Idx) (b : Subset) (h : (ArrGrid.mk (Grid.new cfg) shape).chunkSubsetBounded c = some b) :
    ∃ csub, (ArrGrid.mk (Grid.new cfg) shape).chunkSubset c = some csub ∧
      ∀ i, b.contains i = true ↔ (csub.contains i = true ∧ inB i shape = true) := by
  simp only [ArrGrid.chunkSubsetBounded, Option.map_eq_some_iff] at h
  obtain ⟨csub, hc, rfl⟩ := h
  refine ⟨csub, hc, ?_⟩
  have hlen := Grid.new_length cfg
  simp only [ArrGrid.chunkSubset] at hc
  split at hc
  · cases hc
  · rename_i hcl
    simp only [Bool.or_eq_true, bne_iff_ne, ne_eq, not_or, Decidable.not_not] at hcl
    obtain ⟨o, s, ho, hs', rfl⟩ := Grid.subset_eq_some.mp hc
    have l0 := zipOpt_length_of_eq _ _ _ _ (by rw [hcl.1]) ho
    have l1 := zipOpt_length_of_eq _ _ _ _ (by rw [hcl.1]) hs'
    intro i
    have := C09.bound_mem ⟨o, s⟩ shape (by simp only [Subset.wf_iff]; omega)
      (by simp only [Subset.rank]; omega) i
    rw [this, Bool.and_eq_true]

example : ∃ (cfg : List DimCfg) (shape : Shape) (c : Idx) (b : Subset), shape.length = cfg.length ∧
    (ArrGrid.mk (Grid.new cfg) shape).chunkSubsetBounded c = some b ∧ b = ⟨[6, 5], [1, 1]⟩ :=
  ⟨[.fixed 3, .varying [2, 3, 1]], [7, 6], [2, 2], ⟨[6, 5], [1, 1]⟩, by decide +kernel⟩

end Zarrs.C10Api
