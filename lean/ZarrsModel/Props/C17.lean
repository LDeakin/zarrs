import ZarrsModel.Model.WriteMap
import ZarrsModel.Lemmas.WriteMap
import ZarrsModel.Props.C09
/-
C17 — returned buffers are fully initialised and each byte is written once.

Each theorem with hypotheses is followed by an `example` that instantiates all of them: the statement is not vacuous.
-/
namespace Zarrs.C17
open Zarrs

/-- the executable verdict used on the recorded maps is exactly "the multiset of written bytes is `[0, len)`" -/
theorem tiles_iff (len : Nat) (rs : List (Nat × Nat)) :
    tiles len rs = true ↔ (rs.flatMap (fun r => List.range' r.1 r.2)).Perm (List.range len) := by
  exact tiles_iff_perm len rs

example : tiles 6 [(4, 2), (2, 0), (0, 4)] = true ∧ tiles 6 [(0, 4), (0, 4), (4, 2)] = false ∧
    tiles 6 [(0, 3), (4, 2)] = false ∧ tiles 6 [(0, 4), (4, 3)] = false := by decide +kernel

/-- the bytes one view writes are the bytes of the elements of its region, in the order of `linearised`
(`C09.byteRanges_exact`, repeated here for the views of C17) -/
theorem view_writes_region (v : Subset) (sh : Shape) (es : Nat) (hv : v.wf = true) (hb : v.inboundsShape sh = true) :
    ((v.byteRanges sh es).flatMap (fun r => List.range' r.1 r.2)) =
    (v.linearised sh).flatMap (fun k => List.range' (k * es) es) := by
  exact C09.byteRanges_exact v sh es hv hb

example : (Subset.mk [1, 2] [4, 4]).wf = true ∧ (Subset.mk [1, 2] [4, 4]).inboundsShape [5, 7] = true := by decide +kernel

/-- **the per-chunk writes of a multi-chunk read tile the output**: for every grid built from a configuration,
compatible array shape, in-bounds non-empty region and element size, the byte ranges written through the per-chunk
views cover `[0, region.numElements * es)` with every byte written exactly once -/
theorem writes_tile {α} (cfg : ArrCfg α) (gcfg : List DimCfg) (G : Shape) (hg : cfg.grid = Grid.new gcfg)
    (hwf : cfg.grid.wf = true) (hG : cfg.grid.gridShape cfg.shape = some G) (hlen : cfg.shape.length = gcfg.length)
    (region : Subset) (hr : region.wf = true) (hb : region.inboundsShape cfg.shape = true)
    (hne : region.isEmpty = false) (es : Nat) :
    ∃ m, cfg.writeMap region es = some m ∧ tiles (region.numElements * es) m = true := by
  rw [hg] at hwf hG
  obtain ⟨box, P, -⟩ := (gridOK'_new gcfg cfg.shape G hwf hG hlen).pieces region hr hb hne
  exact Grid.Pieces.writeMap (hg ▸ P) hr es

example : ∃ (cfg : ArrCfg Nat) (gcfg : List DimCfg) (G : Shape) (region : Subset) (es : Nat),
    cfg.grid = Grid.new gcfg ∧ cfg.grid.wf = true ∧ cfg.grid.gridShape cfg.shape = some G ∧
    cfg.shape.length = gcfg.length ∧ region.wf = true ∧ region.inboundsShape cfg.shape = true ∧
    region.isEmpty = false ∧
    cfg.writeMap region es =
      some [(0, 2), (2, 6), (8, 2), (16, 2), (10, 6), (18, 6), (24, 2), (26, 6)] ∧
    tiles (region.numElements * es) [(0, 2), (2, 6), (8, 2), (16, 2), (10, 6), (18, 6), (24, 2), (26, 6)] = true :=
  ⟨⟨[5, 7], Grid.new [.fixed 2, .varying [3, 4]], 0, fun _ => [], fun _ => [], fun _ => none, false⟩,
    [.fixed 2, .varying [3, 4]], [3, 2], ⟨[1, 2], [4, 4]⟩, 2, by decide +kernel⟩

end Zarrs.C17
