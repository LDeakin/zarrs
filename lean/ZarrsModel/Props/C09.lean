import ZarrsModel.Model.Iter
import ZarrsModel.Lemmas.Index
/-
C09 — array subsets and their iterators enumerate exactly the subset.
-/
namespace Zarrs.C09
open Zarrs

/-- the code's right-to-left `unravel_index` equals the left-to-right form -/
theorem unravel_eq_unravelL (n : Nat) (sh : Shape) : unravel n sh = unravelL n sh :=
  unravel_eq_L n sh

theorem unravel_ravel (i : Idx) (sh : Shape) (h : inB i sh = true) : unravel (ravel i sh) sh = i :=
  Zarrs.unravel_ravel i sh h

example : inB [1, 0, 2] [2, 3, 4] = true := by decide +kernel

theorem ravel_unravel (n : Nat) (sh : Shape) (h : n < prod sh) : ravel (unravel n sh) sh = n :=
  Zarrs.ravel_unravel n sh h

example : 17 < prod [2, 3, 4] := by decide +kernel

theorem unravel_inB (n : Nat) (sh : Shape) (h : n < prod sh) : inB (unravel n sh) sh = true :=
  Zarrs.unravel_inB n sh h

/-- `ravel` is strictly monotone from C order to `<` on in-bounds indices -/
theorem ravel_strictMono (a b : Idx) (sh : Shape) (ha : inB a sh = true) (hb : inB b sh = true)
    (hlt : lexLt a b = true) : ravel a sh < ravel b sh :=
  ravel_lexLt_lt a b sh ha hb hlt

example : inB [0, 2, 3] [2, 3, 4] = true ∧ inB [1, 0, 1] [2, 3, 4] = true ∧ lexLt [0, 2, 3] [1, 0, 1] = true := by
  decide +kernel

/-- the specification enumeration is exactly the subset, strictly increasing in C order, with the
advertised length -/
theorem indices_exact (s : Subset) (h : s.wf = true) :
    s.indices.Pairwise (fun a b => lexLt a b = true) ∧
    (∀ i, i ∈ s.indices ↔ s.contains i = true) ∧
    s.indices.length = s.numElements :=
  ⟨s.indices_pairwise h, s.mem_indices h, s.indices_length⟩

example : (Subset.mk [1, 0, 2] [2, 3, 2]).wf = true := by decide +kernel

/-- the iterator (as the code computes it: `unravel_index(k) + start` for `k` in the range) yields
exactly the specification enumeration -/
theorem iter_items (s : Subset) (h : s.wf = true) : (Iter.new s).items = s.indices := by
  have _ := h  -- not needed: both sides truncate identically on rank mismatch
  exact Iter.new_items s

/-- any mixture of `next` / `next_back`: fronts ++ rest ++ reverse backs is the original sequence, and
the reported length drops by one per yielded item -/
theorem iter_any_direction (it : Iter) (dirs : List Bool) :
    (it.run dirs).1 ++ (it.run dirs).2.2.items ++ (it.run dirs).2.1.reverse = it.items ∧
    (it.run dirs).2.2.len + (it.run dirs).1.length + (it.run dirs).2.1.length = it.len := by
  rcases hr : it.run dirs with ⟨f, b, r⟩
  have h := Iter.run_items dirs it f b r hr
  refine ⟨h, ?_⟩
  dsimp only
  have := congrArg List.length h
  simp only [List.length_append, List.length_reverse, Iter.items_length] at this
  omega

/-- `len` is the exact number of remaining items -/
theorem iter_len (it : Iter) : it.items.length = it.len :=
  it.items_length

/-- an exhausted iterator stays exhausted in both directions (fused) -/
theorem iter_fused (it : Iter) (h : it.len = 0) : it.next = none ∧ it.nextBack = none := by
  simp only [Iter.len] at h
  have : ¬ it.lo < it.hi := by omega
  simp [Iter.next, Iter.nextBack, this]

example : (Iter.mk (Subset.mk [1, 0] [2, 3]) 6 6).len = 0 := by decide +kernel

/-- every tree of rayon `split_at` calls partitions the sequence, in order -/
theorem split_tree (t : SplitTree) (it : Iter) (h : t.fits it.len = true) :
    (t.leaves it).flatMap Iter.items = it.items := by
  induction t generalizing it with
  | leaf => simp [SplitTree.leaves]
  | node k l r ihl ihr =>
    simp only [SplitTree.fits, Bool.and_eq_true, decide_eq_true_eq] at h
    obtain ⟨⟨hk, hl⟩, hr⟩ := h
    simp only [SplitTree.leaves, List.flatMap_append]
    rw [ihl _ ((it.splitAt_len k).1.symm ▸ hl), ihr _ ((it.splitAt_len k).2.symm ▸ hr), Iter.items_split it k hk]

example : (SplitTree.node 2 (.node 1 .leaf .leaf) (.node 3 .leaf .leaf)).fits
    (Iter.new (Subset.mk [1, 0] [2, 3])).len = true := by decide +kernel

theorem linearised_eq (s : Subset) (arr : Shape) (h : s.wf = true) :
    s.linearised arr = s.indices.map (fun i => ravel i arr) := by
  have _ := h
  exact s.linearised_eq arr

/-- linearised indices of an in-bounds subset are strictly increasing (each element once, C order) -/
theorem linearised_sorted (s : Subset) (arr : Shape) (h : s.wf = true) (hb : s.inboundsShape arr = true) :
    (s.linearised arr).Pairwise (· < ·) :=
  s.linearised_sorted arr h hb

example : (Subset.mk [1, 0, 2] [2, 3, 2]).wf = true ∧
    (Subset.mk [1, 0, 2] [2, 3, 2]).inboundsShape [4, 3, 5] = true := by decide +kernel

/-- the contiguous runs `[r, r + run)` over the run starts, in order, concatenate to the linearised
indices: every element in exactly one run -/
theorem contiguous_tiles (s : Subset) (arr : Shape) (h : s.wf = true) (hb : s.inboundsShape arr = true) :
    (s.contiguousLinearised arr).flatMap (fun r => List.range' r (s.contiguous arr).run) = s.linearised arr :=
  s.contiguous_tiles arr (Subset.wf_iff.mp h) (Subset.inboundsShape_iff_allLe.mp hb).1

example : (Subset.mk [1, 0, 0] [2, 2, 5]).wf = true ∧
    (Subset.mk [1, 0, 0] [2, 2, 5]).inboundsShape [4, 3, 5] = true := by decide +kernel

/-- byte ranges cover exactly the bytes of the subset's elements, in order -/
theorem byteRanges_exact (s : Subset) (arr : Shape) (es : Nat) (h : s.wf = true)
    (hb : s.inboundsShape arr = true) :
    (s.byteRanges arr es).flatMap (fun p => List.range' p.1 p.2) =
    (s.linearised arr).flatMap (fun k => List.range' (k * es) es) :=
  s.byteRanges_exact arr es h hb

example : (Subset.mk [1, 0, 0] [2, 2, 5]).wf = true ∧
    (Subset.mk [1, 0, 0] [2, 2, 5]).inboundsShape [4, 3, 5] = true := by decide +kernel

/-- `extract_elements` is the element-by-element gather -/
theorem extract_exact {α} (s : Subset) (arr : Shape) (xs : List α) (h : s.wf = true)
    (hb : s.inboundsShape arr = true) (hx : xs.length = prod arr) :
    (s.extract arr xs).map some = s.gather arr xs :=
  s.extract_exact arr xs h hb hx

example : (Subset.mk [1, 0, 0] [2, 2, 5]).wf = true ∧
    (Subset.mk [1, 0, 0] [2, 2, 5]).inboundsShape [4, 3, 5] = true ∧
    (List.range 60).length = prod [4, 3, 5] := by decide +kernel

/-- the chunk iterator reports exactly the chunks whose box meets the subset, in C order, each once -/
theorem chunks_exact (s : Subset) (cs : Shape) (h : s.wf = true) (hc : cs.length = s.rank)
    (hpos : ∀ c ∈ cs, 0 < c) :
    ((s.chunks cs).map (·.1)).Pairwise (fun a b => lexLt a b = true) ∧
    (∀ c : Idx, c ∈ (s.chunks cs).map (·.1) ↔
      (c.length = s.rank ∧ ∃ i, s.contains i = true ∧ (Subset.mk (zipMul c cs) cs).contains i = true)) ∧
    (∀ p ∈ s.chunks cs, p.2 = Subset.mk (zipMul p.1 cs) cs) := by
  have hwf := s.chunkBox_wf cs h hc
  rw [s.chunks_fst cs]
  refine ⟨(s.chunkBox cs).indices_pairwise hwf, ?_, ?_⟩
  · intro c
    rw [(s.chunkBox cs).mem_indices hwf]
    exact s.contains_chunkBox cs h hc hpos c
  · intro p hp
    simp only [Subset.chunks, List.mem_map] at hp
    obtain ⟨c, _, rfl⟩ := hp
    rfl

example : (Subset.mk [1, 0, 5] [4, 3, 2]).wf = true ∧ [2, 2, 3].length = (Subset.mk [1, 0, 5] [4, 3, 2]).rank ∧
    ∀ c ∈ [2, 2, 3], 0 < c := by decide +kernel

theorem overlap_mem (a b : Subset) (ha : a.wf = true) (hb : b.wf = true) (hr : a.rank = b.rank) (i : Idx) :
    (a.overlap b).contains i = (a.contains i && b.contains i) := by
  exact mem_overlap i a.start a.shape b.start b.shape (beq_iff_eq.mp ha) (beq_iff_eq.mp hb) hr

example : (Subset.mk [1, 0] [2, 3]).wf = true ∧ (Subset.mk [2, 1] [4, 1]).wf = true ∧
    (Subset.mk [1, 0] [2, 3]).rank = (Subset.mk [2, 1] [4, 1]).rank := by decide +kernel

/-- where the unrepaired subtraction of `overlap_unchecked` underflows (`overlapUnderflows`: in some dimension one
operand ends before the other starts) the specification form yields an empty subset -/
theorem overlap_disjoint_empty (a b : Subset) (ha : a.wf = true) (hb : b.wf = true) (hr : a.rank = b.rank)
    (h : a.overlapUnderflows b = true) : (a.overlap b).isEmpty = true := by
  have _ := ha; have _ := hb; have _ := hr
  exact zipUnderflow_any _ _ h

example : (Subset.mk [1, 0] [2, 3]).wf = true ∧ (Subset.mk [4, 1] [4, 1]).wf = true ∧
    (Subset.mk [1, 0] [2, 3]).rank = (Subset.mk [4, 1] [4, 1]).rank ∧
    (Subset.mk [1, 0] [2, 3]).overlapUnderflows (Subset.mk [4, 1] [4, 1]) = true := by decide +kernel

theorem bound_mem (s : Subset) (e : Idx) (h : s.wf = true) (he : e.length = s.rank) (i : Idx) :
    (s.bound e).contains i = (s.contains i && inB i e) := by
  exact mem_bound i s.start s.shape e (beq_iff_eq.mp h) he

example : (Subset.mk [1, 0] [2, 3]).wf = true ∧ [2, 2].length = (Subset.mk [1, 0] [2, 3]).rank := by decide +kernel

/-- The hypothesis `hi : i.length ≤ s.rank` is needed: `addIdx` truncates an over-long `i` to the rank while `contains`
rejects it; `s = ⟨[0],[1]⟩`, `o = [0]`, `i = [0,7]` gives `false = true` (the second `example` below). -/
theorem relativeTo_mem (s : Subset) (o : Idx) (h : s.wf = true) (ho : o.length = s.rank)
    (hu : s.relativeToUnderflows o = false) (i : Idx) (hi : i.length ≤ s.rank) :
    (s.relativeTo o).contains i = s.contains (addIdx i o) := by
  have _ := h
  exact mem_relativeTo i s.start s.shape o ho hu hi

example : (Subset.mk [3, 2] [2, 3]).wf = true ∧ [1, 2].length = (Subset.mk [3, 2] [2, 3]).rank ∧
    (Subset.mk [3, 2] [2, 3]).relativeToUnderflows [1, 2] = false ∧
    [2, 1].length ≤ (Subset.mk [3, 2] [2, 3]).rank := by decide +kernel
example : ((Subset.mk [0] [1]).relativeTo [0]).contains [0, 7] = false ∧
    (Subset.mk [0] [1]).contains (addIdx [0, 7] [0]) = true := by decide +kernel

theorem inbounds_sound (s o : Subset) (hs : s.wf = true) (ho : o.wf = true) (h : s.inbounds o = true) :
    s.rank = o.rank ∧ ∀ i, s.contains i = true → o.contains i = true := by
  have _ := hs
  simp only [Subset.inbounds, Bool.and_eq_true, beq_iff_eq] at h
  obtain ⟨⟨hr, h1⟩, h2⟩ := h
  exact ⟨hr, fun i hi =>
    mem_of_allLe i s.start s.shape o.start o.shape (beq_iff_eq.mp ho) hr h1 h2 hi⟩

example : (Subset.mk [1, 1] [2, 3]).wf = true ∧ (Subset.mk [0, 1] [4, 3]).wf = true ∧
    (Subset.mk [1, 1] [2, 3]).inbounds (Subset.mk [0, 1] [4, 3]) = true := by decide +kernel

theorem inbounds_complete (s o : Subset) (hs : s.wf = true) (ho : o.wf = true) (hne : s.isEmpty = false)
    (hr : s.rank = o.rank) (h : ∀ i, s.contains i = true → o.contains i = true) : s.inbounds o = true := by
  have _ := ho
  have hs := beq_iff_eq.mp hs
  simp only [Subset.inbounds, Bool.and_eq_true, beq_iff_eq]
  exact ⟨⟨hr, allLe_of_mem _ _ _ (h _ (mem_start s.start s.shape hs hne))⟩,
    allLe_end_of_inB_last _ _ _ hne (mem_iff.mp (h _ (mem_last s.start s.shape hs hne))).2.2⟩

example : (Subset.mk [1, 1] [2, 3]).wf = true ∧ (Subset.mk [0, 1] [4, 3]).wf = true ∧
    (Subset.mk [1, 1] [2, 3]).isEmpty = false ∧
    (Subset.mk [1, 1] [2, 3]).rank = (Subset.mk [0, 1] [4, 3]).rank := by decide +kernel

theorem inboundsShape_iff (s : Subset) (arr : Shape) (hs : s.wf = true) (hne : s.isEmpty = false) :
    s.inboundsShape arr = true ↔ (s.rank = arr.length ∧ ∀ i, s.contains i = true → inB i arr = true) :=
  s.inboundsShape_iff_mem arr hs hne

example : (Subset.mk [1, 1] [2, 3]).wf = true ∧ (Subset.mk [1, 1] [2, 3]).isEmpty = false := by decide +kernel

end Zarrs.C09
