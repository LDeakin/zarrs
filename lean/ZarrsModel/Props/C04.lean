import ZarrsModel.Props.C01
/-
C04 — fill-value elision never drops data; absent chunks read as fill.
The theorems about histories are consequences of the refinement invariant of C01 (`Inv` in
ZarrsModel/Lemmas/ArrayInv.lean, fields `keys` and `elide`), those about one operation of its definition; they are
restated here under the property's own name so that its obligations are checked and audited separately.
-/
namespace Zarrs.C04
open Zarrs

variable {α : Type} [DecidableEq α]
set_option linter.unusedSectionVars false

/-- with elision on (the default), after any write history a chunk key is present exactly when that chunk holds
at least one non-fill element -/
theorem key_present_iff (cfg : ArrCfg α) (G : Shape) (hok : C01.Ok cfg G) (helide : cfg.storeEmpty = false)
    (ops : List (WriteOp α)) (hops : ∀ op ∈ ops, C01.opInBounds cfg G op) :
    ∃ st, cfg.run [] ops = some st ∧
      ∀ c, inB c G = true → ∃ cs, cfg.chunkSubset c = some cs ∧
        (cfg.keyOf c ∈ st.keys ↔ ∃ i, cs.contains i = true ∧ cfg.absRun ops i ≠ cfg.fill) :=
  C01.key_present_iff cfg G hok helide ops hops

/-- only chunk keys are ever written -/
theorem keys_are_chunk_keys (cfg : ArrCfg α) (G : Shape) (hok : C01.Ok cfg G)
    (ops : List (WriteOp α)) (hops : ∀ op ∈ ops, C01.opInBounds cfg G op) :
    ∃ st, cfg.run [] ops = some st ∧ ∀ k ∈ st.keys, ∃ c, inB c G = true ∧ k = cfg.keyOf c :=
  C01.keys_are_chunk_keys cfg G hok ops hops

/-- with empty-chunk storing enabled every chunk written through the whole-chunk path is physically stored -/
theorem store_empty_stores (cfg : ArrCfg α) (hempty : cfg.storeEmpty = true) (st st' : KV) (c : Idx) (d : List α)
    (h : cfg.storeChunk st c d = some st') : cfg.keyOf c ∈ st'.keys :=
  C01.store_empty_stores cfg hempty st st' c d h

/-- a chunk is left out of the store only if every element equals the fill value -/
theorem elided_only_if_fill (cfg : ArrCfg α) (st st' : KV) (c : Idx) (d : List α)
    (h : cfg.storeChunk st c d = some st') (hk : cfg.keyOf c ∉ st'.keys) : ∀ x ∈ d, x = cfg.fill :=
  C01.elided_only_if_fill cfg st st' c d h hk

/-- whatever is left out reads back as the fill value -/
theorem absent_reads_fill (cfg : ArrCfg α) (st : KV) (c : Idx) (s : Shape)
    (hs : cfg.chunkShape c = some s) (hk : cfg.keyOf c ∉ st.keys) :
    cfg.retrieveChunk st c = some (List.replicate (prod s) cfg.fill) ∧
    cfg.retrieveChunkIfExists st c = some none :=
  C01.absent_reads_fill cfg st c s hs hk

/-- elision decides on bit-identity of every element (the fixed- and variable-length `is_fill_value`) -/
theorem isFill_iff (cfg : ArrCfg α) (xs : List α) : cfg.isFill xs = true ↔ ∀ x ∈ xs, x = cfg.fill :=
  ArrCfg.isFill_iff xs

end Zarrs.C04
