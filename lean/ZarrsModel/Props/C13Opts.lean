import ZarrsModel.Model.MetaOpts
import ZarrsModel.Lemmas.MetaOptsAlias
import ZarrsModel.Lemmas.MetaOptsChain
import ZarrsModel.Lemmas.MetaOptsDoc
import ZarrsModel.Lemmas.MetaOptsMain
import ZarrsModel.Props.C13
import ZarrsModel.Props.C13V2
/-
C13 (metadata options) — what `Array::metadata_opt` / `Array::store_metadata_opt` and `Group::metadata_opt` /
`Group::store_metadata_opt` write under every setting of `ArrayMetadataOptions` / `GroupMetadataOptions`
(`Model/MetaOpts.lean`): the `_zarrs` attribute, the version conversion, alias -> default-name rewriting of codec and
data type names; and that what is written is accepted again and denotes the same array.

Handles are the accepted ones: `openV3 plug r d = some (.v3 d ch)` (`Array::new_with_metadata` succeeded on the V3
document `d` with chunk grid rank `r`, giving the codec chain `ch`), `openV2 plug d = some (.v2 d)`.  The codec plugins
are an oracle `plug` (which configurations a codec accepts and which configuration it writes back is not part of this
model); `PlugOk plug` collects what is assumed of it.
-/
namespace Zarrs.C13Opts
open Zarrs Zarrs.Json Zarrs.Meta Zarrs.MetaV2 Zarrs.MetaOpts

def exPlug : Plug := fun i c => (codecKind i).map (fun k => ⟨k, c.getD [], encodeOnlyIdents.contains i⟩)

theorem exPlug_ok : PlugOk exPlug := by
  have inv : ∀ {i c x}, exPlug i c = some x →
      ∃ k, codecKind i = some k ∧ x = ⟨k, c.getD [], encodeOnlyIdents.contains i⟩ := by
    intro i c x h
    unfold exPlug at h
    cases hk : codecKind i with
    | none => rw [hk] at h; cases h
    | some k => rw [hk] at h; exact ⟨k, rfl, (Option.some.inj h).symm⟩
  refine ⟨?_, ?_, ?_⟩
  · intro i c x h
    obtain ⟨k, hk, rfl⟩ := inv h
    simp [exPlug, hk]
  · intro i c x h hx
    obtain ⟨k, hk, rfl⟩ := inv h
    cases he : encodeOnlyIdents.contains i with
    | false => rfl
    | true =>
      have : i = ascii "bitround" := by simpa [encodeOnlyIdents] using he
      subst this
      cases hx
      exact absurd hk (by decide +kernel)
  · intro i c x h hc
    obtain ⟨k, _, rfl⟩ := inv h
    cases c with
    | none => exact obj_nil_wf
    | some ob => exact hc ob rfl

theorem exPlug_created (n : Str) (cfg : Option Obj) (mu : Bool) (i : Str) (k : Kind) (hi : codecV3.identifier n = i)
    (hk : codecKind i = some k) :
    created exPlug ⟨n, cfg, mu⟩ = some ⟨n, ⟨k, cfg.getD [], encodeOnlyIdents.contains i⟩⟩ := by
  simp [created, exPlug, hi, hk]

theorem exKinds :
    codecKind (ascii "bitround") = some .a2a ∧ codecKind (ascii "transpose") = some .a2a ∧
    codecKind (ascii "bytes") = some .a2b ∧ codecKind (ascii "zlib") = some .b2b ∧ codecKind (ascii "gdeflate") = some .b2b ∧
    codecKind (ascii "shuffle") = some .b2b ∧ codecKind (ascii "gzip") = some .b2b := by decide +kernel

def exDocA : ArrayDoc :=
  { C13.exDoc with
    dataType := ⟨ascii "float32", none, true⟩,
    codecs := [⟨ascii "https://codec.zarrs.dev/array_to_bytes/bitround", some [(ascii "keepbits", .num ['3'])], true⟩,
               ⟨ascii "endian", some [(ascii "endian", .str (ascii "big"))], true⟩,
               ⟨ascii "numcodecs.zlib", some [(ascii "level", .num ['1'])], true⟩,
               ⟨ascii "https://codec.zarrs.dev/bytes_to_bytes/gdeflate", some [(ascii "level", .num ['2'])], true⟩],
    attrs := [(ascii "a", .num ['1']), (ascii "_zarrs", .str (ascii "old")), (ascii "z", .num ['2'])],
    extra := [(ascii "my_ext", C13.exField)] }

theorem exDocA_ok : C13.ArrayDoc.ok exDocA :=
  (C13.arrayDoc_ok_iff _).2 (arrayDoc_ofJ_good _ (J.wf_of_check _ (by decide +kernel)) _
    (arrayDoc_ofJ_toJ exDocA ⟨by decide +kernel, fun _ hkv => List.mem_singleton.1 hkv ▸ (C13.exKeys_extra _ (.head _)).1,
      fun _ hkv => List.mem_singleton.1 hkv ▸ C13.exField_ok.2, by unfold sortedKeys; decide +kernel⟩))

def exChainA : Chain :=
  ⟨[⟨ascii "https://codec.zarrs.dev/array_to_bytes/bitround", ⟨.a2a, [(ascii "keepbits", .num ['3'])], true⟩⟩],
   ⟨ascii "endian", ⟨.a2b, [(ascii "endian", .str (ascii "big"))], false⟩⟩,
   [⟨ascii "numcodecs.zlib", ⟨.b2b, [(ascii "level", .num ['1'])], false⟩⟩,
    ⟨ascii "https://codec.zarrs.dev/bytes_to_bytes/gdeflate", ⟨.b2b, [(ascii "level", .num ['2'])], false⟩⟩]⟩

theorem exDocA_idents :
    codecV3.identifier (ascii "https://codec.zarrs.dev/array_to_bytes/bitround") = ascii "bitround" ∧
    codecV3.identifier (ascii "endian") = ascii "bytes" ∧ codecV3.identifier (ascii "numcodecs.zlib") = ascii "zlib" ∧
    codecV3.identifier (ascii "https://codec.zarrs.dev/bytes_to_bytes/gdeflate") = ascii "gdeflate" :=
  ⟨codecV3_identifier_of_mem _ _ (by tbl_mem), codecV3_identifier_of_mem _ _ (by tbl_mem), codecV3_identifier_of_mem _ _ (by tbl_mem),
    codecV3_identifier_of_mem _ _ (by tbl_mem)⟩

theorem exDocA_chain : chainOf exPlug exDocA.codecs = some exChainA := by
  obtain ⟨h1, h2, h3, h4⟩ := exDocA_idents
  obtain ⟨k1, _, k2, k3, k4, _, _⟩ := exKinds
  refine chainOf_of_created exPlug _ (exChainA.a2a ++ exChainA.a2b :: exChainA.b2b) ?_ _ rfl
  simp only [exDocA, List.map_cons, List.map_nil, exPlug_created _ _ _ _ _ h1 k1, exPlug_created _ _ _ _ _ h2 k2,
    exPlug_created _ _ _ _ _ h3 k3, exPlug_created _ _ _ _ _ h4 k4]
  rfl

theorem exDocA_opens : openV3 exPlug 2 exDocA = some (.v3 exDocA exChainA) :=
  openV3_intro exPlug 2 exDocA exChainA ⟨by decide +kernel, by decide +kernel, exDocA_chain⟩

def exV2a : ArrayDocV2 :=
  { C13V2.exV2x with
    compressor := some ⟨ascii "https://codec.zarrs.dev/bytes_to_bytes/gdeflate", [(ascii "level", .num ['1'])]⟩,
    extra := [(ascii "my_ext", C13V2.exField)] }

theorem exV2a_ok : C13V2.ArrayDocV2.ok exV2a := by
  have hs := C13V2.exV2x_ok.1
  have hsub : ∀ kv ∈ exV2a.extra, kv ∈ C13V2.exV2x.extra := fun _ hkv => List.mem_singleton.1 hkv ▸ List.mem_cons_self ..
  have hs' : exV2a.shapeOk :=
    { hs with
      comp := fun m hm => by cases hm; exact (lookup_eq_none_iff _ _).2 (by decide +kernel)
      extraKeys := fun kv hkv => hs.extraKeys kv (hsub kv hkv)
      extraShape := fun kv hkv => hs.extraShape kv (hsub kv hkv)
      sorted := by unfold sortedKeys; decide +kernel
      noTag := fun kv hkv => hs.noTag kv (hsub kv hkv) }
  exact ⟨hs', arrayDocV2_ofJ_wfParts _ (J.wf_of_check _ (by decide +kernel)) _ (arrayDocV2_ofJ_toJ _ hs')⟩

theorem exV2a_noNodeType : C13V2.noNodeTypeField exV2a :=
  fun _ hkv => List.mem_singleton.1 hkv ▸ (by decide +kernel : ascii "my_ext" ≠ kNodeType)

def exV3a : ArrayDoc :=
  { C13V2.exV3 with
    codecs := C13V2.exV3.codecs.dropLast ++ [⟨ascii "zarrs.gdeflate", some [(ascii "level", .num ['1'])], true⟩],
    extra := exV2a.extra }

theorem exV2a_conv : v2ToV3 exV2a = .ok exV3a := by
  have := C13V2.v2ToV3_exV2_with _ [(ascii "level", .num ['1'])] (ascii "gdeflate") exV2a.extra
    (codecIdent_of_mem (ascii "https://codec.zarrs.dev/bytes_to_bytes/gdeflate") _ (by tbl_mem)) (by decide +kernel)
  rwa [codecName_of_mem _ (ascii "zarrs.gdeflate") (by tbl_mem)] at this

def exChainV2a : Chain :=
  ⟨[⟨ascii "transpose", ⟨.a2a, [(ascii "order", .arr [.num ['1'], .num ['0']])], false⟩⟩],
   ⟨ascii "bytes", ⟨.a2b, [(ascii "endian", .str (ascii "big"))], false⟩⟩,
   [⟨ascii "numcodecs.shuffle", ⟨.b2b, [(ascii "elementsize", .num ['2'])], false⟩⟩,
    ⟨ascii "zarrs.gdeflate", ⟨.b2b, [(ascii "level", .num ['1'])], false⟩⟩]⟩

theorem exV3a_idents :
    codecV3.identifier (ascii "transpose") = ascii "transpose" ∧ codecV3.identifier (ascii "numcodecs.shuffle") = ascii "shuffle" ∧
    codecV3.identifier (ascii "bytes") = ascii "bytes" ∧ codecV3.identifier (ascii "zarrs.gdeflate") = ascii "gdeflate" :=
  ⟨codecV3_identifier_plain _ (by decide +kernel) (by decide +kernel), codecV3_identifier_of_mem _ _ (by tbl_mem),
    codecV3_identifier_plain _ (by decide +kernel) (by decide +kernel), codecV3_identifier_of_mem _ _ (by tbl_mem)⟩

theorem exV3a_chain : chainOf exPlug exV3a.codecs = some exChainV2a := by
  obtain ⟨h1, h2, h3, h4⟩ := exV3a_idents
  obtain ⟨_, k1, k3, _, k4, k2, _⟩ := exKinds
  refine chainOf_of_created exPlug _
    (exChainV2a.a2a ++ exChainV2a.b2b.take 1 ++ exChainV2a.a2b :: exChainV2a.b2b.drop 1) ?_ _ rfl
  simp only [exV3a, C13V2.exV3, List.dropLast, List.cons_append, List.nil_append, List.map_cons, List.map_nil,
    exPlug_created _ _ _ _ _ h1 k1, exPlug_created _ _ _ _ _ h2 k2, exPlug_created _ _ _ _ _ h3 k3,
    exPlug_created _ _ _ _ _ h4 k4]
  rfl

theorem exV2a_opens : openV2 exPlug exV2a = some (.v2 exV2a) :=
  openV2_intro exPlug exV2a exV3a exChainV2a
    ⟨by simp only [openOkV2, exV2a_conv]; decide, exV2a_conv, by decide +kernel, exV3a_chain⟩

theorem exV2a_extraKeys : ∀ kv ∈ exV2a.extra, kv.1 ∉ arrayKeys :=
  fun _ hkv => List.mem_singleton.1 hkv ▸ (C13.exKeys_extra _ (.head _)).1

/-- the sixteen settings of `Opts.all` are all there are ("every option setting" below is a finite statement) -/
theorem opts_all_complete (o : Opts) : o ∈ Opts.all := by
  obtain ⟨v, z, a, e⟩ := o
  cases v <;> cases z <;> cases a <;> cases e <;> decide
example : Opts.all.length = 16 ∧ Opts.dflt ∈ Opts.all := by decide

/-- **alias resolution is a function**: in each transcribed table no name occurs twice as a key — no alias leads to two
    identifiers, no identifier has two default names (so the association lists say what the `HashMap`s say) -/
theorem tables_functional :
    (codecAliasStrV3.map (·.1)).Nodup ∧ (codecAliasesV2.map (·.1)).Nodup ∧ (dtypeAliasStrV3.map (·.1)).Nodup ∧
    (dtypeAliasesV2.map (·.1)).Nodup ∧ (codecNamesV3.map (·.1)).Nodup ∧ (codecNamesV2.map (·.1)).Nodup :=
  ⟨codecV3_ok.aliasKeys, codecV2_ok.aliasKeys, dtypeV3_ok.aliasKeys, dtypeV2_ok.aliasKeys, codecV3_ok.nameKeys, codecV2_ok.nameKeys⟩

/-- no alias maps to two different default names, in any of the four tables -/
theorem alias_unique (a : Aliases) (ha : a = codecV3 ∨ a = codecV2 ∨ a = dtypeV3 ∨ a = dtypeV2) (al i j : Str)
    (hi : (al, i) ∈ a.aliasesStr) (hj : (al, j) ∈ a.aliasesStr) : i = j ∧ a.defaultName i = a.defaultName j := by
  have := tbl_functional _ (a.ok_of_default ha).aliasKeys al i j hi hj
  exact ⟨this, by rw [this]⟩
example : (ascii "numcodecs.zlib", ascii "zlib") ∈ codecV3.aliasesStr := by
  show _ ∈ codecAliasStrV3
  tbl_mem

/-- the V2 -> V3 conversion of `Model/MetaV2.lean` reads the same tables -/
theorem tables_shared (s : Str) :
    codecIdent s = codecV2.identifier s ∧ codecName s = codecV3.defaultName s ∧
    dtypeNameV3 s = dtypeV3.defaultName (dtypeV2.identifier s) :=
  ⟨codecIdent_eq s, codecName_eq s, dtypeNameV3_eq s⟩

/-- for each of the four tables, converting a name keeps its identifier (so the
    plugin that is found is the same), converting twice is converting once, every registered default name is a fixed
    point, and a converted name is the default name registered for its identifier (the identifier itself when none is) -/
theorem metadataOpt_alias_idempotent (a : Aliases) (ha : a = codecV3 ∨ a = codecV2 ∨ a = dtypeV3 ∨ a = dtypeV2) (n : Str) :
    a.identifier (a.convert n) = a.identifier n ∧ a.convert (a.convert n) = a.convert n ∧
    (∀ i dn, (i, dn) ∈ a.defaultNames → a.convert dn = dn) ∧
    ((∃ dn, (a.identifier n, dn) ∈ a.defaultNames ∧ a.convert n = dn) ∨
     ((∀ dn, (a.identifier n, dn) ∉ a.defaultNames) ∧ a.convert n = a.identifier n)) := by
  have h := a.ok_of_default ha
  exact ⟨a.identifier_convert h n, a.convert_idem h n, a.convert_default h, a.convert_is_default n⟩
example : codecV3.convert (ascii "https://codec.zarrs.dev/bytes_to_bytes/gdeflate") = ascii "zarrs.gdeflate" ∧
    codecV3.convert (ascii "zarrs.gdeflate") = ascii "zarrs.gdeflate" ∧ codecV3.convert (ascii "gdeflate") = ascii "zarrs.gdeflate" ∧
    codecV3.convert (ascii "endian") = ascii "bytes" ∧ codecV3.convert (ascii "gzip") = ascii "gzip" ∧
    codecV2.convert (ascii "https://codec.zarrs.dev/bytes_to_bytes/bz2") = ascii "bz2" ∧
    dtypeV3.convert (ascii "binary") = ascii "bytes" ∧ dtypeV2.convert (ascii "|V12") = ascii "bytes" := by
  simp only [Aliases.convert, exDocA_idents.2.2.2, exDocA_idents.2.1, exV3a_idents.2.2.2,
    codecV3_identifier_plain (ascii "gdeflate") (by decide +kernel) (by decide +kernel),
    codecV3_identifier_plain (ascii "gzip") (by decide +kernel) (by decide +kernel),
    codecV2.identifier_alias codecV2_ok (ascii "https://codec.zarrs.dev/bytes_to_bytes/bz2") (ascii "bz2") (by tbl_mem)]
  decide +kernel

/-- **`metadataOpt_reopens` (V3)**: for every accepted V3 document and EVERY option setting, `metadata_opt` gives a
    well-formed V3 document `e`; written to the store (whatever was there) it is read back as `e` and accepted again;
    and it denotes the same array: shape, data type, chunk grid, chunk key encoding, fill value, storage transformers,
    dimension names and additional fields are those of `d`; the attributes are those of `d` up to `_zarrs`; the chain
    of the re-opened array consists of the written codecs of the handle's chain, in order, each the same codec (kind,
    configuration) under a name with the same identifier. -/
theorem metadataOpt_reopens (plug : Plug) (hp : PlugOk plug) (o : Opts) (d : ArrayDoc) (hd : C13.ArrayDoc.ok d) (r : Nat)
    (ch : Chain) (hopen : openV3 plug r d = some (.v3 d ch)) (k : NodeKeys) :
    ∃ e, metadataOpt o (.v3 d ch) = some (.v3 e) ∧ C13.ArrayDoc.ok e ∧
      openArray plug r (storeArray k (.v3 e)) = some (.v3 e (ch.stored o)) ∧
      e.shape = d.shape ∧ e.dataType = d.dataType ∧ e.chunkGrid = d.chunkGrid ∧ e.cke = d.cke ∧ e.fill = d.fill ∧
      e.st = d.st ∧ e.dimNames = d.dimNames ∧ e.extra = d.extra ∧
      without e.attrs kZarrs = without d.attrs kZarrs ∧
      (ch.stored o).all.map (fun n => (codecV3.identifier n.name, n.codec)) =
        (ch.all.filter (Named.written o)).map (fun n => (codecV3.identifier n.name, n.codec)) := by
  have hg := (C13.arrayDoc_ok_iff d).1 hd
  have hch := (openV3_inv plug r d ch hopen).chain
  have hgood := outV3_good plug hp o d hg ch hch
  refine ⟨outV3 o d ch, metadataOpt_v3 o d ch, (C13.arrayDoc_ok_iff _).2 hgood, ?_, rfl,
    outDoc_dataType o _ _ (openV3_inv plug r d ch hopen).dataType, rfl, rfl,
    rfl, rfl, rfl, rfl, without_withZarrs o d.attrs, ?_⟩
  · rw [openArray_storeV3 plug r k _ hgood]
    exact outV3_opens plug hp o d r ch hopen
  · rw [Chain.stored_all o ch (a2b_written plug hp o _ ch hch), List.map_map]
    apply List.map_congr_left
    intro n _
    simp only [Function.comp, Named.rename_eq, Named.rn, o.conv_ident codecV3 codecV3_ok]
example : PlugOk exPlug ∧ C13.ArrayDoc.ok exDocA ∧ openV3 exPlug 2 exDocA = some (.v3 exDocA exChainA) :=
  ⟨exPlug_ok, exDocA_ok, exDocA_opens⟩

/-- **stored, opened, stored again is a fixed point, for every option setting**: the re-opened handle (the written
    document with the stored chain) gives the same document again -/
theorem metadataOpt_fixed (plug : Plug) (hp : PlugOk plug) (o : Opts) (d : ArrayDoc) (r : Nat) (ch : Chain)
    (hopen : openV3 plug r d = some (.v3 d ch)) :
    ∃ e, metadataOpt o (.v3 d ch) = some (.v3 e) ∧ metadataOpt o (.v3 e (ch.stored o)) = some (.v3 e) := by
  refine ⟨outV3 o d ch, metadataOpt_v3 o d ch, ?_⟩
  rw [metadataOpt_v3, outV3_fixed plug hp o d ch (openV3_inv plug r d ch hopen).chain]
example : PlugOk exPlug ∧ openV3 exPlug 2 exDocA = some (.v3 exDocA exChainA) := ⟨exPlug_ok, exDocA_opens⟩

/-- **the codec list that is written**: the codecs the plugins created from the document's list — array-to-array
    codecs, then the array-to-bytes codec, then bytes-to-bytes codecs, each group in document order (the position of a
    codec in the document's list is not looked at) — without the encode-only codecs unless the option asks for them;
    each with the name the document gave (converted when the option says so), the configuration the codec writes and
    `must_understand: true`.  Entries the plugins did not create (allowed only with `must_understand: false`) are gone. -/
theorem metadataOpt_codecs (plug : Plug) (o : Opts) (d : ArrayDoc) (r : Nat) (ch : Chain)
    (hopen : openV3 plug r d = some (.v3 d ch)) :
    ∃ e, metadataOpt o (.v3 d ch) = some (.v3 e) ∧
      e.codecs = ((ch.all.filter (Named.written o)).map (Named.rename o)).map Named.toMeta ∧
      ch.all = ofKind .a2a (createdOf plug d.codecs) ++ ofKind .a2b (createdOf plug d.codecs) ++ ofKind .b2b (createdOf plug d.codecs) ∧
      (∀ m ∈ d.codecs, created plug m = none → m.mu = false) := by
  have hi := chainOf_inv plug _ ch (openV3_inv plug r d ch hopen).chain
  refine ⟨outV3 o d ch, metadataOpt_v3 o d ch, outCodecs_eq o ch, ?_, ?_⟩
  · rw [Chain.all, hi.a2a, hi.a2b, hi.b2b]
  · intro m hm hcr
    have hs := hi.skip
    unfold skipOk at hs
    rw [List.all_eq_true] at hs
    have := hs m hm
    rw [hcr] at this
    simpa using this
example : openV3 exPlug 2 exDocA = some (.v3 exDocA exChainA) := exDocA_opens
example : (chainOf exPlug [⟨ascii "gzip", some [(ascii "level", .num ['1'])], true⟩, ⟨ascii "endian", none, true⟩,
      ⟨ascii "transpose", some [(ascii "order", .arr [.num ['0']])], true⟩]).map (fun ch => (outCodecs Opts.dflt ch).map (·.name)) =
    some [ascii "transpose", ascii "endian", ascii "gzip"] := by
  obtain ⟨_, k3, k2, _, _, _, k1⟩ := exKinds
  rw [chainOf_of_created exPlug _
    [⟨ascii "gzip", ⟨.b2b, [(ascii "level", .num ['1'])], false⟩⟩, ⟨ascii "endian", ⟨.a2b, [], false⟩⟩,
      ⟨ascii "transpose", ⟨.a2a, [(ascii "order", .arr [.num ['0']])], false⟩⟩] ?_ _ rfl]
  · rfl
  · simp only [List.map_cons, List.map_nil, exPlug_created _ _ _ _ _ exDocA_idents.2.1 k2, exPlug_created _ _ _ _ _ exV3a_idents.1 k3,
      exPlug_created _ _ _ _ _ (codecV3_identifier_plain (ascii "gzip") (by decide +kernel) (by decide +kernel)) k1]
    rfl

/-- **`metadataOpt_names_as_given` (V3)**: with `convert_aliased_extension_names` off, the data type is exactly the
    one given and every written codec carries exactly the name the document gave for it -/
theorem metadataOpt_names_as_given (plug : Plug) (o : Opts) (ho : o.convertAliased = false) (d : ArrayDoc) (r : Nat)
    (ch : Chain) (hopen : openV3 plug r d = some (.v3 d ch)) :
    ∃ e, metadataOpt o (.v3 d ch) = some (.v3 e) ∧ e.dataType = d.dataType ∧
      e.codecs.map (·.name) = (ch.all.filter (Named.written o)).map (·.name) ∧
      (∀ n ∈ ch.all, ∃ m ∈ d.codecs, n.name = m.name) := by
  have hd := openV3_inv plug r d ch hopen
  refine ⟨outV3 o d ch, metadataOpt_v3 o d ch, outDoc_dataType o _ _ hd.dataType, ?_, ?_⟩
  · show (outCodecs o ch).map (·.name) = _
    simp [outCodecs_names, ho]
  · intro n hn
    obtain ⟨m, hm, hname, _⟩ := chainOf_mem plug _ ch hd.chain n hn
    exact ⟨m, hm, hname⟩
example : (⟨.default, true, false, true⟩ : Opts).convertAliased = false ∧
    openV3 exPlug 2 exDocA = some (.v3 exDocA exChainA) := ⟨rfl, exDocA_opens⟩

/-- with the option on, every written codec name is the default name of the identifier of the name given, and the data
    type of an accepted document is still exactly the one given (the only aliased data type name, `binary`, is never
    accepted: no data type plugin is registered that would take it) -/
theorem metadataOpt_names_converted (plug : Plug) (o : Opts) (ho : o.convertAliased = true) (d : ArrayDoc) (r : Nat)
    (ch : Chain) (hopen : openV3 plug r d = some (.v3 d ch)) :
    ∃ e, metadataOpt o (.v3 d ch) = some (.v3 e) ∧ e.dataType = d.dataType ∧
      e.codecs.map (·.name) = (ch.all.filter (Named.written o)).map (fun n => codecV3.defaultName (codecV3.identifier n.name)) := by
  refine ⟨outV3 o d ch, metadataOpt_v3 o d ch, outDoc_dataType o _ _ (openV3_inv plug r d ch hopen).dataType, ?_⟩
  show (outCodecs o ch).map (·.name) = _
  simp [outCodecs_names, ho, Aliases.convert]
example : (⟨.default, false, true, false⟩ : Opts).convertAliased = true ∧
    openV3 exPlug 2 exDocA = some (.v3 exDocA exChainA) := ⟨rfl, exDocA_opens⟩
example : (match metadataOpt ⟨.default, false, true, false⟩ (.v3 exDocA exChainA) with
      | some (.v3 e) => e.codecs.map (·.name) | _ => []) = [ascii "bytes", ascii "numcodecs.zlib", ascii "zarrs.gdeflate"] ∧
    (match metadataOpt ⟨.default, false, true, true⟩ (.v3 exDocA exChainA) with
      | some (.v3 e) => e.codecs.map (·.name) | _ => []) =
      [ascii "numcodecs.bitround", ascii "bytes", ascii "numcodecs.zlib", ascii "zarrs.gdeflate"] := by
  obtain ⟨h1, h2, h3, h4⟩ := exDocA_idents
  simp only [metadataOpt_v3]
  show (outCodecs _ exChainA).map (·.name) = _ ∧ (outCodecs _ exChainA).map (·.name) = _
  simp only [outCodecs_names]
  simp [exChainA, Chain.all, Named.written, Aliases.convert, h1, h2, h3, h4]
  decide +kernel
theorem binary_not_accepted : dataTypeOk ⟨ascii "binary", none, true⟩ = false ∧ dataTypeOk ⟨ascii "bytes", none, true⟩ = true := by
  decide +kernel

/-- **the `_zarrs` attribute** (arrays of either version): with the option on it is there with the library's entry — at
    the end when no `_zarrs` entry was there (an earlier entry keeps its place: the second `example` below); with the
    option off the attributes are those given;
    removing the key gives back the given attributes without it, in order (all of them, when `_zarrs` was not among
    them — then the key is present exactly when the option is set); inserting is idempotent -/
theorem zarrs_attribute (o : Opts) (attrs : Obj) :
    (o.includeZarrs = true → lookup (withZarrs o attrs) kZarrs = some zarrsValue) ∧
    (o.includeZarrs = false → withZarrs o attrs = attrs) ∧
    without (withZarrs o attrs) kZarrs = without attrs kZarrs ∧
    (lookup attrs kZarrs = none →
      without (withZarrs o attrs) kZarrs = attrs ∧ ((lookup (withZarrs o attrs) kZarrs).isSome = o.includeZarrs) ∧
      (o.includeZarrs = true → withZarrs o attrs = attrs ++ [(kZarrs, zarrsValue)])) ∧
    withZarrs o (withZarrs o attrs) = withZarrs o attrs := by
  refine ⟨?_, ?_, without_withZarrs o attrs, ?_, withZarrs_idem o attrs⟩
  · intro h; simp only [withZarrs, h, if_true]; exact lookup_mapInsert _ _ _
  · intro h; simp [withZarrs, h]
  · intro hn
    refine ⟨?_, ?_, ?_⟩
    · rw [without_withZarrs]; exact without_of_lookup_none _ _ hn
    · cases hz : o.includeZarrs with
      | true => simp only [withZarrs, hz, if_true, lookup_mapInsert]; rfl
      | false => simp [withZarrs, hz, hn]
    · intro h; simp only [withZarrs, h, if_true]; exact mapInsert_absent _ _ _ hn
example : lookup exDocA.attrs kZarrs = some (.str (ascii "old")) ∧ lookup C13.exDoc.attrs kZarrs = none := ⟨by rfl, by rfl⟩
example : (withZarrs Opts.dflt exDocA.attrs).map (·.1) = [ascii "a", ascii "_zarrs", ascii "z"] ∧
    (withZarrs Opts.dflt C13.exDoc.attrs).map (·.1) = [ascii "title", ascii "_zarrs"] := by decide +kernel
/-- what `metadata_opt` writes as attributes is `withZarrs` of the handle's attributes -/
theorem metadataOpt_attrs (o : Opts) (d : ArrayDoc) (ch : Chain) (d2 : ArrayDocV2) :
    (∃ e, metadataOpt o (.v3 d ch) = some (.v3 e) ∧ e.attrs = withZarrs o d.attrs) ∧
    (o.convertVersion = .default → ∃ e, metadataOpt o (.v2 d2) = some (.v2 e) ∧ e.attrs = withZarrs o d2.attrs) ∧
    (o.convertVersion = .v3 → ∀ v, v2ToV3 d2 = .ok v → ∃ e, metadataOpt o (.v2 d2) = some (.v3 e) ∧ e.attrs = withZarrs o d2.attrs) := by
  refine ⟨⟨outV3 o d ch, metadataOpt_v3 o d ch, rfl⟩, ?_, ?_⟩
  · intro ho; exact ⟨outV2 o d2, metadataOpt_v2 o d2 ho, rfl⟩
  · intro ho v hv; exact ⟨_, metadataOpt_v2v3 o d2 v ho hv, rfl⟩

/-- **`metadataOpt_v2_dtype_kept` and `metadataOpt_reopens` (V2 kept as V2)**: for every accepted V2 document and every
    option setting that keeps the version, `metadata_opt` gives a well-formed V2 document `e` with the data type string
    exactly as given — also under `convert_aliased_extension_names`, which only rewrites the ids of the filters and of
    the compressor; stored as `.zarray` / `.zattrs` (no `zarr.json` being there) it is read back as `e` and accepted
    again; its interpretation as a V3 array (`v2ToV3`) is that of the handle's document with the written attributes —
    so it denotes the same array; shape, chunks, fill value, order, separator and additional fields are those given,
    the attributes are those given up to `_zarrs`; and storing again is a fixed point. -/
theorem metadataOpt_v2_dtype_kept (plug : Plug) (o : Opts) (ho : o.convertVersion = .default) (d : ArrayDocV2)
    (hd : C13V2.ArrayDocV2.ok d) (hn : C13V2.noNodeTypeField d) (hopen : openV2 plug d = some (.v2 d)) (r : Nat)
    (k : NodeKeys) (hk : k.zarrJson = none) :
    ∃ e, metadataOpt o (.v2 d) = some (.v2 e) ∧ e.dtype = d.dtype ∧
      C13V2.ArrayDocV2.ok e ∧ C13V2.noNodeTypeField e ∧
      openArray plug r (storeArray k (.v2 e)) = some (.v2 e) ∧
      v2ToV3 e = (v2ToV3 d).map (fun v => { v with attrs := e.attrs }) ∧
      e.shape = d.shape ∧ e.chunks = d.chunks ∧ e.fill = d.fill ∧ e.order = d.order ∧ e.sep = d.sep ∧ e.extra = d.extra ∧
      without e.attrs kZarrs = without d.attrs kZarrs ∧
      metadataOpt o (.v2 e) = some (.v2 e) := by
  have hs := outV2_shapeOk o d hd.1
  have hw := outV2_wfParts o d hd.2
  refine ⟨outV2 o d, metadataOpt_v2 o d ho, rfl, ⟨hs, hw⟩, hn, ?_, v2ToV3_outV2 o d, rfl, rfl, rfl, rfl, rfl, rfl,
    without_withZarrs o d.attrs, ?_⟩
  · rw [openArray_storeV2 plug r k hk _ hs hw hn]
    exact outV2_opens plug o d hopen
  · rw [metadataOpt_v2 o _ ho, outV2_fixed]
example : C13V2.ArrayDocV2.ok exV2a ∧ C13V2.noNodeTypeField exV2a ∧ openV2 exPlug exV2a = some (.v2 exV2a) :=
  ⟨exV2a_ok, exV2a_noNodeType, exV2a_opens⟩
example : (match metadataOpt ⟨.default, true, true, true⟩ (.v2 exV2a) with
    | some (.v2 e) => ((match e.dtype with | .simple s => s | _ => []), e.compressor.map (·.id), e.filters.map (·.map (·.id)))
    | _ => ([], none, none)) = (ascii ">i2", some (ascii "zarrs.gdeflate"), some [ascii "shuffle"]) := by
  have hg := codecV2.identifier_alias codecV2_ok (ascii "https://codec.zarrs.dev/bytes_to_bytes/gdeflate")
    (ascii "gdeflate") (by tbl_mem)
  have hs := (codecIdent_eq _).symm.trans (codecIdent_plain (ascii "shuffle") (by decide +kernel))
  rw [metadataOpt_v2 _ _ rfl]
  simp [outV2, rnDocV2, rnV2, Opts.conv, exV2a, C13V2.exV2x, C13V2.exV2, Aliases.convert, hg, hs]
  decide +kernel

/-- **`metadataOpt_names_as_given` (V2)**: with `convert_aliased_extension_names` off, nothing but the attributes
    differs from the handle's document -/
theorem metadataOpt_names_as_given_v2 (o : Opts) (ho : o.convertVersion = .default) (ha : o.convertAliased = false)
    (d : ArrayDocV2) : metadataOpt o (.v2 d) = some (.v2 { d with attrs := withZarrs o d.attrs }) := by
  rw [metadataOpt_v2 o d ho, outV2, show o.conv codecV2 = fun n => n from funext fun n => by simp [Opts.conv, ha], rnDocV2_id]

/-- **the unrepaired behaviour, as a counterexample**: rewriting the V2 data type through the V2 data type aliases
    (`>i2` becomes the identifier `int16`) turns an accepted V2 document into one that is rejected (`int16` has no
    byte-order prefix: `InvalidEndianness`), while the repaired conversion of the same document stays accepted -/
theorem metadataOpt_v2_dtype_unrepaired_rejected :
    openOkV2 C13V2.exV2 = true ∧
    (aliasV2Unrepaired C13V2.exV2).dtype.toJ = .str (ascii "int16") ∧
    openOkV2 (aliasV2Unrepaired C13V2.exV2) = false ∧
    v2ToV3 (aliasV2Unrepaired C13V2.exV2) = .error .invalidEndianness ∧
    openOkV2 (aliasV2 C13V2.exV2) = true := by
  refine ⟨C13V2.exV2_openOk, by rfl, by decide +kernel, by rfl, (openOkV2_rnDocV2 _ codecIdent_convert C13V2.exV2).trans C13V2.exV2_openOk⟩

/-- **`metadataOpt_reopens` (V2 written as V3)**: for every accepted V2 document (whose additional fields are not named
    like V3 array fields: the conversion carries them over and the written text would hold such a key twice) and every
    option setting that converts to V3, `metadata_opt` does not panic and gives the conversion `v` of the handle's
    document with the written attributes and, when the option says so, converted names — a well-formed V3 document;
    written as `zarr.json` it is read back and accepted as a V3 array (the `.zarray` that stays in the store is not looked
    at), with the chain of the handle up to name spelling; data type, shape, chunk grid, key encoding, fill value and
    additional fields are those of `v`. -/
theorem metadataOpt_v2_to_v3_reopens (plug : Plug) (o : Opts) (ho : o.convertVersion = .v3) (d : ArrayDocV2)
    (hd : C13V2.ArrayDocV2.ok d) (hx : ∀ kv ∈ d.extra, kv.1 ∉ arrayKeys) (hopen : openV2 plug d = some (.v2 d))
    (k : NodeKeys) :
    ∃ e v ch, metadataOpt o (.v2 d) = some (.v3 e) ∧ v2ToV3 d = .ok v ∧ chainOf plug v.codecs = some ch ∧
      C13.ArrayDoc.ok e ∧
      openArray plug d.chunks.length (storeArray k (.v3 e)) =
        some (.v3 e (if o.convertAliased then ch.converted else ch)) ∧
      e.shape = v.shape ∧ e.dataType = v.dataType ∧ e.chunkGrid = v.chunkGrid ∧ e.cke = v.cke ∧ e.fill = v.fill ∧
      e.st = v.st ∧ e.dimNames = v.dimNames ∧ e.extra = v.extra ∧ e.attrs = withZarrs o d.attrs ∧
      e.codecs = (if o.convertAliased then v.codecs.map (renameV3 codecV3) else v.codecs) := by
  obtain ⟨_, v, ch, hv⟩ := openV2_inv plug d _ hopen
  have hgood := outDoc_good o _ v (v2ToV3_good d hd.1 hd.2 v hv.conv hx) hd.2.attrs
  refine ⟨_, v, ch, metadataOpt_v2v3 o d v ho hv.conv, hv.conv, hv.chain, (C13.arrayDoc_ok_iff _).2 hgood, ?_, rfl,
    outDoc_dataType o _ v hv.dataType, rfl, rfl, rfl, rfl, rfl, rfl, rfl, outDoc_codecs o _ v⟩
  rw [openArray_storeV3 plug _ k _ hgood, Chain.converted_eq]
  exact outDoc_opens plug _ o _ v ch (openV3_intro plug _ v ch hv.openV3)
example : C13V2.ArrayDocV2.ok exV2a ∧ (∀ kv ∈ exV2a.extra, kv.1 ∉ arrayKeys) ∧ openV2 exPlug exV2a = some (.v2 exV2a) :=
  ⟨exV2a_ok, exV2a_extraKeys, exV2a_opens⟩
example : (match metadataOpt ⟨.v3, false, true, false⟩ (.v2 exV2a) with
    | some (.v3 e) => (e.dataType.name, e.codecs.map (·.name))
    | _ => ([], [])) = (ascii "int16", [ascii "transpose", ascii "numcodecs.shuffle", ascii "bytes", ascii "zarrs.gdeflate"]) := by
  obtain ⟨h1, h2, h3, h4⟩ := exV3a_idents
  rw [metadataOpt_v2v3 _ _ _ rfl exV2a_conv]
  simp [outDoc, rnDoc, rnV3, Opts.conv, exV3a, C13V2.exV3, Aliases.convert, h1, h2, h3, h4]
  decide +kernel

/-- every chain made from converted names is the chain of the given names, converted (the alias conversion keeps the
    identifier of a name) -/
theorem chain_of_converted_names (plug : Plug) (ms : List MetaV3) :
    chainOf plug (ms.map (renameV3 codecV3)) = (chainOf plug ms).map Chain.converted :=
  chainOf_rn plug _ (codecV3.identifier_convert codecV3_ok) ms

/-- **a V2 array written as V3 is NOT yet a fixed point when it has an encode-only filter**: the first store writes the
    conversion of the V2 document (`bitround` included); the re-opened V3 array re-creates its codec metadata from the
    chain and leaves `bitround` out (unless the codec option is set).  From the second store on, `metadataOpt_fixed`
    applies.  The document: `dtype <f4`, `filters [{"id":"bitround","keepbits":3}]`. -/
theorem v2_to_v3_encode_only_not_fixed :
    let d : ArrayDocV2 := { C13V2.exV2 with dtype := .simple (ascii "<f4"), order := .C, compressor := none,
                                            filters := some [⟨ascii "bitround", [(ascii "keepbits", .num ['3'])]⟩] }
    let o : Opts := ⟨.v3, false, false, false⟩
    openOkV2 d = true ∧
    (match metadataOpt o (.v2 d) with
     | some (.v3 e) =>
       (e.codecs.map (·.name),
        (chainOf exPlug e.codecs).bind (fun ch => match metadataOpt o (.v3 e ch) with
          | some (.v3 e2) => some (e2.codecs.map (·.name)) | _ => none))
     | _ => ([], none)) = ([ascii "numcodecs.bitround", ascii "bytes"], some [ascii "bytes"]) := by
  intro d o
  -- the conversion: `bitround` is no alias (no dot) and has the default name `numcodecs.bitround`
  have hh : codecsHead .C 2 (some .little) d.filters none =
      [⟨ascii "numcodecs.bitround", some [(ascii "keepbits", .num ['3'])], true⟩, bytesMeta .little] := by
    rw [codecsHead_eq]
    simp only [d, Option.getD_some, List.map_cons, List.map_nil, List.any_cons, List.any_nil,
      filterToV3_of_ident _ _ _ (codecIdent_plain (ascii "bitround") (by decide +kernel)) (by decide +kernel),
      codecName_of_mem (ascii "bitround") (ascii "numcodecs.bitround") (by tbl_mem)]
    rfl
  have hv := v2ToV3_intro d (ascii "<f4") (some .little) _ _
    ⟨rfl, by decide +kernel, fillConv_of_num _ ['-', '1'] (by decide +kernel) (by decide +kernel), rfl, congrArg Except.ok hh⟩
  refine ⟨(openOkV2_iff d).2 ⟨rfl, nofun, _, hv⟩, ?_⟩
  -- the first store writes the codecs of the conversion as they are; the second the written codecs of their chain
  rw [metadataOpt_v2v3 o d _ rfl hv]
  show (_, (chainOf exPlug (List.map (fun m => m) _)).bind _) = _
  rw [List.map_id', chainOf_of_created exPlug _ [⟨ascii "numcodecs.bitround", ⟨.a2a, [(ascii "keepbits", .num ['3'])], true⟩⟩,
    ⟨ascii "bytes", ⟨.a2b, [(ascii "endian", .str (ascii "little"))], false⟩⟩] ?_ _ rfl]
  · simp only [Option.bind_some, metadataOpt_v3]
    show (_, some ((outCodecs o _).map (·.name))) = _
    rw [outCodecs_names]
    rfl
  · simp only [v3Of, bytesMeta, List.map_cons, List.map_nil, exPlug_created _ _ _ _ _ exV3a_idents.2.2.1 exKinds.2.2.1,
      exPlug_created _ _ _ _ _ (codecV3_identifier_of_mem (ascii "numcodecs.bitround") (ascii "bitround") (by tbl_mem)) exKinds.1]
    rfl

/-- after its first store a V2 array written as V3 is a V3 array, to which `metadataOpt_reopens` / `metadataOpt_fixed`
    apply: the second store gives a document that every later store reproduces -/
theorem metadataOpt_v2_to_v3_then_fixed (plug : Plug) (hp : PlugOk plug) (o : Opts) (ho : o.convertVersion = .v3) (d : ArrayDocV2)
    (hopen : openV2 plug d = some (.v2 d)) :
    ∃ e ch', metadataOpt o (.v2 d) = some (.v3 e) ∧ openV3 plug d.chunks.length e = some (.v3 e ch') ∧
      ∃ e2, metadataOpt o (.v3 e ch') = some (.v3 e2) ∧ metadataOpt o (.v3 e2 (ch'.stored o)) = some (.v3 e2) := by
  obtain ⟨_, v, ch, hv⟩ := openV2_inv plug d _ hopen
  have hre := outDoc_opens plug _ o d.attrs v ch (openV3_intro plug _ v ch hv.openV3)
  obtain ⟨e2, h2, h3⟩ := metadataOpt_fixed plug hp o _ _ _ hre
  exact ⟨_, _, metadataOpt_v2v3 o d v ho hv.conv, hre, e2, h2, h3⟩
example : PlugOk exPlug ∧ openV2 exPlug exV2a = some (.v2 exV2a) := ⟨exPlug_ok, exV2a_opens⟩

/-- **groups**: `Group::metadata_opt` only converts the version — no `_zarrs` attribute, no names.  A V3 group document,
    and a V2 group document kept as V2, are written as they are, read back as they are (V2: attributes through
    `.zattrs`) and stored again unchanged; a V2 group written as V3 carries attributes and additional fields over
    (`groupV2ToV3`), is a well-formed V3 document when no additional field is named like a V3 group field, and is then
    read back and accepted as that V3 group. -/
theorem groupMetadataOpt_reopens (o : Opts) :
    (∀ d : GroupDoc, C13.GroupDoc.ok d → groupOk d = true → ∀ k,
      groupMetadataOpt o (.v3 d) = .v3 d ∧ openGroup (storeGroup k (groupMetadataOpt o (.v3 d))) = some (.v3 d)) ∧
    (∀ d : GroupDocV2, C13V2.GroupDocV2.ok d → d.extra.all (fun kv => !kv.2.mu) = true → ∀ k : NodeKeys, k.zarrJson = none →
      (o.convertVersion = .default →
        groupMetadataOpt o (.v2 d) = .v2 d ∧ openGroup (storeGroup k (groupMetadataOpt o (.v2 d))) = some (.v2 d))) ∧
    (∀ d : GroupDocV2, C13V2.GroupDocV2.ok d → d.extra.all (fun kv => !kv.2.mu) = true →
      (∀ kv ∈ d.extra, kv.1 ∉ groupKeys) → ∀ k : NodeKeys,
      (o.convertVersion = .v3 →
        groupMetadataOpt o (.v2 d) = .v3 (groupV2ToV3 d) ∧ (groupV2ToV3 d).attrs = d.attrs ∧ (groupV2ToV3 d).extra = d.extra ∧
        C13.GroupDoc.ok (groupV2ToV3 d) ∧
        openGroup (storeGroup k (groupMetadataOpt o (.v2 d))) = some (.v3 (groupV2ToV3 d)))) := by
  refine ⟨?_, ?_, ?_⟩
  · intro d hd hok k
    exact ⟨rfl, openGroup_storeV3 k d ((C13.groupDoc_ok_iff d).1 hd) hok⟩
  · intro d hd hok k hk ho
    have : groupMetadataOpt o (.v2 d) = .v2 d := by simp [groupMetadataOpt, ho]
    rw [this]
    exact ⟨rfl, openGroup_storeV2 k hk d hd.1 hd.2 hok⟩
  · intro d hd hok hx k ho
    have : groupMetadataOpt o (.v2 d) = .v3 (groupV2ToV3 d) := by simp [groupMetadataOpt, ho]
    rw [this]
    have hg := groupV2ToV3_good d hd.1 hd.2 hx
    refine ⟨rfl, rfl, rfl, (C13.groupDoc_ok_iff _).2 hg, openGroup_storeV3 k _ hg ?_⟩
    unfold groupOk groupV2ToV3
    exact hok
example : C13.GroupDoc.ok { C13.exGroup with extra := [(ascii "my_ext", C13.exField)] } ∧
    groupOk { C13.exGroup with extra := [(ascii "my_ext", C13.exField)] } = true := by
  obtain ⟨h1, h2, _⟩ := C13.exGroup_ok
  refine ⟨⟨h1, ?_, by unfold C13.extraSorted; decide⟩, by decide⟩
  intro kv hkv
  simp only [List.mem_cons, List.not_mem_nil, or_false] at hkv
  subst hkv
  exact h2 _ (by simp [C13.exGroup])
example : C13V2.GroupDocV2.ok { C13V2.exGroupV2 with extra := [(ascii "my_ext", C13V2.exField)] } ∧
    ({ C13V2.exGroupV2 with extra := [(ascii "my_ext", C13V2.exField)] } : GroupDocV2).extra.all (fun kv => !kv.2.mu) = true ∧
    (∀ kv ∈ ({ C13V2.exGroupV2 with extra := [(ascii "my_ext", C13V2.exField)] } : GroupDocV2).extra, kv.1 ∉ groupKeys) := by
  have hs := C13V2.exGroupV2_ok.1
  have hs' : ({ C13V2.exGroupV2 with extra := [(ascii "my_ext", C13V2.exField)] } : GroupDocV2).shapeOk :=
    ⟨by decide +kernel, fun _ hkv => hs.extraShape _ (List.mem_singleton.1 hkv ▸ List.mem_cons_self ..),
      by unfold sortedKeys; decide +kernel⟩
  exact ⟨⟨hs', groupDocV2_ofJ_wfParts _ (J.wf_of_check _ (by decide +kernel)) _ (groupDocV2_ofJ_toJ _ hs')⟩,
    by decide +kernel, fun _ hkv => List.mem_singleton.1 hkv ▸ (C13.exKeys_extra _ (.head _)).2⟩

end Zarrs.C13Opts
