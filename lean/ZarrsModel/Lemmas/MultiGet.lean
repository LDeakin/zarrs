import ZarrsModel.Model.MultiGet
/- the batching loop of `get_partial_values` (C08, `Props/C08Multi.lean`): a flushed batch is answered request by request, and
so is the loop: what is pending and what remains are one request list -/
namespace Zarrs.MultiGet
open Zarrs

theorem reqwise_cons (m : KV) (q : Req) (rest : List Req) :
    reqwise m (q :: rest) = (one m q).bind fun x => (reqwise m rest).map (x :: ·) := by
  rw [reqwise]
  cases one m q <;> cases reqwise m rest <;> rfl

theorem reqwise_append (m : KV) (a b : List Req) :
    reqwise m (a ++ b) = (reqwise m a).bind fun xs => (reqwise m b).map (xs ++ ·) := by
  induction a with
  | nil => exact Option.map_id'.symm
  | cons q a ih =>
    rw [List.cons_append, reqwise_cons, reqwise_cons, ih]
    cases one m q <;> cases reqwise m a <;> cases reqwise m b <;> rfl

theorem flush_eq_reqwise (m : KV) (k : Key) (rs : List ByteRange) : flush m k rs = reqwise m (rs.map ((k, ·))) := by
  induction rs with
  | nil => unfold flush; cases m.get k <;> rfl
  | cons r rs ih =>
    rw [List.map_cons, reqwise_cons, ← ih]
    simp only [flush, one]
    cases m.get k with
    | none => rfl
    | some b =>
      simp only [extractByteRanges, List.all_cons]
      by_cases h1 : r.valid b.length = true <;> by_cases h2 : rs.all (·.valid b.length) = true <;> simp [h1, h2]

theorem loop_pending_eq_reqwise (m : KV) : ∀ (reqs : List Req) (k : Key) (rs : List ByteRange) (out : List (Option Bytes)),
    loop flush m reqs (some k) rs out = (reqwise m (rs.map ((k, ·)) ++ reqs)).map (out ++ ·) := by
  intro reqs
  induction reqs with
  | nil =>
    intro k rs out
    rw [List.append_nil, ← flush_eq_reqwise, loop]
    cases rs with
    | nil => rw [flush_eq_reqwise]; exact congrArg some (List.append_nil out).symm
    | cons r rs => rfl
  | cons q rest ih =>
    intro k rs out
    obtain ⟨k', r⟩ := q
    rw [loop, Option.getD_some]
    by_cases hk : k' = k
    · subst hk
      rw [if_neg (by simp), ih, List.map_append, List.append_assoc]
      rfl
    · rw [if_pos (by simpa using hk), reqwise_append, ← flush_eq_reqwise]
      cases flush m k rs with
      | none => rfl
      | some bs =>
        simp only [ih, Option.bind_some, Option.map_map]
        congr 1
        funext cs
        exact (List.append_assoc ..)

theorem reqwise_length (m : KV) : ∀ (reqs : List Req) (out : List (Option Bytes)), reqwise m reqs = some out → out.length = reqs.length := by
  intro reqs
  induction reqs with
  | nil => intro out h; cases h; rfl
  | cons q rest ih =>
    intro out h
    rw [reqwise_cons] at h
    obtain ⟨x, _, h⟩ := Option.bind_eq_some_iff.1 h
    obtain ⟨xs, hxs, rfl⟩ := Option.map_eq_some_iff.1 h
    exact congrArg (· + 1) (ih xs hxs)

end Zarrs.MultiGet
