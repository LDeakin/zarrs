import ZarrsModel.Model.WriteMap
import ZarrsModel.Lemmas.GridApi
/- Write maps (C17).  The executable verdict `tiles` says that the written bytes are a permutation of `[0, len)`
(`tiles_iff_perm`); the tiles of a buffer or of a view write its bytes once (`Tiling.bytes_full`, `Tiling.bytes_view`);
the chunks of a grid that meet a region, cut to it (`Grid.Pieces`) and seen from its start, are the views that tile the
buffer of a multi-chunk read (`Grid.Pieces.views`). -/
namespace Zarrs

abbrev rangeBytes (rs : List (Nat × Nat)) : List Nat := rs.flatMap (fun r => List.range' r.1 r.2)

theorem insertRange_perm (r : Nat × Nat) (xs : List (Nat × Nat)) : (insertRange r xs).Perm (r :: xs) := by
  induction xs with
  | nil => exact List.Perm.refl _
  | cons x xs ih =>
    simp only [insertRange]
    split
    · exact List.Perm.refl _
    · exact ((List.Perm.cons x ih).trans (List.Perm.swap r x xs))

theorem insertRange_sorted (r : Nat × Nat) (xs : List (Nat × Nat))
    (h : xs.Pairwise (fun a b => a.1 ≤ b.1)) : (insertRange r xs).Pairwise (fun a b => a.1 ≤ b.1) := by
  induction xs with
  | nil => simp [insertRange]
  | cons x xs ih =>
    rw [List.pairwise_cons] at h
    simp only [insertRange]
    split
    · rename_i hc
      have hrx : r.1 ≤ x.1 := by
        simp only [Bool.or_eq_true, decide_eq_true_eq, Bool.and_eq_true, beq_iff_eq] at hc
        omega
      exact List.pairwise_cons.mpr
        ⟨List.forall_mem_cons.mpr ⟨hrx, fun a ha => Nat.le_trans hrx (h.1 a ha)⟩, List.pairwise_cons.mpr h⟩
    · rename_i hc
      have hxr : x.1 ≤ r.1 := by
        simp only [Bool.or_eq_true, decide_eq_true_eq, Bool.and_eq_true, beq_iff_eq, not_or] at hc
        omega
      exact List.pairwise_cons.mpr
        ⟨fun a ha => List.forall_mem_cons (p := fun a => x.1 ≤ a.1).mpr ⟨hxr, h.1⟩ a
          ((insertRange_perm r xs).mem_iff.mp ha), ih h.2⟩

theorem foldl_insertRange (rs : List (Nat × Nat)) : ∀ acc : List (Nat × Nat),
    acc.Pairwise (fun a b => a.1 ≤ b.1) →
    (rs.foldl (fun acc r => insertRange r acc) acc).Perm (rs ++ acc) ∧
    (rs.foldl (fun acc r => insertRange r acc) acc).Pairwise (fun a b => a.1 ≤ b.1) := by
  induction rs with
  | nil => intro acc h; exact ⟨List.Perm.refl _, h⟩
  | cons r rs ih =>
    intro acc h
    obtain ⟨h1, h2⟩ := ih (insertRange r acc) (insertRange_sorted r acc h)
    refine ⟨?_, h2⟩
    simp only [List.foldl_cons, List.cons_append]
    exact h1.trans ((List.Perm.append_left rs (insertRange_perm r acc)).trans List.perm_middle)

theorem sortRanges_perm (rs : List (Nat × Nat)) : (sortRanges rs).Perm rs := by
  have := (foldl_insertRange rs [] List.Pairwise.nil).1
  simpa [sortRanges] using this

theorem sortRanges_sorted (rs : List (Nat × Nat)) : (sortRanges rs).Pairwise (fun a b => a.1 ≤ b.1) :=
  (foldl_insertRange rs [] List.Pairwise.nil).2

theorem tilesFrom_sound : ∀ (S : List (Nat × Nat)) (pos len : Nat), tilesFrom pos len S = true →
    ∃ n, len = pos + n ∧ rangeBytes S = List.range' pos n
  | [], pos, len, h => ⟨0, (beq_iff_eq.mp h).symm, rfl⟩
  | (o, l) :: S, pos, len, h => by
    simp only [tilesFrom, Bool.and_eq_true, beq_iff_eq] at h
    obtain ⟨rfl, h⟩ := h
    obtain ⟨n, rfl, hb⟩ := tilesFrom_sound S _ _ h
    refine ⟨l + n, Nat.add_assoc .., ?_⟩
    simp only [rangeBytes, List.flatMap_cons] at hb ⊢
    rw [hb, List.range'_append_1]

theorem tilesFrom_complete : ∀ (S : List (Nat × Nat)) (pos n : Nat),
    S.Pairwise (fun a b => a.1 ≤ b.1) → (∀ r ∈ S, 0 < r.2) →
    (rangeBytes S).Perm (List.range' pos n) → tilesFrom pos (pos + n) S = true
  | [], pos, n, _, _, hp => by
    cases List.range'_eq_nil_iff.mp hp.symm.eq_nil
    simp [tilesFrom]
  | (o, l) :: S, pos, n, hs, hpos, hp => by
    rw [List.pairwise_cons] at hs
    obtain ⟨l, rfl⟩ : ∃ l', l = l' + 1 := ⟨l - 1, (Nat.sub_add_cancel (hpos (o, l) (List.mem_cons_self ..))).symm⟩
    simp only [rangeBytes, List.flatMap_cons] at hp
    have hmem : ∀ k, k ∈ List.range' o (l + 1) ++ rangeBytes S ↔ pos ≤ k ∧ k < pos + n :=
      fun k => hp.mem_iff.trans List.mem_range'_1
    -- the first and the last byte of the first range are written bytes
    have hin : ∀ k, o ≤ k → k < o + (l + 1) → pos ≤ k ∧ k < pos + n :=
      fun k h1 h2 => (hmem k).mp (List.mem_append_left _ (List.mem_range'_1.mpr ⟨h1, h2⟩))
    have ho := hin o (Nat.le_refl _) (Nat.lt_add_of_pos_right (Nat.succ_pos l))
    have hlast := (hin (o + l) (Nat.le_add_right ..) (Nat.lt_succ_self _)).2
    -- `pos` is written by some range, and all ranges start at or after `o`
    have hop : o = pos := by
      rcases List.mem_append.mp ((hmem pos).mpr ⟨Nat.le_refl _, Nat.lt_of_le_of_lt ho.1 ho.2⟩) with h | h
      · exact Nat.le_antisymm (List.mem_range'_1.mp h).1 ho.1
      · obtain ⟨r', hr', hin'⟩ := List.mem_flatMap.mp h
        exact Nat.le_antisymm (Nat.le_trans (hs.1 r' hr') (List.mem_range'_1.mp hin').1) ho.1
    subst hop
    obtain ⟨m, rfl⟩ := Nat.exists_eq_add_of_le (Nat.lt_iff_add_one_le.mp (Nat.lt_of_add_lt_add_left hlast))
    rw [← List.range'_append_1 (m := l + 1), List.perm_append_left_iff] at hp
    simp only [tilesFrom, beq_self_eq_true, Bool.true_and, ← Nat.add_assoc]
    exact tilesFrom_complete S _ m hs.2 (fun r hr => hpos r (List.mem_cons_of_mem _ hr)) hp

theorem rangeBytes_filter (rs : List (Nat × Nat)) :
    rangeBytes (rs.filter (fun r => r.2 != 0)) = rangeBytes rs := by
  induction rs with
  | nil => rfl
  | cons r rs ih =>
    simp only [rangeBytes] at ih ⊢
    by_cases h : r.2 = 0
    · simp [h, ih]
    · simp [h, ih]

theorem tiles_iff_perm (len : Nat) (rs : List (Nat × Nat)) :
    tiles len rs = true ↔ (rangeBytes rs).Perm (List.range len) := by
  have hperm : (rangeBytes (sortRanges (rs.filter (fun r => r.2 != 0)))).Perm (rangeBytes rs) := by
    rw [← rangeBytes_filter rs]
    exact List.Perm.flatMap_right _ (sortRanges_perm _)
  simp only [tiles]
  constructor
  · intro h
    obtain ⟨n, hn, hb⟩ := tilesFrom_sound _ _ _ h
    rw [hn, Nat.zero_add, List.range_eq_range', ← hb]
    exact hperm.symm
  · intro h
    rw [← Nat.zero_add len]
    apply tilesFrom_complete _ _ _ (sortRanges_sorted _)
    · intro r hr
      have := (sortRanges_perm _).mem_iff.mp hr
      simp only [List.mem_filter, bne_iff_ne, ne_eq] at this
      omega
    · rw [← List.range_eq_range']
      exact hperm.trans h

theorem range_cells (n es : Nat) :
    (List.range n).flatMap (fun k => List.range' (k * es) es) = List.range (n * es) := by
  have := range'_mul_cells 0 n es
  rw [Nat.zero_mul] at this
  rw [List.range_eq_range', List.range_eq_range', this]

theorem rangeBytes_flatMap {β} (l : List β) (f : β → List (Nat × Nat)) :
    rangeBytes (l.flatMap f) = l.flatMap (fun x => rangeBytes (f x)) := by
  simp [rangeBytes, List.flatMap_assoc]

namespace Tiling
variable {κ : Type} {K : List κ} {W : κ → Subset} {P : Idx → Prop}

theorem bytes (T : Tiling K W P) (out : Shape) (es : Nat) (hP : ∀ i, P i → inB i out = true) (L : List Nat)
    (hL : L.Nodup) (hmem : ∀ n, n ∈ L ↔ ∃ i, P i ∧ ravel i out = n) :
    (rangeBytes (K.flatMap fun k => (W k).byteRanges out es)).Perm (L.flatMap fun n => List.range' (n * es) es) := by
  have e : rangeBytes (K.flatMap fun k => (W k).byteRanges out es) =
      (K.flatMap fun k => (W k).linearised out).flatMap fun n => List.range' (n * es) es := by
    rw [rangeBytes_flatMap, List.flatMap_assoc]
    exact flatMap_congr' fun k hk =>
      (W k).byteRanges_exact out es (T.inboundsShape hP hk).1 (T.inboundsShape hP hk).2
  rw [e]
  exact List.Perm.flatMap_right _ (T.lin_perm out hP L hL hmem)

theorem bytes_full {out : Shape} (T : Tiling K W (inB · out = true)) (es : Nat) :
    (rangeBytes (K.flatMap fun k => (W k).byteRanges out es)).Perm (List.range (prod out * es)) := by
  rw [← range_cells]
  refine T.bytes out es (fun _ h => h) _ List.nodup_range fun n => List.mem_range.trans ?_
  exact ⟨fun h => ⟨_, unravel_inB n out h, ravel_unravel n out h⟩, fun ⟨i, hi, e⟩ => e ▸ ravel_lt i out hi⟩

theorem bytes_view {V : Subset} (T : Tiling K W (V.contains · = true)) (out : Shape) (es : Nat) (hV : V.wf = true)
    (hb : V.inboundsShape out = true) :
    (rangeBytes (K.flatMap fun k => (W k).byteRanges out es)).Perm (rangeBytes (V.byteRanges out es)) := by
  rw [show rangeBytes (V.byteRanges out es) = _ from V.byteRanges_exact out es hV hb]
  exact T.bytes out es (fun _ h => Subset.inB_of_inboundsShape hb h) _
    ((V.linearised_sorted out hV hb).imp Nat.ne_of_lt) (mem_linearised V out hV)

end Tiling

/-- the view of chunk `c` in the buffer of a region `R`: `chunk_subset.overlap(region).relative_to(region.start())` -/
def pieceView (g : Grid) (R : Subset) (c : Idx) : Subset := ((g.boxOf c).overlap R).relativeTo R.start

theorem Grid.Pieces.views {g : Grid} {arr : Shape} {R box : Subset} (P : g.Pieces arr R box) (hr : R.wf = true) :
    Tiling box.indices (pieceView g R) (inB · R.shape = true) :=
  P.tiling.relativeTo hr

/-- `retrieve_array_subset_opt` appends the ranges of the views, chunk by chunk -/
theorem Grid.Pieces.writeMap {α} {cfg : ArrCfg α} {R box : Subset} (P : cfg.grid.Pieces cfg.shape R box)
    (hr : R.wf = true) (es : Nat) : ∃ m, cfg.writeMap R es = some m ∧ tiles (R.numElements * es) m = true := by
  refine ⟨_, ?_, (tiles_iff_perm _ _).mpr ((P.views hr).bytes_full es)⟩
  rw [ArrCfg.writeMap, P.chunks, List.flatMap_eq_foldl, ← ArrCfg.foldOpt_some_foldl]
  refine ArrCfg.foldOpt_congr _ _ _ (fun acc c hc => ?_) []
  obtain ⟨cs, _, hcs, _⟩ := P.meets c hc
  simp only [hcs, pieceView, Grid.boxOf_eq hcs]

end Zarrs
