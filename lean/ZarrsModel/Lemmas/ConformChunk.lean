import ZarrsModel.Lemmas.Conform
import ZarrsModel.Lemmas.ConformShard
/- C12 for one chunk.  The array-to-bytes stage of `chunkBody`/`chunkDec` is stated on its own (`a2bEnc`/`a2bDec`), so that
`bytes` and a shard share the proof around it; a shard reads back because the value written is `Shard.Legal`
(`shardValue_legal`), whatever order and padding the `Layout` chose. -/
namespace Zarrs.Conform
open Zarrs Zarrs.Codec Zarrs.Inflate

def partDec (es : Nat) (fill : Elem) (ishape : Shape) (inner : Inner) : Option Bytes → Option (List Elem)
  | none => some (List.replicate (prod ishape) fill)
  | some b => innerDec es ishape inner b

def shardChunks (l : Layout) (fill : Elem) (eshape ishape : Shape) (inner : Inner) (ys : List Elem) :
    List (Option Bytes) :=
  (boxIndices (gridOf eshape ishape)).map (fun ci =>
    let part := subBox eshape ishape ys ci fill
    if part.all (· == fill) then none else some (innerEnc l ishape inner part))

def a2bDec (es : Nat) (fill : Elem) (eshape : Shape) : A2BK → Bytes → Option (List Elem)
  | .bytes big, body => bytesDecElems big es body
  | .shard ishape inner idxBig idxCrc atEnd, body =>
    let n := prod (gridOf eshape ishape)
    match Shard.decode ⟨n, atEnd, idxBig, idxCrc⟩ true body with
    | .error _ => none
    | .ok chunks =>
      match chunks.mapM (partDec es fill ishape inner) with
      | some parts => some (assemble eshape ishape parts fill)
      | none => none

def a2bEnc (l : Layout) (fill : Elem) (eshape : Shape) : A2BK → List Elem → Bytes
  | .bytes big, ys => bytesEncElems big ys
  | .shard ishape inner idxBig idxCrc atEnd, ys =>
    shardValue l ⟨prod (gridOf eshape ishape), atEnd, idxBig, idxCrc⟩ (shardChunks l fill eshape ishape inner ys)

theorem chunkBody_eq (l : Layout) (fill : Elem) (shape : Shape) (c : Chain) (xs : List Elem) :
    chunkBody l fill shape c xs =
      a2bEnc l fill (encodedShape shape c.transposes) c.a2b (dotranspose shape c.transposes xs) := by
  unfold chunkBody a2bEnc
  cases c.a2b <;> rfl

theorem chunkDec_eq (es : Nat) (fill : Elem) (shape : Shape) (c : Chain) (v : Bytes) :
    chunkDec es fill shape c v =
      match b2bDec c.b2b v with
      | none => none
      | some body =>
        match a2bDec es fill (encodedShape shape c.transposes) c.a2b body with
        | some xs => if xs.length == prod (encodedShape shape c.transposes) then
            some (untranspose shape c.transposes xs) else none
        | none => none := by
  unfold chunkDec a2bDec
  cases c.a2b <;> rfl

theorem subBox_elemsOk (es : Nat) (fill : Elem) (hfl : fill.length = es) (hfw : ∀ y ∈ fill, y < 256) (shape sub : Shape)
    (xs : List Elem) (hxe : ∀ x ∈ xs, x.length = es ∧ ∀ y ∈ x, y < 256) (c : Idx) :
    ∀ x ∈ subBox shape sub xs c fill, x.length = es ∧ ∀ y ∈ x, y < 256 := by
  intro x hx
  rcases subBox_mem shape sub xs c fill x hx with h | rfl
  · exact hxe x h
  · exact ⟨hfl, hfw⟩

theorem shardChunks_length (l : Layout) (fill : Elem) (eshape ishape : Shape) (inner : Inner) (ys : List Elem) :
    (shardChunks l fill eshape ishape inner ys).length = prod (gridOf eshape ishape) := by
  simp [shardChunks, boxIndices_length]

theorem shardChunks_wf {l : Layout} {fill : Elem} {eshape ishape : Shape} {inner : Inner} {ys : List Elem}
    (h : ∀ ci, ∀ y ∈ innerEnc l ishape inner (subBox eshape ishape ys ci fill), y < 256) :
    ∀ ch ∈ shardChunks l fill eshape ishape inner ys, ∀ b, ch = some b → ∀ x ∈ b, x < 256 := by
  intro ch hch b hb
  simp only [shardChunks, List.mem_map] at hch
  obtain ⟨ci, _, rfl⟩ := hch
  split at hb <;> cases hb
  exact h ci

theorem shardChunks_mapM {l : Layout} {es : Nat} {fill : Elem} {eshape ishape : Shape} {inner : Inner} {ys : List Elem}
    (h : ∀ ci, innerDec es ishape inner (innerEnc l ishape inner (subBox eshape ishape ys ci fill)) =
      some (subBox eshape ishape ys ci fill)) :
    (shardChunks l fill eshape ishape inner ys).mapM (partDec es fill ishape inner) =
      some ((boxIndices (gridOf eshape ishape)).map (fun ci => subBox eshape ishape ys ci fill)) := by
  unfold shardChunks
  apply mapM_map_of_forall
  intro ci _
  simp only
  split
  · rename_i hall
    rw [partDec, (all_beq_iff_replicate fill _ _ rfl).mp hall, subBox_length]
  · exact h ci

theorem shard_roundtrip (l : Layout) (es : Nat) (hes : 0 < es) (fill : Elem) (hfl : fill.length = es)
    (hfw : ∀ y ∈ fill, y < 256) (eshape ishape : Shape) (hl : ishape.length = eshape.length)
    (hpos : ∀ d ∈ ishape, 0 < d) (inner : Inner) (hio : ∀ o ∈ inner.transposes, validOrder o ishape.length = true)
    (idxBig idxCrc atEnd : Bool) (ys : List Elem) (hy : ys.length = prod eshape)
    (hye : ∀ x ∈ ys, x.length = es ∧ ∀ y ∈ x, y < 256)
    (hsmall : (a2bEnc l fill eshape (.shard ishape inner idxBig idxCrc atEnd) ys).length < Shard.sentinel) :
    a2bDec es fill eshape (.shard ishape inner idxBig idxCrc atEnd)
      (a2bEnc l fill eshape (.shard ishape inner idxBig idxCrc atEnd) ys) = some ys ∧
    ∀ x ∈ a2bEnc l fill eshape (.shard ishape inner idxBig idxCrc atEnd) ys, x < 256 := by
  have hpart := fun ci => innerDec_enc l es hes ishape inner hio _ (subBox_length eshape ishape ys ci fill)
    (subBox_elemsOk es fill hfl hfw eshape ishape ys hye ci)
  refine ⟨?_, shardValue_wf _ _ _ (shardChunks_wf fun ci => (hpart ci).2)⟩
  rw [a2bDec, a2bEnc]
  simp only [Shard.legal_decodes _ _ _ (shardValue_legal l _ _ (shardChunks_length ..) hsmall),
    shardChunks_mapM fun ci => (hpart ci).1, assemble_subBox eshape ishape hl hpos ys hy fill]

/-- the part of `Chain.ok` of Props/C12 that the proof uses: all but the conjunct that every inner chunk extent
    divides the extent of the encoded shape (`p.1 % p.2 = 0`) -/
def ChainOk (shape : Shape) (c : Chain) : Prop :=
  (∀ o ∈ c.transposes, validOrder o shape.length = true) ∧
  match c.a2b with
  | .bytes _ => True
  | .shard ishape inner _ _ _ =>
    ishape.length = shape.length ∧ (∀ d ∈ ishape, 0 < d) ∧ (∀ o ∈ inner.transposes, validOrder o shape.length = true)

theorem chunk_roundtrip' (l : Layout) (es : Nat) (hes : 0 < es) (fill : Elem) (hfl : fill.length = es)
    (hfw : ∀ y ∈ fill, y < 256) (shape : Shape) (c : Chain) (hc : ChainOk shape c) (xs : List Elem)
    (hx : xs.length = prod shape) (hxe : ∀ x ∈ xs, x.length = es ∧ ∀ y ∈ x, y < 256)
    (hsmall : (chunkBody l fill shape c xs).length < Shard.sentinel) :
    chunkDec es fill shape c (chunkEnc l es fill shape c xs) = some xs := by
  have t := untranspose_dotranspose c.transposes shape xs hc.1 hx
  have hye : ∀ x ∈ dotranspose shape c.transposes xs, x.length = es ∧ ∀ y ∈ x, y < 256 :=
    fun x hx' => hxe x (t.mem x hx')
  have key : a2bDec es fill (encodedShape shape c.transposes) c.a2b
        (a2bEnc l fill (encodedShape shape c.transposes) c.a2b (dotranspose shape c.transposes xs)) =
        some (dotranspose shape c.transposes xs) ∧
      ∀ x ∈ a2bEnc l fill (encodedShape shape c.transposes) c.a2b (dotranspose shape c.transposes xs), x < 256 := by
    rw [chunkBody_eq] at hsmall
    have hc2 := hc.2
    cases ha : c.a2b with
    | bytes big =>
      exact ⟨bytesDecElems_enc big es hes _ (fun x hx' => (hye x hx').1),
        bytesEncElems_wf big _ (fun x hx' => (hye x hx').2)⟩
    | shard ishape inner idxBig idxCrc atEnd =>
      rw [ha] at hsmall hc2
      obtain ⟨h1, h2, h3⟩ := hc2
      exact shard_roundtrip l es hes fill hfl hfw _ ishape (h1.trans t.rank.symm) h2 inner
        (fun o ho => by rw [h1]; exact h3 o ho) idxBig idxCrc atEnd _ t.len hye hsmall
  obtain ⟨b1, _⟩ := b2b_roundtrip' l c.b2b _ key.2
  rw [chunkDec_eq]
  unfold chunkEnc
  simp only [chunkBody_eq, b1, key.1, t.len, beq_self_eq_true, if_true, t.back]

theorem validOrder_revOrder (n : Nat) : validOrder (revOrder n) n = true := by
  rw [validOrder_iff]
  simp [revOrder]

theorem v2_chunk_roundtrip' (l : Layout) (a : V2) (hes : 0 < a.es) (xs : List Elem)
    (hx : xs.length = prod a.chunk) (hxe : ∀ x ∈ xs, x.length = a.es ∧ ∀ y ∈ x, y < 256) :
    a.chunkDec (a.chunkEnc l xs) = some xs := by
  have ho := validOrder_revOrder a.chunk.length
  obtain ⟨h1, h2, h3, _⟩ := transpose_dec_enc' (revOrder a.chunk.length) a.chunk xs ho hx
  -- the stored element order, named so that `fOrder` is split here only
  have hys : ∃ ys : List Elem, ys = (if a.fOrder then transposeEnc (revOrder a.chunk.length) a.chunk xs else xs) ∧
      ys.length = prod a.chunk ∧ (∀ y ∈ ys, y ∈ xs) ∧
      (if a.fOrder then transposeDec (revOrder a.chunk.length) a.chunk ys else ys) = xs := by
    refine ⟨_, rfl, ?_, ?_, ?_⟩
    · split
      · rw [h2, h3]
      · exact hx
    · split
      · exact transposeEnc_mem ho hx
      · exact fun y hy => hy
    · split
      · exact h1
      · rfl
  obtain ⟨ys, hys, hyl, hym, hyd⟩ := hys
  have hye : ∀ x ∈ ys, x.length = a.es ∧ ∀ y ∈ x, y < 256 := fun x hx' => hxe x (hym x hx')
  have hwf := bytesEncElems_wf a.big ys (fun x hx' => (hye x hx').2)
  have e1 := unzlib_zlibWith _ (deflateOf_deflates l hwf)
  have e2 := gunzip_gzipWith _ l.gzipExtra (deflateOf_deflates l hwf)
  have e3 := bytesDecElems_enc a.big a.es hes ys (fun x hx' => (hye x hx').1)
  unfold V2.chunkDec V2.chunkEnc
  simp only [← hys]
  cases a.comp <;>
    simp only [e1, e2, e3, Option.bind_some, hyl, bne_self_eq_false, Bool.false_eq_true, if_false, hyd]

end Zarrs.Conform
