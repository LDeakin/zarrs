import ZarrsModel.Model.FsStore
import ZarrsModel.Lemmas.Store
/- one directory as an ordered map of its entries (`lookup1` after `put1` / `del1`, `inv_iff`); path resolution (`stat`)
one component or one prefix at a time, and what it finds without the content of a directory (`Kind`, `Tree.kindAt`);
the tree primitives `atDir`, `mkdirAll` by their effect on resolution -/
namespace Zarrs.Fs
open Zarrs

/-- what `stat` found, without the content of a directory -/
inductive Kind where
  | noent
  | notdir
  | file (b : Bytes)
  | dir
deriving DecidableEq, Repr

def Stat.kind : Stat → Kind
  | .noent => .noent
  | .notdir => .notdir
  | .file b => .file b
  | .dir _ => .dir

def Kind.fileOf : Kind → Option Bytes
  | .file b => some b
  | _ => none

theorem Kind.fileOf_eq_some (k : Kind) (v : Bytes) : k.fileOf = some v ↔ k = .file v := by
  cases k <;> simp [Kind.fileOf]

def Tree.kindAt (t : Tree) (p : List Name) : Kind := (t.stat p).kind

def Ent.Inv : Ent → Prop
  | .file _ => True
  | .dir c => c.Inv

namespace Tree

theorem consInd {P : Tree → Prop} (t : Tree) (hnil : P .nil)
    (hcons : ∀ n e rest, P rest → P (cons n e rest)) : P t := by
  induction t with
  | nil => exact hnil
  | file n b rest ih => exact hcons n (.file b) rest ih
  | dir n c rest _ ih => exact hcons n (.dir c) rest ih

theorem lookup1_cons (n : Name) (e : Ent) (rest : Tree) (m : Name) :
    (cons n e rest).lookup1 m = if m = n then some e else rest.lookup1 m := by
  cases e <;> rfl

theorem names_cons (n : Name) (e : Ent) (rest : Tree) : (cons n e rest).names = n :: rest.names := by
  cases e <;> rfl

theorem put1_cons (n : Name) (e0 : Ent) (rest : Tree) (m : Name) (e : Ent) :
    (cons n e0 rest).put1 m e =
      if m = n then cons m e rest else if keyLt m n then cons m e (cons n e0 rest) else cons n e0 (rest.put1 m e) := by
  cases e0 <;> rfl

theorem del1_cons (n : Name) (e0 : Ent) (rest : Tree) (m : Name) :
    (cons n e0 rest).del1 m = if m = n then rest.del1 m else cons n e0 (rest.del1 m) := by
  cases e0 <;> rfl

theorem inv_cons (n : Name) (e : Ent) (rest : Tree) :
    (cons n e rest).Inv ↔ plainName n = true ∧ (∀ m ∈ rest.names, keyLt n m = true) ∧ e.Inv ∧ rest.Inv := by
  cases e with
  | file b => simp [cons, Tree.Inv, Ent.Inv]
  | dir c => simp [cons, Tree.Inv, Ent.Inv]

theorem lookup1_put1 (t : Tree) (m : Name) (e : Ent) (m' : Name) :
    (t.put1 m e).lookup1 m' = if m' = m then some e else t.lookup1 m' := by
  induction t using consInd with
  | hnil => simp [put1, lookup1_cons, lookup1]
  | hcons n e0 rest ih =>
    rw [put1_cons]
    by_cases h1 : m = n
    · subst h1
      simp only [if_true, lookup1_cons]
      by_cases h : m' = m <;> simp [h]
    · by_cases h2 : keyLt m n = true
      · rw [if_neg h1, if_pos h2]; simp only [lookup1_cons]
      · rw [if_neg h1, if_neg h2]; simp only [lookup1_cons, ih]
        by_cases h : m' = m
        · subst h; simp [h1]
        · simp [h]

theorem lookup1_del1 (t : Tree) (m m' : Name) :
    (t.del1 m).lookup1 m' = if m' = m then none else t.lookup1 m' := by
  induction t using consInd with
  | hnil => simp [del1, lookup1]
  | hcons n e0 rest ih =>
    rw [del1_cons]
    by_cases h1 : m = n
    · subst h1
      simp only [if_true, ih, lookup1_cons]
      by_cases h : m' = m <;> simp [h]
    · simp only [h1, if_false, lookup1_cons, ih]
      by_cases h : m' = m
      · subst h; simp [h1]
      · simp [h]

theorem names_put1 (t : Tree) (m : Name) (e : Ent) : (t.put1 m e).names = insertSorted m t.names := by
  induction t using consInd with
  | hnil => exact names_cons m e .nil
  | hcons n e0 rest ih =>
    rw [put1_cons, names_cons]
    by_cases h1 : m = n
    · subst h1; rw [if_pos rfl, names_cons, insertSorted_cons_eq]
    · by_cases h2 : keyLt m n = true
      · rw [if_neg h1, if_pos h2, names_cons, names_cons, insertSorted_cons_lt _ _ _ h1 h2]
      · rw [if_neg h1, if_neg h2, names_cons, ih, insertSorted_cons_gt _ _ _ h1 h2]

theorem names_del1 (t : Tree) (m : Name) : (t.del1 m).names = t.names.filter (· != m) := by
  induction t using consInd with
  | hnil => rfl
  | hcons n e0 rest ih =>
    rw [del1_cons, names_cons, List.filter_cons]
    by_cases h1 : m = n
    · subst h1; simp [ih]
    · have : (n != m) = true := by simpa using fun e => h1 e.symm
      rw [if_neg h1, names_cons, ih, this]; rfl

theorem lookup1_eq_none_iff (t : Tree) (m : Name) : t.lookup1 m = none ↔ m ∉ t.names := by
  induction t using consInd with
  | hnil => simp [lookup1, names]
  | hcons n e0 rest ih =>
    rw [lookup1_cons, names_cons]
    by_cases h : m = n
    · simp [h]
    · simp [h, ih]

theorem lookup1_ne_of_rest {rest : Tree} {n m : Name} {e : Ent} (hlt : ∀ x ∈ rest.names, keyLt n x = true)
    (h : rest.lookup1 m = some e) : m ≠ n := by
  rintro rfl
  have hm : m ∈ rest.names := Classical.byContradiction fun hn => by
    rw [(lookup1_eq_none_iff rest m).2 hn] at h; cases h
  exact keyLt_asymm (hlt m hm) (hlt m hm)

theorem inv_iff (t : Tree) : t.Inv ↔ t.names.Pairwise (fun a b => keyLt a b = true) ∧
    ∀ n e, t.lookup1 n = some e → e.Inv ∧ plainName n = true := by
  induction t using consInd with
  | hnil => simp [Tree.Inv, names, lookup1]
  | hcons n e rest ih =>
    rw [inv_cons, names_cons, List.pairwise_cons, ih]
    have hself : (cons n e rest).lookup1 n = some e := by rw [lookup1_cons, if_pos rfl]
    constructor
    · rintro ⟨hn, hlt, he, hs, hl⟩
      refine ⟨⟨hlt, hs⟩, fun m x hx => ?_⟩
      rw [lookup1_cons] at hx
      split at hx
      · next hm => cases hx; exact hm ▸ ⟨he, hn⟩
      · exact hl m x hx
    · rintro ⟨⟨hlt, hs⟩, hl⟩
      refine ⟨(hl n e hself).2, hlt, (hl n e hself).1, hs, fun m x hx => hl m x ?_⟩
      rw [lookup1_cons, if_neg (lookup1_ne_of_rest hlt hx)]; exact hx

theorem inv_lookup1 (t : Tree) (hi : t.Inv) (m : Name) (e : Ent) (h : t.lookup1 m = some e) :
    e.Inv ∧ plainName m = true := ((inv_iff t).1 hi).2 m e h

theorem inv_put1 (t : Tree) (hi : t.Inv) (m : Name) (e : Ent) (hm : plainName m = true) (he : e.Inv) :
    (t.put1 m e).Inv := by
  obtain ⟨hs, hl⟩ := (inv_iff t).1 hi
  refine (inv_iff _).2 ⟨names_put1 t m e ▸ insertSorted_sorted m _ hs, fun n x hx => ?_⟩
  rw [lookup1_put1] at hx
  split at hx
  · next hn => cases hx; exact hn ▸ ⟨he, hm⟩
  · exact hl n x hx

theorem inv_del1 (t : Tree) (hi : t.Inv) (m : Name) : (t.del1 m).Inv := by
  obtain ⟨hs, hl⟩ := (inv_iff t).1 hi
  refine (inv_iff _).2 ⟨names_del1 t m ▸ hs.filter _, fun n x hx => ?_⟩
  rw [lookup1_del1] at hx
  split at hx
  · cases hx
  · exact hl n x hx

theorem stat_nil (t : Tree) : t.stat [] = .dir t := by
  cases t <;> rfl

theorem stat_cons (t : Tree) (n : Name) (rest : List Name) :
    t.stat (n :: rest) =
      match t.lookup1 n with
      | none => .noent
      | some (.file b) => (match rest with | [] => .file b | _ :: _ => .notdir)
      | some (.dir c) => c.stat rest := by
  cases t <;> rfl

theorem stat_cons_dir {t : Tree} {n : Name} {rest : List Name} {d : Tree} (h : t.stat (n :: rest) = .dir d) :
    ∃ c, t.lookup1 n = some (.dir c) ∧ c.stat rest = .dir d := by
  rw [stat_cons] at h
  split at h
  · cases h
  · split at h <;> cases h
  · next c hl => exact ⟨c, hl, h⟩

theorem stat_nil_cons (n : Name) (rest : List Name) : Tree.nil.stat (n :: rest) = .noent := rfl

theorem stat_append (t : Tree) (pp rest : List Name) :
    t.stat (pp ++ rest) =
      match t.stat pp with
      | .dir d => d.stat rest
      | .file b => (match rest with | [] => .file b | _ :: _ => .notdir)
      | .noent => .noent
      | .notdir => .notdir := by
  induction pp generalizing t with
  | nil => rw [stat_nil]; rfl
  | cons n ps ih =>
    rw [List.cons_append, stat_cons, stat_cons]
    cases h : t.lookup1 n with
    | none => rfl
    | some e =>
      cases e with
      | dir c => exact ih c
      | file b =>
        cases ps with
        | nil => cases rest <;> rfl
        | cons p ps' => rfl

theorem stat_append_dir (t : Tree) (pp rest : List Name) (d : Tree) (h : t.stat pp = .dir d) :
    t.stat (pp ++ rest) = d.stat rest := by
  rw [stat_append, h]

theorem kind_dir_iff (s : Stat) : s.kind = .dir ↔ ∃ c, s = .dir c := by
  cases s <;> simp [Stat.kind]

theorem kind_file_iff (s : Stat) (b : Bytes) : s.kind = .file b ↔ s = .file b := by
  cases s <;> simp [Stat.kind]

theorem fileAt_eq_some (t : Tree) (p : List Name) (b : Bytes) : t.fileAt p = some b ↔ t.stat p = .file b := by
  unfold fileAt
  cases t.stat p <;> simp

theorem fileAt_append_dir (t : Tree) (pp q : List Name) (c : Tree) (h : t.stat pp = .dir c) :
    t.fileAt (pp ++ q) = c.fileAt q := by
  unfold fileAt
  rw [stat_append_dir t pp q c h]

theorem fileAt_eq_kindAt (t : Tree) (p : List Name) : t.fileAt p = (t.kindAt p).fileOf := by
  unfold fileAt kindAt
  cases t.stat p <;> rfl

theorem kindAt_below (t : Tree) (p q : List Name) (hq : q ≠ []) (h : t.kindAt p ≠ .dir) :
    t.kindAt (p ++ q) = if t.kindAt p = .noent then .noent else .notdir := by
  unfold kindAt at h ⊢
  rw [stat_append]
  cases hs : t.stat p with
  | dir d => rw [hs] at h; exact absurd rfl h
  | file b =>
    cases q with
    | nil => exact absurd rfl hq
    | cons x xs => rfl
  | noent => rfl
  | notdir => rfl

theorem stat_prefix_of_file (t : Tree) (pp rest : List Name) (b : Bytes) (hr : rest ≠ [])
    (h : t.fileAt (pp ++ rest) = some b) : ∃ c, t.stat pp = .dir c ∧ c.fileAt rest = some b := by
  by_cases hd : t.kindAt pp = .dir
  · obtain ⟨c, hc⟩ := (kind_dir_iff _).1 hd
    exact ⟨c, hc, fileAt_append_dir t pp rest c hc ▸ h⟩
  · rw [fileAt_eq_kindAt, kindAt_below t pp rest hr hd] at h
    split at h <;> cases h

theorem atDir_cons_ok {t : Tree} {n : Name} {rest : List Name} {f : Tree → Except IoErr Tree} {t' : Tree}
    (h : t.atDir (n :: rest) f = .ok t') :
    ∃ c c', t.lookup1 n = some (.dir c) ∧ c.atDir rest f = .ok c' ∧ t' = t.put1 n (.dir c') := by
  unfold atDir at h
  split at h
  · cases h
  · cases h
  · next c hl =>
    split at h
    · next c' hc => cases h; exact ⟨c, c', hl, hc, rfl⟩
    · cases h

/-- nothing is said of the paths below `dirs`: resolution there continues in `d'` (`stat_append_dir`) -/
theorem atDir_ok (t : Tree) (dirs : List Name) (f : Tree → Except IoErr Tree) (t' : Tree)
    (h : t.atDir dirs f = .ok t') :
    ∃ d d', t.stat dirs = .dir d ∧ f d = .ok d' ∧ t'.stat dirs = .dir d' ∧
      ∀ path, ¬ dirs <+: path → t'.kindAt path = t.kindAt path := by
  induction dirs generalizing t t' with
  | nil => exact ⟨t, t', stat_nil t, h, stat_nil t', fun path hp => absurd (List.nil_prefix) hp⟩
  | cons n rest ih =>
    obtain ⟨c, c', hl, hc, rfl⟩ := atDir_cons_ok h
    obtain ⟨d, d', h1, h2, h3, h4⟩ := ih c c' hc
    refine ⟨d, d', ?_, h2, ?_, fun path hp => ?_⟩
    · rw [stat_cons, hl]; exact h1
    · rw [stat_cons, lookup1_put1, if_pos rfl]; exact h3
    · unfold kindAt
      cases path with
      | nil => rw [stat_nil, stat_nil]; rfl
      | cons m ms =>
        rw [stat_cons, lookup1_put1, stat_cons]
        by_cases hm : m = n
        · subst hm
          rw [if_pos rfl, hl]
          exact h4 ms fun h' => hp ((List.prefix_cons_inj m).2 h')
        · rw [if_neg hm]

theorem atDir_noent (t : Tree) (dirs : List Name) (f : Tree → Except IoErr Tree) (h : t.stat dirs = .noent) :
    t.atDir dirs f = .error .notFound := by
  induction dirs generalizing t with
  | nil => rw [stat_nil] at h; cases h
  | cons n rest ih =>
    unfold atDir
    rw [stat_cons] at h
    cases hl : t.lookup1 n with
    | none => rfl
    | some e =>
      rw [hl] at h
      cases e with
      | file b => cases rest <;> cases h
      | dir c => simp only; rw [ih c h]

theorem atDir_dir (t : Tree) (dirs : List Name) (f : Tree → Except IoErr Tree) (d : Tree) (h : t.stat dirs = .dir d) :
    (∀ e, f d = .error e → t.atDir dirs f = .error e) ∧ (∀ d', f d = .ok d' → ∃ t', t.atDir dirs f = .ok t') := by
  induction dirs generalizing t with
  | nil =>
    rw [stat_nil] at h
    simp only [Stat.dir.injEq] at h
    subst h
    exact ⟨fun e he => he, fun d' hd => ⟨d', hd⟩⟩
  | cons n rest ih =>
    obtain ⟨c, hl, hc⟩ := stat_cons_dir h
    obtain ⟨i1, i2⟩ := ih c hc
    constructor
    · intro e he
      unfold atDir; rw [hl]; simp only; rw [i1 e he]
    · intro d' hd
      obtain ⟨c', hc'⟩ := i2 d' hd
      exact ⟨t.put1 n (.dir c'), by unfold atDir; rw [hl]; simp only; rw [hc']⟩

theorem atDir_inv (t : Tree) (dirs : List Name) (f : Tree → Except IoErr Tree) (t' : Tree)
    (hi : t.Inv) (hf : ∀ d d', d.Inv → f d = .ok d' → d'.Inv) (h : t.atDir dirs f = .ok t') : t'.Inv := by
  induction dirs generalizing t t' with
  | nil => exact hf t t' hi h
  | cons n rest ih =>
    obtain ⟨c, c', hl, hc, rfl⟩ := atDir_cons_ok h
    obtain ⟨hci, hn⟩ := inv_lookup1 t hi n _ hl
    exact inv_put1 t hi n _ hn (ih c c' hci hc)

theorem mkdirAll_ok (t : Tree) (dirs : List Name) (h : t.stat dirs = .noent ∨ ∃ d, t.stat dirs = .dir d) :
    ∃ t1 d1, t.mkdirAll dirs = .ok t1 ∧ t1.stat dirs = .dir d1 ∧
      ∀ path, (t1.stat path).kind =
        if path.isPrefixOf dirs && (t.stat path).kind == .noent then .dir else (t.stat path).kind := by
  induction dirs generalizing t with
  | nil =>
    refine ⟨t, t, rfl, stat_nil t, ?_⟩
    intro path
    cases path with
    | nil => simp [stat_nil, Stat.kind]
    | cons m ms => simp
  | cons n rest ih =>
    rw [stat_cons] at h
    -- the directory the recursion continues in: the entry `n`, or a new empty one
    obtain ⟨c, hc, hl⟩ : ∃ c, (c.stat rest = .noent ∨ ∃ d, c.stat rest = .dir d) ∧
        (t.lookup1 n = some (.dir c) ∨ (t.lookup1 n = none ∧ c = .nil)) := by
      cases hl : t.lookup1 n with
      | none =>
        refine ⟨.nil, ?_, .inr ⟨rfl, rfl⟩⟩
        cases rest with
        | nil => exact .inr ⟨_, rfl⟩
        | cons r rs => exact .inl rfl
      | some e =>
        rw [hl] at h
        cases e with
        | file b => cases rest <;> rcases h with h | ⟨d, h⟩ <;> cases h
        | dir c => exact ⟨c, h, .inl rfl⟩
    obtain ⟨c1, d1, h1, h2, h3⟩ := ih c hc
    refine ⟨t.put1 n (.dir c1), d1, ?_, ?_, ?_⟩
    · unfold mkdirAll
      rcases hl with hl | ⟨hl, rfl⟩
      · rw [hl]; simp only; rw [h1]
      · rw [hl]; simp only; rw [h1]
    · rw [stat_cons, lookup1_put1, if_pos rfl]; exact h2
    · intro path
      cases path with
      | nil => simp [stat_nil, Stat.kind]
      | cons m ms =>
        rw [stat_cons, lookup1_put1, stat_cons]
        by_cases hm : m = n
        · subst hm
          simp only [if_true, List.isPrefixOf_cons_cons, beq_self_eq_true, Bool.true_and]
          rw [h3 ms]
          rcases hl with hl | ⟨hl, rfl⟩
          · rw [hl]
          · -- a new directory: nothing resolved below it before, and it is itself created
            rw [hl]
            cases ms with
            | nil => simp [stat_nil, Stat.kind]
            | cons x xs => simp [stat_nil_cons, Stat.kind]
        · have : (m == n) = false := by simpa using hm
          simp only [hm, if_false, List.isPrefixOf_cons_cons, this, Bool.false_and, Bool.false_eq_true]
theorem mkdirAll_inv (t : Tree) (dirs : List Name) (t1 : Tree) (hi : t.Inv) (hn : ∀ n ∈ dirs, plainName n = true)
    (h : t.mkdirAll dirs = .ok t1) : t1.Inv := by
  induction dirs generalizing t t1 with
  | nil => cases h; exact hi
  | cons n rest ih =>
    have hn' := fun x hx => hn x (List.mem_cons_of_mem _ hx)
    have hpn := hn n (List.mem_cons_self ..)
    unfold mkdirAll at h
    split at h
    · cases h
    · next c hl =>
      split at h
      · next c1 hc => cases h; exact inv_put1 t hi n _ hpn (ih c _ (inv_lookup1 t hi n _ hl).1 hn' hc)
      · cases h
    · split at h
      · next c1 hc => cases h; exact inv_put1 t hi n _ hpn (ih .nil _ trivial hn' hc)
      · cases h

end Tree
end Zarrs.Fs
