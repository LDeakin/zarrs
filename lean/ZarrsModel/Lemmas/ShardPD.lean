import ZarrsModel.Model.ShardPD
import ZarrsModel.Lemmas.ArrayPaste
import ZarrsModel.Lemmas.CodecShard
import ZarrsModel.Lemmas.PartialArray
import ZarrsModel.Lemmas.ListBasic
import ZarrsModel.Lemmas.Tiling
/- the geometry of a shard and one region read, under every property of the sharding codec (C02, C05, C07, C17): the regular inner grid; the chunk iterator of a region
and the inner chunks of a shard as tilings; a shard cut into its inner chunks (`splitShard`) and assembled from them
(`assemble`), read inside one of them, and the full decoder's scatter giving it (`assembleScatter_eq`); what the handles of
a served shard give for one item of the iterator, whatever the decoder (`item_served`); one region of the sync decoder.

Words: the *cell* of `c` is the box of inner chunk `c` in the shard's coordinates (`cellBox inner c`); a *piece* is the list of
the elements of one cell cut out of the shard's elements (an entry of `splitShard`); an *item* is an entry `(c, box)` of the
chunk iterator of a region (`r.chunks inner`), and its box is the cell of `c` (`item_cell`).  `inner`, `shard`: the shapes. -/
namespace Zarrs
open Zarrs.Subset

theorem isEmpty_of_pos (st sh : List Nat) (h : ∀ k ∈ sh, 0 < k) : (Subset.mk st sh).isEmpty = false := by
  simp only [Subset.isEmpty]
  rw [Bool.eq_false_iff]
  intro hc
  rw [List.any_eq_true] at hc
  obtain ⟨x, hx, hx0⟩ := hc
  have := h x hx
  simp only [beq_iff_eq] at hx0
  omega

end Zarrs

namespace Zarrs.Partial
open Zarrs Zarrs.Codec Zarrs.Subset

/-- what `calculate_chunks_per_shard` demands: equal ranks, positive inner extents, every shard extent a multiple of
the inner extent -/
def tiles : Shape → Shape → Bool
  | [], [] => true
  | c :: cs, s :: ss => decide (0 < c) && (s % c == 0) && tiles cs ss
  | _, _ => false

def cellBox (inner : Shape) (c : Idx) : Subset := ⟨zipMul c inner, inner⟩

theorem cellBox_start (inner : Shape) (c : Idx) : (cellBox inner c).start = zipMul c inner := rfl

theorem cellBox_shape (inner : Shape) (c : Idx) : (cellBox inner c).shape = inner := rfl

theorem mem_cellBox (inner : Shape) (c i : Idx) : (cellBox inner c).contains i = mem i (zipMul c inner) inner := rfl

theorem tiles_cons {c s : Nat} {cs ss : Shape} (h : tiles (c :: cs) (s :: ss) = true) :
    0 < c ∧ s = c * (s / c) ∧ tiles cs ss = true := by
  simp only [tiles, Bool.and_eq_true, decide_eq_true_eq, beq_iff_eq] at h
  have := Nat.div_add_mod s c
  rw [h.1.2] at this
  exact ⟨h.1.1, by omega, h.2⟩

theorem tiles_length {inner shard : Shape} (h : tiles inner shard = true) : inner.length = shard.length := by
  induction inner generalizing shard with
  | nil => cases shard <;> simp_all [tiles]
  | cons c cs ih =>
    cases shard with
    | nil => simp [tiles] at h
    | cons s ss =>
      simp only [tiles, Bool.and_eq_true] at h
      simp [ih h.2]

theorem tiles_pos {inner shard : Shape} (h : tiles inner shard = true) : ∀ k ∈ inner, 0 < k := by
  induction inner generalizing shard with
  | nil => simp
  | cons c cs ih =>
    cases shard with
    | nil => simp [tiles] at h
    | cons s ss =>
      simp only [tiles, Bool.and_eq_true, decide_eq_true_eq] at h
      intro k hk
      rcases List.mem_cons.mp hk with rfl | hk
      · exact h.1.1
      · exact ih h.2 k hk

theorem chunksPerShard_of_tiles {inner shard : Shape} (h : tiles inner shard = true) :
    chunksPerShard shard inner = some (zipDiv shard inner) := by
  induction inner generalizing shard with
  | nil => cases shard <;> simp_all [tiles, chunksPerShard, zipDiv]
  | cons c cs ih =>
    cases shard with
    | nil => simp [tiles] at h
    | cons s ss =>
      simp only [tiles, Bool.and_eq_true, decide_eq_true_eq, beq_iff_eq] at h
      have hc : (c == 0) = false := by simp; omega
      simp [chunksPerShard, hc, h.1.2, ih h.2, zipDiv]

theorem prod_tiles {inner shard : Shape} (h : tiles inner shard = true) :
    prod shard = prod (zipDiv shard inner) * prod inner := by
  induction inner generalizing shard with
  | nil => cases shard <;> simp_all [tiles, zipDiv, prod]
  | cons c cs ih =>
    cases shard with
    | nil => simp [tiles] at h
    | cons s ss =>
      obtain ⟨_, hsd, ht⟩ := tiles_cons h
      simp only [zipDiv, prod, ih ht]
      have : s = s / c * c := by rw [Nat.mul_comm]; exact hsd
      calc s * (prod (zipDiv ss cs) * prod cs) = (s / c * c) * (prod (zipDiv ss cs) * prod cs) := by rw [← this]
        _ = _ := by simp only [Nat.mul_assoc, Nat.mul_left_comm, Nat.mul_comm]

private theorem cell_of_inB {inner shard : Shape} (h : tiles inner shard = true) (i : Idx) (hi : inB i shard = true) :
    inB (zipDiv i inner) (zipDiv shard inner) = true ∧
    (cellBox inner (zipDiv i inner)).contains i = true ∧
    zipSub i (cellBox inner (zipDiv i inner)).start = zipMod i inner ∧
    inB (zipMod i inner) inner = true := by
  simp only [mem_cellBox, cellBox_start]
  induction inner generalizing shard i with
  | nil =>
    cases shard with
    | nil => cases i <;> simp_all [inB, zipDiv, zipMul, mem, zipSub, zipMod]
    | cons _ _ => simp [tiles] at h
  | cons c cs ih =>
    cases shard with
    | nil => simp [tiles] at h
    | cons s ss =>
      cases i with
      | nil => simp [inB] at hi
      | cons x xs =>
        obtain ⟨hc, hsd, ht⟩ := tiles_cons h
        simp only [inB, Bool.and_eq_true, decide_eq_true_eq] at hi
        obtain ⟨h1, h2, h3, h4⟩ := ih ht xs hi.2
        have hdm := Nat.div_add_mod x c
        have hml : x % c < c := Nat.mod_lt x hc
        have hlt : x / c < s / c := by
          apply (Nat.div_lt_iff_lt_mul hc).mpr
          rw [Nat.mul_comm]; omega
        have hmul : x / c * c = c * (x / c) := Nat.mul_comm _ _
        simp only [zipDiv, zipMul, zipSub, zipMod, inB, mem, Bool.and_eq_true, decide_eq_true_eq, h1, h2, h3, h4,
          and_true, List.cons.injEq]
        refine ⟨hlt, ⟨by omega, by omega⟩, by omega, hml⟩

theorem zipDiv_inB {inner shard : Shape} (ht : tiles inner shard = true) (i : Idx) (hi : inB i shard = true) :
    inB (zipDiv i inner) (zipDiv shard inner) = true :=
  (cell_of_inB ht i hi).1

theorem zipSub_cell_start {inner shard : Shape} (ht : tiles inner shard = true) (i : Idx) (hi : inB i shard = true) :
    zipSub i (cellBox inner (zipDiv i inner)).start = zipMod i inner :=
  (cell_of_inB ht i hi).2.2.1

theorem zipMod_inB {inner shard : Shape} (ht : tiles inner shard = true) (i : Idx) (hi : inB i shard = true) :
    inB (zipMod i inner) inner = true :=
  (cell_of_inB ht i hi).2.2.2

theorem cellBox_inbounds {inner shard : Shape} (ht : tiles inner shard = true) (c : Idx)
    (hc : inB c (zipDiv shard inner) = true) :
    (cellBox inner c).wf = true ∧ (cellBox inner c).inboundsShape shard = true := by
  have hl : inner.length = shard.length := tiles_length ht
  have hcl := inB_length hc
  simp only [zipDiv_length] at hcl
  refine ⟨by simp only [cellBox, Subset.wf, zipMul_length, beq_iff_eq]; omega, ?_⟩
  simp only [cellBox, Subset.inboundsShape, Subset.rank, Subset.endExc, zipMul_length, Bool.and_eq_true, beq_iff_eq]
  refine ⟨by omega, ?_⟩
  clear hl hcl
  induction inner generalizing shard c with
  | nil => cases shard <;> simp_all [tiles, zipMul, addIdx, allLe] <;> cases c <;> simp [zipMul, addIdx, allLe]
  | cons k ks ih =>
    cases shard with
    | nil => simp [tiles] at ht
    | cons s ss =>
      cases c with
      | nil => simp [zipDiv, inB] at hc
      | cons c0 ct =>
        obtain ⟨_, hsd, ht⟩ := tiles_cons ht
        simp only [zipDiv, inB, Bool.and_eq_true, decide_eq_true_eq] at hc
        simp only [zipMul, addIdx, allLe, Bool.and_eq_true, decide_eq_true_eq]
        refine ⟨?_, ih ht ct hc.2⟩
        have h1 : c0 + 1 ≤ s / k := hc.1
        have h2 : (c0 + 1) * k ≤ (s / k) * k := Nat.mul_le_mul_right k h1
        rw [Nat.add_mul, Nat.one_mul, Nat.mul_comm (s / k) k, ← hsd] at h2
        exact h2

theorem cellBox_extract_length {inner shard : Shape} (ht : tiles inner shard = true) (c : Idx)
    (hc : inB c (zipDiv shard inner) = true) (xs : List Elem) (hx : xs.length = prod shard) :
    ((cellBox inner c).extract shard xs).length = prod inner := by
  obtain ⟨hw, hb⟩ := cellBox_inbounds ht c hc
  exact (extract_spec _ shard xs hw hb hx).1

theorem cell_unique (inner : Shape) (hpos : ∀ k ∈ inner, 0 < k) (i c : Idx)
    (hm : (cellBox inner c).contains i = true) (hc : c.length = inner.length) : c = zipDiv i inner := by
  rw [mem_cellBox] at hm
  induction inner generalizing i c with
  | nil => cases c <;> simp_all [zipDiv] <;> cases i <;> simp [zipDiv]
  | cons k ks ih =>
    cases c with
    | nil => simp at hc
    | cons c0 ct =>
      cases i with
      | nil => simp [zipMul, mem] at hm
      | cons x xs =>
        simp only [zipMul, mem, Bool.and_eq_true, decide_eq_true_eq] at hm
        simp only [List.length_cons, Nat.add_right_cancel_iff] at hc
        have hk : 0 < k := hpos k (by simp)
        have := ih (fun k' hk' => hpos k' (by simp [hk'])) xs ct hm.2 hc
        simp only [zipDiv, List.cons.injEq]
        refine ⟨?_, this⟩
        symm
        apply Nat.div_eq_of_lt_le
        · exact hm.1.1
        · rw [Nat.add_mul]; omega

theorem mem_own_cell (inner : Shape) (hpos : ∀ k ∈ inner, 0 < k) (i : Idx) (hil : i.length = inner.length) :
    (cellBox inner (zipDiv i inner)).contains i = true := by
  rw [mem_cellBox]
  induction i generalizing inner with
  | nil => cases inner <;> simp_all [zipDiv, zipMul, mem]
  | cons x xs ih =>
    cases inner with
    | nil => simp at hil
    | cons c cs =>
      have hc : 0 < c := hpos c (by simp)
      simp only [List.length_cons, Nat.add_right_cancel_iff] at hil
      simp only [zipDiv, zipMul, mem, Bool.and_eq_true, decide_eq_true_eq]
      refine ⟨⟨Nat.div_mul_le_self x c, ?_⟩, ih cs (fun k hk => hpos k (by simp [hk])) hil⟩
      have := Nat.div_add_mod x c
      have := Nat.mod_lt x hc
      rw [Nat.mul_comm]; omega

theorem mem_own_cell_of_inB {inner shard : Shape} (ht : tiles inner shard = true) (i : Idx) (hi : inB i shard = true) :
    (cellBox inner (zipDiv i inner)).contains i = true :=
  mem_own_cell inner (tiles_pos ht) i ((inB_length hi).trans (tiles_length ht).symm)

theorem tiles_rank {inner shard : Shape} (ht : tiles inner shard = true) {r : Subset}
    (hb : r.inboundsShape shard = true) : inner.length = r.rank := by
  simp only [Subset.inboundsShape, Bool.and_eq_true, beq_iff_eq] at hb
  rw [tiles_length ht, hb.1]

theorem mem_chunks (r : Subset) (inner : Shape) (p : Idx × Subset) :
    p ∈ r.chunks inner ↔ p.1 ∈ (r.chunkBox inner).indices ∧ p.2 = cellBox inner p.1 := by
  simp only [Subset.chunks, Iter.new_items, List.mem_map]
  constructor
  · rintro ⟨c, hc, rfl⟩; exact ⟨hc, rfl⟩
  · rintro ⟨hc, h2⟩
    exact ⟨p.1, hc, Prod.ext rfl h2.symm⟩

theorem mem_length_inner {inner : Shape} {r : Subset} (hcl : inner.length = r.rank) {i : Idx}
    (hi : r.contains i = true) : i.length = inner.length := by
  have := (mem_length hi).1
  simp only [Subset.rank] at hcl
  omega

/-- the item of the cell a point of the region lies in (`mem_own_cell`) is among the items of the region -/
theorem own_item_mem (inner : Shape) (hpos : ∀ k ∈ inner, 0 < k) (r : Subset) (hr : r.wf = true)
    (hcl : inner.length = r.rank) (i : Idx) (hi : r.contains i = true) :
    (zipDiv i inner, cellBox inner (zipDiv i inner)) ∈ r.chunks inner := by
  have hil := mem_length_inner hcl hi
  refine (mem_chunks r inner _).mpr ⟨?_, rfl⟩
  rw [(r.chunkBox inner).mem_indices (r.chunkBox_wf inner hr hcl)]
  exact (r.contains_chunkBox inner hr hcl hpos _).mpr
    ⟨by simp only [zipDiv_length]; omega, i, hi, mem_own_cell inner hpos i hil⟩

private theorem item_witness (inner : Shape) (hpos : ∀ k ∈ inner, 0 < k) (r : Subset) (hr : r.wf = true)
    (hcl : inner.length = r.rank) (p : Idx × Subset) (hp : p ∈ r.chunks inner) :
    p.2 = cellBox inner p.1 ∧ p.1.length = inner.length ∧
    ∃ i0, r.contains i0 = true ∧ (cellBox inner p.1).contains i0 = true := by
  obtain ⟨hp1, hp2⟩ := (mem_chunks r inner p).mp hp
  rw [(r.chunkBox inner).mem_indices (r.chunkBox_wf inner hr hcl)] at hp1
  obtain ⟨hlen, i0, hi0r, hi0c⟩ := (r.contains_chunkBox inner hr hcl hpos p.1).mp hp1
  exact ⟨hp2, by rw [hlen, hcl], i0, hi0r, hi0c⟩

theorem chunksTiling (inner : Shape) (hpos : ∀ k ∈ inner, 0 < k) (r : Subset) (hr : r.wf = true)
    (hcl : inner.length = r.rank) : Tiling (r.chunks inner) (fun p => r.overlap p.2) (r.contains · = true) := by
  have hnd : (r.chunks inner).Nodup :=
    List.Pairwise.of_map (·.1) (fun _ _ h e => h (e ▸ rfl))
      (r.chunks_fst inner ▸ (r.chunkBox inner).indices_nodup (r.chunkBox_wf inner hr hcl))
  have T := Tiling.clip (W := (·.2)) hr hnd
    (fun p hp => by
      obtain ⟨hp2, _, i0, h1, h2⟩ := item_witness inner hpos r hr hcl p hp
      exact ⟨i0, by rw [hp2]; exact h2, h1⟩)
    (fun i hi => by
      refine ⟨_, own_item_mem inner hpos r hr hcl i hi, mem_own_cell inner hpos i (mem_length_inner hcl hi),
        fun q hq hqi => ?_⟩
      obtain ⟨hq2, hql, _⟩ := item_witness inner hpos r hr hcl q hq
      rw [hq2] at hqi
      have := cell_unique inner hpos i q.1 hqi hql
      exact Prod.ext this (by rw [hq2, this]))
  simp only [overlap_comm _ r] at T
  exact T

theorem cellsTiling {inner shard : Shape} (ht : tiles inner shard = true) :
    Tiling (boxIndices (zipDiv shard inner)) (cellBox inner) (inB · shard = true) := by
  have hlen : ∀ c ∈ boxIndices (zipDiv shard inner), c.length = inner.length := by
    intro c hc
    have h1 := inB_length ((mem_boxIndices c _).mp hc); have h2 := tiles_length ht
    simp only [zipDiv_length] at h1; omega
  have hnd : (boxIndices (zipDiv shard inner)).Nodup :=
    (boxIndices_pairwise _).imp fun {a b} h (e : a = b) => by rw [e, lexLt_irrefl'] at h; cases h
  refine ⟨hnd, fun c hc => ?_,
    fun c hc i hi => Subset.inB_of_inboundsShape (cellBox_inbounds ht c ((mem_boxIndices c _).mp hc)).2 hi,
    fun i hi => ?_, fun c hc c' hc' i h h' => ?_⟩
  · exact ⟨_, mem_start _ _ (Subset.wf_iff.mp (cellBox_inbounds ht c ((mem_boxIndices c _).mp hc)).1)
      (isEmpty_of_pos [] _ (tiles_pos ht))⟩
  · exact ⟨_, (mem_boxIndices _ _).mpr (zipDiv_inB ht i hi), mem_own_cell_of_inB ht i hi⟩
  · exact (cell_unique inner (tiles_pos ht) i c' h' (hlen c' hc')).trans
      (cell_unique inner (tiles_pos ht) i c h (hlen c hc)).symm

theorem splitShard_length (shard inner : Shape) (ys : List Elem) :
    (splitShard shard inner ys).length = prod (zipDiv shard inner) := by
  simp [splitShard, boxIndices_length]

theorem splitShard_getElem? (shard inner : Shape) (ys : List Elem) (c : Idx) (hc : inB c (zipDiv shard inner) = true) :
    (splitShard shard inner ys)[ravel c (zipDiv shard inner)]? =
      some ((cellBox inner c).extract shard ys) := by
  simp only [splitShard, cellBox, List.getElem?_map, boxIndices_getElem?_ravel c _ hc, Option.map_some]

theorem splitShard_piece {inner shard : Shape} (ht : tiles inner shard = true) (ys : List Elem)
    (hy : ys.length = prod shard) (p : List Elem) (hp : p ∈ splitShard shard inner ys) :
    p.length = prod inner ∧ ∀ x ∈ p, x ∈ ys := by
  simp only [splitShard, List.mem_map] at hp
  obtain ⟨c, hc, rfl⟩ := hp
  exact ⟨cellBox_extract_length ht c ((mem_boxIndices c _).mp hc) ys hy, fun x hx => mem_extract _ _ _ x hx⟩

theorem splitShard_chunkOk {inner shard : Shape} (ht : tiles inner shard = true) {es : Nat} {ys : List Elem}
    (hyl : ys.length = prod shard) (hye : ∀ y ∈ ys, y.length = es) :
    ∀ p ∈ splitShard shard inner ys, p.length = prod inner ∧ ∀ x ∈ p, x.length = es := by
  intro p hp
  obtain ⟨h1, h2⟩ := splitShard_piece ht ys hyl p hp
  exact ⟨h1, fun x hx => hye x (h2 x hx)⟩

theorem splitShard_fill {inner shard : Shape} (ht : tiles inner shard = true) (fill : Elem) (i : Nat)
    (hi : i < (splitShard shard inner (List.replicate (prod shard) fill)).length) :
    (splitShard shard inner (List.replicate (prod shard) fill))[i] = List.replicate (prod inner) fill := by
  obtain ⟨hl, hm⟩ := splitShard_piece ht _ (List.length_replicate ..) _ (List.getElem_mem hi)
  rw [List.eq_replicate_iff]
  exact ⟨hl, fun b hb => (List.mem_replicate.mp (hm b hb)).2⟩

theorem shardElem_of_mem {inner shard : Shape} (ht : tiles inner shard = true) (xss : List (List Elem))
    (i c : Idx) (hi : inB i shard = true) (hc : c.length = inner.length)
    (hm : (cellBox inner c).contains i = true) (xs : List Elem)
    (hx : xss[ravel c (zipDiv shard inner)]? = some xs) (hxl : xs.length = prod inner) :
    xs[ravel (zipSub i (cellBox inner c).start) inner]? = some (shardElem inner (zipDiv shard inner) xss i) := by
  have hcu := cell_unique inner (tiles_pos ht) i c hm hc
  subst hcu
  have hlt : ravel (zipMod i inner) inner < xs.length := by rw [hxl]; exact ravel_lt _ _ (zipMod_inB ht i hi)
  simp only [shardElem, zipSub_cell_start ht i hi, List.getD_eq_getElem?_getD, hx, Option.getD_some]
  rw [List.getElem?_eq_getElem hlt]
  simp

theorem assemble_split {inner shard : Shape} (ht : tiles inner shard = true) (ys : List Elem)
    (hy : ys.length = prod shard) : assemble shard inner (splitShard shard inner ys) = ys := by
  apply list_ext_box shard _ _ (by simp [assemble, boxIndices_length]) hy
  intro j hj
  simp only [assemble, List.getElem?_map, boxIndices_getElem?_ravel j shard hj, Option.map_some]
  have hc := zipDiv_inB ht j hj
  have hm := mem_own_cell_of_inB ht j hj
  obtain ⟨hw, hb⟩ := cellBox_inbounds ht _ hc
  obtain ⟨hl, hp⟩ := extract_spec (cellBox inner (zipDiv j inner)) shard ys hw hb hy
  have hcl : (zipDiv j inner).length = inner.length := by
    have := inB_length hj; have := tiles_length ht
    simp only [zipDiv_length]; omega
  have he := shardElem_of_mem ht (splitShard shard inner ys) j (zipDiv j inner) hj hcl hm _
    (splitShard_getElem? shard inner ys _ hc) hl
  rw [← he]
  obtain ⟨h1, h2⟩ := mem_zipSub j _ _ hm
  have := hp _ h1
  rw [h2] at this
  exact this

theorem pieces_fill_iff {inner shard : Shape} (ht : tiles inner shard = true) (fill : Elem) (ys : List Elem)
    (hyl : ys.length = prod shard) :
    (∀ i (h : i < (splitShard shard inner ys).length),
      (splitShard shard inner ys)[i] = List.replicate (prod inner) fill) ↔ ys.all (· == fill) = true := by
  constructor
  · intro h
    have : splitShard shard inner ys = splitShard shard inner (List.replicate (prod shard) fill) := by
      apply List.ext_getElem (by rw [splitShard_length, splitShard_length])
      intro i h1 h2
      rw [h i h1, splitShard_fill ht fill i h2]
    have h2 := assemble_split ht ys hyl
    rw [this, assemble_split ht _ (List.length_replicate ..)] at h2
    rw [← h2]
    exact replicate_all_beq fill _
  · intro h i hi
    have := (all_beq_iff_replicate fill ys _ hyl).mp h
    subst this
    exact splitShard_fill ht fill i hi

theorem read_cell {inner shard : Shape} (ht : tiles inner shard = true) (xss : List (List Elem)) (c : Idx)
    (hc : inB c (zipDiv shard inner) = true) (xs : List Elem)
    (hx : xss[ravel c (zipDiv shard inner)]? = some xs) (hxl : xs.length = prod inner) :
    AArr.read (shardElem inner (zipDiv shard inner) xss) (cellBox inner c) = xs := by
  obtain ⟨hw, hb⟩ := cellBox_inbounds ht c hc
  have hw' := Subset.wf_iff.mp hw
  have hcl : c.length = inner.length := by
    have h1 := inB_length hc; have h2 := tiles_length ht
    simp only [zipDiv_length] at h1; omega
  apply list_ext_box inner _ _ (AArr.read_length _ _) hxl
  intro j hj
  refine (AArr.read_getElem?_box _ (cellBox inner c) j hj).trans ?_
  have hm : (cellBox inner c).contains (addIdx j (cellBox inner c).start) = true := mem_addIdx j _ _ hw' hj
  have := shardElem_of_mem ht xss _ c (Subset.inB_of_inboundsShape hb hm) hcl hm xs hx hxl
  rw [zipSub_addIdx_cancel j _ (by rw [inB_length hj]; exact Nat.le_of_eq hw'.symm)] at this
  exact this.symm

theorem read_in_cell {inner shard : Shape} (ht : tiles inner shard = true) (xss : List (List Elem)) (c : Idx)
    (hc : inB c (zipDiv shard inner) = true) (xs : List Elem)
    (hx : xss[ravel c (zipDiv shard inner)]? = some xs) (hxl : xs.length = prod inner)
    {q : Subset} (hq : q.SubBox (cellBox inner c)) :
    AArr.read (shardElem inner (zipDiv shard inner) xss) q = (q.relativeTo (cellBox inner c).start).extract inner xs := by
  rw [AArr.read_subBox _ hq, read_cell ht xss c hc xs hx hxl, cellBox_shape]

theorem zip_box_mem (cps : Shape) (xss : List (List Elem)) (p : Idx × List Elem)
    (hp : p ∈ (boxIndices cps).zip xss) :
    inB p.1 cps = true ∧ xss[ravel p.1 cps]? = some p.2 := by
  obtain ⟨k, hk, hpk⟩ := List.mem_iff_getElem.mp hp
  simp only [List.length_zip, boxIndices_length] at hk
  have hkb : k < prod cps := by omega
  have hkx : k < xss.length := by omega
  rw [List.getElem_zip] at hpk
  have h1 : (boxIndices cps)[k]? = some (unravel k cps) := boxIndices_getElem?_lt k cps hkb
  have h2 : p.1 = unravel k cps := by
    have : (boxIndices cps)[k]? = some p.1 := by
      rw [List.getElem?_eq_getElem (by rw [boxIndices_length]; exact hkb), ← hpk]
    rw [h1] at this
    exact (Option.some.inj this).symm
  rw [h2, ravel_unravel k cps hkb]
  refine ⟨unravel_inB k cps hkb, ?_⟩
  rw [List.getElem?_eq_getElem hkx, ← hpk]

theorem assembleScatter_eq {inner shard : Shape} (ht : tiles inner shard = true) (xss : List (List Elem))
    (hxl : xss.length = prod (zipDiv shard inner)) (hx : ∀ xs ∈ xss, xs.length = prod inner)
    (init : List Elem) (hinit : init.length = prod shard) :
    assembleScatter shard inner xss init = assemble shard inner xss := by
  have hil := tiles_length ht
  obtain ⟨hR, hRb⟩ := ofShape_inShape shard
  -- `assemble` is the read of the whole shape; the scatter pastes the boxes of the inner grid over it
  rw [assemble, ← extract_full shard ((boxIndices shard).map _) (by simp [boxIndices_length]),
    extract_tabulate _ _ shard hR hRb]
  have T : Tiling ((boxIndices (zipDiv shard inner)).zip xss) (fun p => cellBox inner p.1)
      ((Subset.ofShape shard).contains · = true) :=
    (Tiling.comap Prod.fst (K' := (boxIndices (zipDiv shard inner)).zip xss) (by
      rw [List.map_fst_zip (by rw [boxIndices_length, hxl]; exact Nat.le_refl _)]
      exact cellsTiling ht)).of_iff fun i => by rw [Subset.contains_ofShape]
  refine Option.some.inj ((ArrCfg.foldOpt_some_foldl _ _ _).symm.trans
    (T.read hR _ _ (fun p hp out => ?_) init (by rw [hinit]; rfl)))
  obtain ⟨hc, hpx⟩ := zip_box_mem _ xss p hp
  obtain ⟨hw, hb⟩ := cellBox_inbounds ht p.1 hc
  have hrel : (cellBox inner p.1).relativeTo (Subset.ofShape shard).start = cellBox inner p.1 := by
    simp only [Subset.relativeTo, Subset.ofShape, cellBox]
    congr 1
    exact zipSub_zeros _ _ (by simp only [zipMul_length]; omega)
  rw [hrel, read_cell ht xss p.1 hc p.2 hpx (hx p.2 (List.mem_of_getElem? hpx))]
  rfl

/-- the entry `e` of an inner chunk against its piece `xs`: missing and all fill, or stored (with the size the inner codecs
declare, if any) and its byte interval serves the piece through the inner partial decoder -/
inductive EntryServed (fixed : Option Nat) (inner : Shape) (es : Nat) (fill : Elem)
    (innerPD : Shape → Elem → BHandle → AHandle) (h : BHandle) (e : Nat × Nat) (xs : List Elem) : Prop
  | dead (hdead : Shard.isLive e = false) (hfill : xs = List.replicate (prod inner) fill)
  | live (hlive : Shard.isLive e = true) (hsize : sizeOk fixed e.2 = true) (hlen : xs.length = prod inner)
      (helems : ∀ x ∈ xs, x.length = es) (hserves : AHandleOk (innerPD inner fill (byteIntervalPD e.1 e.2 h)) inner xs)

/-- what the handles of one shard provide: every entry serves its piece (`EntryServed`) -/
structure Served (fixed : Option Nat) (shard inner : Shape) (es : Nat) (fill : Elem)
    (innerPD : Shape → Elem → BHandle → AHandle) (h : BHandle) (entries : List (Nat × Nat)) (xss : List (List Elem)) : Prop where
  tiles : tiles inner shard = true
  elen : entries.length = prod (zipDiv shard inner)
  xlen : xss.length = prod (zipDiv shard inner)
  fillLen : fill.length = es
  entry : ∀ (k : Nat) e xs, entries[k]? = some e → xss[k]? = some xs → EntryServed fixed inner es fill innerPD h e xs

variable {fixed : Option Nat} {shard inner : Shape} {es : Nat} {fill : Elem} {innerPD : Shape → Elem → BHandle → AHandle}
  {h : BHandle} {entries : List (Nat × Nat)} {xss : List (List Elem)}

theorem item_cell (ht : tiles inner shard = true) (r : Subset) (hr : r.wf = true)
    (hb : r.inboundsShape shard = true) (p : Idx × Subset) (hp : p ∈ r.chunks inner) :
    p.2 = cellBox inner p.1 ∧ inB p.1 (zipDiv shard inner) = true := by
  obtain ⟨hp2, hpl, i0, h0r, h0c⟩ := item_witness inner (tiles_pos ht) r hr (tiles_rank ht hb) p hp
  refine ⟨hp2, ?_⟩
  rw [cell_unique inner (tiles_pos ht) i0 p.1 h0c hpl]
  exact zipDiv_inB ht i0 (Subset.inB_of_inboundsShape hb h0r)

structure ItemOverlap (inner : Shape) (r : Subset) (p : Idx × Subset) : Prop where
  inRegion : (r.overlap p.2).SubBox r
  inCell : (r.overlap p.2).SubBox p.2
  shape : p.2.shape = inner
  contains : ∀ i, (r.overlap p.2).contains i = (r.contains i && p.2.contains i)

theorem ItemOverlap.rank {r : Subset} {p : Idx × Subset} (V : ItemOverlap inner r p) : p.2.rank = r.rank :=
  V.inCell.rank.symm.trans V.inRegion.rank

theorem ItemOverlap.relWf {r : Subset} {p : Idx × Subset} (V : ItemOverlap inner r p) :
    ((r.overlap p.2).relativeTo p.2.start).wf = true :=
  V.inCell.rel_wf

theorem ItemOverlap.relIn {r : Subset} {p : Idx × Subset} (V : ItemOverlap inner r p) :
    ((r.overlap p.2).relativeTo p.2.start).inboundsShape inner = true :=
  V.shape ▸ V.inCell.rel_inbounds

theorem item_overlap (ht : tiles inner shard = true) (r : Subset) (hr : r.wf = true)
    (hb : r.inboundsShape shard = true) (p : Idx × Subset) (hp : p ∈ r.chunks inner) : ItemOverlap inner r p := by
  obtain ⟨hp2, _, i0, h0r, h0c⟩ := item_witness inner (tiles_pos ht) r hr (tiles_rank ht hb) p hp
  rw [← hp2] at h0c
  exact ⟨Subset.overlap_subBox_left h0r h0c, Subset.overlap_subBox_right h0r h0c, by rw [hp2, cellBox_shape],
    Subset.contains_overlap h0r h0c⟩

/-- what `Served.entry` says of the entry `e` of one item, in terms of the elements `read` that the region takes from the
item's cell (`ov` the overlap, `rel` the overlap relative to the cell) -/
inductive ItemServed (fixed : Option Nat) (inner : Shape) (fill : Elem) (innerPD : Shape → Elem → BHandle → AHandle)
    (h : BHandle) (ov rel : Subset) (read : List Elem) (e : Nat × Nat) : Prop
  | dead (hdead : Shard.isLive e = false) (hread : read = List.replicate ov.numElements fill)
  | live (hlive : Shard.isLive e = true) (hsize : sizeOk fixed e.2 = true) (xs : List Elem)
      (hlen : xs.length = prod inner) (hserves : AHandleOk (innerPD inner fill (byteIntervalPD e.1 e.2 h)) inner xs)
      (hread : read = rel.extract inner xs)

theorem item_served (S : Served fixed shard inner es fill innerPD h entries xss) (r : Subset) (hr : r.wf = true)
    (hb : r.inboundsShape shard = true) (p : Idx × Subset) (hp : p ∈ r.chunks inner) :
    ∃ e, entries[ravel p.1 (zipDiv shard inner)]? = some e ∧
      (AArr.read (shardElem inner (zipDiv shard inner) xss) (r.overlap p.2)).flatten.length =
        (r.overlap p.2).numElements * es ∧
      ItemServed fixed inner fill innerPD h (r.overlap p.2) ((r.overlap p.2).relativeTo p.2.start)
        (AArr.read (shardElem inner (zipDiv shard inner) xss) (r.overlap p.2)) e := by
  obtain ⟨hp2, hcin⟩ := item_cell S.tiles r hr hb p hp
  have V := item_overlap S.tiles r hr hb p hp
  have hklt := ravel_lt p.1 _ hcin
  have hke : ravel p.1 (zipDiv shard inner) < entries.length := by rw [S.elen]; exact hklt
  have hkx : ravel p.1 (zipDiv shard inner) < xss.length := by rw [S.xlen]; exact hklt
  have hent := List.getElem?_eq_getElem hke
  have hxs := List.getElem?_eq_getElem hkx
  refine ⟨_, hent, ?_⟩
  generalize entries[ravel p.1 (zipDiv shard inner)] = e at hent
  generalize xss[ravel p.1 (zipDiv shard inner)] = xs at hxs
  have hread : xs.length = prod inner → AArr.read (shardElem inner (zipDiv shard inner) xss) (r.overlap p.2) =
      ((r.overlap p.2).relativeTo p.2.start).extract inner xs := fun hxl => by
    have := read_in_cell S.tiles xss p.1 hcin xs hxs hxl (hp2 ▸ V.inCell)
    rwa [← hp2] at this
  cases S.entry _ e xs hent hxs with
  | dead hdead hfill =>
    have hrep : AArr.read (shardElem inner (zipDiv shard inner) xss) (r.overlap p.2) =
        List.replicate (r.overlap p.2).numElements fill := by
      rw [hread (by rw [hfill, List.length_replicate]), hfill, extract_replicate _ inner fill V.relWf V.relIn]; rfl
    refine ⟨?_, .dead hdead hrep⟩
    rw [hrep, flatten_length_of_all es _ (fun g hg => by rw [(List.mem_replicate.mp hg).2]; exact S.fillLen),
      List.length_replicate]
  | live hlive hsz hxl hxe hA =>
    refine ⟨?_, .live hlive hsz xs hxl hA (hread hxl)⟩
    rw [hread hxl, flatten_length_of_all es _ (fun g hg => hxe g (mem_extract _ _ _ g hg)),
      (extract_spec _ inner xs V.relWf V.relIn hxl).1]
    rfl

theorem shardStep_ok (S : Served fixed shard inner es fill innerPD h entries xss) (r : Subset) (hr : r.wf = true)
    (hb : r.inboundsShape shard = true) (p : Idx × Subset) (hp : p ∈ r.chunks inner) (out : List Elem) :
    shardStep fixed es fill inner (zipDiv shard inner) entries innerPD h r out p =
      some (updateRuns r.shape ((r.overlap p.2).relativeTo r.start) out
        (AArr.read (shardElem inner (zipDiv shard inner) xss) (r.overlap p.2))) := by
  obtain ⟨e, hent, hflat, hcase⟩ := item_served S r hr hb p hp
  cases hcase with
  | dead hdead hrep =>
    rw [Shard.isLive_eq_false] at hdead
    simp only [shardStep, hent, shardPart, hdead, if_true, ← hrep, hflat, bne_self_eq_false, Bool.false_eq_true,
      if_false]
  | live hlive hsz xs _ hA hread =>
    rw [Shard.isLive_eq_true] at hlive
    have V := item_overlap S.tiles r hr hb p hp
    have hans := hA [(r.overlap p.2).relativeTo p.2.start] (fun q hq => by
      rw [List.mem_singleton.mp hq]; exact ⟨V.relWf, V.relIn⟩)
    simp only [shardStep, hent, shardPart, hlive, hsz, hans, List.map_cons, List.map_nil, ← hread, hflat,
      bne_self_eq_false, Bool.false_eq_true, if_false, Bool.not_true]

theorem shardRegion_ok (S : Served fixed shard inner es fill innerPD h entries xss) (r : Subset) (hr : r.wf = true)
    (hb : r.inboundsShape shard = true) :
    shardRegion fixed es fill inner (zipDiv shard inner) entries innerPD h r =
      some (r.extract shard (assemble shard inner xss)) := by
  rw [assemble, extract_tabulate _ r shard hr hb]
  unfold shardRegion
  exact (chunksTiling inner (tiles_pos S.tiles) r hr (tiles_rank S.tiles hb)).read hr _ _
    (fun p hp out => shardStep_ok S r hr hb p hp out) _ (by simp)

end Zarrs.Partial
