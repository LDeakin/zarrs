import ZarrsModel.Model.PackBits
import ZarrsModel.Lemmas.ListBasic
/- bit strings, least significant bit first: a number and its `n` bits (`bitsOf`, `natOfBits`), bytes and their bits
(`allBits`, `bytesOfBits`), the `n`-bit pieces of a stream (`takeBits`) -/
namespace Zarrs.PackBits

theorem bitsOf_length (n v : Nat) : (bitsOf n v).length = n := by
  simp only [bitsOf, List.length_map, List.length_range]

theorem bitsOf_zero (v : Nat) : bitsOf 0 v = [] := rfl

theorem bitsOf_succ (n v : Nat) : bitsOf (n + 1) v = (v % 2 == 1) :: bitsOf n (v / 2) := by
  simp only [bitsOf, List.range_succ_eq_map, List.map_cons, List.map_map, Nat.pow_zero, Nat.div_one]
  congr 1
  apply List.map_congr_left
  intro i _
  simp only [Function.comp, Nat.succ_eq_add_one]
  rw [Nat.pow_succ', Nat.div_div_eq_div_mul]

theorem bitsOf_add : ∀ (a b v : Nat), bitsOf (a + b) v = bitsOf a v ++ bitsOf b (v / 2 ^ a) := by
  intro a
  induction a with
  | zero => intro b v; simp [bitsOf_zero]
  | succ a ih =>
    intro b v
    have e : a + 1 + b = (a + b) + 1 := Nat.add_right_comm a 1 b
    rw [e, bitsOf_succ, bitsOf_succ, ih, Nat.div_div_eq_div_mul, Nat.pow_succ, Nat.mul_comm 2]
    rfl

theorem natOfBits_bitsOf : ∀ (n v : Nat), natOfBits (bitsOf n v) = v % 2 ^ n := by
  intro n
  induction n with
  | zero => intro v; simp only [bitsOf_zero, natOfBits, Nat.pow_zero, Nat.mod_one]
  | succ n ih =>
    intro v
    rw [bitsOf_succ, natOfBits, ih, Nat.pow_succ', Nat.mod_mul]
    have : (if (v % 2 == 1) = true then 1 else 0) = v % 2 := by
      rcases Nat.mod_two_eq_zero_or_one v with h | h <;> rw [h] <;> rfl
    rw [this]

theorem bitsOf_zero_val : ∀ n, bitsOf n 0 = List.replicate n false := by
  intro n
  induction n with
  | zero => rfl
  | succ n ih => rw [bitsOf_succ, List.replicate_succ]; simp only [Nat.zero_mod, Nat.zero_div, ih]; rfl

theorem natOfBits_cons_mod (b : Bool) (bs : List Bool) : (natOfBits (b :: bs) % 2 == 1) = b := by
  rw [natOfBits, Nat.add_mul_mod_self_left]
  cases b <;> rfl

theorem natOfBits_cons_div (b : Bool) (bs : List Bool) : natOfBits (b :: bs) / 2 = natOfBits bs := by
  rw [natOfBits, Nat.add_mul_div_left _ _ (by decide)]
  cases b <;> exact Nat.zero_add _

theorem bitsOf_natOfBits : ∀ (l : List Bool) (n : Nat), l.length ≤ n →
    bitsOf n (natOfBits l) = l ++ List.replicate (n - l.length) false := by
  intro l
  induction l with
  | nil => intro n _; simp only [natOfBits, bitsOf_zero_val, List.length_nil, Nat.sub_zero, List.nil_append]
  | cons b bs ih =>
    intro n hn
    cases n with
    | zero => exact absurd hn (Nat.not_succ_le_zero _)
    | succ n =>
      rw [bitsOf_succ, natOfBits_cons_mod, natOfBits_cons_div, ih n (Nat.le_of_succ_le_succ hn)]
      simp only [List.length_cons, Nat.add_sub_add_right, List.cons_append]

theorem bitsOf_mod (n v : Nat) : bitsOf n (v % 2 ^ n) = bitsOf n v := by
  have h := bitsOf_natOfBits (bitsOf n v) n (by rw [bitsOf_length]; exact Nat.le_refl _)
  rw [natOfBits_bitsOf, bitsOf_length, Nat.sub_self] at h
  simpa using h

theorem natOfBits_lt : ∀ (l : List Bool), natOfBits l < 2 ^ l.length := by
  intro l
  induction l with
  | nil => simp [natOfBits]
  | cons b l ih =>
    simp only [natOfBits, List.length_cons, Nat.pow_succ]
    cases b <;> simp <;> omega

theorem natOfBits_take_lt (l : List Bool) (n : Nat) : natOfBits (l.take n) < 2 ^ n :=
  Nat.lt_of_lt_of_le (natOfBits_lt _) (Nat.pow_le_pow_right (by decide) (List.length_take_le n l))

theorem allBits_cons (x : Nat) (xs : Bytes) : allBits (x :: xs) = bitsOf 8 x ++ allBits xs := by
  simp only [allBits, List.flatMap_cons]

theorem allBits_eq_flatten (b : Bytes) : allBits b = (b.map (bitsOf 8)).flatten := by
  unfold allBits; rw [List.flatMap_def]

theorem bits8_len (b : Bytes) : ∀ g ∈ b.map (bitsOf 8), g.length = 8 :=
  List.forall_mem_map.mpr fun x _ => bitsOf_length 8 x

theorem allBits_length (b : Bytes) : (allBits b).length = 8 * b.length := by
  rw [allBits_eq_flatten, flatten_length_of_all 8 _ (bits8_len b), List.length_map, Nat.mul_comm]

theorem allBits_drop (b : Bytes) (k : Nat) : allBits (b.drop k) = (allBits b).drop (8 * k) := by
  rw [allBits_eq_flatten, allBits_eq_flatten, Nat.mul_comm, flatten_drop_mul 8 _ k (bits8_len b), List.map_drop]

theorem allBits_take (b : Bytes) (k : Nat) : allBits (b.take k) = (allBits b).take (8 * k) := by
  rw [allBits_eq_flatten, allBits_eq_flatten, Nat.mul_comm, flatten_take_mul 8 _ k (bits8_len b), List.map_take]

theorem bitsOf_ofLE : ∀ (ch : Bytes), (∀ x ∈ ch, x < 256) → bitsOf (8 * ch.length) (ofLE ch) = allBits ch := by
  intro ch
  induction ch with
  | nil => intro _; rfl
  | cons x xs ih =>
    intro h
    have hx : x < 256 := h x (by simp)
    have e : 8 * (x :: xs).length = 8 + 8 * xs.length := by rw [List.length_cons, Nat.mul_succ, Nat.add_comm]
    rw [e, bitsOf_add, ofLE, allBits_cons]
    have h1 : (x + 256 * ofLE xs) / 2 ^ 8 = ofLE xs := by
      show (x + 256 * ofLE xs) / 256 = ofLE xs
      rw [Nat.add_mul_div_left _ _ (by decide), Nat.div_eq_of_lt hx, Nat.zero_add]
    have h2 : bitsOf 8 (x + 256 * ofLE xs) = bitsOf 8 x := by
      rw [← bitsOf_mod 8 (x + 256 * ofLE xs)]
      show bitsOf 8 ((x + 256 * ofLE xs) % 256) = bitsOf 8 x
      rw [Nat.add_mul_mod_self_left, Nat.mod_eq_of_lt hx]
    rw [h1, h2, ih (fun y hy => h y (by simp [hy]))]

theorem bytesOfBits_nil (fuel : Nat) : bytesOfBits fuel [] = [] := by
  cases fuel <;> rfl

theorem bytesOfBits_cons (fuel : Nat) (b : Bool) (bs : List Bool) :
    bytesOfBits (fuel + 1) (b :: bs) = natOfBits ((b :: bs).take 8) :: bytesOfBits fuel ((b :: bs).drop 8) := rfl

theorem allBits_bytesOfBits : ∀ (fuel : Nat) (bits : List Bool), bits.length ≤ 8 * fuel →
    allBits (bytesOfBits fuel bits) = bits ++ List.replicate (padBits bits.length) false := by
  intro fuel
  induction fuel with
  | zero =>
    intro bits h
    have : bits = [] := List.eq_nil_of_length_eq_zero (Nat.le_zero.mp h)
    subst this; rfl
  | succ fuel ih =>
    intro bits h
    cases bits with
    | nil => rw [bytesOfBits_nil]; rfl
    | cons b bs =>
      rw [bytesOfBits_cons, allBits_cons, bitsOf_natOfBits _ 8 (List.length_take_le 8 _),
        ih _ (by rw [List.length_drop]; exact Nat.sub_le_of_le_add (Nat.mul_succ 8 fuel ▸ h))]
      generalize hl : b :: bs = l
      have hpos : 0 < l.length := by rw [← hl]; exact Nat.succ_pos _
      by_cases h8 : 8 ≤ l.length
      · have hp : padBits (l.length - 8) = padBits l.length := by
          unfold padBits; rw [← Nat.mod_eq_sub_mod h8]
        rw [List.length_take, Nat.min_eq_left h8, List.length_drop, hp, Nat.sub_self, List.replicate_zero, List.append_nil,
          ← List.append_assoc, List.take_append_drop]
      · have hp : padBits l.length = 8 - l.length := by
          unfold padBits; rw [Nat.mod_eq_of_lt (Nat.lt_of_not_le h8), if_neg (by rw [beq_iff_eq]; exact Nat.ne_of_gt hpos)]
        rw [List.take_of_length_le (by omega), List.drop_of_length_le (by omega), hp]
        exact List.append_nil _

theorem bytesOfBits_wf : ∀ (fuel : Nat) (bits : List Bool), ∀ x ∈ bytesOfBits fuel bits, x < 256
  | 0, _ => fun _ hx => nomatch hx
  | fuel + 1, [] => fun _ hx => nomatch hx
  | fuel + 1, b :: bs => fun x hx => by
    rw [bytesOfBits_cons, List.mem_cons] at hx
    rcases hx with rfl | hx
    · exact natOfBits_take_lt _ 8
    · exact bytesOfBits_wf fuel _ x hx

theorem padBits_lt (n : Nat) : padBits n < 8 := by
  unfold padBits
  split
  · decide
  · rename_i h
    exact Nat.sub_lt (by decide) (Nat.pos_of_ne_zero fun h0 => h (by rw [h0]; rfl))

theorem bytesOfBits_length (fuel : Nat) (bits : List Bool) (h : bits.length ≤ 8 * fuel) :
    (bytesOfBits fuel bits).length = (bits.length + 7) / 8 := by
  have h1 := congrArg List.length (allBits_bytesOfBits fuel bits h)
  rw [allBits_length, List.length_append, List.length_replicate] at h1
  have h2 := padBits_lt bits.length
  exact (Nat.div_eq_of_lt_le (by omega) (by omega)).symm

theorem bytesOfBits_allBits : ∀ (b : Bytes) (fuel : Nat), (∀ x ∈ b, x < 256) → b.length ≤ fuel →
    bytesOfBits fuel (allBits b) = b := by
  intro b
  induction b with
  | nil => intro fuel _ _; exact bytesOfBits_nil fuel
  | cons x xs ih =>
    intro fuel h hf
    cases fuel with
    | zero => simp at hf
    | succ f =>
      have hx : x < 256 := h x (by simp)
      rw [allBits_cons]
      have hne : ∃ b bs, bitsOf 8 x ++ allBits xs = b :: bs := by
        rw [show (8 : Nat) = 7 + 1 from rfl, bitsOf_succ]
        exact ⟨_, _, rfl⟩
      obtain ⟨b, bs, hbs⟩ := hne
      rw [hbs, bytesOfBits_cons, ← hbs, List.take_left' (bitsOf_length 8 x), List.drop_left' (bitsOf_length 8 x),
        natOfBits_bitsOf, ih f (fun y hy => h y (by simp [hy])) (by simpa using hf)]
      have : x % 2 ^ 8 = x := Nat.mod_eq_of_lt hx
      rw [this]

theorem takeBits_flatMap (n : Nat) : ∀ (vs : List Nat) (rest : List Bool),
    takeBits vs.length n (vs.flatMap (bitsOf n) ++ rest) = vs.map (bitsOf n) := by
  intro vs
  induction vs with
  | nil => intro rest; rfl
  | cons v vs ih =>
    intro rest
    simp only [List.length_cons, takeBits, List.flatMap_cons, List.append_assoc, List.map_cons]
    rw [List.take_left' (bitsOf_length n v), List.drop_left' (bitsOf_length n v), ih]

theorem takeBits_eq_range (n : Nat) : ∀ (k : Nat) (bits : List Bool),
    takeBits k n bits = (List.range k).map (fun j => (bits.drop (j * n)).take n) := by
  intro k
  induction k with
  | zero => intro bits; rfl
  | succ k ih =>
    intro bits
    rw [takeBits, ih, List.range_succ_eq_map, List.map_cons, List.map_map]
    simp only [Nat.zero_mul, List.drop_zero, List.cons.injEq, true_and]
    apply List.map_congr_left
    intro j _
    simp only [Function.comp, List.drop_drop, Nat.succ_mul]
    rw [Nat.add_comm]

end Zarrs.PackBits
