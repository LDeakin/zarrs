import ZarrsModel.Lemmas.FsStorePath
import ZarrsModel.Lemmas.FsStoreTree
/- the abstraction: the files of a well-formed tree by their paths (`fileAt`); its walk, `hasFile` and `dirEntries` in
those terms; `absFs` looked up by key (`absFs_get`) -/
namespace Zarrs.Fs
open Zarrs

theorem KV.ofList_cons (x : Key × Bytes) (l : List (Key × Bytes)) :
    KV.ofList (x :: l) = (KV.ofList l).put x.1 x.2 := rfl

theorem KV.ofList_get (l : List (Key × Bytes)) (k : Key) : (KV.ofList l).get k = KV.get l k := by
  induction l with
  | nil => rfl
  | cons x xs ih =>
    rw [KV.ofList_cons, KV.get_cons]
    by_cases h : x.1 = k
    · subst h; rw [KV.get_put_same, if_pos rfl]
    · rw [KV.get_put_other _ _ _ _ (fun e => h e.symm), if_neg h, ih]

theorem KV.ofList_sorted (l : List (Key × Bytes)) : (KV.ofList l).sorted := by
  induction l with
  | nil => exact KV.sorted_nil
  | cons x xs ih => exact KV.put_sorted _ ih _ _

theorem KV.ofList_keys (l : List (Key × Bytes)) : (KV.ofList l).keys = FsState.sortKeys (l.map (·.1)) := by
  induction l with
  | nil => rfl
  | cons x xs ih =>
    rw [KV.ofList_cons, KV.keys_put_eq, ih]
    rfl

theorem sortKeys_sorted (ks : List Key) : (FsState.sortKeys ks).Pairwise (fun a b => keyLt a b = true) := by
  induction ks with
  | nil => exact List.Pairwise.nil
  | cons k ks ih => exact insertSorted_sorted _ _ ih

theorem mem_sortKeys (ks : List Key) (k : Key) : k ∈ FsState.sortKeys ks ↔ k ∈ ks := by
  induction ks with
  | nil => simp [FsState.sortKeys]
  | cons x xs ih =>
    show k ∈ insertSorted x (FsState.sortKeys xs) ↔ _
    rw [mem_insertSorted, ih, List.mem_cons]

namespace Tree

theorem fileAt_nil (t : Tree) : t.fileAt [] = none := by
  unfold fileAt; rw [stat_nil]

theorem fileAt_cons (t : Tree) (m : Name) (ms : List Name) :
    t.fileAt (m :: ms) =
      match t.lookup1 m with
      | none => none
      | some (.file b) => if ms = [] then some b else none
      | some (.dir c) => c.fileAt ms := by
  unfold fileAt
  rw [stat_cons]
  cases t.lookup1 m with
  | none => rfl
  | some e =>
    cases e with
    | file b => cases ms <;> simp
    | dir c => rfl

theorem fileAt_single (c : Tree) (n : Name) (b : Bytes) : c.fileAt [n] = some b ↔ c.lookup1 n = some (.file b) := by
  rw [fileAt_cons]
  cases c.lookup1 n with
  | none => simp
  | some e =>
    cases e with
    | file b' => simp
    | dir c' => simp [fileAt_nil]

theorem stat_notdir (t : Tree) (path : List Name) (h : t.stat path = .notdir) :
    ∃ pp rest b, path = pp ++ rest ∧ rest ≠ [] ∧ t.fileAt pp = some b := by
  induction path generalizing t with
  | nil => rw [stat_nil] at h; cases h
  | cons n rest ih =>
    rw [stat_cons] at h
    cases hl : t.lookup1 n with
    | none => rw [hl] at h; cases h
    | some e =>
      rw [hl] at h
      cases e with
      | file b =>
        cases rest with
        | nil => cases h
        | cons x xs => exact ⟨[n], x :: xs, b, rfl, by simp, (fileAt_single t n b).2 hl⟩
      | dir c =>
        obtain ⟨pp, r, b, h1, h2, h3⟩ := ih c h
        refine ⟨n :: pp, r, b, by rw [h1]; rfl, h2, ?_⟩
        rw [fileAt_cons, hl]; exact h3

theorem fileAt_plain (t : Tree) (hi : t.Inv) (path : List Name) (v : Bytes) (h : t.fileAt path = some v) :
    ∀ n ∈ path, plainName n = true := by
  induction path generalizing t with
  | nil => simp
  | cons m ms ih =>
    rw [fileAt_cons] at h
    cases hl : t.lookup1 m with
    | none => rw [hl] at h; cases h
    | some e =>
      rw [hl] at h
      obtain ⟨hei, hm⟩ := inv_lookup1 t hi m e hl
      intro n hn
      rcases List.mem_cons.1 hn with rfl | hn
      · exact hm
      · cases e with
        | file b =>
          simp only at h
          split at h
          · rename_i hms; subst hms; cases hn
          · cases h
        | dir c => exact ih c hei h n hn

theorem fileAt_cons_of_rest (n : Name) (e : Ent) (rest : Tree) (path : List Name) (v : Bytes)
    (hlt : ∀ x ∈ rest.names, keyLt n x = true) (h : rest.fileAt path = some v) :
    (cons n e rest).fileAt path = some v := by
  cases path with
  | nil => rw [fileAt_nil] at h; cases h
  | cons m ms =>
    rw [fileAt_cons] at h ⊢
    cases hl : rest.lookup1 m with
    | none => rw [hl] at h; cases h
    | some e' => rw [lookup1_cons, if_neg (lookup1_ne_of_rest hlt hl), hl]; rw [hl] at h; exact h

theorem fileAt_cons_ne {n m : Name} (e : Ent) (rest : Tree) (ms : List Name) (hm : m ≠ n) :
    (cons n e rest).fileAt (m :: ms) = rest.fileAt (m :: ms) := by
  rw [fileAt_cons, fileAt_cons, lookup1_cons, if_neg hm]

/-- by induction on the directory: a file found in `rest` is found in the whole because names increase
(`fileAt_cons_of_rest`), and a path that does not start with the first entry's name resolves in `rest` (`fileAt_cons_ne`) -/
theorem mem_walk (t : Tree) (hi : t.Inv) (pre k : Key) (v : Bytes) :
    (k, v) ∈ t.walk pre ↔ ∃ path, path ≠ [] ∧ k = pre ++ joinPath path ∧ t.fileAt path = some v := by
  induction t generalizing pre with
  | nil =>
    simp only [walk, List.not_mem_nil, false_iff, not_exists, not_and]
    intro path hp _
    cases path with
    | nil => exact absurd rfl hp
    | cons m ms => simp [fileAt, stat_nil_cons]
  | file n b rest ih =>
    obtain ⟨hn, hlt, hr⟩ := hi
    simp only [walk, List.mem_cons, Prod.mk.injEq]
    constructor
    · rintro (⟨rfl, rfl⟩ | h)
      · exact ⟨[n], by simp, rfl, by simp [fileAt_cons, lookup1]⟩
      · obtain ⟨path, hp, hk, hf⟩ := (ih hr pre).1 h
        exact ⟨path, hp, hk, fileAt_cons_of_rest n (.file b) rest path v hlt hf⟩
    · rintro ⟨path, hp, hk, hf⟩
      cases path with
      | nil => exact absurd rfl hp
      | cons m ms =>
        by_cases hm : m = n
        · subst hm
          rw [fileAt_cons] at hf
          simp only [lookup1, if_true] at hf
          split at hf
          · rename_i hms
            subst hms
            simp only [Option.some.injEq] at hf
            exact Or.inl ⟨hk, hf.symm⟩
          · cases hf
        · exact .inr ((ih hr pre).2 ⟨m :: ms, hp, hk, (fileAt_cons_ne (.file b) rest ms hm).symm.trans hf⟩)
  | dir n c rest ihc ih =>
    obtain ⟨hn, hlt, hc, hr⟩ := hi
    simp only [walk, List.mem_append]
    constructor
    · rintro (h | h)
      · obtain ⟨path, hp, hk, hf⟩ := (ihc hc _).1 h
        refine ⟨n :: path, by simp, ?_, ?_⟩
        · rw [hk, joinPath_cons_of_ne_nil n path hp]; simp
        · rw [fileAt_cons]; simpa [lookup1] using hf
      · obtain ⟨path, hp, hk, hf⟩ := (ih hr pre).1 h
        exact ⟨path, hp, hk, fileAt_cons_of_rest n (.dir c) rest path v hlt hf⟩
    · rintro ⟨path, hp, hk, hf⟩
      cases path with
      | nil => exact absurd rfl hp
      | cons m ms =>
        by_cases hm : m = n
        · subst hm
          rw [fileAt_cons] at hf
          simp only [lookup1, if_true] at hf
          have hms : ms ≠ [] := by
            intro e; subst e; rw [fileAt_nil] at hf; cases hf
          left
          refine (ihc hc _).2 ⟨ms, hms, ?_, hf⟩
          rw [hk, joinPath_cons_of_ne_nil m ms hms]; simp
        · exact .inr ((ih hr pre).2 ⟨m :: ms, hp, hk, (fileAt_cons_ne (.dir c) rest ms hm).symm.trans hf⟩)

theorem walk_functional (t : Tree) (hi : t.Inv) (pre k : Key) (v v' : Bytes)
    (h1 : (k, v) ∈ t.walk pre) (h2 : (k, v') ∈ t.walk pre) : v = v' := by
  obtain ⟨p1, hp1, hk1, hf1⟩ := (mem_walk t hi pre k v).1 h1
  obtain ⟨p2, hp2, hk2, hf2⟩ := (mem_walk t hi pre k v').1 h2
  have hj : joinPath p1 = joinPath p2 := List.append_cancel_left (hk1.symm.trans hk2)
  have e : p1 = p2 := joinPath_inj p1 p2 hp1 hp2
    (fun n hn => (plainName_spec (fileAt_plain t hi p1 v hf1 n hn)).2)
    (fun n hn => (plainName_spec (fileAt_plain t hi p2 v' hf2 n hn)).2) hj
  subst e
  rw [hf1] at hf2
  exact Option.some.inj hf2

theorem get_walk (t : Tree) (hi : t.Inv) (k : Key) : KV.get (t.walk []) k = t.fileAt (splitPath k) := by
  cases hf : t.fileAt (splitPath k) with
  | some v =>
    apply KV.get_of_mem_functional _ (fun k v v' => walk_functional t hi [] k v v')
    exact (mem_walk t hi [] k v).2 ⟨splitPath k, splitPath_ne_nil k, by simp [join_split], hf⟩
  | none =>
    cases hg : KV.get (t.walk []) k with
    | none => rfl
    | some v =>
      obtain ⟨path, hp, hk, hfp⟩ := (mem_walk t hi [] k v).1 (KV.get_mem _ k v hg)
      simp only [List.nil_append] at hk
      have : splitPath k = path := by
        rw [hk]
        exact split_join path hp (fun n hn => (plainName_spec (fileAt_plain t hi path v hfp n hn)).2)
      rw [this, hfp] at hf
      cases hf

theorem stat_inv (t : Tree) (hi : t.Inv) (path : List Name) (c : Tree) (h : t.stat path = .dir c) : c.Inv := by
  induction path generalizing t with
  | nil => rw [stat_nil] at h; simp only [Stat.dir.injEq] at h; subst h; exact hi
  | cons n rest ih =>
    obtain ⟨c0, hl, hc⟩ := stat_cons_dir h
    exact ih c0 (inv_lookup1 t hi n _ hl).1 hc

theorem hasFile_iff_walk (t : Tree) (pre : Key) : t.hasFile = true ↔ t.walk pre ≠ [] := by
  induction t generalizing pre with
  | nil => simp [hasFile, walk]
  | file n b rest _ => simp [hasFile, walk]
  | dir n c rest ihc ih =>
    simp only [hasFile, walk, Bool.or_eq_true, ihc (pre ++ n ++ ['/']), ih pre, ne_eq, List.append_eq_nil_iff]
    constructor
    · rintro (h | h) ⟨h1, h2⟩
      · exact h h1
      · exact h h2
    · intro h
      by_cases h1 : c.walk (pre ++ n ++ ['/']) = []
      · right; intro h2; exact h ⟨h1, h2⟩
      · left; exact h1

theorem hasFile_iff (t : Tree) (hi : t.Inv) : t.hasFile = true ↔ ∃ path v, t.fileAt path = some v := by
  rw [hasFile_iff_walk t []]
  constructor
  · intro h
    cases hw : t.walk [] with
    | nil => exact absurd hw h
    | cons kv l =>
      obtain ⟨path, _, _, hf⟩ := (mem_walk t hi [] kv.1 kv.2).1 (by rw [hw]; exact List.mem_cons_self ..)
      exact ⟨path, kv.2, hf⟩
  · rintro ⟨path, v, hf⟩ hw
    have hp : path ≠ [] := by intro e; subst e; rw [fileAt_nil] at hf; cases hf
    have := (mem_walk t hi [] (joinPath path) v).2 ⟨path, hp, rfl, hf⟩
    rw [hw] at this
    cases this

theorem lookup1_cons_iff {n : Name} {e : Ent} {rest : Tree} (hi : (cons n e rest).Inv) (m : Name) (x : Ent) :
    (cons n e rest).lookup1 m = some x ↔ (m = n ∧ x = e) ∨ rest.lookup1 m = some x := by
  rw [lookup1_cons]
  constructor
  · split
    · next h => exact fun hx => .inl ⟨h, (Option.some.inj hx).symm⟩
    · exact .inr
  · rintro (⟨rfl, rfl⟩ | h)
    · rw [if_pos rfl]
    · rw [if_neg (lookup1_ne_of_rest ((inv_cons ..).1 hi).2.1 h)]; exact h

theorem dirEntries_cons (p : Key) (n : Name) (e : Ent) (rest : Tree) :
    (cons n e rest).dirEntries p =
      match e with
      | .file _ => ((p ++ n) :: (rest.dirEntries p).1, (rest.dirEntries p).2)
      | .dir c => if c.hasFile then ((rest.dirEntries p).1, (p ++ n ++ ['/']) :: (rest.dirEntries p).2)
          else rest.dirEntries p := by
  cases e <;> rfl

theorem mem_dirEntries_keys (t : Tree) (hi : t.Inv) (p k : Key) :
    k ∈ (t.dirEntries p).1 ↔ ∃ n b, k = p ++ n ∧ t.lookup1 n = some (.file b) := by
  induction t using consInd with
  | hnil => simp [dirEntries, lookup1]
  | hcons n e rest ih =>
    have ih := ih ((inv_cons ..).1 hi).2.2.2
    cases e with
    | file b => simp [lookup1_cons_iff hi, and_or_left, exists_or, ih, dirEntries_cons]
    | dir c =>
      by_cases hc : c.hasFile = true <;> simp [lookup1_cons_iff hi, ih, dirEntries_cons, hc]

theorem mem_dirEntries_prefixes (t : Tree) (hi : t.Inv) (p q : Key) :
    q ∈ (t.dirEntries p).2 ↔ ∃ n c, q = p ++ n ++ ['/'] ∧ t.lookup1 n = some (.dir c) ∧ c.hasFile = true := by
  induction t using consInd with
  | hnil => simp [dirEntries, lookup1]
  | hcons n e rest ih =>
    have ih := ih ((inv_cons ..).1 hi).2.2.2
    cases e with
    | file b => simp [lookup1_cons_iff hi, ih, dirEntries_cons]
    | dir c =>
      by_cases hc : c.hasFile = true <;>
        simp [lookup1_cons_iff hi, and_or_left, or_and_right, exists_or, ih, dirEntries_cons, hc, and_assoc]

theorem not_mem_walk_rest (n : Name) (hn : plainName n = true) (rest : Tree) (hr : rest.Inv)
    (hlt : ∀ m ∈ rest.names, keyLt n m = true) (pre : Key) (q : List Name) (hq : ∀ x ∈ q, '/' ∉ x) (v : Bytes) :
    (pre ++ joinPath (n :: q), v) ∉ rest.walk pre := by
  intro hm
  obtain ⟨path, hp, hk, hf⟩ := (mem_walk rest hr pre _ _).1 hm
  have : n :: q = path := joinPath_inj (n :: q) path (by simp) hp
    (fun x hx => (List.mem_cons.1 hx).elim (fun e => e ▸ (plainName_spec hn).2) (hq x))
    (plain_noSlash (fileAt_plain rest hr path v hf)) (List.append_cancel_left hk)
  subst this
  rw [fileAt_cons] at hf
  cases hl : rest.lookup1 n with
  | none => rw [hl] at hf; cases hf
  | some e => exact lookup1_ne_of_rest hlt hl rfl

theorem walk_nodup (t : Tree) (hi : t.Inv) (pre : Key) : (t.walk pre).Nodup := by
  induction t generalizing pre with
  | nil => exact List.nodup_nil
  | file n b rest ih =>
    obtain ⟨hn, hlt, hr⟩ := hi
    simp only [walk, List.nodup_cons]
    exact ⟨not_mem_walk_rest n hn rest hr hlt pre [] (by simp) b, ih hr pre⟩
  | dir n c rest ihc ih =>
    obtain ⟨hn, hlt, hc, hr⟩ := hi
    simp only [walk]
    rw [List.nodup_append]
    refine ⟨ihc hc _, ih hr pre, ?_⟩
    rintro ⟨k, v⟩ ha _ hb rfl
    obtain ⟨q, hq, hk, hf⟩ := (mem_walk c hc _ k v).1 ha
    have hk' : k = pre ++ joinPath (n :: q) := by
      rw [hk, joinPath_cons_of_ne_nil n q hq]
      simp
    rw [hk'] at hb
    exact not_mem_walk_rest n hn rest hr hlt pre q (plain_noSlash (fileAt_plain c hc q v hf)) v hb

theorem fileAt_snoc (t : Tree) (pp : List Name) (n : Name) (b : Bytes) :
    t.fileAt (pp ++ [n]) = some b ↔ ∃ c, t.stat pp = .dir c ∧ c.lookup1 n = some (.file b) := by
  constructor
  · intro h
    obtain ⟨c, hs, hf⟩ := stat_prefix_of_file t pp [n] b (by simp) h
    exact ⟨c, hs, (fileAt_single c n b).1 hf⟩
  · rintro ⟨c, hs, hl⟩
    rw [fileAt_append_dir t pp [n] c hs]
    exact (fileAt_single c n b).2 hl

end Tree

def FsState.content (s : FsState) : Tree := s.getD .nil

theorem FsInv.content {s : FsState} (hi : FsInv s) : (FsState.content s).Inv := by
  cases s with
  | none => exact trivial
  | some t => exact hi

theorem absFs_get (s : FsState) (hi : FsInv s) (k : Key) :
    (absFs s).get k = (FsState.content s).fileAt (splitPath k) := by
  unfold absFs
  rw [KV.ofList_get]
  exact Tree.get_walk _ hi.content k

theorem absFs_sorted (s : FsState) : (absFs s).sorted := KV.ofList_sorted _

theorem stat_content (s : FsState) (path : List Name) (hp : path ≠ []) : s.stat path = (FsState.content s).stat path := by
  cases s with
  | some t => rfl
  | none =>
    cases path with
    | nil => exact absurd rfl hp
    | cons m ms => rfl

end Zarrs.Fs
