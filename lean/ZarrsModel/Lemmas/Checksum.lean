import ZarrsModel.Lemmas.CodecBasic
import ZarrsModel.Lemmas.ListBasic
/-
For C15: altering one byte of a checksummed value changes the stored checksum.  CRC-32C: the shift register is linear over
xor, so the difference of two runs is a non-zero register that no later byte can clear.  Fletcher-32: the low half is a
weighted byte sum modulo 65535 (`fletcher32_mod`), and one altered byte moves that sum by less than 65535.
-/
namespace Zarrs.Codec

theorem xor_eq_zero_imp {a b : Nat} (h : a ^^^ b = 0) : a = b := by
  have : (a ^^^ b) ^^^ b = b := by rw [h, Nat.zero_xor]
  rwa [Nat.xor_assoc, Nat.xor_self, Nat.xor_zero] at this

theorem xor_ne_self {x d : Nat} (hd : d ≠ 0) : x ^^^ d ≠ x := by
  intro h
  apply hd
  have : x ^^^ (x ^^^ d) = 0 := by rw [h, Nat.xor_self]
  rwa [← Nat.xor_assoc, Nat.xor_self, Nat.zero_xor] at this

theorem shiftStep_xor (a b : Nat) : shiftStep (a ^^^ b) = shiftStep a ^^^ shiftStep b := by
  have hm := @Nat.xor_mod_two_eq_one a b
  unfold shiftStep
  by_cases ha : a % 2 = 1 <;> by_cases hb : b % 2 = 1
  · have : ¬ ((a ^^^ b) % 2 = 1) := by rw [hm]; simp [ha, hb]
    rw [if_neg this, if_pos ha, if_pos hb, Nat.xor_div_two]
    calc a / 2 ^^^ b / 2 = a / 2 ^^^ b / 2 ^^^ (crcPoly ^^^ crcPoly) := by rw [Nat.xor_self, Nat.xor_zero]
      _ = _ := by ac_rfl
  · have : (a ^^^ b) % 2 = 1 := by rw [hm]; simp [ha, hb]
    rw [if_pos this, if_pos ha, if_neg hb, Nat.xor_div_two]; ac_rfl
  · have : (a ^^^ b) % 2 = 1 := by rw [hm]; simp [ha, hb]
    rw [if_pos this, if_neg ha, if_pos hb, Nat.xor_div_two]; ac_rfl
  · have : ¬ ((a ^^^ b) % 2 = 1) := by rw [hm]; simp [ha, hb]
    rw [if_neg this, if_neg ha, if_neg hb, Nat.xor_div_two]

theorem shiftStep_lt {r : Nat} (h : r < 2 ^ 32) : shiftStep r < 2 ^ 32 := by
  unfold shiftStep
  split
  · exact Nat.xor_lt_two_pow (by omega) (by decide)
  · omega

theorem shiftStep_eq_zero {r : Nat} (h : r < 2 ^ 32) (h0 : shiftStep r = 0) : r = 0 := by
  unfold shiftStep at h0
  split at h0
  · have := xor_eq_zero_imp h0
    unfold crcPoly at this; omega
  · omega

theorem shift8_xor (a b : Nat) : shift8 (a ^^^ b) = shift8 a ^^^ shift8 b := by
  simp only [shift8, shiftStep_xor]

theorem shift8_lt {r : Nat} (h : r < 2 ^ 32) : shift8 r < 2 ^ 32 := by
  unfold shift8
  exact shiftStep_lt (shiftStep_lt (shiftStep_lt (shiftStep_lt (shiftStep_lt (shiftStep_lt (shiftStep_lt (shiftStep_lt h)))))))

theorem shift8_eq_zero {r : Nat} (h : r < 2 ^ 32) (h0 : shift8 r = 0) : r = 0 := by
  unfold shift8 at h0
  have h1 := shiftStep_lt h
  have h2 := shiftStep_lt h1
  have h3 := shiftStep_lt h2
  have h4 := shiftStep_lt h3
  have h5 := shiftStep_lt h4
  have h6 := shiftStep_lt h5
  have h7 := shiftStep_lt h6
  exact shiftStep_eq_zero h (shiftStep_eq_zero h1 (shiftStep_eq_zero h2 (shiftStep_eq_zero h3
    (shiftStep_eq_zero h4 (shiftStep_eq_zero h5 (shiftStep_eq_zero h6 (shiftStep_eq_zero h7 h0)))))))

theorem xor_xor_xor (a b x y : Nat) : (a ^^^ x) ^^^ (b ^^^ y) = (a ^^^ b) ^^^ (x ^^^ y) := by ac_rfl

theorem crcUpd_xor_crcUpd (a b x : Nat) : crcUpd a x ^^^ crcUpd b x = shift8 (a ^^^ b) := by
  rw [crcUpd, crcUpd, ← shift8_xor, xor_xor_xor, Nat.xor_self, Nat.xor_zero]

theorem crcUpd_xor_byte (r x d : Nat) : crcUpd r x ^^^ crcUpd r (x ^^^ d) = shift8 d := by
  rw [crcUpd, crcUpd, ← shift8_xor, xor_xor_xor, Nat.xor_self, Nat.zero_xor, ← Nat.xor_assoc, Nat.xor_self,
    Nat.zero_xor]

theorem crcReg_diff (bs : Bytes) : ∀ a b : Nat, a ^^^ b < 2 ^ 32 → a ^^^ b ≠ 0 →
    crcReg a bs ^^^ crcReg b bs < 2 ^ 32 ∧ crcReg a bs ^^^ crcReg b bs ≠ 0 := by
  induction bs with
  | nil => intro a b h1 h2; exact ⟨h1, h2⟩
  | cons x xs ih =>
    intro a b h1 h2
    simp only [crcReg, List.foldl_cons]
    apply ih
    · rw [crcUpd_xor_crcUpd]; exact shift8_lt h1
    · rw [crcUpd_xor_crcUpd]; exact fun h => h2 (shift8_eq_zero h1 h)

theorem crcReg_cons (i x : Nat) (xs : Bytes) : crcReg i (x :: xs) = crcReg (crcUpd i x) xs :=
  List.foldl_cons ..

/-- the difference `shift8 d` enters at the altered position and `crcReg_diff` carries it to the end -/
theorem crcReg_set_diff (i : Nat) (m : Bytes) (k d : Nat) (hk : k < m.length) (hd0 : 0 < d) (hd : d < 256) :
    crcReg i m ^^^ crcReg i (m.set k (m.getD k 0 ^^^ d)) < 2 ^ 32 ∧
    crcReg i m ^^^ crcReg i (m.set k (m.getD k 0 ^^^ d)) ≠ 0 := by
  induction m generalizing i k with
  | nil => exact absurd hk (Nat.not_lt_zero k)
  | cons x xs ih =>
    cases k with
    | zero =>
      have hd32 : d < 2 ^ 32 := Nat.lt_trans hd (by decide)
      rw [List.getD_cons_zero, List.set_cons_zero, crcReg_cons, crcReg_cons]
      apply crcReg_diff <;> rw [crcUpd_xor_byte]
      · exact shift8_lt hd32
      · exact fun h => Nat.ne_of_gt hd0 (shift8_eq_zero hd32 h)
    | succ k =>
      rw [List.getD_cons_succ, List.set_cons_succ, crcReg_cons, crcReg_cons]
      exact ih (crcUpd i x) k (Nat.lt_of_succ_lt_succ hk)

theorem checksumDec_append_bad (sum : Bytes → Nat) (q c : Bytes) (hc : c.length = 4)
    (hne : le32 (sum q) ≠ c) : checksumDec sum true (q ++ c) = .error .invalidChecksum := by
  rw [checksumDec_append sum true q c hc]
  simp [hne]

theorem set_xor_ne (l : Bytes) (j d : Nat) (hj : j < l.length) (hd0 : 0 < d) :
    l.set j (l.getD j 0 ^^^ d) ≠ l := by
  intro h
  have := congrArg (fun l => l.getD j 0) h
  simp [List.getD_eq_getElem?_getD, hj] at this
  exact xor_ne_self (Nat.ne_of_gt hd0) this

theorem checksumDec_alter (sum : Bytes → Nat) (p : Bytes) (k d : Nat) (hk : k < p.length + 4) (hd0 : 0 < d)
    (hne : k < p.length → le32 (sum (p.set k (p.getD k 0 ^^^ d))) ≠ le32 (sum p)) :
    checksumDec sum true ((checksumEnc sum p).set k ((checksumEnc sum p).getD k 0 ^^^ d)) =
      .error .invalidChecksum := by
  unfold checksumEnc
  rw [List.set_append]
  by_cases h : k < p.length
  · rw [if_pos h, getD_append_left _ _ _ h]
    exact checksumDec_append_bad _ _ _ (le32_length _) (hne h)
  · rw [if_neg h, getD_append_right _ _ _ (Nat.le_of_not_lt h)]
    refine checksumDec_append_bad _ _ _ (by rw [List.length_set, le32_length]) fun e => set_xor_ne _ _ _ ?_ hd0 e.symm
    rw [le32_length]
    omega

theorem le32_inj_mod {a b : Nat} (h : le32 a = le32 b) : a % 2 ^ 32 = b % 2 ^ 32 := by
  rw [← ofLe_le32_mod, ← ofLe_le32_mod, h]

theorem le32_inj_mod16 {a b : Nat} (h : le32 a = le32 b) : a % 65536 = b % 65536 := by
  rw [← Nat.mod_mod_of_dvd a (by decide : 65536 ∣ 2 ^ 32), le32_inj_mod h, Nat.mod_mod_of_dvd _ (by decide)]

theorem crc32c_set_ne (m : Bytes) (k d : Nat) (hk : k < m.length) (hd0 : 0 < d) (hd : d < 256) :
    le32 (crc32c (m.set k (m.getD k 0 ^^^ d))) ≠ le32 (crc32c m) := by
  intro h
  have h1 := le32_inj_mod h
  obtain ⟨hlt, hne⟩ := crcReg_set_diff 0xFFFFFFFF m k d hk hd0 hd
  apply hne
  have h2 : (crc32c m ^^^ crc32c (m.set k (m.getD k 0 ^^^ d))) % 2 ^ 32 = 0 := by
    rw [Nat.xor_mod_two_pow, h1, Nat.xor_self]
  have h3 : crc32c m ^^^ crc32c (m.set k (m.getD k 0 ^^^ d)) =
      crcReg 0xFFFFFFFF m ^^^ crcReg 0xFFFFFFFF (m.set k (m.getD k 0 ^^^ d)) := by
    rw [crc32c, crc32c, xor_xor_xor, Nat.xor_self, Nat.xor_zero]
  rw [h3] at h2
  rwa [Nat.mod_eq_of_lt hlt] at h2

theorem fold16_mod (x : Nat) : fold16 x % 65535 = x % 65535 := by unfold fold16; omega

theorem fold16_le {x : Nat} (h : x < 4294967296) : fold16 x ≤ 131070 := by unfold fold16; omega

theorem fold16_le_of_small {x : Nat} (h : x ≤ 131070) : fold16 x ≤ 65535 := by unfold fold16; omega

theorem fletcherBlock_fst (ws : List Nat) : ∀ s : Nat × Nat, (fletcherBlock s ws).1 = s.1 + ws.sum := by
  induction ws with
  | nil => intro s; simp [fletcherBlock]
  | cons w ws ih => intro s; obtain ⟨s1, s2⟩ := s; simp only [fletcherBlock, ih, List.sum_cons]; omega

def wsum : Bytes → Nat
  | a :: b :: rest => a * 256 + b + wsum rest
  | [a] => a * 256
  | [] => 0

theorem words_bound : ∀ (b : Bytes), (∀ x ∈ b, x < 256) → ∀ w ∈ words b, w ≤ 65535
  | a :: b :: rest, h, w, hw => by
    simp only [words, List.mem_cons] at hw
    rcases hw with hw | hw
    · have := h a (by simp); have := h b (by simp); omega
    · exact words_bound rest (fun x hx => h x (by simp [hx])) w hw
  | [_], _, w, hw => by simp [words] at hw
  | [], _, w, hw => by simp [words] at hw

theorem fletcher_loop (blks : List (List Nat)) (hb : ∀ c ∈ blks, c.length ≤ 360 ∧ ∀ w ∈ c, w ≤ 65535) :
    ∀ acc : Nat × Nat, acc.1 ≤ 131070 →
    let r := blks.foldl (fun (acc : Nat × Nat) blk =>
      let (a, b) := fletcherBlock acc blk; (fold16 a, fold16 b)) acc
    r.1 ≤ 131070 ∧ r.1 % 65535 = (acc.1 + blks.flatten.sum) % 65535 := by
  induction blks with
  | nil => intro acc h; simp [h]
  | cons c cs ih =>
    intro acc h
    simp only [List.foldl_cons]
    have hc := hb c (by simp)
    have hs := sum_le_of_bound c 65535 hc.2
    have hs' : c.sum ≤ 360 * 65535 := Nat.le_trans hs (Nat.mul_le_mul_right _ hc.1)
    have key : (fletcherBlock acc c).1 = acc.1 + c.sum := fletcherBlock_fst c acc
    have h1 : fold16 (fletcherBlock acc c).1 ≤ 131070 := fold16_le (by rw [key]; omega)
    have := ih (fun c' hc' => hb c' (by simp [hc'])) (fold16 (fletcherBlock acc c).1, fold16 (fletcherBlock acc c).2) h1
    simp only at this
    refine ⟨this.1, ?_⟩
    rw [this.2, List.flatten_cons, List.sum_append, ← Nat.add_assoc]
    exact Nat.add_mod_eq_add_mod_right _ (by rw [fold16_mod, key])

theorem wsum_eq : ∀ (b : Bytes),
    (words b).sum + (if b.length % 2 = 1 then b.getLastD 0 * 256 else 0) = wsum b
  | a :: b :: rest => by
    have ih := wsum_eq rest
    have hl : (a :: b :: rest).length % 2 = rest.length % 2 := Nat.add_mod_right rest.length 2
    simp only [words, wsum, List.sum_cons, hl]
    cases rest with
    | nil => simp [words, wsum]
    | cons c cs =>
      have : (a :: b :: c :: cs).getLastD 0 = (c :: cs).getLastD 0 := by simp [List.getLastD]
      rw [this]; omega
  | [a] => by simp [words, wsum]
  | [] => by simp [words, wsum]

theorem or_low16 (hi lo : Nat) (h : lo ≤ 65535) : (hi * 65536 % 4294967296 ||| lo) % 65536 = lo := by
  have := @Nat.or_mod_two_pow (hi * 65536 % 4294967296) lo 16
  simp only [show (2:Nat) ^ 16 = 65536 from rfl] at this
  rw [this, Nat.mod_mod_of_dvd _ (by decide : 65536 ∣ 4294967296), Nat.mul_mod_left, Nat.zero_or,
    Nat.mod_eq_of_lt (Nat.lt_succ_of_le h)]

theorem fletcher32_mod (data : Bytes) (h : ∀ x ∈ data, x < 256) :
    fletcher32 data % 65536 % 65535 = wsum data % 65535 := by
  obtain ⟨hfl, hlen⟩ := chunksOf_spec 360 (by decide) _ (words data) (Nat.lt_succ_self _)
  have hb : ∀ c ∈ chunksOf 360 ((words data).length + 1) (words data), c.length ≤ 360 ∧ ∀ w ∈ c, w ≤ 65535 :=
    fun c hc => ⟨(hlen c hc).1, fun w hw => words_bound data h w (hfl ▸ List.mem_flatten.mpr ⟨c, hc, hw⟩)⟩
  have hloop := fletcher_loop _ hb (0, 0) (by simp)
  simp only [hfl, Nat.zero_add] at hloop
  have hw := wsum_eq data
  unfold fletcher32
  simp only []
  generalize List.foldl _ (0, 0) (chunksOf 360 ((words data).length + 1) (words data)) = r at hloop ⊢
  obtain ⟨r1, r2⟩ := r
  obtain ⟨hr1, hr2⟩ := hloop
  by_cases ho : data.length % 2 = 1
  · simp only [ho, if_true] at hw ⊢
    have hlast : data.getLastD 0 < 256 := by
      cases data with
      | nil => simp at ho
      | cons a t =>
        have : (a :: t).getLastD 0 = (a :: t).getLast (by simp) := by simp [List.getLastD]
        rw [this]; exact h _ (List.getLast_mem _)
    have hsmall : r1 + data.getLastD 0 * 256 < 4294967296 :=
      Nat.lt_of_le_of_lt (Nat.add_le_add hr1 (Nat.mul_le_mul_right 256 (Nat.le_of_lt hlast))) (by decide)
    rw [or_low16 _ _ (fold16_le_of_small (fold16_le hsmall)), fold16_mod, fold16_mod, ← hw]
    exact Nat.add_mod_eq_add_mod_right _ hr2
  · simp only [ho, if_false] at hw ⊢
    rw [or_low16 _ _ (fold16_le_of_small hr1), fold16_mod, ← hw, Nat.add_zero]
    exact hr2

def wt (k : Nat) : Nat := if k % 2 = 0 then 256 else 1

theorem wsum_set : ∀ (b : Bytes) (k y : Nat), k < b.length →
    wsum (b.set k y) + b.getD k 0 * wt k = wsum b + y * wt k
  | a :: b :: rest, 0, y, _ => by
    show y * 256 + b + wsum rest + a * 256 = a * 256 + b + wsum rest + y * 256
    ac_rfl
  | a :: b :: rest, 1, y, _ => by
    show a * 256 + y + wsum rest + b * 1 = a * 256 + b + wsum rest + y * 1
    ac_rfl
  | a :: b :: rest, k + 2, y, hk => by
    have ih := wsum_set rest k y (Nat.lt_of_add_lt_add_right hk)
    have hw : wt (k + 2) = wt k := by unfold wt; rw [Nat.add_mod_right]
    show a * 256 + b + wsum (rest.set k y) + rest.getD k 0 * wt (k + 2) = a * 256 + b + wsum rest + y * wt (k + 2)
    simp only [hw, Nat.add_assoc, ih]
  | [a], 0, y, _ => Nat.add_comm _ _
  | [a], k + 1, y, hk => absurd (Nat.lt_of_add_lt_add_right hk) (Nat.not_lt_zero k)
  | [], k, y, hk => absurd hk (Nat.not_lt_zero k)

theorem add_mod_cancel {r p q n : Nat} (hp : p < n) (hq : q < n) (h : (r + p) % n = (r + q) % n) : p = q := by
  have key : ∀ {p q}, p ≤ q → q < n → (r + p) % n = (r + q) % n → p = q := by
    intro p q hle hq h
    have := Nat.sub_mod_eq_zero_of_mod_eq h.symm
    rw [Nat.add_sub_add_left, Nat.mod_eq_of_lt (Nat.lt_of_le_of_lt (Nat.sub_le q p) hq)] at this
    exact Nat.le_antisymm hle (Nat.sub_eq_zero_iff_le.mp this)
  rcases Nat.le_total p q with hle | hle
  · exact key hle hq h
  · exact (key hle hp h.symm).symm

theorem shift_mod_ne {A B x y w n : Nat} (hw : 0 < w) (hx : x * w < n) (hy : y * w < n) (hne : y ≠ x)
    (hs : B + x * w = A + y * w) : A % n ≠ B % n := by
  intro h
  have h1 : (B + x * w) % n = (B + y * w) % n := by rw [hs]; exact Nat.add_mod_eq_add_mod_right _ h
  exact hne (Nat.eq_of_mul_eq_mul_right hw (add_mod_cancel hx hy h1)).symm

theorem fletcher32_set_ne (m : Bytes) (hm : ∀ x ∈ m, x < 256) (k d : Nat) (hk : k < m.length)
    (hd0 : 0 < d) (hd : d < 256) :
    le32 (fletcher32 (m.set k (m.getD k 0 ^^^ d))) ≠ le32 (fletcher32 m) := by
  intro h
  have hx : m.getD k 0 < 256 := by
    rw [List.getD_eq_getElem?_getD, List.getElem?_eq_getElem hk]
    exact hm _ (List.getElem_mem hk)
  have hy : m.getD k 0 ^^^ d < 256 := @Nat.xor_lt_two_pow _ _ 8 hx hd
  have hm' : ∀ x ∈ m.set k (m.getD k 0 ^^^ d), x < 256 := by
    intro x hx'
    rcases List.mem_or_eq_of_mem_set hx' with h | h
    · exact hm x h
    · exact h ▸ hy
  have hw : 0 < wt k ∧ wt k ≤ 256 := by unfold wt; split <;> decide
  have hlt : ∀ z, z < 256 → z * wt k < 65535 := fun z hz =>
    Nat.lt_of_le_of_lt (Nat.mul_le_mul (show z ≤ 255 from Nat.le_of_lt_succ hz) hw.2) (by decide)
  refine shift_mod_ne hw.1 (hlt _ hx) (hlt _ hy) (xor_ne_self (Nat.ne_of_gt hd0)) (wsum_set m k _ hk) ?_
  rw [← fletcher32_mod m hm, ← fletcher32_mod _ hm', le32_inj_mod16 h]

end Zarrs.Codec
