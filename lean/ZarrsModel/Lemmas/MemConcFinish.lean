import ZarrsModel.Lemmas.MemConcView
/- Every reachable state of the repaired (`.fixed`) protocol can be run to completion
(no deadlock, termination): a progress lemma plus a termination measure -/
namespace Zarrs.MemConc

/-- remaining work of thread `t`: two units per unfinished operation, one of them already spent when the
operation is in its second phase -/
def threadWork (ps : Progs) (v : VState) (t : Nat) : Nat :=
  2 * ((ps.getD t []).length - v.pc t) + (if v.ts t = .idle then 1 else 0)

def work (ps : Progs) (s : State) : Nat := ((List.range ps.length).map (threadWork ps (view s))).sum

theorem opAt_lt {ps : Progs} {t k : Nat} {op : Op} (h : opAt ps t k = some op) : k < (ps.getD t []).length := by
  obtain ⟨p, hp, hk⟩ := Option.bind_eq_some_iff.mp h
  rw [List.getD_eq_getElem?_getD, hp]
  exact (List.getElem?_eq_some_iff.mp hk).1

theorem vstep_threadWork {ps time v lin t v' lin' r} (hst : VStep ps time v lin t v' lin' r) :
    threadWork ps v' t < threadWork ps v t ∧ ∀ x, x ≠ t → threadWork ps v' x = threadWork ps v x := by
  obtain ⟨op, hop⟩ := hst.op_self
  have hk := opAt_lt hop
  refine ⟨?_, fun x hx => by unfold threadWork; rw [hst.ts_other hx, hst.pc_other hx]⟩
  unfold threadWork
  cases hr : r with
  | none =>
    obtain ⟨h1, h2, h3⟩ := hst.pc_silent hr
    rw [h1, if_pos h2, if_neg h3]; exact Nat.add_lt_add_left Nat.zero_lt_one _
  | some x =>
    obtain ⟨h1, h2⟩ := hst.pc_resp hr
    rw [h1, if_pos h2]
    exact Nat.lt_of_lt_of_le (by omega) (Nat.le_add_right _ _)

theorem step_work {ps s t} (hw : WF ps s) (ht : t < ps.length)
    (hen : enabled .fixed ps s t = true) : work ps (step .fixed ps s t) < work ps s := by
  obtain ⟨_, _, _, hst, _⟩ := step_view hw ht hen 0 []
  obtain ⟨h1, h2⟩ := vstep_threadWork hst
  refine (sum_map_le_lt _ _ _ fun x _ => ?_).2 ⟨t, List.mem_range.2 ht, h1⟩
  by_cases hx : x = t
  · rw [hx]; exact Nat.le_of_lt h1
  · exact Nat.le_of_eq (h2 x hx)

theorem progress {ps s} (hl : LWF ps s) (hv : VWF ps (view s)) (hnf : allFinished ps s = false) :
    ∃ t, t < ps.length ∧ enabled .fixed ps s t = true := by
  rcases Classical.em (∃ t c, tsOf s t = .setHold c) with ⟨t, c, hts⟩ | hno
  · -- a lock holder can always perform its write
    have ht : t < ps.length := hv.ts_lt t (by show tsOf s t ≠ _; rw [hts]; intro h; cases h)
    obtain ⟨op, hop, _⟩ := hv.hold_op t c hts
    refine ⟨t, ht, ?_⟩
    unfold enabled
    rw [curOp_eq ps s hl.lpc t]
    have hop' : opAt ps t (pcOf s t) = some op := hop
    rw [hop', ts_getD, hts]
  · -- nobody holds a lock: every unfinished thread is enabled
    have hfree : ∀ c, cellFree s c = true := by
      intro c
      show (wl s c).isNone = true
      cases h : wl s c with
      | none => rfl
      | some t => exact absurd ⟨t, c, (hv.lock_iff t c).mp h⟩ hno
    have hex : ∃ t, t < ps.length ∧ curOp ps s t ≠ none := by
      unfold allFinished at hnf
      rw [List.all_eq_false] at hnf
      obtain ⟨t, hmem, hp⟩ := hnf
      refine ⟨t, List.mem_range.mp hmem, ?_⟩
      intro h; rw [h] at hp; exact hp rfl
    obtain ⟨t, ht, hcur⟩ := hex
    refine ⟨t, ht, ?_⟩
    unfold enabled
    cases hop : curOp ps s t with
    | none => exact absurd hop hcur
    | some op =>
      rw [ts_getD]
      cases hts : tsOf s t with
      | idle =>
        cases op <;> simp only [isWrite, if_true] <;> cases s.cur <;> simp [hfree]
      | setGot c => exact absurd hts (hv.no_got t c)
      | setHold c => rfl
      | getHold c => exact hfree c

theorem can_finish {ps s} (hw : WF ps s) :
    ∃ sched s', run .fixed ps s sched = some s' ∧ allFinished ps s' = true := by
  cases hf : allFinished ps s with
  | true => exact ⟨[], s, rfl, hf⟩
  | false =>
    obtain ⟨t, ht, hen⟩ := progress hw.lwf hw.vwf hf
    have hlt := step_work hw ht hen
    obtain ⟨sched, s', hrun, hfin⟩ := can_finish (step_view hw ht hen 0 []).1
    refine ⟨t :: sched, s', ?_, hfin⟩
    simp only [run, hen, if_true]
    exact hrun
termination_by work ps s
decreasing_by exact hlt

end Zarrs.MemConc
