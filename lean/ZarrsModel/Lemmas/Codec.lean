import ZarrsModel.Model.Shard
import ZarrsModel.Lemmas.CodecBasic
import ZarrsModel.Lemmas.CodecTranspose
import ZarrsModel.Lemmas.CodecShard
/-
helper lemmas for C03 (codec inverses, chain composition, shard layout); the proofs live in
`CodecBasic` (checksum codecs, `bytes`, chains), `CodecTranspose` (`transpose`) and
`CodecShard` (`sharding_indexed` layout)
-/
