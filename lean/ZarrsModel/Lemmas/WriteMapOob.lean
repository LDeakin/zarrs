import ZarrsModel.Model.WriteMapOob
import ZarrsModel.Lemmas.WriteMap
/- C17 for regions overhanging the array on a regular grid: the extent `grid shape * chunk shape` has the same grid shape
(`regular_gridShape_extent`), so the region is in bounds of an array the same chunks tile. -/
namespace Zarrs

theorem regular_gridShape_extent : ∀ (cs arr G : Shape), (Grid.regular cs).wf = true →
    (Grid.regular cs).gridShape arr = some G → arr.length = cs.length →
    (Grid.regular cs).gridShape (gridExtent G cs) = some G ∧ (gridExtent G cs).length = cs.length
  | [], _, G, _, hG, _ => by
    cases (zipOpt_nil_left ..).symm.trans hG
    exact ⟨rfl, rfl⟩
  | s :: cs, a :: arr, G, hwf, hG, hlen => by
    obtain ⟨g, Gs, _, hGs, rfl⟩ := zipOpt_cons_some.mp hG
    simp only [Grid.regular, Grid.wf, List.map_cons, List.all_cons, Bool.and_eq_true, Grid.wfDim,
      decide_eq_true_eq] at hwf
    obtain ⟨h1, h2⟩ := regular_gridShape_extent cs arr Gs hwf.2 hGs (Nat.succ.inj hlen)
    exact ⟨zipOpt_cons_eq (congrArg some (ceil_mul g s hwf.1)) h1, congrArg (· + 1) h2⟩

theorem writeMap_overhang {α} (cfg : ArrCfg α) (cs G : Shape) (hg : cfg.grid = Grid.regular cs)
    (hwf : cfg.grid.wf = true) (hG : cfg.grid.gridShape cfg.shape = some G) (hlen : cfg.shape.length = cs.length)
    (region : Subset) (hr : region.wf = true) (hb : region.inboundsShape (gridExtent G cs) = true)
    (hne : region.isEmpty = false) (es : Nat) :
    ∃ m box, cfg.writeMap region es = some m ∧ tiles (region.numElements * es) m = true ∧
      cfg.grid.chunksInArraySubset region cfg.shape = some box ∧
      ∀ c, box.contains c = true → inB c G = true := by
  rw [hg] at hwf hG
  obtain ⟨hGe, hle⟩ := regular_gridShape_extent cs cfg.shape G hwf hG hlen
  obtain ⟨box, P, hin⟩ := (gridOK'_regular cs (gridExtent G cs) G hwf hGe hle).pieces region hr hb hne
  have P' : cfg.grid.Pieces cfg.shape region box := hg ▸ P.regular_indep cfg.shape
  obtain ⟨m, hm, ht⟩ := P'.writeMap hr es
  exact ⟨m, box, hm, ht, P'.chunks, fun c hc => hin c ((box.mem_indices (box.wf_of_contains c hc) c).mpr hc)⟩

end Zarrs
