import ZarrsModel.Lemmas.VlenBasic
import ZarrsModel.Lemmas.CodecBasic
/- the `vlen_v2` (numcodecs) layout: the decoder's loop against the interleaved body the encoder writes.
Names, in the vlen and DEFLATE files: `f_eq_ok_iff` / `f_eq_some_iff` characterise the inputs on which `f` succeeds with
a given result, `f_eq_ok` / `f_eq_some` say what such a result tells (one way), `f_exists` that `f` succeeds. -/
namespace Zarrs.Vlen
open Zarrs Zarrs.Codec

/-- `Bytes` is `List Nat`; reading a length field and writing it again (`le32_ofLe`, hence the canonical form of
accepted values, `v2Loop_canonical`) gives back the field only if its entries are bytes -/
def wfBytes (b : Bytes) : Prop := ∀ x ∈ b, x < 256

instance (b : Bytes) : Decidable (wfBytes b) := by unfold wfBytes; exact inferInstance

theorem wf_take {b : Bytes} (h : wfBytes b) (k : Nat) : wfBytes (b.take k) :=
  fun x hx => h x (List.mem_of_mem_take hx)
theorem wf_drop {b : Bytes} (h : wfBytes b) (k : Nat) : wfBytes (b.drop k) :=
  fun x hx => h x (List.mem_of_mem_drop hx)

theorem body_cons (x : Bytes) (xs : List Bytes) : vlenV2Body (x :: xs) = le32 x.length ++ (x ++ vlenV2Body xs) := by
  simp [vlenV2Body, List.flatMap_cons]

theorem four_mul_le_body (xs : List Bytes) : 4 * xs.length ≤ (vlenV2Body xs).length := by
  induction xs with
  | nil => simp
  | cons x xs ih =>
    rw [body_cons]
    simp only [List.length_append, le32_length, List.length_cons]
    omega

theorem v2Loop_le32 (k len : Nat) (y : Bytes) (hlen : len < 2 ^ 32) :
    vlenV2DecLoop (k + 1) (le32 len ++ y) =
      if y.length < len then .error .lengthPastEnd else
      match vlenV2DecLoop k (y.drop len) with
      | .ok xs => .ok (y.take len :: xs)
      | .error e => .error e := by
  have h1 : ¬ ((le32 len ++ y).length < 4) := by simp [le32_length]
  simp only [vlenV2DecLoop, h1, if_false, List.take_left' (le32_length len), List.drop_left' (le32_length len),
    ofLe_le32 _ hlen]
  rfl

theorem v2Loop_body (xs : List Bytes) (t : Bytes) (h : ∀ x ∈ xs, x.length < 2 ^ 32) :
    vlenV2DecLoop xs.length (vlenV2Body xs ++ t) = .ok xs := by
  induction xs with
  | nil => rfl
  | cons x xs ih =>
    rw [body_cons, List.length_cons, List.append_assoc, List.append_assoc, v2Loop_le32 _ _ _ (h x (by simp)),
      if_neg (by simp), List.drop_left, List.take_left, ih (fun y hy => h y (by simp [hy]))]

theorem v2Loop_truncated (xs : List Bytes) (h : ∀ x ∈ xs, x.length < 2 ^ 32) (k : Nat)
    (hk : k < (vlenV2Body xs).length) :
    vlenV2DecLoop xs.length ((vlenV2Body xs).take k) = .error .lengthPastEnd := by
  induction xs generalizing k with
  | nil => simp [vlenV2Body] at hk
  | cons x xs ih =>
    have hx := h x (by simp)
    rw [body_cons] at hk ⊢
    simp only [List.length_append, le32_length] at hk
    rw [List.length_cons]
    by_cases h4 : k < 4
    · -- cut inside the length field
      rw [vlenV2DecLoop, if_pos (by rw [List.length_take]; omega)]
    · rw [List.take_append, le32_length, List.take_of_length_le (Nat.le_of_not_lt h4), v2Loop_le32 _ _ _ hx,
        List.take_append]
      by_cases h5 : k - 4 < x.length
      · -- cut inside the element
        rw [if_pos (by rw [List.length_append, List.length_take, List.length_take]; omega)]
      · -- cut after the element: it is read, the rest is a strict prefix of the remaining body
        rw [List.take_of_length_le (Nat.le_of_not_lt h5), if_neg (by simp), List.drop_left, List.take_left,
          ih (fun y hy => h y (by simp [hy])) _ (by omega)]

theorem v2Loop_succ_eq_ok {k : Nat} {rest : Bytes} {xs : List Bytes} (h : vlenV2DecLoop (k + 1) rest = .ok xs) :
    4 ≤ rest.length ∧ ofLe (rest.take 4) ≤ (rest.drop 4).length ∧
    ∃ ys, vlenV2DecLoop k ((rest.drop 4).drop (ofLe (rest.take 4))) = .ok ys ∧
      xs = (rest.drop 4).take (ofLe (rest.take 4)) :: ys := by
  rw [vlenV2DecLoop] at h
  split at h
  · cases h
  · simp only at h
    split at h
    · cases h
    · split at h
      · exact ⟨by omega, by omega, _, ‹_›, (Except.ok.inj h).symm⟩
      · cases h

theorem v2Loop_length : ∀ (k : Nat) (rest : Bytes) (xs : List Bytes), vlenV2DecLoop k rest = .ok xs → xs.length = k
  | 0, _, xs, h => by cases h; rfl
  | k + 1, rest, xs, h => by
    obtain ⟨_, _, ys, hr, rfl⟩ := v2Loop_succ_eq_ok h
    exact congrArg (· + 1) (v2Loop_length k _ ys hr)

theorem v2Loop_canonical : ∀ (k : Nat) (rest : Bytes) (xs : List Bytes), wfBytes rest →
    vlenV2DecLoop k rest = .ok xs → ∃ t, rest = vlenV2Body xs ++ t
  | 0, rest, xs, _, h => by cases h; exact ⟨rest, rfl⟩
  | k + 1, rest, xs, hw, h => by
    obtain ⟨h4, hlen, ys, hr, rfl⟩ := v2Loop_succ_eq_ok h
    obtain ⟨t, ht⟩ := v2Loop_canonical k _ ys (wf_drop (wf_drop hw 4) _) hr
    refine ⟨t, ?_⟩
    rw [body_cons, List.length_take, Nat.min_eq_left hlen,
      le32_ofLe _ (by rw [List.length_take, Nat.min_eq_left h4]) (wf_take hw 4), List.append_assoc,
      List.append_assoc, ← ht, List.take_append_drop, List.take_append_drop]

theorem vlenV2Enc_eq_ok_iff (n : Nat) (v : VArr) (e : Bytes) :
    vlenV2Enc n v = .ok e ↔ v.valid n = true ∧ v2Guard v.elems ∧ vlenV2EncRaw v.elems = e := by
  unfold vlenV2Enc v2Guard
  cases hv : v.valid n with
  | false => simp
  | true =>
    rw [elems_length n v hv]
    simp only [Bool.not_true, Bool.false_eq_true, if_false, true_and, List.any_eq_true, decide_eq_true_eq]
    by_cases hn : n < 2 ^ 32
    · by_cases ha : ∃ x ∈ v.elems, x.length ≥ 2 ^ 32
      · rw [if_neg (Nat.not_le.mpr hn), if_pos ha]
        obtain ⟨x, hx, hl⟩ := ha
        exact ⟨(nomatch ·), fun h => absurd (h.1.2 x hx) (Nat.not_lt.mpr hl)⟩
      · rw [if_neg (Nat.not_le.mpr hn), if_neg ha]
        exact ⟨fun h => ⟨⟨hn, fun x hx => Nat.not_le.mp fun hl => ha ⟨x, hx, hl⟩⟩, Except.ok.inj h⟩,
          fun h => congrArg _ h.2⟩
    · rw [if_pos (Nat.not_lt.mp hn)]
      exact ⟨(nomatch ·), fun h => absurd h.1.1 hn⟩

theorem vlenV2Dec_header (n : Nat) (rest : Bytes) (hn : n < 2 ^ 32) :
    vlenV2Dec n (le32 n ++ rest) =
      if rest.length < 4 * n then .error .tooShort else (vlenV2DecLoop n rest).map VArr.ofElems := by
  have hlen : ((le32 n ++ rest).length < 4 * (1 + n)) = (rest.length < 4 * n) := by
    rw [List.length_append, le32_length, Nat.mul_add, Nat.mul_one, Nat.add_lt_add_iff_left]
  simp only [vlenV2Dec, hlen, List.take_left' (le32_length n), List.drop_left' (le32_length n), ofLe_le32 n hn,
    ne_eq, not_true_eq_false, if_false]
  cases vlenV2DecLoop n rest <;> rfl

theorem vlenV2Dec_eq_ok {n : Nat} {b : Bytes} {v : VArr} (h : vlenV2Dec n b = .ok v) :
    4 * (1 + n) ≤ b.length ∧ ofLe (b.take 4) = n ∧ ∃ xs, vlenV2DecLoop n (b.drop 4) = .ok xs ∧ v = VArr.ofElems xs := by
  unfold vlenV2Dec at h
  split at h
  · cases h
  · split at h
    · cases h
    · split at h
      · exact ⟨by omega, Decidable.of_not_not ‹_›, _, ‹_›, (Except.ok.inj h).symm⟩
      · cases h
end Zarrs.Vlen
