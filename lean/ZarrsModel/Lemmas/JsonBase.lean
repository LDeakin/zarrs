import ZarrsModel.Lemmas.NumTok
/- JSON parser equation lemmas and first-byte facts (used by Lemmas/Json.lean) -/
namespace Zarrs.Json

theorem ascii_null : ascii "null" = [110,117,108,108] := by simp [ascii]
theorem ascii_true : ascii "true" = [116,114,117,101] := by simp [ascii]
theorem ascii_false : ascii "false" = [102,97,108,115,101] := by simp [ascii]

theorem skipWs_cons (b : Nat) (tl : List Nat) (h : isWs b = false) : skipWs (b :: tl) = b :: tl := by
  simp [skipWs, h]

theorem pv_null (f rest) : parseValue (f+1) (110 :: 117 :: 108 :: 108 :: rest) = some (.null, rest) := by
  rw [parseValue, skipWs_cons _ _ (by decide)]; rfl
theorem pv_true (f rest) : parseValue (f+1) (116 :: 114 :: 117 :: 101 :: rest) = some (.bool true, rest) := by
  rw [parseValue, skipWs_cons _ _ (by decide)]; rfl
theorem pv_false (f rest) : parseValue (f+1) (102 :: 97 :: 108 :: 115 :: 101 :: rest) = some (.bool false, rest) := by
  rw [parseValue, skipWs_cons _ _ (by decide)]; rfl
theorem pv_str (f rest) : parseValue (f+1) (34 :: rest) = (parseStr rest).map (fun (s, r) => (.str s, r)) := by
  rw [parseValue, skipWs_cons _ _ (by decide)]; rfl
theorem pv_arr' (f rest) : parseValue (f+1) (91 :: rest) =
      match skipWs rest with
      | 93 :: r => some (.arr [], r)
      | r => (parseElems f r []).map (fun (xs, r') => (.arr xs, r')) := by
  rw [parseValue, skipWs_cons _ _ (by decide)]; rfl
theorem pv_obj' (f rest) : parseValue (f+1) (123 :: rest) =
      match skipWs rest with
      | 125 :: r => some (.obj [], r)
      | r => (parseMembers f r []).map (fun (xs, r') => (.obj xs, r')) := by
  rw [parseValue, skipWs_cons _ _ (by decide)]; rfl
theorem pv_arr_nil (f rest) : parseValue (f+1) (91 :: 93 :: rest) = some (.arr [], rest) := by
  rw [pv_arr', skipWs_cons _ _ (by decide)]; rfl
theorem pv_obj_nil (f rest) : parseValue (f+1) (123 :: 125 :: rest) = some (.obj [], rest) := by
  rw [pv_obj', skipWs_cons _ _ (by decide)]; rfl
theorem pv_arr (f s) (h : ∃ b tl, s = b :: tl ∧ isWs b = false ∧ b ≠ 93) : parseValue (f+1) (91 :: s) =
    (parseElems f s []).map (fun (xs, r') => (.arr xs, r')) := by
  obtain ⟨b, tl, rfl, h1, h2⟩ := h
  rw [pv_arr', skipWs_cons _ _ h1]
  split
  · simp_all
  · rfl
theorem pv_obj (f s) (h : ∃ b tl, s = b :: tl ∧ isWs b = false ∧ b ≠ 125) : parseValue (f+1) (123 :: s) =
    (parseMembers f s []).map (fun (xs, r') => (.obj xs, r')) := by
  obtain ⟨b, tl, rfl, h1, h2⟩ := h
  rw [pv_obj', skipWs_cons _ _ h1]
  split
  · simp_all
  · rfl
theorem pv_num (f inp t r) (h : parseNum inp = some (t, r)) : parseValue (f+1) inp = some (.num t, r) := by
  obtain ⟨b, tl, rfl, hb⟩ := NumTok.parseNum_head _ _ h
  rw [parseValue, skipWs_cons _ _ (by simp [isWs]; omega)]
  split <;> first | (rw [h]; rfl) | (rename_i heq; cases heq; omega)

theorem pe_comma (f inp acc v r) (h : parseValue f inp = some (v, 44 :: r)) :
    parseElems (f+1) inp acc = parseElems f r (acc ++ [v]) := by
  rw [parseElems, h]; simp only []; rw [skipWs_cons _ _ (by decide)]; rfl
theorem pe_close (f inp acc v r) (h : parseValue f inp = some (v, 93 :: r)) :
    parseElems (f+1) inp acc = some (acc ++ [v], r) := by
  rw [parseElems, h]; simp only []; rw [skipWs_cons _ _ (by decide)]; rfl

theorem pm_comma (f inp acc k v r4 r2) (hk : parseStr inp = some (k, 58 :: r2))
    (h : parseValue f r2 = some (v, 44 :: r4)) (hacc : acc.any (·.1 == k) = false) :
    parseMembers (f+1) (34 :: inp) acc = parseMembers f r4 (acc ++ [(k, v)]) := by
  rw [parseMembers, skipWs_cons _ _ (by decide)]
  simp only [hk]
  rw [skipWs_cons _ _ (by decide)]
  simp only [h, hacc]
  rw [skipWs_cons _ _ (by decide)]
  rfl
theorem pm_close (f inp acc k v r4 r2) (hk : parseStr inp = some (k, 58 :: r2))
    (h : parseValue f r2 = some (v, 125 :: r4)) (hacc : acc.any (·.1 == k) = false) :
    parseMembers (f+1) (34 :: inp) acc = some (acc ++ [(k, v)], r4) := by
  rw [parseMembers, skipWs_cons _ _ (by decide)]
  simp only [hk]
  rw [skipWs_cons _ _ (by decide)]
  simp only [h, hacc]
  rw [skipWs_cons _ _ (by decide)]
  rfl

/-! `parseValue` dispatches on the first non-blank byte, and after `[` / `{` on whether `]` / `}` follows -/

theorem print_head (j : J) (h : j.wf) : ∃ b tl, print j = b :: tl ∧ isWs b = false ∧ b ≠ 93 := by
  cases j with
  | null => exact ⟨110, [117,108,108], by simp [print, ascii_null], by decide, by decide⟩
  | bool b =>
    cases b
    · exact ⟨102, [97,108,115,101], by simp [print, ascii_false], by decide, by decide⟩
    · exact ⟨116, [114,117,101], by simp [print, ascii_true], by decide, by decide⟩
  | num t =>
    obtain ⟨b, tl, e, hb⟩ := NumTok.tokOk_head t h
    exact ⟨b, tl, by simp [print, e], by simp [isWs]; omega, by omega⟩
  | str s => exact ⟨34, s.flatMap escapeByte ++ [34], by simp [print, printStr], by decide, by decide⟩
  | arr xs => exact ⟨91, printList xs ++ [93], by simp [print], by decide, by decide⟩
  | obj kvs => exact ⟨123, printKVs kvs ++ [125], by simp [print], by decide, by decide⟩

def headOk (rest : List Nat) : Prop := ∀ b, rest.head? = some b → numCont b = false

theorem headOk_44 (r) : headOk (44 :: r) := by intro b h; simp at h; subst h; decide
theorem headOk_93 (r) : headOk (93 :: r) := by intro b h; simp at h; subst h; decide
theorem headOk_125 (r) : headOk (125 :: r) := by intro b h; simp at h; subst h; decide
theorem headOk_nil : headOk [] := by intro b h; simp at h

end Zarrs.Json
