import ZarrsModel.Lemmas.ShardAsm
/- the invariant of the ATOMIC assembly machine and its preservation by every step.  The ranges the tasks own tile
`[base, offset)`: a new reservation starts at `offset`, beyond every range owned so far, so the statement is inductive as
it stands; the proofs do not read the machine's ghost `log`. -/
namespace Zarrs.ShardAsm
open Zarrs Zarrs.Codec

variable {p : Params} {s s' : State} {i : Nat}

/-- what index and buffer hold for task `i` at program counter `x`.  The combinations sent to `False` are unreachable
for the ATOMIC machine with a buffer that `fits`: `loaded` belongs to the racy machine, `failed` / `panicked` need a
reservation that ends outside the buffer. -/
def HoldsAt (s : State) (i : Nat) : Option Bytes → Pc → Prop
  | none, .elided | some _, .start | some _, .reserved _ => s.index[i]? = some (Shard.sentinel, Shard.sentinel)
  | some b, .indexed off => s.index[i]? = some (off, b.length)
  | some b, .done off => s.index[i]? = some (off, b.length) ∧
      ∀ k, k < b.length → s.buf[off + k]? = some (some (b.getD k 0))
  | _, _ => False

structure Inv (p : Params) (s : State) : Prop where
  pcLen : s.pc.length = p.chunks.length
  idxLen : s.index.length = p.chunks.length
  bufLen : s.buf.length = p.cap
  tiles : Tiles (rangeOf p s) p.base s.offset
  acct : s.offset + pendingOf p.chunks s.pc = p.base + p.total
  pcs : ∀ i c x, p.chunks[i]? = some c → s.pc[i]? = some x → HoldsAt s i c x

theorem inv_init (p : Params) : Inv p (init p) := by
  have hno : ∀ i, rangeOf p (init p) i = none := by
    intro i
    simp only [rangeOf, init, List.getElem?_map]
    cases p.chunks[i]? with
    | none => rfl
    | some c => cases c <;> rfl
  refine ⟨by simp [init], by simp [init], by simp [init], ⟨Nat.le_refl _, ?_, ?_, ?_⟩, ?_, ?_⟩
  · intro i x y h; rw [hno] at h; cases h
  · intro i j x y x' y' _ h; rw [hno] at h; cases h
  · intro k h1 h2; exact absurd h2 (Nat.not_lt.mpr h1)
  · show p.base + pendingOf p.chunks (p.chunks.map initPc) = p.base + p.total
    rw [pendingOf_init]; rfl
  · intro i c x hc hp
    have hidx : (init p).index[i]? = some (Shard.sentinel, Shard.sentinel) := by
      simp [init, lt_of_getElem?_some hc]
    simp only [init, List.getElem?_map, hc, Option.map_some, Option.some.injEq] at hp
    subst hp
    cases c <;> exact hidx

theorem base_le (p : Params) : p.base ≤ Shard.indexSize p.cfg := by unfold Params.base; split <;> omega

theorem offset_le_cap (hfit : p.fits = true) (inv : Inv p s) :
    s.offset + pendingOf p.chunks s.pc ≤ p.cap := by
  have ha := inv.acct
  have hb := base_le p
  simp only [Params.fits, decide_eq_true_eq] at hfit
  omega

theorem inv_room (hfit : p.fits = true) (inv : Inv p s) {b : Bytes}
    (hc : p.chunks[i]? = some (some b)) (hp : s.pc[i]? = some .start) : s.offset + b.length ≤ p.cap :=
  Nat.le_trans (Nat.add_le_add_left (due_le_pendingOf hc hp) _) (offset_le_cap hfit inv)

theorem check_passes {off n : Nat} (h : off + n ≤ p.cap) : (p.checks && decide (off + n > p.cap)) = false := by
  rw [decide_eq_false (Nat.not_lt.mpr h), Bool.and_false]

theorem holdsAt_frame {j : Nat} {c : Option Bytes} {x : Pc} (hidx : s'.index[j]? = s.index[j]?)
    (hbuf : ∀ off b, c = some b → x = .done off → ∀ k, k < b.length → s'.buf[off + k]? = s.buf[off + k]?)
    (h : HoldsAt s j c x) : HoldsAt s' j c x := by
  unfold HoldsAt at h ⊢
  rw [hidx]
  split at h
  · exact h
  · exact h
  · exact h
  · exact h
  · exact ⟨h.1, fun k hk => (hbuf _ _ rfl rfl k hk).trans (h.2 k hk)⟩
  · exact h

theorem pcs_set {b : Bytes} {x y : Pc} (inv : Inv p s)
    (hc : p.chunks[i]? = some (some b)) (hp : s.pc[i]? = some y) (hpc : s'.pc = s.pc.set i x) (hself : HoldsAt s' i (some b) x)
    (hframe : ∀ j c y, j ≠ i → p.chunks[j]? = some c → s.pc[j]? = some y → HoldsAt s j c y → HoldsAt s' j c y) :
    ∀ j c y, p.chunks[j]? = some c → s'.pc[j]? = some y → HoldsAt s' j c y := by
  intro j c y hcj hpj
  rw [hpc] at hpj
  by_cases hji : j = i
  · subst hji
    rw [hc] at hcj
    rw [List.getElem?_set_self (lt_of_getElem?_some hp)] at hpj
    cases hcj; cases hpj; exact hself
  · rw [List.getElem?_set_ne (Ne.symm hji)] at hpj
    exact hframe j c y hji hcj hpj (inv.pcs j c y hcj hpj)

theorem inv_reserve {b : Bytes} (inv : Inv p s)
    (hc : p.chunks[i]? = some (some b)) (hp : s.pc[i]? = some .start) :
    Inv p { s with offset := s.offset + b.length, log := s.log ++ [(i, s.offset, b.length)],
                   pc := s.pc.set i (.reserved s.offset) } := by
  have hacct : pendingOf p.chunks (s.pc.set i (.reserved s.offset)) + b.length = pendingOf p.chunks s.pc :=
    pendingOf_set _ hc hp
  refine ⟨List.length_set.trans inv.pcLen, inv.idxLen, inv.bufLen, ?_, ?_, ?_⟩
  · exact tiles_push inv.tiles (rangeOf_eq hc hp) (rangeOf_set_self (x := .reserved s.offset) hc hp rfl) (fun j hj => rangeOf_set_ne rfl hj)
  · show s.offset + b.length + pendingOf p.chunks (s.pc.set i (.reserved s.offset)) = p.base + p.total
    rw [Nat.add_assoc, Nat.add_comm b.length, hacct]; exact inv.acct
  · exact pcs_set inv hc hp rfl (inv.pcs i _ _ hc hp)
      (fun j c y _ _ _ => holdsAt_frame rfl (fun _ _ _ _ _ _ => rfl))

theorem inv_index {off : Nat} {b : Bytes} (inv : Inv p s)
    (hc : p.chunks[i]? = some (some b)) (hp : s.pc[i]? = some (.reserved off)) :
    Inv p { s with index := s.index.set i (off, b.length), pc := s.pc.set i (.indexed off) } := by
  have hacct : pendingOf p.chunks (s.pc.set i (.indexed off)) = pendingOf p.chunks s.pc :=
    pendingOf_set _ hc hp
  refine ⟨List.length_set.trans inv.pcLen, List.length_set.trans inv.idxLen, inv.bufLen, ?_, ?_, ?_⟩
  · rw [rangeOf_move (x := .indexed off) hc hp rfl rfl]; exact inv.tiles
  · show s.offset + pendingOf p.chunks (s.pc.set i (.indexed off)) = p.base + p.total
    rw [hacct]; exact inv.acct
  · exact pcs_set inv hc hp rfl
      (List.getElem?_set_self (by rw [inv.idxLen]; exact lt_of_getElem?_some hc))
      (fun j c y hji _ _ => holdsAt_frame (List.getElem?_set_ne (Ne.symm hji)) (fun _ _ _ _ _ _ => rfl))

theorem inv_copy {off : Nat} {b : Bytes} (inv : Inv p s)
    (hc : p.chunks[i]? = some (some b)) (hp : s.pc[i]? = some (.indexed off)) (hroom : off + b.length ≤ s.buf.length) :
    Inv p { s with buf := writeAt s.buf off b, pc := s.pc.set i (.done off) } := by
  have hacct : pendingOf p.chunks (s.pc.set i (.done off)) = pendingOf p.chunks s.pc :=
    pendingOf_set _ hc hp
  refine ⟨List.length_set.trans inv.pcLen, inv.idxLen, (writeAt_length _ _ _).trans inv.bufLen, ?_, ?_, ?_⟩
  · rw [rangeOf_move (x := .done off) hc hp rfl rfl]; exact inv.tiles
  · show s.offset + pendingOf p.chunks (s.pc.set i (.done off)) = p.base + p.total
    rw [hacct]; exact inv.acct
  · refine pcs_set inv hc hp rfl ⟨inv.pcs i _ _ hc hp, fun k hk => writeAt_in hk hroom⟩ ?_
    intro j c y hji hcj hpj
    refine holdsAt_frame rfl ?_
    -- the ranges of `i` and of a finished `j` are disjoint
    rintro off' b' rfl rfl k hk
    have := inv.tiles.disj i j _ _ _ _ (Ne.symm hji) (rangeOf_eq hc hp) (rangeOf_eq hcj hpj)
    exact writeAt_out s.buf (by omega)

/-- the combinations of chunk and program counter of task `i` that the invariant leaves (`pc_cases`) -/
inductive PcCase (p : Params) (s : State) (i : Nat) : Prop
  | elided (hc : p.chunks[i]? = some none) (hp : s.pc[i]? = some .elided)
  | start (b : Bytes) (hc : p.chunks[i]? = some (some b)) (hp : s.pc[i]? = some .start)
  | reserved (b : Bytes) (off : Nat) (hc : p.chunks[i]? = some (some b)) (hp : s.pc[i]? = some (.reserved off))
  | indexed (b : Bytes) (off : Nat) (hc : p.chunks[i]? = some (some b)) (hp : s.pc[i]? = some (.indexed off))
  | done (b : Bytes) (off : Nat) (hc : p.chunks[i]? = some (some b)) (hp : s.pc[i]? = some (.done off))

theorem pc_cases (inv : Inv p s) (i : Nat) (hi : i < p.chunks.length) : PcCase p s i := by
  have hip : i < s.pc.length := by rw [inv.pcLen]; exact hi
  have hc := List.getElem?_eq_getElem hi
  have hp := List.getElem?_eq_getElem hip
  have h := inv.pcs i _ _ hc hp
  generalize p.chunks[i] = c at h hc
  generalize s.pc[i] = x at h hp
  cases c with
  | none => cases x <;> first | exact False.elim h | exact .elided hc hp
  | some b =>
    cases x with
    | start => exact .start b hc hp
    | reserved off => exact .reserved b off hc hp
    | indexed off => exact .indexed b off hc hp
    | done off => exact .done b off hc hp
    | _ => exact False.elim h

/-- `fits` is used twice: the capacity check of `encode_bounded` passes, and the copy stays inside the buffer -/
theorem inv_step (hfit : p.fits = true) (i : Nat) (inv : Inv p s) : Inv p (step false p s i) := by
  by_cases hi : i < p.chunks.length
  case neg => rw [step_no_chunk (Or.inr (List.getElem?_eq_none (Nat.le_of_not_lt hi)))]; exact inv
  cases pc_cases inv i hi with
  | elided hc _ => rw [step_no_chunk (Or.inl hc)]; exact inv
  | start b hc hp =>
    rw [step_start_atomic hc hp, check_passes (inv_room hfit inv hc hp), if_neg Bool.false_ne_true]
    exact inv_reserve inv hc hp
  | reserved b off hc hp => rw [step_reserved hc hp]; exact inv_index inv hc hp
  | indexed b off hc hp =>
    -- an owned range ends below the offset, which `fits` keeps inside the buffer
    have hend := (inv.tiles.within i _ _ (rangeOf_eq hc hp)).2
    have hroom : off + b.length ≤ s.buf.length := by
      rw [inv.bufLen]; exact Nat.le_trans hend (Nat.le_trans (Nat.le_add_right _ _) (offset_le_cap hfit inv))
    rw [step_indexed hc hp, if_neg (Nat.not_lt.mpr hroom)]
    exact inv_copy inv hc hp hroom
  | done b off hc hp => rw [step_done hc hp]; exact inv

theorem inv_run (hfit : p.fits = true) (sched : List Nat) (inv : Inv p s) :
    Inv p (run false p s sched) := by
  induction sched generalizing s with
  | nil => exact inv
  | cons i rest ih => exact ih (inv_step hfit i inv)

end Zarrs.ShardAsm
