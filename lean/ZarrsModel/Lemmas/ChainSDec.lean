import ZarrsModel.Model.ChainSDec
import ZarrsModel.Lemmas.Partial
/- `Chain.decode` of a `bytes` chain undoes the encoder stage by stage (`chain_dec_enc`); what the lemmas on chains, sharded
or not, ask of a bytes-to-bytes stage (`BDec`, `BLawful`: hypotheses of the chain theorems of C02, C03, C05, C07) -/
namespace Zarrs.Partial
open Zarrs Zarrs.Codec Zarrs.Subset

theorem validated_some (es n : Nat) (xs : List Elem) (hl : xs.length = n) (he : ∀ x ∈ xs, x.length = es) :
    validated es n xs = some xs := by
  unfold validated
  rw [if_pos]
  simp only [Bool.and_eq_true, beq_iff_eq, List.all_eq_true]
  exact ⟨hl, he⟩

theorem validated_eq_some {es n : Nat} {xs ys : List Elem} (h : validated es n xs = some ys) :
    ys = xs ∧ xs.length = n ∧ ∀ x ∈ xs, x.length = es := by
  unfold validated at h
  split at h
  · rename_i hc
    simp only [Bool.and_eq_true, beq_iff_eq, List.all_eq_true] at hc
    simp only [Option.some.injEq] at h
    exact ⟨h.symm, hc.1, hc.2⟩
  · cases h

/-- a stage whose decoder undoes its encoder: proved for the checksum codecs and the cache, a hypothesis for a
`decodeAll` stage (an external compressor) -/
def BDec (st : BStage) : Prop := ∀ b : Bytes, st.dec (st.enc b) = some b

/-- what the lemmas on (nested) chains ask of every bytes-to-bytes stage -/
structure BLawful (st : BStage) : Prop where
  dec : BDec st
  law : BLaw st

/-- the bytes-to-bytes part of `CodecChain::encode` -/
def encB (b2b : List BStage) (b : Bytes) : Bytes := b2b.foldl (fun b st => st.enc b) b

theorem encB_cons (st : BStage) (rest : List BStage) (b : Bytes) : encB (st :: rest) b = encB rest (st.enc b) := rfl

theorem decodeB2B_cons (st : BStage) (rest : List BStage) (b : Bytes) :
    decodeB2B (st :: rest) b = (decodeB2B rest b).bind st.dec := rfl

theorem decodeB2B_enc (b2b : List BStage) (h : ∀ st ∈ b2b, BDec st) : ∀ b : Bytes,
    decodeB2B b2b (encB b2b b) = some b := by
  induction b2b with
  | nil => intro b; rfl
  | cons st rest ih =>
    intro b
    rw [encB_cons, decodeB2B_cons, ih (fun s hs => h s (by simp [hs])) (st.enc b)]
    exact h st (by simp) b

theorem bStage_dec_checksum (n : Nat) (sum : Bytes → Nat) : BDec (.stripSuffix n sum) := by
  intro b
  simp only [BStage.dec, BStage.enc, checksumDec_enc]
  rfl

theorem bStage_dec_cache : BDec .cache := fun _ => rfl

theorem aStage_dec_enc (st : AStage) (sh : Shape) (es : Nat) (xs : List Elem) (ho : st.ok sh)
    (hl : xs.length = prod sh) (he : ∀ x ∈ xs, x.length = es) : st.dec sh es (st.enc sh xs) = some xs := by
  cases st with
  | transpose order =>
    have ho' : validOrder order sh.length = true := ho
    obtain ⟨h1, h2, h3, _⟩ := transpose_dec_enc' order sh xs ho' hl
    simp only [AStage.dec, AStage.enc, ho', Bool.not_true, Bool.false_eq_true, if_false]
    rw [validated_some es (prod sh) _ (by rw [h2, h3]) (fun y hy => he y (mem_transposeEnc order sh xs ho' hl y hy))]
    simp only [Option.map_some, h1]
  | squeeze => rfl
  | cache => rfl

theorem decodeA2A_enc (stages : List AStage) (es : Nat) : ∀ (sh : Shape) (xs : List Elem), aOk stages sh →
    xs.length = prod sh → (∀ x ∈ xs, x.length = es) → decodeA2A stages sh es (aEnc stages sh xs) = some xs := by
  induction stages with
  | nil => intro sh xs _ _ _; rfl
  | cons st rest ih =>
    intro sh xs ha hl he
    show (decodeA2A rest (st.encShape sh) es (aEnc rest (st.encShape sh) (st.enc sh xs))).bind (st.dec sh es) = _
    rw [ih (st.encShape sh) (st.enc sh xs) ha.2 (aStage_length st sh xs ha.1 hl)
      (fun y hy => he y (aStage_mem st sh xs ha.1 hl y hy))]
    exact aStage_dec_enc st sh es xs ha.1 hl he

theorem bytesDecode_enc (big : Bool) (es unit : Nat) (sh : Shape) (ys : List Elem) (hes : 0 < es)
    (hdiv : es % unit = 0) (hl : ys.length = prod sh) (he : ∀ y ∈ ys, y.length = es) :
    bytesDecode big es unit sh (bytesEnc big unit ys.flatten) = some ys := by
  have hfl : ys.flatten.length = prod sh * es := by rw [flatten_length_of_all es _ he, hl]
  have hmod : ys.flatten.length % unit = 0 := by rw [hfl]; exact mul_mod_of_mod _ _ _ hdiv
  obtain ⟨h1, h2⟩ := bytes_dec_enc' big unit ys.flatten (Or.inr hmod)
  unfold bytesDecode
  rw [if_neg (by simp only [bne_iff_ne, ne_eq, Decidable.not_not]; rw [h2, hfl]), h1, groups_of_flatten es hes ys he]

theorem chain_dec_enc (c : Chain) (sh : Shape) (xs : List Elem) (hes : 0 < c.es) (hdiv : c.es % c.unit = 0)
    (hxl : xs.length = prod sh) (hxe : ∀ x ∈ xs, x.length = c.es) (ha : aOk c.a2a sh)
    (hb : ∀ st ∈ c.b2b, BDec st) : c.decode sh (c.encode sh xs) = some xs := by
  obtain ⟨hl, he⟩ := aEnc_chunk c.es c.a2a sh xs ha hxl hxe
  unfold Chain.decode
  rw [encode_eq, ← encB, decodeB2B_enc c.b2b hb]
  simp only [Option.bind_some]
  rw [bytesDecode_enc c.big c.es c.unit _ _ hes hdiv hl he]
  simp only [Option.bind_some]
  rw [decodeA2A_enc c.a2a c.es sh xs ha hxl hxe]
  exact validated_some _ _ _ hxl hxe

end Zarrs.Partial
