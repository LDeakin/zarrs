import ZarrsModel.Model.DeflateSpec
import ZarrsModel.Lemmas.ListBasic
/-
Canonical Huffman codes: the table `mkHuff lens` of the reader lists, for every symbol with a non-zero length, the
code `codeNat lens s` of the specification (RFC 1951 §3.2.2); under the Kraft inequality the codes are prefix-free
and `decodeSym` inverts `codeOf`.
-/
namespace Zarrs.DeflateSpec
open Zarrs Zarrs.Inflate

def look (h : Huff) (len code : Nat) : Option (Nat × Nat × Nat) := h.find? (fun e => e.1 == len && e.2.1 == code)

theorem look_none (h : Huff) (len code : Nat) (hn : ∀ e ∈ h, ¬ (e.1 = len ∧ e.2.1 = code)) :
    look h len code = none := by
  unfold look
  rw [List.find?_eq_none]
  intro e he
  have := hn e he
  simpa using this

theorem decodeSymAux_cons (h : Huff) (fuel len code : Nat) (b : Bool) (bs : Bits) :
    decodeSymAux h (fuel + 1) len code (b :: bs) =
      match look h (len + 1) (code * 2 + (if b then 1 else 0)) with
      | some e => some (e.2.2, bs)
      | none => decodeSymAux h fuel (len + 1) (code * 2 + (if b then 1 else 0)) bs := by
  rw [decodeSymAux]
  rfl

theorem bitsMsb_succ (m c : Nat) : bitsMsb (m + 1) c = (c / 2 ^ m % 2 == 1) :: bitsMsb m c := by
  unfold bitsMsb
  rw [List.range_succ_eq_map]
  simp only [List.map_cons, List.map_map, Nat.add_sub_cancel, Nat.sub_zero]
  congr 1
  apply List.map_congr_left
  intro i _
  simp only [Function.comp, Nat.succ_eq_add_one]
  have : m - (i + 1) = m - 1 - i := by omega
  rw [this]

theorem code_step (c m : Nat) :
    c / 2 ^ (m + 1) * 2 + (if (c / 2 ^ m % 2 == 1) = true then 1 else 0) = c / 2 ^ m := by
  rw [Nat.pow_succ, ← Nat.div_div_eq_div_mul]
  generalize c / 2 ^ m = q
  rcases Nat.mod_two_eq_zero_or_one q with h | h <;> simp [h] <;> omega

/-- a code of `n` bits whose proper prefixes are not in the table is read as the entry it names -/
theorem decodeSymAux_bitsMsb (h : Huff) (n c : Nat) (e : Nat × Nat × Nat) (rest : Bits)
    (hmiss : ∀ m, 1 ≤ m → m < n → look h (n - m) (c / 2 ^ m) = none)
    (hhit : look h n c = some e) :
    ∀ m fuel, 1 ≤ m → m ≤ n → m ≤ fuel →
      decodeSymAux h fuel (n - m) (c / 2 ^ m) (bitsMsb m c ++ rest) = some (e.2.2, rest) := by
  intro m
  induction m with
  | zero => intro fuel h1; omega
  | succ m ih =>
    intro fuel _ hn hf
    obtain ⟨fuel, rfl⟩ : ∃ f, fuel = f + 1 := ⟨fuel - 1, by omega⟩
    have hlen : n - (m + 1) + 1 = n - m := by omega
    rw [bitsMsb_succ, List.cons_append, decodeSymAux_cons, code_step, hlen]
    by_cases hm : m = 0
    · subst hm
      rw [Nat.sub_zero, Nat.pow_zero, Nat.div_one, hhit]
      rfl
    · rw [hmiss m (by omega) (by omega)]
      exact ih fuel (by omega) (by omega) (by omega)

theorem decodeSym_bitsMsb (h : Huff) (n c : Nat) (e : Nat × Nat × Nat) (rest : Bits)
    (hn : 1 ≤ n) (hn' : n ≤ 15) (hc : c < 2 ^ n)
    (hmiss : ∀ m, 1 ≤ m → m < n → look h (n - m) (c / 2 ^ m) = none)
    (hhit : look h n c = some e) :
    decodeSym h (bitsMsb n c ++ rest) = some (e.2.2, rest) := by
  have := decodeSymAux_bitsMsb h n c e rest hmiss hhit n 15 hn (Nat.le_refl _) hn'
  rw [Nat.sub_self, Nat.div_eq_of_lt hc] at this
  exact this

theorem blCount_getD (lens : List Nat) (l : Nat) (h : l < 16) : (blCount lens).getD l 0 = lenCount lens l := by
  unfold blCount lenCount
  rw [List.getD_eq_getElem?_getD, List.getElem?_map, List.getElem?_range h]
  by_cases h0 : l = 0 <;> simp [h0]

theorem nextCodes_fold (lens counts : List Nat) (n : Nat) (hc : ∀ l, l < n → counts.getD l 0 = lenCount lens l) :
    (List.range n).foldl (fun (acc : List Nat × Nat) l =>
      let code := (acc.2 + counts.getD l 0) * 2
      (acc.1 ++ [code], code)) ([0], 0) = ((List.range (n + 1)).map (firstCode lens), firstCode lens n) := by
  induction n with
  | zero => simp [firstCode]
  | succ n ih =>
    rw [List.range_succ, List.foldl_append, ih (fun l hl => hc l (by omega))]
    simp only [List.foldl_cons, List.foldl_nil]
    rw [hc n (by omega)]
    rw [List.range_succ (n := n + 1), List.map_append]
    simp [firstCode]

theorem nextCodes_eq (lens : List Nat) : nextCodes (blCount lens) = (List.range 16).map (firstCode lens) := by
  unfold nextCodes
  rw [nextCodes_fold lens (blCount lens) 15 (fun l hl => blCount_getD lens l (by omega))]

theorem nextCodes_getD (lens : List Nat) (l : Nat) (h : l < 16) :
    (nextCodes (blCount lens)).getD l 0 = firstCode lens l := by
  rw [nextCodes_eq, List.getD_eq_getElem?_getD, List.getElem?_map, List.getElem?_range h]
  rfl

theorem nextCodes_length (lens : List Nat) : (nextCodes (blCount lens)).length = 16 := by
  rw [nextCodes_eq]; simp

/-- `mkHuff` as a recursion: `nc` the next code of every length, `k` the symbol of the head -/
def huffGo : List Nat → Nat → List Nat → Huff
  | _, _, [] => []
  | nc, k, l :: ls =>
    if l = 0 then huffGo nc (k + 1) ls
    else (l, nc.getD l 0, k) :: huffGo (nc.set l (nc.getD l 0 + 1)) (k + 1) ls

theorem mkHuff_fold (ls : List Nat) (k : Nat) (acc : Huff) (nc : List Nat) :
    ((ls.zipIdx k).foldl (fun (acc : Huff × List Nat) (ls : Nat × Nat) =>
      let (l, sym) := ls
      if l == 0 then acc else
        let code := acc.2.getD l 0
        (acc.1 ++ [(l, code, sym)], acc.2.set l (code + 1))) (acc, nc)).1 = acc ++ huffGo nc k ls := by
  induction ls generalizing k acc nc with
  | nil => simp [huffGo]
  | cons l ls ih =>
    rw [List.zipIdx_cons, List.foldl_cons]
    by_cases h0 : l = 0
    · subst h0
      simp only [beq_self_eq_true, if_true, huffGo]
      exact ih _ _ _
    · have hb : (l == 0) = false := by simp [h0]
      simp only [hb, Bool.false_eq_true, if_false, huffGo, h0]
      rw [ih]
      simp

theorem mkHuff_eq (lens : List Nat) : mkHuff lens = huffGo (nextCodes (blCount lens)) 0 lens := by
  unfold mkHuff
  have := mkHuff_fold lens 0 [] (nextCodes (blCount lens))
  simpa using this

def huffEntry (nc : List Nat) (k : Nat) (ls : List Nat) (i : Nat) : Option (Nat × Nat × Nat) :=
  if ls.getD i 0 = 0 then none
  else some (ls.getD i 0, nc.getD (ls.getD i 0) 0 + (ls.take i).count (ls.getD i 0), k + i)

theorem huffGo_eq (nc : List Nat) (k : Nat) (ls : List Nat) (hl : ∀ l ∈ ls, l < nc.length) :
    huffGo nc k ls = (List.range ls.length).filterMap (huffEntry nc k ls) := by
  induction ls generalizing nc k with
  | nil => rfl
  | cons l ls ih =>
    have hlt : l < nc.length := hl l (by simp)
    have hl' : ∀ x ∈ ls, x < nc.length := fun x hx => hl x (List.mem_cons_of_mem _ hx)
    rw [List.length_cons, List.range_succ_eq_map, List.filterMap_cons, List.filterMap_map]
    by_cases h0 : l = 0
    · subst h0
      have hf : huffEntry nc k (0 :: ls) ∘ Nat.succ = huffEntry nc (k + 1) ls := by
        funext i
        simp only [Function.comp, huffEntry, Nat.succ_eq_add_one, List.getD_cons_succ, List.take_succ_cons,
          List.count_cons]
        split
        · rfl
        · rename_i hx
          rw [show (0 == ls.getD i 0) = false from by simpa using fun e => hx e.symm]
          simp only [Bool.false_eq_true, if_false, Nat.add_zero]
          congr 3
          omega
      rw [hf, ← ih nc (k + 1) hl']
      simp [huffGo, huffEntry]
    · have hf : huffEntry nc k (l :: ls) ∘ Nat.succ = huffEntry (nc.set l (nc.getD l 0 + 1)) (k + 1) ls := by
        funext i
        simp only [Function.comp, huffEntry, Nat.succ_eq_add_one, List.getD_cons_succ, List.take_succ_cons,
          List.count_cons, getD_set hlt]
        split
        · rfl
        · congr 3
          · by_cases hx : ls.getD i 0 = l
            · simp only [hx, if_true, beq_self_eq_true]; omega
            · rw [if_neg hx, show (l == ls.getD i 0) = false from by simpa using fun e => hx e.symm]
              rfl
          · omega
      rw [hf, ← ih _ (k + 1) (by simpa using hl')]
      simp [huffGo, huffEntry, h0]

theorem mem_huffGo (nc : List Nat) (k : Nat) (ls : List Nat) (hl : ∀ l ∈ ls, l < nc.length) (e : Nat × Nat × Nat) :
    e ∈ huffGo nc k ls ↔ ∃ i, i < ls.length ∧ huffEntry nc k ls i = some e := by
  simp [huffGo_eq nc k ls hl]

theorem validLens_iff (lens : List Nat) : validLens lens = true ↔ (∀ l ∈ lens, l ≤ 15) ∧ kraft lens ≤ 2 ^ 15 := by
  simp only [validLens, Bool.and_eq_true, List.all_eq_true, decide_eq_true_eq]

theorem all_le15 (lens : List Nat) (h : validLens lens = true) : ∀ l ∈ lens, l ≤ 15 := ((validLens_iff lens).1 h).1

theorem mem_mkHuff (lens : List Nat) (h15 : ∀ l ∈ lens, l ≤ 15) (e : Nat × Nat × Nat) :
    e ∈ mkHuff lens ↔ ∃ s, s < lens.length ∧ lens.getD s 0 ≠ 0 ∧ e = (lens.getD s 0, codeNat lens s, s) := by
  rw [mkHuff_eq, mem_huffGo _ _ _ (fun l hl => by rw [nextCodes_length]; have := h15 l hl; omega)]
  refine exists_congr (fun s => and_congr_right (fun hs => ?_))
  have hl15 : lens.getD s 0 < 16 := by have := h15 _ (getD_mem lens s hs); omega
  unfold huffEntry codeNat
  rw [nextCodes_getD _ _ hl15, Nat.zero_add]
  by_cases hne : lens.getD s 0 = 0
  · rw [if_pos hne]
    exact ⟨nofun, fun h => absurd hne h.1⟩
  · rw [if_neg hne]
    exact ⟨fun h => ⟨hne, (Option.some.inj h).symm⟩, fun h => congrArg some h.2.symm⟩

def codeEnd (lens : List Nat) (l : Nat) : Nat := firstCode lens l + lenCount lens l

theorem codeEnd_zero (lens : List Nat) : codeEnd lens 0 = 0 := by simp [codeEnd, firstCode, lenCount]

theorem firstCode_succ (lens : List Nat) (l : Nat) : firstCode lens (l + 1) = 2 * codeEnd lens l := by
  simp only [firstCode, codeEnd]; omega

theorem codeEnd_succ (lens : List Nat) (l : Nat) :
    codeEnd lens (l + 1) = 2 * codeEnd lens l + lenCount lens (l + 1) := by
  rw [codeEnd, firstCode_succ]

theorem codeEnd_mono (lens : List Nat) (l k : Nat) : codeEnd lens l * 2 ^ k ≤ codeEnd lens (l + k) := by
  induction k with
  | zero => simp
  | succ k ih =>
    rw [← Nat.add_assoc, codeEnd_succ, Nat.pow_succ, ← Nat.mul_assoc]
    omega

theorem firstCode_ge (lens : List Nat) (l k : Nat) (hk : 1 ≤ k) : codeEnd lens l * 2 ^ k ≤ firstCode lens (l + k) := by
  obtain ⟨k, rfl⟩ : ∃ j, k = j + 1 := ⟨k - 1, by omega⟩
  rw [← Nat.add_assoc, firstCode_succ, Nat.pow_succ, ← Nat.mul_assoc]
  have := codeEnd_mono lens l k
  omega

theorem lenCount_cons (a : Nat) (lens : List Nat) (l : Nat) :
    lenCount (a :: lens) l = lenCount lens l + (if a = l ∧ l ≠ 0 then 1 else 0) := by
  unfold lenCount
  by_cases h0 : l = 0
  · simp [h0]
  · simp only [h0, if_false, List.count_cons, ne_eq, not_false_eq_true, and_true]
    by_cases ha : a = l <;> simp [ha]

theorem codeEnd_cons (a : Nat) (lens : List Nat) (l : Nat) :
    codeEnd (a :: lens) l = codeEnd lens l + (if a ≠ 0 ∧ a ≤ l then 2 ^ (l - a) else 0) := by
  induction l with
  | zero =>
    rw [codeEnd_zero, codeEnd_zero]
    have : ¬ (a ≠ 0 ∧ a ≤ 0) := by omega
    rw [if_neg this]
  | succ l ih =>
    rw [codeEnd_succ, codeEnd_succ, ih, lenCount_cons]
    by_cases h1 : a ≠ 0 ∧ a ≤ l
    · have h2 : ¬ (a = l + 1 ∧ l + 1 ≠ 0) := by omega
      have h3 : a ≠ 0 ∧ a ≤ l + 1 := by omega
      rw [if_pos h1, if_neg h2, if_pos h3, show l + 1 - a = (l - a) + 1 by omega, Nat.pow_succ]
      omega
    · by_cases h2 : a = l + 1 ∧ l + 1 ≠ 0
      · have h3 : a ≠ 0 ∧ a ≤ l + 1 := by omega
        rw [if_neg h1, if_pos h2, if_pos h3, show l + 1 - a = 0 by omega, Nat.pow_zero]
        omega
      · have h3 : ¬ (a ≠ 0 ∧ a ≤ l + 1) := by omega
        rw [if_neg h1, if_neg h2, if_neg h3]
        omega

theorem codeEnd_nil (l : Nat) : codeEnd [] l = 0 := by
  induction l with
  | zero => exact codeEnd_zero _
  | succ l ih => rw [codeEnd_succ, ih]; simp [lenCount]

theorem kraft_eq (lens : List Nat) (h15 : ∀ l ∈ lens, l ≤ 15) : kraft lens = codeEnd lens 15 := by
  induction lens with
  | nil => rw [codeEnd_nil]; rfl
  | cons a lens ih =>
    rw [codeEnd_cons, ← ih (fun l hl => h15 l (List.mem_cons_of_mem _ hl))]
    have ha : a ≤ 15 := h15 a (by simp)
    unfold kraft
    simp only [List.map_cons, List.sum_cons]
    by_cases h0 : a = 0
    · have : ¬ (a ≠ 0 ∧ a ≤ 15) := by omega
      rw [if_pos h0, if_neg this]
      omega
    · have : a ≠ 0 ∧ a ≤ 15 := ⟨h0, ha⟩
      rw [if_neg h0, if_pos this]
      omega

/-- Kraft: the codes of length `l` fit into `l` bits -/
theorem codeEnd_le (lens : List Nat) (h : validLens lens = true) (l : Nat) (hl : l ≤ 15) : codeEnd lens l ≤ 2 ^ l := by
  obtain ⟨h15, hk⟩ := (validLens_iff lens).1 h
  rw [kraft_eq lens h15] at hk
  have hm := codeEnd_mono lens l (15 - l)
  have e : l + (15 - l) = 15 := by omega
  rw [e] at hm
  have hp : (2 : Nat) ^ 15 = 2 ^ l * 2 ^ (15 - l) := by rw [← Nat.pow_add, e]
  rw [hp] at hk
  have hpos : 0 < 2 ^ (15 - l) := Nat.two_pow_pos _
  exact Nat.le_of_mul_le_mul_right (Nat.le_trans hm hk) hpos

theorem codeNat_lt_end (lens : List Nat) (s : Nat) (hs : s < lens.length) (hne : lens.getD s 0 ≠ 0) :
    codeNat lens s < codeEnd lens (lens.getD s 0) := by
  unfold codeNat codeEnd lenCount
  have := count_take_lt_count lens s hs
  simp only [hne, if_false]
  omega

theorem codeNat_inj (lens : List Nat) (s t : Nat) (hs : s < lens.length) (ht : t < lens.length)
    (hl : lens.getD s 0 = lens.getD t 0) (hc : codeNat lens s = codeNat lens t) : s = t := by
  unfold codeNat at hc
  rw [hl] at hc
  have hc' : (lens.take s).count (lens.getD t 0) = (lens.take t).count (lens.getD t 0) := by omega
  rcases Nat.lt_trichotomy s t with h | h | h
  · have := count_take_lt lens s t hs h
    rw [hl] at this; omega
  · exact h
  · have := count_take_lt lens t s ht h
    omega

theorem look_codeNat (lens : List Nat) (h : validLens lens = true) (s : Nat) (hne : lens.getD s 0 ≠ 0) :
    codeNat lens s < 2 ^ lens.getD s 0 ∧
    look (mkHuff lens) (lens.getD s 0) (codeNat lens s) = some (lens.getD s 0, codeNat lens s, s) ∧
    ∀ m, 1 ≤ m → m < lens.getD s 0 → look (mkHuff lens) (lens.getD s 0 - m) (codeNat lens s / 2 ^ m) = none := by
  have h15 := all_le15 lens h
  have hs := getD_ne_zero_lt lens s hne
  have hl15 : lens.getD s 0 ≤ 15 := h15 _ (getD_mem lens s hs)
  have hlt := codeNat_lt_end lens s hs hne
  refine ⟨Nat.lt_of_lt_of_le hlt (codeEnd_le lens h _ hl15), ?_, ?_⟩
  · have hmem := (mem_mkHuff lens h15 _).2 ⟨s, hs, hne, rfl⟩
    unfold look
    cases hf : (mkHuff lens).find? (fun e => e.1 == lens.getD s 0 && e.2.1 == codeNat lens s) with
    | none =>
      rw [List.find?_eq_none] at hf
      have := hf _ hmem
      simp at this
    | some e =>
      have hp := List.find?_some hf
      have he := List.mem_of_find?_eq_some hf
      simp only [Bool.and_eq_true, beq_iff_eq] at hp
      obtain ⟨t, ht, _, hee⟩ := (mem_mkHuff lens h15 e).1 he
      rw [hee] at hp
      simp only at hp
      have := codeNat_inj lens t s ht hs hp.1 hp.2
      rw [hee, this]
  -- prefix-free: a code `m` bits shorter lies below its `codeEnd`, which times `2 ^ m` is at most `firstCode` here
  · intro m hm1 hm2
    apply look_none
    intro e he hh
    obtain ⟨t, ht, htne, hee⟩ := (mem_mkHuff lens h15 e).1 he
    rw [hee] at hh
    simp only at hh
    have h1 := codeNat_lt_end lens t ht htne
    rw [hh.1] at h1
    have h2 := firstCode_ge lens (lens.getD s 0 - m) m hm1
    have e2 : lens.getD s 0 - m + m = lens.getD s 0 := by omega
    rw [e2] at h2
    have h3 : firstCode lens (lens.getD s 0) ≤ codeNat lens s := by unfold codeNat; omega
    have h4 : codeEnd lens (lens.getD s 0 - m) ≤ codeNat lens s / 2 ^ m := by
      rw [Nat.le_div_iff_mul_le (Nat.two_pow_pos _)]
      omega
    omega

theorem codeOf_eq_some {lens : List Nat} {s : Nat} {c : Bits} :
    codeOf lens s = some c ↔ lens.getD s 0 ≠ 0 ∧ c = bitsMsb (lens.getD s 0) (codeNat lens s) := by
  unfold codeOf
  by_cases hne : lens.getD s 0 = 0
  · rw [if_pos hne]; exact ⟨fun h => (nomatch h), fun h => absurd hne h.1⟩
  · rw [if_neg hne, Option.some.injEq]; exact ⟨fun h => ⟨hne, h.symm⟩, fun h => h.2.symm⟩

theorem decodeSym_codeOf' (lens : List Nat) (h : validLens lens = true) (s : Nat) (code rest : Bits)
    (hc : codeOf lens s = some code) : decodeSym (mkHuff lens) (code ++ rest) = some (s, rest) := by
  obtain ⟨hne, rfl⟩ := codeOf_eq_some.1 hc
  obtain ⟨h1, h2, h3⟩ := look_codeNat lens h s hne
  have h15 := all_le15 lens h
  have hs := getD_ne_zero_lt lens s hne
  have hl15 : lens.getD s 0 ≤ 15 := h15 _ (getD_mem lens s hs)
  exact decodeSym_bitsMsb (mkHuff lens) _ _ _ rest (by omega) hl15 h1 h3 h2

theorem codeOf_length_pos (lens : List Nat) (s : Nat) (code : Bits) (hc : codeOf lens s = some code) :
    1 ≤ code.length := by
  obtain ⟨hne, rfl⟩ := codeOf_eq_some.1 hc
  simp only [bitsMsb, List.length_map, List.length_range]
  omega

theorem codeOf_run (pre post : List Nat) (n l i : Nat) (hl : l ≠ 0) (hi : i < n) (hp : pre.count l = 0) :
    codeOf (pre ++ (List.replicate n l ++ post)) (pre.length + i) =
      some (bitsMsb l (firstCode (pre ++ (List.replicate n l ++ post)) l + i)) := by
  have hg : (pre ++ (List.replicate n l ++ post)).getD (pre.length + i) 0 = l := by
    rw [List.getD_eq_getElem?_getD, List.getElem?_append_right (by omega), Nat.add_sub_cancel_left,
      List.getElem?_append_left (by simpa using hi), List.getElem?_replicate, if_pos hi]
    rfl
  have ht : ((pre ++ (List.replicate n l ++ post)).take (pre.length + i)).count l = i := by
    rw [List.take_append, List.take_of_length_le (by omega), Nat.add_sub_cancel_left, List.take_append,
      List.take_replicate, List.count_append, List.count_append, hp, List.count_replicate_self]
    simp [Nat.min_eq_left (Nat.le_of_lt hi), Nat.sub_eq_zero_of_le (Nat.le_of_lt hi)]
  unfold codeOf codeNat
  rw [hg, if_neg hl, ht]

end Zarrs.DeflateSpec
