import ZarrsModel.Model.Partial
import ZarrsModel.Lemmas.Slice
import ZarrsModel.Lemmas.ListBasic
/- helper lemmas for C02: the bytes-to-bytes partial decoders (`ByteRange` / `slice` arithmetic) -/
namespace Zarrs.Partial
open Zarrs Zarrs.Codec

theorem extractByteRanges_valid (b : Bytes) (rs : List ByteRange) (h : ∀ r ∈ rs, r.valid b.length = true) :
    extractByteRanges b rs = some (rs.map (·.extract b)) := by
  unfold extractByteRanges
  rw [if_pos (List.all_eq_true.2 h)]

theorem BHandleOk.whole {h : BHandle} {v : Bytes} (hh : BHandleOk h v) :
    h [ByteRange.fromStart 0 none] = some (some [v]) := by
  rw [hh [.fromStart 0 none] (List.forall_mem_singleton.mpr (decide_eq_true (Nat.zero_le v.length)))]
  exact congrArg (fun x => some (some [x])) (slice_full v)

theorem storeHandle_some_ok (v : Bytes) : BHandleOk (storeHandle (some v)) v := by
  intro rs h
  simp only [storeHandle, extractByteRanges_valid v rs h, Option.map_some]

theorem storeHandle_none_absent : BHandleAbsent (storeHandle none) := by
  intro rs
  rfl

/-- the inner range `StripSuffixPartialDecoder` asks for -/
def stripInner (n : Nat) (r : ByteRange) : ByteRange :=
  match r with
  | .suffix l => ByteRange.suffix (l + n)
  | r => r

def stripOne (n : Nat) : ByteRange × Bytes → Option Bytes := fun (r, b) =>
  match r with
  | .fromStart _ (some _) => some b
  | _ => if b.length < n then none else some (b.take (b.length - n))

theorem stripSuffixPD_eq (n : Nat) (h : BHandle) (rs : List ByteRange) :
    stripSuffixPD n h rs =
      match h (rs.map (stripInner n)) with
      | none => none
      | some none => some none
      | some (some parts) => ((rs.zip parts).mapM (stripOne n)).map some := rfl

theorem stripInner_valid (b t : Bytes) (r : ByteRange) (h : r.valid b.length = true) :
    (stripInner t.length r).valid (b ++ t).length = true := by
  rw [List.length_append]
  cases r with
  | fromStart o l => exact decide_eq_true (Nat.le_trans (of_decide_eq_true h) (Nat.le_add_right _ _))
  | suffix l => exact decide_eq_true (Nat.add_le_add_right (of_decide_eq_true h) _)

theorem strip_tail (x t : Bytes) :
    (if (x ++ t).length < t.length then none else some ((x ++ t).take ((x ++ t).length - t.length))) = some x := by
  simp

theorem stripOne_extract (b t : Bytes) (r : ByteRange) (h : r.valid b.length = true) :
    stripOne t.length (r, (stripInner t.length r).extract (b ++ t)) = some (r.extract b) := by
  cases r with
  | fromStart o l =>
    cases l with
    | none =>
      simp only [stripOne, stripInner, ByteRange.extract, ByteRange.start, ByteRange.stop, List.length_append]
      rw [slice_append_to_end b t o (of_decide_eq_true h), slice_to_end]
      exact strip_tail _ t
    | some l =>
      simp only [stripOne, stripInner, ByteRange.extract, ByteRange.start, ByteRange.stop]
      rw [slice_append_left b t o (o + l) (of_decide_eq_true h)]
  | suffix l =>
    simp only [stripOne, stripInner, ByteRange.extract, ByteRange.start, ByteRange.stop, List.length_append]
    rw [Nat.add_sub_add_right, slice_append_to_end b t (b.length - l) (Nat.sub_le _ _), slice_to_end]
    exact strip_tail _ t

theorem stripSuffixPD_ok (h : BHandle) (b t : Bytes) (hh : BHandleOk h (b ++ t)) :
    BHandleOk (stripSuffixPD t.length h) b := by
  intro rs hv
  rw [stripSuffixPD_eq, hh (rs.map (stripInner t.length))
    (List.forall_mem_map.mpr fun r hr => stripInner_valid b t r (hv r hr))]
  simp only [List.map_map, Function.comp_def]
  rw [mapM_zip_map _ (stripOne t.length) (·.extract b) rs (fun r hr => stripOne_extract b t r (hv r hr))]
  rfl

theorem stripSuffixPD_absent (n : Nat) (h : BHandle) (hh : BHandleAbsent h) : BHandleAbsent (stripSuffixPD n h) := by
  intro rs
  rw [stripSuffixPD_eq, hh]

theorem byteIntervalPD_ok (h : BHandle) (v : Bytes) (off len : Nat) (hh : BHandleOk h v) (hb : off + len ≤ v.length) :
    BHandleOk (byteIntervalPD off len h) (slice v off (off + len)) := by
  have hlen : (slice v off (off + len)).length = len := by
    rw [slice_length v off (off + len) hb, Nat.add_sub_cancel_left]
  intro rs hv
  rw [hlen] at hv
  have hin : ∀ r ∈ rs.map (fun r => ByteRange.fromStart (off + r.start len) (some (r.length len))),
      r.valid v.length = true := by
    refine List.forall_mem_map.mpr fun r' hr' => ?_
    obtain ⟨h1, h2⟩ := ByteRange.valid_bounds r' len (hv r' hr')
    refine decide_eq_true (Nat.le_trans ?_ hb)
    show off + r'.start len + r'.length len ≤ off + len
    rw [Nat.add_assoc, h1]
    exact Nat.add_le_add_left h2 off
  unfold byteIntervalPD
  rw [if_pos (List.all_eq_true.2 hv), hh _ hin, List.map_map]
  refine congrArg (fun l => some (some l)) (List.map_congr_left fun r hr => ?_)
  obtain ⟨h1, h2⟩ := ByteRange.valid_bounds r len (hv r hr)
  simp only [Function.comp, ByteRange.extract, hlen]
  show slice v (off + r.start len) (off + r.start len + r.length len) = _
  rw [slice_slice v off len _ _ h2, Nat.add_assoc, h1]

theorem decodeAllPD_absent (dec : Bytes → Option Bytes) (h : BHandle) (hh : BHandleAbsent h) :
    BHandleAbsent (decodeAllPD dec h) := by
  intro rs
  unfold decodeAllPD
  rw [hh]

theorem bytesCachePD_absent (h : BHandle) (hh : BHandleAbsent h) : BHandleAbsent (bytesCachePD h) := by
  unfold bytesCachePD
  rw [hh]
  exact storeHandle_none_absent

end Zarrs.Partial
