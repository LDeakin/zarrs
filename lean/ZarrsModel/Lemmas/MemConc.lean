import ZarrsModel.Model.MemConc
import ZarrsModel.Model.FsConc
import ZarrsModel.Lemmas.MemConcSpec
import ZarrsModel.Lemmas.MemConcStep
import ZarrsModel.Lemmas.MemConcWF
import ZarrsModel.Lemmas.MemConcAssemble
import ZarrsModel.Lemmas.MemConcView
import ZarrsModel.Lemmas.MemConcGhost
import ZarrsModel.Lemmas.MemConcHist
import ZarrsModel.Lemmas.MemConcLin
import ZarrsModel.Lemmas.MemConcFinish
import ZarrsModel.Lemmas.FsConc
/- The proofs behind C18, `Lemmas/MemConc*.lean` for the MemoryStore protocol, `Lemmas/FsConc*.lean` for the
FilesystemStore protocol.  The MemoryStore machine is seen as functions of thread and cell (`view`) and its step carries a
ghost list of linearization records (`VStep`): a write is recorded where it takes the cell lock, a read where it reads
the current cell or where an erase orphans the cell it holds (`helpers`).  The list stays a legal run of the atomic
register ending in the logical value of the key (`GInv`), sorted by times that lie inside the operations' intervals
(`HInv`), so that of a complete execution is a linearization (`history_ghost` gives a `Ghost`, which
`Ghost.exists_linearization` turns into an order).  `MemConcSpec`: the sequential specification as list facts, the executable
checker misses no order; `MemConcFinish`: every reachable state can be run to completion. -/
