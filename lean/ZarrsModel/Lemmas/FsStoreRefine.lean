import ZarrsModel.Lemmas.FsStoreKind
/- the operations of the filesystem store on one key or prefix against the ordered map: a write succeeds, changes the
map as specified and keeps compatible keys ok (`Keeps`; together `WriteOk`); reads; ranged reads of a file -/
namespace Zarrs.Fs
open Zarrs

theorem keyOk_spec {s : FsState} {k : Key} (h : keyOk s k = true) :
    ∃ path, keyPath k = some path ∧ statFree s path = true := by
  unfold keyOk at h
  cases hk : keyPath k with
  | none => rw [hk] at h; cases h
  | some path => rw [hk] at h; exact ⟨path, rfl, h⟩

theorem keyOk_of {s : FsState} {k : Key} {path : List Name} (hk : keyPath k = some path) (h : statFree s path = true) :
    keyOk s k = true := by
  unfold keyOk; rw [hk]; exact h

/-- what later operations need of a step that wrote `keys`: a key that fitted the tree still fits, unless it is a
directory prefix of a written key or lies below one (`set` makes the ancestors of its key directories and puts a file
on the way of everything below) -/
def Keeps (keys : List Key) (s s' : FsState) : Prop :=
  ∀ k', keyOk s k' = true → (∀ k ∈ keys, dirPrefixOf k k' = false ∧ dirPrefixOf k' k = false) → keyOk s' k' = true

theorem Keeps.refl (keys : List Key) (s : FsState) : Keeps keys s s := fun _ h _ => h

theorem Keeps.mono {keys keys' : List Key} {s s' : FsState} (h : Keeps keys s s') (hs : ∀ k ∈ keys, k ∈ keys') :
    Keeps keys' s s' := fun k' hk' hc => h k' hk' fun k hk => hc k (hs k hk)

theorem Keeps.trans {keys : List Key} {s s1 s2 : FsState} (h1 : Keeps keys s s1) (h2 : Keeps keys s1 s2) :
    Keeps keys s s2 := fun k' hk' hc => h2 k' (h1 k' hk' hc) hc

theorem Keeps.of_removed {keys : List Key} {s s' : FsState} {path : List Name} (h : RemovedAt path s s') :
    Keeps keys s s' := by
  intro k' hk' _
  obtain ⟨p', hkp', hf'⟩ := keyOk_spec hk'
  apply keyOk_of hkp'
  rw [statFree_kindAt, h p']
  split
  · rfl
  · rw [← statFree_kindAt]; exact hf'

theorem Keeps.of_set {k : Key} {path : List Name} {s s' : FsState} {v : Bytes} (hk : keyPath k = some path)
    (h : SetAt path v s s') : Keeps [k] s s' := by
  intro k' hk' hc
  obtain ⟨p', hkp', hf'⟩ := keyOk_spec hk'
  obtain ⟨c1, c2⟩ := hc k (List.mem_singleton.2 rfl)
  apply keyOk_of hkp'
  rw [statFree_kindAt]
  by_cases e : p' = path
  · rw [e, h.1]; rfl
  · -- neither above nor below the written path: nothing changed there
    have n1 : ¬ p' <+: path := fun hp => by
      rw [(dirPrefixOf_iff hkp' hk).2 ⟨hp, e⟩] at c2; cases c2
    have n2 : ¬ path <+: p' := fun hp => by
      rw [(dirPrefixOf_iff hk hkp').2 ⟨hp, fun e' => e e'.symm⟩] at c1; cases c1
    rw [h.2 p' n1 n2, ← statFree_kindAt]
    exact hf'

structure WriteOk (ks : List Key) (s s' : FsState) (m' : KV) : Prop where
  inv : FsInv s'
  abs : absFs s' = m'
  keeps : Keeps ks s s'

theorem WriteOk.mono {ks ks' : List Key} {s s' : FsState} {m' : KV} (w : WriteOk ks s s' m') (hs : ∀ k ∈ ks, k ∈ ks') :
    WriteOk ks' s s' m' := ⟨w.inv, w.abs, w.keeps.mono hs⟩

theorem set_abs (s : FsState) (hi : FsInv s) (k : Key) (v : Bytes) (path : List Name)
    (hk : keyPath k = some path) (hfree : statFree s path = true) :
    ∃ s', s.setImpl path v 0 true = .ok s' ∧ WriteOk [k] s s' ((absFs s).put k v) := by
  obtain ⟨s', h1, h3⟩ := setImpl_ok s hi path (keyPath_ne_nil hk) hfree v 0 true
  simp only [if_true, specSetPartial_nil] at h3
  have h2 := setImpl_inv s hi path (keyPath_plain hk) _ _ _ s' h1
  refine ⟨s', h1, h2, absFs_eq s' h2 _ (KV.put_sorted _ (absFs_sorted _) _ _) fun k' => ?_, Keeps.of_set hk h3⟩
  rw [h3.fileOf hfree, KV.get_put_ite, absFs_get_kind s hi, keyPath_eq_splitPath hk]
  by_cases hkk : k = k'
  · subst hkk; rw [if_pos rfl, if_pos rfl]
  · rw [if_neg hkk, if_neg fun e => hkk (splitPath_inj e).symm]

theorem erase_abs (s : FsState) (hi : FsInv s) (k : Key) (path : List Name)
    (hk : keyPath k = some path) (hfree : statFree s path = true) :
    ∃ s', s.eraseKey path = .ok s' ∧ WriteOk [] s s' ((absFs s).erase k) := by
  have hpath := keyPath_eq_splitPath hk
  obtain ⟨s', h1, h3⟩ := eraseKey_ok s path (keyPath_ne_nil hk) hfree
  have h2 := eraseKey_inv s hi path s' h1
  refine ⟨s', h1, h2, absFs_eq s' h2 _ (KV.erase_sorted _ (absFs_sorted _) _) fun k' => ?_, Keeps.of_removed h3⟩
  rw [h3.fileOf, KV.get_erase, absFs_get_kind s hi]
  by_cases hkk : k' = k
  · rw [if_pos hkk, if_pos (hkk ▸ hpath ▸ List.prefix_refl _)]
  · rw [if_neg hkk]
    split
    · next hpre =>
      -- strictly below the free path there is no file
      obtain ⟨q, e⟩ := hpre
      have hq : q ≠ [] := fun eq => hkk (splitPath_inj (by rw [← e, eq, List.append_nil, hpath]))
      rw [← e, fileOf_below s path q hq (not_dir_of_free hfree)]
    · rfl

/-- `erase_prefix` (repaired) refines the ordered map for EVERY modelled prefix: also one that names a key or lies
below one (then nothing is erased and no key has the prefix) -/
theorem erasePrefix_abs (s : FsState) (hi : FsInv s) (p : Key) (path : List Name)
    (hp : prefixPath p = some path) :
    ∃ s', s.erasePrefix path = .ok s' ∧ WriteOk [] s s' ((absFs s).filter (fun kv => !hasPrefix kv.1 p)) := by
  obtain ⟨rfl, hpl⟩ := prefixPath_spec hp
  have hiff := hasPrefix_dirKey_iff (plain_noSlash hpl)
  have key : ∀ s', FsInv s' → (∀ k, (s'.kindAt (splitPath k)).fileOf =
      if hasPrefix k (dirKey path) then none else (s.kindAt (splitPath k)).fileOf) →
      absFs s' = (absFs s).filter (fun kv => !hasPrefix kv.1 (dirKey path)) := fun s' h2 h =>
    absFs_eq s' h2 _ (KV.filter_sorted _ (absFs_sorted _) _) fun k => by
      rw [h, ← absFs_get_kind s hi]; exact Spec.erasePrefix_get (absFs s) _ k
  by_cases hfree : dirFree s path = true
  · obtain ⟨s', h1, h3⟩ := erasePrefix_ok s path hfree
    have h2 := erasePrefix_inv s hi path s' h1
    refine ⟨s', h1, h2, key s' h2 fun k => ?_, Keeps.of_removed h3⟩
    rw [h3.fileOf]
    by_cases hpre : hasPrefix k (dirKey path) = true
    · obtain ⟨rest, _, e⟩ := (hiff k).1 hpre
      rw [if_pos hpre, if_pos (e ▸ List.prefix_append _ _)]
    · rw [if_neg hpre]
      split
      · next h =>
        -- the prefix directory itself: no file
        obtain ⟨rest, e⟩ := h
        have : rest = [] := Classical.byContradiction fun hr => hpre ((hiff k).2 ⟨rest, hr, e.symm⟩)
        rw [← e, this, List.append_nil]
        rcases (dirFree_iff s path).1 hfree with hh | hh <;> rw [hh] <;> rfl
      · rfl
  · have hnd : s.kindAt path ≠ .dir := fun e => hfree ((dirFree_iff s path).2 (.inr e))
    have hne : path ≠ [] := by
      rintro rfl
      exact hfree (by cases s <;> rfl)
    refine ⟨s, erasePrefix_blocked s path hne hnd, hi, key s hi fun k => ?_, Keeps.refl _ _⟩
    -- a key below the prefix would make the prefix path a directory
    split
    · next hpre =>
      obtain ⟨rest, hr, e⟩ := (hiff k).1 hpre
      rw [e]
      exact fileOf_below s path rest hr hnd
    · rfl

theorem stat_abs (s : FsState) (hi : FsInv s) (k : Key) (path : List Name)
    (hk : keyPath k = some path) (hfree : statFree s path = true) :
    (s.stat path = .noent ∧ (absFs s).get k = none) ∨ ∃ b, s.stat path = .file b ∧ (absFs s).get k = some b := by
  rw [absFs_get_kind s hi, ← keyPath_eq_splitPath hk]
  rcases (statFree_iff s path).1 hfree with h | ⟨b, h⟩
  · exact .inl ⟨(stat_eq_noent_iff s path).2 h, by rw [h]; rfl⟩
  · exact .inr ⟨b, (stat_eq_file_iff s path b).2 h, by rw [h]; rfl⟩

theorem getKey_abs (s : FsState) (hi : FsInv s) (k : Key) (path : List Name)
    (hk : keyPath k = some path) (hfree : statFree s path = true) :
    getKey s path = .ok ((absFs s).get k) := by
  unfold getKey
  rcases stat_abs s hi k path hk hfree with ⟨h1, h2⟩ | ⟨b, h1, h2⟩ <;> rw [h1, h2]

theorem readRange_eq (b : Bytes) (r : ByteRange) :
    readRange b r = if r.valid b.length then some (r.extract b) else none := by
  have take_all : ∀ n, ((b.drop n).take (b.length - n)) = b.drop n := fun n =>
    List.take_of_length_le (by rw [List.length_drop]; exact Nat.le_refl _)
  cases r with
  | fromStart o l =>
    cases l with
    | none =>
      simp only [readRange, ByteRange.valid, Option.getD_none, Nat.add_zero, decide_eq_true_eq, ByteRange.extract,
        ByteRange.start, ByteRange.stop, slice, take_all]
    | some l =>
      simp only [readRange, ByteRange.valid, Option.getD_some, decide_eq_true_eq, ByteRange.extract,
        ByteRange.start, ByteRange.stop]
  | suffix l =>
    simp only [readRange, ByteRange.valid, decide_eq_true_eq, ByteRange.extract, ByteRange.start, ByteRange.stop, slice]
    split
    · rw [take_all]
    · rfl

theorem readRange_valid (b : Bytes) (r : ByteRange) (h : r.valid b.length = true) :
    readRange b r = some (r.extract b) := by
  rw [readRange_eq, if_pos h]

theorem readRanges_trunc (b : Bytes) (rs : List ByteRange) (xs : List Bytes) (h : readRanges b rs = some xs) :
    xs = rs.map (fun r => r.extractTrunc b) := by
  induction rs generalizing xs with
  | nil => simp only [readRanges, Option.some.injEq] at h; subst h; rfl
  | cons r rest ih =>
    simp only [readRanges] at h
    cases hr : readRange b r with
    | none => rw [hr] at h; cases h
    | some x =>
      rw [hr] at h
      cases hrs : readRanges b rest with
      | none => rw [hrs] at h; cases h
      | some ys =>
        rw [hrs] at h
        simp only [Option.some.injEq] at h
        subst h
        rw [readRange_eq] at hr
        split at hr
        · next hv => rw [List.map_cons, ← ih ys hrs, ByteRange.extractTrunc_of_valid b r hv, Option.some.inj hr]
        · cases hr

theorem readRanges_valid (b : Bytes) (rs : List ByteRange) (h : ∀ r ∈ rs, r.valid b.length = true) :
    readRanges b rs = some (rs.map (fun r => r.extract b)) := by
  induction rs with
  | nil => rfl
  | cons r rest ih =>
    simp only [readRanges]
    rw [readRange_valid b r (h r (List.mem_cons_self ..)), ih (fun x hx => h x (List.mem_cons_of_mem _ hx))]
    rfl

end Zarrs.Fs
