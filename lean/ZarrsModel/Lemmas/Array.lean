import ZarrsModel.Model.Array
import ZarrsModel.Lemmas.Index
import ZarrsModel.Lemmas.Grid
import ZarrsModel.Lemmas.Store
import ZarrsModel.Lemmas.ArrayList
import ZarrsModel.Lemmas.Box
import ZarrsModel.Lemmas.ArrayPaste
import ZarrsModel.Lemmas.Tiling
import ZarrsModel.Lemmas.ArrayChunk
import ZarrsModel.Lemmas.ArrayCell
import ZarrsModel.Lemmas.ArrayInv
import ZarrsModel.Lemmas.ArrayMulti
import ZarrsModel.Lemmas.ArrayRead
/-
The lemmas behind C01/C04 (the store refines an abstract array), in import order:

* `ArrayList`  — positional lookup in `boxIndices` / `Subset.indices` / `AArr.read`; `updateRuns` and `extract` pointwise
* `Box`        — index arithmetic on boxes: a non-empty box inside another (`SubBox`) in its coordinates and back, the overlap of two
* `ArrayPaste` — reads of sub-boxes: extracting from a read, data as the read of the array it is written to, pasting as
                 reading after writing; folds that may fail
* `Tiling`     — a keyed family of boxes partitioning a box: pasting the reads of the tiles, writing tile by tile
* `ArrayChunk` — the standing assumptions `ROk` (`COk` with the codec law asked of stored chunks only) and what they give:
                 the chunks of a box of chunks, and the chunks meeting a region, as tilings
* `ArrayCell`  — the single-chunk operations as functions of the one value under the chunk's key
* `ArrayInv`   — the refinement invariant `Inv`, single-chunk writes/erases/reads
* `ArrayMulti` — multi-chunk writes and erases (`storeChunks`, `eraseChunks`, `storeArraySubset`)
* `ArrayRead`  — multi-chunk reads (`retrieveArraySubset`, `retrieveChunks`), histories (`run_inv`)
-/
