import ZarrsModel.Lemmas.Grid
import ZarrsModel.Lemmas.ChainSDecShard
/- (nested) sharded chains whose declared bounds keep every shard below 2^64 - 1 (`ChainS.small`) fit (`fits_of_small`:
read by `ChainSPETop` for the histories of C05 and by C01 on chains); for C01 on chains also a serialisation of element
lists (the witness of `C01Chain.OkOn.serial`) and regular grids -/
namespace Zarrs.Partial
open Zarrs Zarrs.Codec

/-- at every sharding level the inner chain declares a bound and the declared size of the shard (before the
bytes-to-bytes codecs) is below 2^64 - 1 -/
def ChainS.small : ChainS → Shape → Prop
  | .leaf _ _, _ => True
  | .shard a2a cfg ish _ inner _, sh =>
    ChainS.small inner ish ∧ ∃ m, inner.bound ish = some m ∧
      prod (zipDiv (shapesOf a2a sh) ish) * m +
        Shard.indexSize { cfg with nChunks := prod (zipDiv (shapesOf a2a sh) ish) } < Shard.sentinel

def serElems (x : List Elem) : Bytes := x.length :: x.flatMap (fun e => e.length :: e)

def unserN : Nat → Bytes → Option (List Elem)
  | 0, _ => some []
  | _ + 1, [] => none
  | n + 1, l :: rest => (unserN n (rest.drop l)).map (rest.take l :: ·)

def unserElems : Bytes → Option (List Elem)
  | [] => none
  | n :: b => unserN n b

theorem unser_ser (x : List Elem) : unserElems (serElems x) = some x := by
  simp only [serElems, unserElems]
  induction x with
  | nil => rfl
  | cons e x ih =>
    simp only [List.length_cons, List.flatMap_cons, List.cons_append, unserN, List.drop_left, List.take_left, ih,
      Option.map_some]

theorem fits_of_small {B : BStage → Prop} : ∀ (c : ChainS) (sh : Shape) (fill : Elem) (xs : List Elem),
    c.okWith aOk B sh fill → xs.length = prod sh → (∀ x ∈ xs, x.length = c.es) → c.small sh → c.fits sh fill xs := by
  intro c
  induction c with
  | leaf c keep => intro _ _ _ _ _ _ _; trivial
  | shard a2a cfg ish es inner b2b ih =>
    intro sh fill xs hok hxl hxe hsm
    obtain ⟨hsi, m, hm, hlt⟩ := hsm
    simp only [ChainS.es] at hxe
    obtain ⟨hyl, hye⟩ := aEnc_chunk es a2a sh xs hok.a2a hxl hxe
    simp only [ChainS.fits, encodeA2A_eq]
    have hpieces : ∀ p ∈ splitShard (shapesOf a2a sh) ish (aEnc a2a sh xs),
        p.length = prod ish ∧ ∀ x ∈ p, x.length = inner.es := by
      rw [hok.inner_es]; exact splitShard_chunkOk hok.tiles hyl hye
    refine ⟨fun p hp => ih ish fill p hok.inner (hpieces p hp).1 (hpieces p hp).2 hsi, ?_⟩
    exact Nat.lt_of_le_of_lt (shardEncode_length_le cfg _ fill _ ish _ m
      (fun p hp => chainS_size' inner ish fill p m hok.inner (hpieces p hp).1 (hpieces p hp).2 hm)) hlt

theorem arr_regular_chunkShape {α} (cfg : ArrCfg α) (sh : Shape) (hg : cfg.grid = Grid.new (sh.map DimCfg.fixed))
    (c : Idx) (s : Shape) (h : cfg.chunkShape c = some s) : s = sh := by
  simp only [ArrCfg.chunkShape] at h
  split at h
  · rename_i hl
    rw [hg] at h hl
    simp only [Grid.new, List.length_map, beq_iff_eq] at hl
    rw [← regular_eq_new, regular_chunkShape sh c hl] at h
    exact (Option.some.inj h).symm
  · cases h

end Zarrs.Partial
