import ZarrsModel.Model.Inflate
import ZarrsModel.Lemmas.Bits
import ZarrsModel.Lemmas.ListBasic
/-
Bit- and byte-level lemmas for the DEFLATE model: reading back the bits of bytes, the bits of the bytes `fromBits`
packs, bounds of the checksums and little-endian words.
-/
namespace Zarrs.Inflate
open Zarrs.PackBits (bitsOf bitsOf_zero bitsOf_succ natOfBits allBits allBits_length bytesOfBits bytesOfBits_cons
  allBits_bytesOfBits bytesOfBits_wf padBits_lt)

/-- the bits of `Model/Inflate` and `Model/DeflateSpec` (`bitsLsb_eq`) are those of `Model/PackBits` written out again -/
theorem bitsOfByte_eq (b : Nat) : bitsOfByte b = bitsOf 8 b := rfl

theorem toBits_eq_allBits (bs : Bytes) : toBits bs = allBits bs := rfl

theorem takeBits_bitsN (n m a : Nat) (r : Bits) :
    takeBits (n + m) (bitsOf n a ++ r) = (takeBits m r).map (fun (v, r') => (a % 2 ^ n + 2 ^ n * v, r')) := by
  induction n generalizing a with
  | zero =>
    simp [Nat.mod_one, bitsOf_zero]
  | succ n ih =>
    rw [Nat.add_right_comm, bitsOf_succ, List.cons_append, takeBits, ih]
    cases takeBits m r with
    | none => rfl
    | some p =>
      simp only [Option.map_some, Option.some.injEq, Prod.mk.injEq, and_true]
      have h1 : a % 2 ^ (n + 1) = a % 2 + 2 * (a / 2 % 2 ^ n) := by
        rw [Nat.pow_succ', Nat.mod_mul]
      rw [h1, Nat.pow_succ']
      have h2 : (if (a % 2 == 1) = true then 1 else 0) = a % 2 := by
        have := Nat.mod_two_eq_zero_or_one a
        rcases this with h | h <;> simp [h]
      rw [h2]
      simp only [Nat.mul_add, Nat.mul_assoc, Nat.add_assoc]

theorem takeBits_byte_add (m b : Nat) (r : Bits) (hb : b < 256) :
    takeBits (8 + m) (bitsOfByte b ++ r) = (takeBits m r).map (fun (v, r') => (b + 256 * v, r')) := by
  rw [bitsOfByte_eq, takeBits_bitsN, Nat.mod_eq_of_lt (show b < 2 ^ 8 from hb)]

theorem takeBits_byte (b : Nat) (r : Bits) (hb : b < 256) :
    takeBits 8 (bitsOfByte b ++ r) = some (b, r) := by
  have := takeBits_byte_add 0 b r hb
  simpa [takeBits] using this

theorem toBits_nil : toBits [] = [] := rfl
theorem toBits_cons (b : Nat) (bs : Bytes) : toBits (b :: bs) = bitsOfByte b ++ toBits bs := by
  simp only [toBits, List.flatMap_cons]
theorem toBits_append (a b : Bytes) : toBits (a ++ b) = toBits a ++ toBits b := by
  simp [toBits]

theorem toBits_length (a : Bytes) : (toBits a).length = 8 * a.length :=
  toBits_eq_allBits a ▸ allBits_length a

theorem takeBits16_le16 (n : Nat) (r : Bits) (hn : n < 65536) :
    takeBits 16 (toBits (le16 n) ++ r) = some (n, r) := by
  simp only [le16, toBits_cons, toBits_nil, List.append_nil, List.append_assoc]
  rw [show (16 : Nat) = 8 + 8 from rfl, takeBits_byte_add _ _ _ (Nat.mod_lt _ (by omega)),
    takeBits_byte _ _ (Nat.mod_lt _ (by omega))]
  simp only [Option.map_some, Option.some.injEq, Prod.mk.injEq, and_true]
  omega

theorem takeBytes_toBits (p : Bytes) (r : Bits) (out : Array Nat) (hp : ∀ x ∈ p, x < 256) :
    takeBytes p.length (toBits p ++ r) out = some (r, out ++ p.toArray) := by
  induction p generalizing out with
  | nil => simp [takeBytes, toBits_nil]
  | cons b bs ih =>
    simp only [List.length_cons, takeBytes, toBits_cons, List.append_assoc]
    rw [takeBits_byte _ _ (hp b (by simp))]
    simp only
    rw [ih _ (fun x hx => hp x (by simp [hx]))]
    simp


theorem foldl_zipIdx_val (c : Bits) (k acc : Nat) :
    (c.zipIdx k).foldl (fun acc (p : Bool × Nat) => acc + (if p.1 then 2 ^ p.2 else 0)) acc =
      acc + 2 ^ k * natOfBits c := by
  induction c generalizing k acc with
  | nil => simp [natOfBits]
  | cons b c ih =>
    rw [List.zipIdx_cons, List.foldl_cons, ih]
    simp only [natOfBits, Nat.pow_succ, Nat.mul_add, Nat.mul_assoc]
    cases b <;> simp [Nat.add_assoc]

/-- `fromBits` packs bytes as `PackBits.bytesOfBits` does: with `toBits_eq_allBits`, the facts about one pair hold of the
other -/
theorem fromBitsAux_eq : ∀ (fuel : Nat) (bits : Bits), fromBitsAux fuel bits = bytesOfBits fuel bits
  | 0, _ => rfl
  | _ + 1, [] => rfl
  | fuel + 1, b :: bs => by
    rw [bytesOfBits_cons, ← fromBitsAux_eq fuel]
    exact congrArg (· :: _) ((foldl_zipIdx_val _ 0 0).trans (by rw [Nat.zero_add, Nat.pow_zero, Nat.one_mul]))

theorem toBits_fromBitsAux (fuel : Nat) (bits : Bits) (h : bits.length < fuel) :
    ∃ k, k < 8 ∧ toBits (fromBitsAux fuel bits) = bits ++ List.replicate k false :=
  ⟨_, padBits_lt _, fromBitsAux_eq fuel bits ▸ allBits_bytesOfBits fuel bits (by omega)⟩

theorem toBits_fromBits_aligned (bits : Bits) (h : bits.length % 8 = 0) : toBits (fromBits bits) = bits := by
  have := allBits_bytesOfBits (bits.length + 1) bits (by omega)
  rw [PackBits.padBits, h, ← fromBitsAux_eq] at this
  exact this.trans (List.append_nil _)

theorem fromBits_wf (bits : Bits) : ∀ x ∈ fromBits bits, x < 256 := by
  rw [fromBits, fromBitsAux_eq]
  exact bytesOfBits_wf _ bits

theorem crcStep_lt {poly r : Nat} (hp : poly < 2 ^ 32) (h : r < 2 ^ 32) : crcStep poly r < 2 ^ 32 := by
  unfold crcStep
  split
  · exact Nat.xor_lt_two_pow (by omega) hp
  · omega

theorem foldl_crcStep_lt {poly : Nat} (hp : poly < 2 ^ 32) (l : List Nat) {s : Nat} (h : s < 2 ^ 32) :
    l.foldl (fun r _ => crcStep poly r) s < 2 ^ 32 :=
  List.foldlRecOn (motive := (· < 2 ^ 32)) l _ h (fun _ h _ _ => crcStep_lt hp h)

theorem crcByte_lt {poly r b : Nat} (hp : poly < 2 ^ 32) (h : r < 2 ^ 32) (hb : b < 2 ^ 32) :
    crcByte poly r b < 2 ^ 32 :=
  foldl_crcStep_lt hp _ (Nat.xor_lt_two_pow h hb)

theorem foldl_crcByte_lt {poly : Nat} (hp : poly < 2 ^ 32) (bs : Bytes) (hb : ∀ x ∈ bs, x < 256) {r : Nat}
    (h : r < 2 ^ 32) : List.foldl (crcByte poly) r bs < 2 ^ 32 :=
  List.foldlRecOn (motive := (· < 2 ^ 32)) bs _ h (fun _ h b hb' => crcByte_lt hp h (Nat.lt_trans (hb b hb') (by decide)))

theorem crc32_lt (bs : Bytes) (hb : ∀ x ∈ bs, x < 256) : crc32 bs < 4294967296 :=
  Nat.xor_lt_two_pow (n := 32) (foldl_crcByte_lt (by decide) bs hb (by decide)) (by decide)

theorem adler32_lt (bs : Bytes) : adler32 bs < 4294967296 := by
  unfold adler32
  have : ∀ (ab : Nat × Nat), ab.1 < 65521 → ab.2 < 65521 →
      (List.foldl (fun (ab : Nat × Nat) x => ((ab.1 + x) % 65521, (ab.2 + (ab.1 + x) % 65521) % 65521)) ab bs).1 < 65521 ∧
      (List.foldl (fun (ab : Nat × Nat) x => ((ab.1 + x) % 65521, (ab.2 + (ab.1 + x) % 65521) % 65521)) ab bs).2 < 65521 := by
    induction bs with
    | nil => intro ab h1 h2; exact ⟨h1, h2⟩
    | cons b bs ih =>
      intro ab h1 h2
      exact ih _ (Nat.mod_lt _ (by omega)) (Nat.mod_lt _ (by omega))
  have h := this (1, 0) (by omega) (by omega)
  simp only
  omega

theorem ofLe_eq_leVal : ∀ bs : Bytes, ofLe bs = leVal bs
  | [] => rfl
  | b :: bs => congrArg (b + 256 * ·) (ofLe_eq_leVal bs)

theorem le16_eq_leDigits (n : Nat) : le16 n = leDigits 2 n := rfl

theorem le32_eq_leDigits (n : Nat) : le32 n = leDigits 4 n := by
  simp only [le32, leDigits, Nat.div_div_eq_div_mul]

theorem le16_wf (n : Nat) : ∀ x ∈ le16 n, x < 256 := leDigits_wf 2 n

theorem le32_wf (n : Nat) : ∀ x ∈ le32 n, x < 256 := le32_eq_leDigits n ▸ leDigits_wf 4 n

theorem le32_length (n : Nat) : (le32 n).length = 4 := rfl

theorem ofLe_le32 (n : Nat) (h : n < 4294967296) : ofLe (le32 n) = n := by
  rw [le32_eq_leDigits, ofLe_eq_leVal, leVal_leDigits, Nat.mod_eq_of_lt h]

end Zarrs.Inflate
