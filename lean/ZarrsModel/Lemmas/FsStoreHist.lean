import ZarrsModel.Lemmas.FsStoreStep
/- histories: the invariant that lets every operation over a hierarchy-shaped key universe satisfy `opOk` (`HInv`) -/
namespace Zarrs.Fs
open Zarrs

theorem foldl_erase_keys (ks : List Key) (m : KV) (k : Key) (h : k ∈ (ks.foldl KV.erase m).keys) : k ∈ m.keys := by
  induction ks generalizing m with
  | nil => exact h
  | cons x xs ih => exact KV.mem_keys_filter (ih _ h)

theorem foldl_setPartial_keys (kovs : List (Key × Nat × Bytes)) (m : KV) (k : Key)
    (h : k ∈ (kovs.foldl specKov m).keys) :
    k ∈ m.keys ∨ k ∈ kovs.map (·.1) := by
  induction kovs generalizing m with
  | nil => exact Or.inl h
  | cons x xs ih =>
    rcases ih _ h with h' | h'
    · rcases (KV.mem_keys_put m _ _ k).1 h' with rfl | h''
      · right; simp
      · exact Or.inl h''
    · right; simp only [List.map_cons, List.mem_cons]; exact Or.inr h'

theorem Spec.step_keys_subset (m : KV) (op : StoreOp) (k : Key) (h : k ∈ (Spec.step m op).1.keys) :
    k ∈ m.keys ∨ k ∈ opKeys op := by
  cases op with
  | set k0 v =>
    rcases (KV.mem_keys_put m k0 v k).1 h with rfl | h'
    · right; simp [opKeys]
    · exact Or.inl h'
  | setPartial kovs => exact foldl_setPartial_keys kovs m k h
  | erase k0 => exact Or.inl (KV.mem_keys_filter h)
  | eraseValues ks => exact Or.inl (foldl_erase_keys ks m k h)
  | erasePrefix p => exact Or.inl (KV.mem_keys_filter h)
  | _ => exact Or.inl h


structure HInv (U : List Key) (s : FsState) : Prop where
  inv : FsInv s
  keysOk : ∀ k ∈ U, keyOk s k = true

theorem univOk_spec {U : List Key} (h : univOk U = true) :
    (∀ k ∈ U, ∃ path, keyPath k = some path) ∧ ∀ a ∈ U, ∀ b ∈ U, dirPrefixOf a b = false := by
  unfold univOk at h
  simp only [Bool.and_eq_true, List.all_eq_true, compatKeys_iff] at h
  exact ⟨fun k hk => Option.isSome_iff_exists.1 (h.1 k hk), h.2⟩

theorem opIn_keys {U : List Key} {op : StoreOp} (h : opIn U op = true) : ∀ k ∈ opKeys op, k ∈ U := by
  intro k hk
  cases op with
  | erasePrefix _ | sizePrefix _ | listPrefix _ | listDir _ | list => cases hk
  | _ => simpa using List.all_eq_true.1 h k hk

theorem opOk_of_keys (s : FsState) (op : StoreOp) (hk : ∀ k ∈ opKeys op, keyOk s k = true)
    (hc : compatKeys (opKeys op) = true) (hp : ∀ p ∈ opPrefixes op, (prefixPath p).isSome = true) :
    opOk s op = true := by
  cases op with
  | set k _ | erase k | get k | getPartial k _ | sizeKey k => exact hk k (List.mem_singleton.2 rfl)
  | setPartial kovs =>
    simp only [opOk, Bool.and_eq_true, List.all_eq_true]
    exact ⟨fun x hx => hk x.1 (List.mem_map_of_mem hx), hc⟩
  | eraseValues ks => exact List.all_eq_true.2 hk
  | erasePrefix p | sizePrefix p | listPrefix p | listDir p => exact hp p (List.mem_singleton.2 rfl)
  | list => rfl

theorem opIn_prefixes {U : List Key} {op : StoreOp} (h : opIn U op = true) :
    ∀ p ∈ opPrefixes op, (prefixPath p).isSome = true := by
  intro p hp
  cases op with
  | erasePrefix _ | sizePrefix _ | listPrefix _ | listDir _ => cases List.mem_singleton.1 hp; exact h
  | _ => cases hp

theorem HInv.opOk {U : List Key} (hU : univOk U = true) {s : FsState} (h : HInv U s) (op : StoreOp)
    (hop : opIn U op = true) : opOk s op = true :=
  have hmem := opIn_keys hop
  opOk_of_keys s op (fun k hk => h.keysOk k (hmem k hk))
    ((compatKeys_iff _).2 fun a ha b hb => (univOk_spec hU).2 a (hmem a ha) b (hmem b hb)) (opIn_prefixes hop)

theorem HInv.step {U : List Key} (hU : univOk U = true) {s : FsState} (h : HInv U s) (op : StoreOp)
    (hop : opIn U op = true) : HInv U (fsStep s op).1 := by
  have r := fsStep_refines s h.inv op (HInv.opOk hU h op hop)
  have hU2 := (univOk_spec hU).2
  have hkeysU := opIn_keys hop
  exact ⟨fsStep_inv s h.inv op, fun k hk => r.keeps k (h.keysOk k hk) fun k0 hk0 =>
    ⟨hU2 k0 (hkeysU k0 hk0) k hk, hU2 k hk k0 (hkeysU k0 hk0)⟩⟩

theorem HInv.init {U : List Key} (hU : univOk U = true) : HInv U (some .nil) := by
  refine ⟨trivial, fun k hk => ?_⟩
  obtain ⟨path, hkp⟩ := (univOk_spec hU).1 k hk
  apply keyOk_of hkp
  cases path with
  | nil => exact absurd rfl (keyPath_ne_nil hkp)
  | cons n rest => rfl

theorem HInv.run {U : List Key} (hU : univOk U = true) (ops : List StoreOp) (hops : ∀ op ∈ ops, opIn U op = true)
    (s : FsState) (h : HInv U s) :
    HInv U (fsRun s ops) ∧ absFs (fsRun s ops) = specRun (absFs s) ops := by
  induction ops generalizing s with
  | nil => exact ⟨h, rfl⟩
  | cons op rest ih =>
    have hop := hops op (List.mem_cons_self ..)
    have hs := HInv.step hU h op hop
    obtain ⟨i1, i2⟩ := ih (fun o ho => hops o (List.mem_cons_of_mem _ ho)) _ hs
    refine ⟨i1, ?_⟩
    show absFs (fsRun (fsStep s op).1 rest) = specRun (Spec.step (absFs s) op).1 rest
    rw [i2, (fsStep_refines s h.inv op (HInv.opOk hU h op hop)).abs]

end Zarrs.Fs
