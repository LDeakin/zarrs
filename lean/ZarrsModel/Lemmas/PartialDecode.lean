import ZarrsModel.Lemmas.PartialArray
import ZarrsModel.Lemmas.CodecBasic
/- helper lemmas for C02: the `bytes` partial decoder and the array cache -/
namespace Zarrs.Partial
open Zarrs Zarrs.Codec

theorem bytesEnc_flatten (big : Bool) (u : Nat) (hu : 0 < u) (ys : List Bytes) (h : ∀ y ∈ ys, y.length % u = 0) :
    bytesEnc big u ys.flatten = (ys.map (bytesEnc big u)).flatten := by
  unfold bytesEnc
  by_cases hc : (big && decide (u > 1)) = true
  · simp only [hc, if_true]
    rw [groups_flatten u hu ys h, List.flatMap_assoc, List.flatMap_def]
  · simp only [hc]
    simp

theorem bytesEnc_length (big : Bool) (u : Nat) (b : Bytes) (h : b.length % u = 0) :
    (bytesEnc big u b).length = b.length :=
  (bytes_dec_enc' big u b (Or.inr h)).2

theorem bytesPD_region (big : Bool) (es unit : Nat) (sh : Shape) (xs : List Elem) (r : Subset)
    (hes : 0 < es) (hu : 0 < unit) (hdiv : es % unit = 0)
    (hxl : xs.length = prod sh) (hxe : ∀ x ∈ xs, x.length = es)
    (hr : r.wf = true) (hb : r.inboundsShape sh = true) :
    let V := bytesEnc big unit xs.flatten
    let ranges := (r.byteRanges sh es).map (fun p => ByteRange.fromStart p.1 (some p.2))
    (∀ q ∈ ranges, q.valid V.length = true) ∧
    groups es (bytesDec big unit (ranges.map (·.extract V)).flatten) = r.extract sh xs := by
  intro V ranges
  have hmodx : ∀ x ∈ xs, x.length % unit = 0 := fun x hx => by rw [hxe x hx]; exact hdiv
  have hE : ∀ g ∈ xs.map (bytesEnc big unit), g.length = es :=
    List.forall_mem_map.mpr fun x hx => (bytesEnc_length big unit x (hmodx x hx)).trans (hxe x hx)
  have hV : V = (xs.map (bytesEnc big unit)).flatten := bytesEnc_flatten big unit hu xs hmodx
  have hVl : V.length = prod sh * es := by
    rw [hV, flatten_length_of_all es _ hE, List.length_map, hxl]
  have hranges : ranges = (r.contiguousLinearised sh).map
      (fun i => ByteRange.fromStart (i * es) (some ((r.contiguous sh).run * es))) := by
    simp only [ranges, Subset.byteRanges, List.map_map, Function.comp_def]
  refine ⟨?_, ?_⟩
  · rw [hranges]
    refine List.forall_mem_map.mpr fun i hi => ?_
    have := contiguous_bound r sh hr hb i hi
    have h3 := Nat.mul_le_mul_right es this
    rw [Nat.add_mul] at h3
    simp only [ByteRange.valid, Option.getD_some, decide_eq_true_eq, hVl]
    exact h3
  · have hparts : (ranges.map (·.extract V)).flatten =
        (r.extract sh (xs.map (bytesEnc big unit))).flatten := by
      rw [extract_flatten es r sh _ hE, ← hV, hranges, List.map_map, List.flatMap_def]
      refine congrArg List.flatten (List.map_congr_left fun i _ => ?_)
      simp only [Function.comp, ByteRange.extract, ByteRange.start, ByteRange.stop, slice, Nat.add_sub_cancel_left]
    have hxe' : ∀ y ∈ r.extract sh xs, y.length = es := fun y hy => hxe y (mem_extract r sh xs y hy)
    have hmod' : ∀ y ∈ r.extract sh xs, y.length % unit = 0 := fun y hy => by rw [hxe' y hy]; exact hdiv
    rw [hparts, extract_map, ← bytesEnc_flatten big unit hu _ hmod']
    rw [(bytes_dec_enc' big unit _ (Or.inr (by
      rw [flatten_length_of_all es _ hxe']; exact mul_mod_of_mod _ es unit hdiv))).1]
    exact groups_of_flatten es hes _ hxe'

theorem aHandleOk_mapM (f : Subset → Option (List Elem)) (sh : Shape) (xs : List Elem)
    (h : ∀ r : Subset, r.wf = true → r.inboundsShape sh = true → f r = some (r.extract sh xs)) :
    AHandleOk (fun rs => rs.mapM f) sh xs :=
  fun rs hrs => mapM_some_of_forall _ _ rs fun r hr => h r (hrs r hr).1 (hrs r hr).2

theorem bytesPD_ok' (big : Bool) (es unit : Nat) (sh : Shape) (fill : Elem) (h : BHandle) (xs : List Elem)
    (hes : 0 < es) (hu : 0 < unit) (hdiv : es % unit = 0)
    (hxl : xs.length = prod sh) (hxe : ∀ x ∈ xs, x.length = es)
    (hh : BHandleOk h (bytesEnc big unit xs.flatten)) :
    AHandleOk (bytesPD big es unit sh fill h) sh xs := by
  refine aHandleOk_mapM _ sh xs fun r hw hb => ?_
  obtain ⟨hv, hg⟩ := bytesPD_region big es unit sh xs r hes hu hdiv hxl hxe hw hb
  rw [if_neg (by simp [hw, hb]), hh _ hv]
  exact congrArg some hg

theorem bytesPD_absent' (big : Bool) (es unit : Nat) (sh : Shape) (fill : Elem) (h : BHandle)
    (hh : BHandleAbsent h) :
    AHandleOk (bytesPD big es unit sh fill h) sh (List.replicate (prod sh) fill) := by
  refine aHandleOk_mapM _ sh _ fun r hw hb => ?_
  rw [if_neg (by simp [hw, hb]), hh]
  exact congrArg some (extract_replicate r sh fill hw hb).symm

theorem arrayCachePD_ok (sh : Shape) (h : AHandle) (xs : List Elem) (hx : xs.length = prod sh)
    (hh : AHandleOk h sh xs) : AHandleOk (arrayCachePD sh h) sh xs := by
  intro rs hrs
  unfold arrayCachePD
  rw [hh.whole hx]
  exact aHandleOk_mapM _ sh xs (fun r hw hb => by simp [hw, hb]) rs hrs

end Zarrs.Partial
