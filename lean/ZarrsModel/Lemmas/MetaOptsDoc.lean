import ZarrsModel.Model.MetaOpts
import ZarrsModel.Lemmas.MetaOptsAlias
import ZarrsModel.Lemmas.MetaOptsChain
import ZarrsModel.Lemmas.MetaWf
import ZarrsModel.Lemmas.MetaV2
import ZarrsModel.Lemmas.MetaV2Wf
import ZarrsModel.Lemmas.JsonCheck
/- helper lemmas for `Props/C13Opts.lean`: the `_zarrs` attribute (`mapInsert`), and what renaming the codecs and the
   data type of a document keeps (well-formedness, acceptance, the V2 -> V3 interpretation), by the law of the
   renaming function each fact rests on -/
namespace Zarrs.MetaOpts
open Zarrs.Json Zarrs.Meta Zarrs.MetaV2

def setKey (k : Str) (v : J) (kv : Str × J) : Str × J := if kv.1 == k then (kv.1, v) else kv

theorem mapInsert_eq (o : Obj) (k : Str) (v : J) :
    mapInsert o k v = if (lookup o k).isSome then o.map (setKey k v) else o ++ [(k, v)] := rfl

theorem setKey_fst (k : Str) (v : J) (kv : Str × J) : (setKey k v kv).1 = kv.1 := by
  unfold setKey; split <;> rfl

theorem map_setKey_keys (o : Obj) (k : Str) (v : J) : (o.map (setKey k v)).map (·.1) = o.map (·.1) := by
  rw [List.map_map]
  apply List.map_congr_left
  intro kv _
  exact setKey_fst k v kv

theorem lookup_map_setKey (o : Obj) (k : Str) (v : J) : lookup (o.map (setKey k v)) k = (lookup o k).map (fun _ => v) := by
  induction o with
  | nil => rfl
  | cons kv r ih =>
    obtain ⟨a, b⟩ := kv
    rw [List.map_cons]
    by_cases h : (a == k) = true
    · have : setKey k v (a, b) = (a, v) := by simp [setKey, h]
      rw [this, lookup_cons, lookup_cons, h]; rfl
    · have h' : (a == k) = false := by simpa using h
      have : setKey k v (a, b) = (a, b) := by simp [setKey, h']
      rw [this, lookup_cons_ne _ _ _ _ h', lookup_cons_ne _ _ _ _ h', ih]

theorem without_map_setKey (o : Obj) (k : Str) (v : J) : without (o.map (setKey k v)) k = without o k := by
  induction o with
  | nil => rfl
  | cons kv r ih =>
    obtain ⟨a, b⟩ := kv
    unfold without at ih ⊢
    rw [List.map_cons, List.filter_cons, List.filter_cons, ih, setKey_fst]
    by_cases h : (a == k) = true
    · have hne : (a != k) = false := by simp only [bne, h, Bool.not_true]
      simp [hne]
    · have h' : (a == k) = false := by simpa using h
      have : setKey k v (a, b) = (a, b) := by simp [setKey, h']
      rw [this]

theorem lookup_mapInsert (o : Obj) (k : Str) (v : J) : lookup (mapInsert o k v) k = some v := by
  rw [mapInsert_eq]
  cases h : lookup o k with
  | some x => simp only [Option.isSome_some, if_true, lookup_map_setKey, h, Option.map_some]
  | none =>
    simp only [Option.isSome_none, Bool.false_eq_true, if_false, lookup_append, h]
    rw [lookup_cons_eq]; rfl

theorem without_mapInsert (o : Obj) (k : Str) (v : J) : without (mapInsert o k v) k = without o k := by
  rw [mapInsert_eq]
  cases h : lookup o k with
  | some x => simp only [Option.isSome_some, if_true, without_map_setKey]
  | none =>
    simp only [Option.isSome_none, Bool.false_eq_true, if_false]
    unfold without
    rw [List.filter_append]
    simp

theorem mapInsert_absent (o : Obj) (k : Str) (v : J) (h : lookup o k = none) : mapInsert o k v = o ++ [(k, v)] := by
  rw [mapInsert_eq, h]; rfl

theorem mem_mapInsert_val (o : Obj) (k : Str) (v : J) : ∀ kv ∈ mapInsert o k v, (kv.1 == k) = true → kv.2 = v := by
  intro kv hkv hk
  rw [mapInsert_eq] at hkv
  cases h : lookup o k with
  | some x =>
    simp only [h, Option.isSome_some, if_true, List.mem_map] at hkv
    obtain ⟨kv0, _, rfl⟩ := hkv
    rw [setKey_fst] at hk
    simp [setKey, hk]
  | none =>
    simp only [h, Option.isSome_none, Bool.false_eq_true, if_false, List.mem_append, List.mem_cons, List.not_mem_nil,
      or_false] at hkv
    rcases hkv with hm | rfl
    · have := (lookup_eq_none_iff o k).1 h
      have hk' : kv.1 = k := by simpa using hk
      exact absurd (List.mem_map.2 ⟨kv, hm, hk'⟩) this
    · rfl

theorem mapInsert_idem (o : Obj) (k : Str) (v : J) : mapInsert (mapInsert o k v) k v = mapInsert o k v := by
  rw [mapInsert_eq (mapInsert o k v), lookup_mapInsert]
  simp only [Option.isSome_some, if_true]
  have : ∀ kv ∈ mapInsert o k v, setKey k v kv = kv := by
    intro kv hkv
    unfold setKey
    split
    · rename_i hk
      have := mem_mapInsert_val o k v kv hkv hk
      obtain ⟨a, b⟩ := kv
      simp only at this
      rw [this]
    · rfl
  rw [List.map_congr_left this, List.map_id']

theorem mapInsert_wf (o : Obj) (k : Str) (v : J) (ho : (J.obj o).wf) (hk : strOk k) (hv : v.wf) :
    (J.obj (mapInsert o k v)).wf := by
  obtain ⟨h1, h2⟩ := ho
  rw [mapInsert_eq]
  cases h : lookup o k with
  | some x =>
    simp only [Option.isSome_some, if_true]
    refine ⟨?_, ?_⟩
    · rw [wfKVs_iff]
      intro kv hkv
      rw [List.mem_map] at hkv
      obtain ⟨kv0, hkv0, rfl⟩ := hkv
      have := (wfKVs_iff o).1 h1 kv0 hkv0
      unfold setKey
      split
      · exact ⟨this.1, hv⟩
      · exact this
    · unfold keysDistinct
      rw [map_setKey_keys]
      exact h2
  | none =>
    simp only [Option.isSome_none, Bool.false_eq_true, if_false]
    refine ⟨?_, ?_⟩
    · rw [wfKVs_iff]
      intro kv hkv
      simp only [List.mem_append, List.mem_cons, List.not_mem_nil, or_false] at hkv
      rcases hkv with hm | rfl
      · exact (wfKVs_iff o).1 h1 kv hm
      · exact ⟨hk, hv⟩
    · unfold keysDistinct at h2 ⊢
      rw [List.map_append, List.nodup_append]
      refine ⟨h2, by simp, ?_⟩
      intro a ha b hb
      simp only [List.map_cons, List.map_nil, List.mem_cons, List.not_mem_nil, or_false] at hb
      subst hb
      intro e
      subst e
      exact (lookup_eq_none_iff o a).1 h ha

theorem strOk_kZarrs : strOk kZarrs := strOk_ascii _ (by decide +kernel)

theorem zarrsValue_wf : zarrsValue.wf := J.wf_of_check _ (by decide +kernel)

theorem withZarrs_wf (o : Opts) (a : Obj) (h : (J.obj a).wf) : (J.obj (withZarrs o a)).wf := by
  unfold withZarrs
  split
  · exact mapInsert_wf a _ _ h strOk_kZarrs zarrsValue_wf
  · exact h

theorem withZarrs_idem (o : Opts) (a : Obj) : withZarrs o (withZarrs o a) = withZarrs o a := by
  unfold withZarrs
  split
  · exact mapInsert_idem _ _ _
  · rfl

theorem without_withZarrs (o : Opts) (a : Obj) : without (withZarrs o a) kZarrs = without a kZarrs := by
  unfold withZarrs
  split
  · exact without_mapInsert _ _ _
  · rfl

theorem strOk_convert (a : Aliases) (h : a.Ok) (hr : a.aliasesRegex = []) (n : Str) (hn : strOk n) : strOk (a.convert n) := by
  have hi : a.identifier n = (tblGet a.aliasesStr n).getD n := by
    unfold Aliases.identifier
    rw [hr]
    cases tblGet a.aliasesStr n <;> rfl
  unfold Aliases.convert Aliases.defaultName
  rw [hi]
  exact strOk_getD_tbl _ h.nameAscii _ (strOk_getD_tbl _ h.aliasAscii _ hn)

theorem Opts.conv_strOk (o : Opts) (a : Aliases) (h : a.Ok) (hr : a.aliasesRegex = []) (n : Str) (hn : strOk n) :
    strOk (o.conv a n) :=
  o.conv_ind a (P := fun f => strOk (f n)) (strOk_convert a h hr n hn) hn

theorem builtin_not_binary : ∀ n ∈ builtinDataTypes, n ≠ ascii "binary" := by decide +kernel

/-- an accepted data type is never renamed: `binary`, the only aliased name, is not accepted -/
theorem Opts.conv_dataType (o : Opts) (m : MetaV3) (h : dataTypeOk m = true) : rnV3 (o.conv dtypeV3) m = m := by
  have hn : m.name ≠ ascii "binary" := by
    unfold dataTypeOk at h
    simp only [Bool.and_eq_true, Bool.or_eq_true, List.contains_iff_mem] at h
    rcases h.2 with hb | hr
    · exact builtin_not_binary _ hb
    · intro e
      rw [e] at hr
      revert hr
      decide
  exact o.conv_ind dtypeV3 (P := fun f => rnV3 f m = m) (by unfold rnV3; rw [dtypeV3_convert, if_neg hn]) rfl

/-! ### renamed documents

`aliasV3` and `aliasV2` are `rnDoc` and `rnDocV2` at `Aliases.convert`; what `metadataOpt` applies is the same at
`Opts.conv`.  Each fact below names the law of the renaming function it rests on. -/

def rnDoc (f g : Str → Str) (d : ArrayDoc) : ArrayDoc := { d with codecs := d.codecs.map (rnV3 f), dataType := rnV3 g d.dataType }

def rnV2 (f : Str → Str) (m : MetaV2) : MetaV2 := { m with id := f m.id }

def rnDocV2 (f : Str → Str) (d : ArrayDocV2) : ArrayDocV2 :=
  { d with filters := d.filters.map (·.map (rnV2 f)), compressor := d.compressor.map (rnV2 f) }

theorem rnDoc_id (d : ArrayDoc) : rnDoc (fun n => n) (fun n => n) d = d := by
  show ({ d with codecs := d.codecs.map fun m => m } : ArrayDoc) = d
  rw [List.map_id']

theorem rnDocV2_id (d : ArrayDocV2) : rnDocV2 (fun n => n) d = d := by
  show ({ d with filters := d.filters.map (·.map fun m => m), compressor := d.compressor.map fun m => m } : ArrayDocV2) = d
  simp only [List.map_id', Option.map_id']

theorem aliased_eq (o : Opts) (d : ArrayDoc) :
    (if o.convertAliased then aliasV3 d else d) = rnDoc (o.conv codecV3) (o.conv dtypeV3) d := by
  unfold Opts.conv
  cases o.convertAliased
  · exact (rnDoc_id d).symm
  · rfl

theorem aliasedV2_eq (o : Opts) (d : ArrayDocV2) : (if o.convertAliased then aliasV2 d else d) = rnDocV2 (o.conv codecV2) d := by
  unfold Opts.conv
  cases o.convertAliased
  · exact (rnDocV2_id d).symm
  · rfl

theorem rnV3_good (f : Str → Str) (hf : ∀ n, strOk n → strOk (f n)) (m : MetaV3) (h : MetaV3.good m) : MetaV3.good (rnV3 f m) :=
  ⟨hf _ h.1, h.2⟩

theorem rnDoc_good (f g : Str → Str) (hf : ∀ n, strOk n → strOk (f n)) (hg : ∀ n, strOk n → strOk (g n)) (d : ArrayDoc)
    (h : d.good) : (rnDoc f g d).good :=
  { h with
    dt := rnV3_good g hg _ h.dt
    codecs := fun c hc => by
      obtain ⟨c0, hc0, rfl⟩ := List.mem_map.1 hc
      exact rnV3_good f hf _ (h.codecs c0 hc0) }

theorem rnDoc_idem (f g : Str → Str) (hf : ∀ n, f (f n) = f n) (hg : ∀ n, g (g n) = g n) (d : ArrayDoc) :
    rnDoc f g (rnDoc f g d) = rnDoc f g d := by
  simp [rnDoc, rnV3, hf, hg]

theorem aliasV3_idem (d : ArrayDoc) : aliasV3 (aliasV3 d) = aliasV3 d :=
  rnDoc_idem _ _ (codecV3.convert_idem codecV3_ok) (dtypeV3.convert_idem dtypeV3_ok) d

theorem aliasV3_openOk (d : ArrayDoc) (r : Nat) : openOk (aliasV3 d) r = openOk d r := rfl

/-- the names a chain writes are those the document gave, the configurations what the plugins answered -/
theorem metadatas_good (plug : Plug) (hp : PlugOk plug) (o : Opts) (ms : List MetaV3) (ch : Chain)
    (h : chainOf plug ms = some ch) (hms : ∀ m ∈ ms, MetaV3.good m) : ∀ c ∈ ch.metadatas o, MetaV3.good c := by
  intro c hc
  simp only [Chain.metadatas, List.mem_map, List.mem_filter] at hc
  obtain ⟨n, ⟨hn, _⟩, rfl⟩ := hc
  obtain ⟨m, hm, hname, hpl⟩ := chainOf_mem plug ms ch h n hn
  exact good_config _ _ _ (hname ▸ (hms m hm).1) (hp.wf _ _ _ hpl (hms m hm).2)

/-! ### V2 documents: a renaming that keeps the V2 identifiers is not seen by the V2 -> V3 interpretation -/

theorem codecIdent_convert (id : Str) : codecIdent (codecV2.convert id) = codecIdent id := by
  rw [codecIdent_eq, codecIdent_eq]
  exact codecV2.identifier_convert codecV2_ok id

theorem Opts.conv_codecIdent (o : Opts) (id : Str) : codecIdent (o.conv codecV2 id) = codecIdent id :=
  o.conv_ind codecV2 (P := fun f => codecIdent (f id) = codecIdent id) (codecIdent_convert id) rfl

section
variable (f : Str → Str) (hf : ∀ id, codecIdent (f id) = codecIdent id)
include hf

theorem codecsV2ToV3_rn (order : Order) (rank : Nat) (dt : Str) (endian : Option Endian) (filters : Option (List MetaV2))
    (compressor : Option MetaV2) :
    codecsV2ToV3 order rank dt endian (filters.map (·.map (rnV2 f))) (compressor.map (rnV2 f)) =
    codecsV2ToV3 order rank dt endian filters compressor := by
  have h1 : ∀ m, filterToV3 (rnV2 f m) = filterToV3 m := fun m => by simp only [filterToV3, rnV2, hf]
  have h2 : ∀ m, compressorA2B (rnV2 f m) = compressorA2B m := fun m => by simp only [compressorA2B, rnV2, hf]
  have h3 : ∀ m, compressorB2B dt (rnV2 f m) = compressorB2B dt m := fun m => by simp only [compressorB2B, rnV2, hf]
  cases filters <;> cases compressor <;> simp [codecsV2ToV3, codecsHead, Function.comp_def, h1, h2, h3]

theorem v2ToV3_rnDocV2 (d : ArrayDocV2) : v2ToV3 (rnDocV2 f d) = v2ToV3 d := by
  unfold v2ToV3 rnDocV2
  simp only [codecsV2ToV3_rn f hf]

theorem openOkV2_rnDocV2 (d : ArrayDocV2) : openOkV2 (rnDocV2 f d) = openOkV2 d := by
  unfold openOkV2
  rw [v2ToV3_rnDocV2 f hf]
  rfl

end

theorem v2ToV3_attrs (d : ArrayDocV2) (a : Obj) :
    v2ToV3 { d with attrs := a } = (v2ToV3 d).map (fun v => { v with attrs := a }) := by
  unfold v2ToV3
  simp only
  cases d.dtype with
  | structured fs => rfl
  | simple s =>
    simp only
    cases endianOf s with
    | none => rfl
    | some e =>
      simp only
      cases fillConv (dtypeNameV3 s) d.fill with
      | none => rfl
      | some f =>
        simp only
        split
        · rfl
        · cases codecsV2ToV3 d.order d.shape.length (dtypeNameV3 s) e d.filters d.compressor <;> rfl

theorem rnDocV2_shapeOk (f : Str → Str) (d : ArrayDocV2) (h : d.shapeOk) : (rnDocV2 f d).shapeOk := by
  refine { h with comp := ?_, filters := ⟨?_, ?_⟩ }
  · intro m hm
    obtain ⟨c, hc, rfl⟩ := Option.map_eq_some_iff.1 hm
    exact h.comp c hc
  · intro e
    obtain ⟨fs, hf, e'⟩ := Option.map_eq_some_iff.1 e
    rw [List.map_eq_nil_iff.1 e'] at hf
    exact h.filters.1 hf
  · intro fs hfs m hm
    obtain ⟨fs0, hfl, rfl⟩ := Option.map_eq_some_iff.1 hfs
    obtain ⟨m0, hm0, rfl⟩ := List.mem_map.1 hm
    exact h.filters.2 fs0 hfl m0 hm0

theorem rnDocV2_wfParts (f : Str → Str) (hf : ∀ n, strOk n → strOk (f n)) (d : ArrayDocV2) (h : d.wfParts) :
    (rnDocV2 f d).wfParts := by
  refine { h with comp := ?_, filters := ?_ }
  · intro m hm
    obtain ⟨c, hc, rfl⟩ := Option.map_eq_some_iff.1 hm
    exact ⟨hf _ (h.comp c hc).1, (h.comp c hc).2⟩
  · intro fs hfs m hm
    obtain ⟨fs0, hfl, rfl⟩ := Option.map_eq_some_iff.1 hfs
    obtain ⟨m0, hm0, rfl⟩ := List.mem_map.1 hm
    exact ⟨hf _ (h.filters fs0 hfl m0 hm0).1, (h.filters fs0 hfl m0 hm0).2⟩

theorem rnDocV2_idem (f : Str → Str) (hf : ∀ n, f (f n) = f n) (d : ArrayDocV2) : rnDocV2 f (rnDocV2 f d) = rnDocV2 f d := by
  obtain ⟨_, _, _, _ | _, _, _, _ | _, _, _, _⟩ := d <;> simp [rnDocV2, rnV2, hf]

end Zarrs.MetaOpts
