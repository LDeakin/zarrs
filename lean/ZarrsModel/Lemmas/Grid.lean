import ZarrsModel.Model.Grid
import ZarrsModel.Lemmas.Index
/- Chunk grids (C10), one dimension at a time.  What the N-dimensional arguments ask of a dimension is `DimOK`; a dimension
built from a configuration satisfies it — `Dim.new_step` (consecutive chunks are adjacent) serves fixed and varying dimensions
alike, only finding the chunk of an index is a computation for the one (`dimOK_fixed`) and an induction over the running
offsets for the other (`scan_locate`).  The N-dimensional queries are the one-dimensional facts applied to the head and to
the tail, for any grid that satisfies the per-dimension contract `GridOK'`; a grid built from a configuration does
(`gridOK'_new`), a regular grid among them.  The contract also carries the adjacency of consecutive chunks (`DimNext`,
supplied by `dimNext_new`); nothing here or downstream reads that component. -/
namespace Zarrs

theorem zipOpt_cons_some {α β γ} {f : α → β → Option γ} {a : α} {as : List α} {b : β} {bs : List β}
    {l : List γ} :
    zipOpt f (a :: as) (b :: bs) = some l ↔
      ∃ c cs, f a b = some c ∧ zipOpt f as bs = some cs ∧ l = c :: cs := by
  rw [zipOpt]
  cases f a b <;> cases zipOpt f as bs <;> simp [eq_comm]

theorem zipOpt_cons_eq {α β γ} {f : α → β → Option γ} {a : α} {as : List α} {b : β} {bs : List β}
    {c : γ} {cs : List γ} (h1 : f a b = some c) (h2 : zipOpt f as bs = some cs) :
    zipOpt f (a :: as) (b :: bs) = some (c :: cs) :=
  zipOpt_cons_some.mpr ⟨c, cs, h1, h2, rfl⟩

theorem zipOpt_nil_left {α β γ} (f : α → β → Option γ) (bs : List β) : zipOpt f [] bs = some [] := by
  unfold zipOpt; rfl

theorem zipOpt_nil_right {α β γ} (f : α → β → Option γ) (as : List α) : zipOpt f as [] = some [] := by
  cases as <;> (unfold zipOpt; rfl)

theorem zipOpt_length {α β γ} (f : α → β → Option γ) :
    ∀ (as : List α) (bs : List β) (l : List γ), zipOpt f as bs = some l → l.length = min as.length bs.length := by
  intro as
  induction as with
  | nil => intro bs l h; cases (zipOpt_nil_left f bs).symm.trans h; exact (Nat.zero_min _).symm
  | cons a as ih =>
    intro bs l h
    cases bs with
    | nil => cases (zipOpt_nil_right f (a :: as)).symm.trans h; rfl
    | cons b bs =>
      obtain ⟨c, cs, _, h2, rfl⟩ := zipOpt_cons_some.1 h
      rw [List.length_cons, List.length_cons, List.length_cons, ih bs cs h2, Nat.succ_min_succ]

theorem zipOpt_length_of_eq {α β γ} (f : α → β → Option γ) : ∀ (as : List α) (bs : List β) (l : List γ),
    as.length = bs.length → zipOpt f as bs = some l → l.length = as.length :=
  fun as bs l hl h => by rw [zipOpt_length f as bs l h, ← hl, Nat.min_self]

/-- what the N-dimensional arguments need to know about one dimension `d` of a grid over an array
extent `a` with `G` chunks -/
structure DimOK (d : Dim) (a G : Nat) : Prop where
  locate : ∀ i, i < a → ∃ c o s, c < G ∧ d.chunkIndex i = some c ∧ d.origin c = some o ∧
    d.chunkShape c = some s ∧ o ≤ i ∧ i < o + s ∧ d.elemIndex i = some (i - o)
  defined : ∀ c, c < G → ∃ o s, d.origin c = some o ∧ d.chunkShape c = some s ∧ 0 < s
  mono : ∀ c c' o s o', c < c' → c' < G → d.origin c = some o → d.chunkShape c = some s →
    d.origin c' = some o' → o + s ≤ o'

/-- the conjuncts of `DimOK.locate` by name: one dimension of `Grid.Located` -/
structure Dim.Located (d : Dim) (G i c o s : Nat) : Prop where
  inGrid : c < G
  index : d.chunkIndex i = some c
  origin : d.origin c = some o
  shape : d.chunkShape c = some s
  le : o ≤ i
  lt : i < o + s
  elem : d.elemIndex i = some (i - o)

theorem DimOK.located {d : Dim} {a G : Nat} (h : DimOK d a G) (i : Nat) (hi : i < a) : ∃ c o s, d.Located G i c o s :=
  let ⟨c, o, s, h1, h2, h3, h4, h5, h6, h7⟩ := h.locate i hi
  ⟨c, o, s, h1, h2, h3, h4, h5, h6, h7⟩

/-- chunk `c` of `d` holds index `i`: one dimension of `Grid.Meets` and of `Grid.Covered` -/
def Dim.Holds (d : Dim) (c i : Nat) : Prop :=
  ∃ o s, d.origin c = some o ∧ d.chunkShape c = some s ∧ o ≤ i ∧ i < o + s

def DimNext (d : Dim) (G : Nat) : Prop :=
  ∀ c o s, c + 1 < G → d.origin c = some o → d.chunkShape c = some s → d.origin (c + 1) = some (o + s)

theorem DimOK.le_of_lt {d : Dim} {a G : Nat} (h : DimOK d a G) {c c' o o' s' : Nat} (hc : c < G)
    (ho : d.origin c = some o) (ho' : d.origin c' = some o') (hs' : d.chunkShape c' = some s')
    (hlt : o < o' + s') : c ≤ c' :=
  Nat.le_of_not_lt fun hgt => Nat.lt_irrefl _ (Nat.lt_of_lt_of_le hlt (h.mono c' c o' s' o hgt hc ho' hs' ho))

theorem DimOK.mono_le {d : Dim} {a G : Nat} (h : DimOK d a G) {c c' o s o' s' : Nat} (hle : c ≤ c') (hc' : c' < G)
    (ho : d.origin c = some o) (hs : d.chunkShape c = some s) (ho' : d.origin c' = some o')
    (hs' : d.chunkShape c' = some s') : o ≤ o' ∧ o + s ≤ o' + s' := by
  rcases Nat.eq_or_lt_of_le hle with rfl | hlt
  · rw [ho] at ho'; rw [hs] at hs'
    cases ho'; cases hs'
    exact ⟨Nat.le_refl _, Nat.le_refl _⟩
  · have := h.mono c c' o s o' hlt hc' ho hs ho'
    exact ⟨Nat.le_trans (Nat.le_add_right _ _) this, Nat.le_trans this (Nat.le_add_right _ _)⟩

theorem DimOK.uniq {d : Dim} {a G : Nat} (h : DimOK d a G) {c c' o s o' s' i : Nat}
    (hc : c < G) (hc' : c' < G)
    (ho : d.origin c = some o) (hs : d.chunkShape c = some s) (h1 : o ≤ i) (h2 : i < o + s)
    (ho' : d.origin c' = some o') (hs' : d.chunkShape c' = some s') (h1' : o' ≤ i) (h2' : i < o' + s') :
    c' = c :=
  Nat.le_antisymm (h.le_of_lt hc' ho' ho hs (Nat.lt_of_le_of_lt h1' h2))
    (h.le_of_lt hc ho ho' hs' (Nat.lt_of_le_of_lt h1 h2'))

/-- one dimension of `chunks_in_array_subset`; for division by a fixed chunk size, without a grid, this is `chunk_dim`
(Lemmas/IndexAlg), which serves the `Chunks` iterator -/
theorem DimOK.chunksIn {d : Dim} {a G : Nat} (h : DimOK d a G) (st sh : Nat) (hle : st + sh ≤ a)
    (hpos : 0 < sh) :
    ∃ cs ce, d.chunkIndex st = some cs ∧ d.chunkIndex (st + sh - 1) = some ce ∧
      ∀ c, (cs ≤ c ∧ c < cs + (ce - cs + 1)) ↔
        (c < G ∧ ∃ i, d.Holds c i ∧ st ≤ i ∧ i < st + sh) := by
  have hlast : st ≤ st + sh - 1 ∧ st + sh - 1 < st + sh := by omega
  obtain ⟨cs, os, ss, S⟩ := h.located st (by omega)
  obtain ⟨ce, oe, se, E⟩ := h.located (st + sh - 1) (by omega)
  have hcse : cs ≤ ce :=
    h.le_of_lt S.inGrid S.origin E.origin E.shape (Nat.lt_of_le_of_lt (Nat.le_trans S.le hlast.1) E.lt)
  refine ⟨cs, ce, S.index, E.index, fun c => ?_⟩
  rw [lt_add_sub_succ c hcse]
  constructor
  · -- a chunk between the first and the last starts before the region ends and ends after it starts
    rintro ⟨h1, h2⟩
    have hcG : c < G := Nat.lt_of_le_of_lt h2 E.inGrid
    obtain ⟨o, s, ho, hs, hspos⟩ := h.defined c hcG
    have hA := (h.mono_le h1 hcG S.origin S.shape ho hs).2
    have hB := (h.mono_le h2 E.inGrid ho hs E.origin E.shape).1
    obtain ⟨i, ⟨a1, a2⟩, a3, a4⟩ := intervals_meet.mpr
      ⟨⟨Nat.lt_of_le_of_lt (Nat.le_trans hB E.le) hlast.2, Nat.lt_of_lt_of_le S.lt hA⟩, hspos, hpos⟩
    exact ⟨hcG, i, ⟨o, s, ho, hs, a1, a2⟩, a3, a4⟩
  · rintro ⟨hcG, i, ⟨o, s, ho, hs, h1, h2⟩, h3, h4⟩
    exact ⟨h.le_of_lt S.inGrid S.origin ho hs (Nat.lt_of_le_of_lt (Nat.le_trans S.le h3) h2),
      h.le_of_lt hcG ho E.origin E.shape (Nat.lt_of_le_of_lt (Nat.le_trans h1 (Nat.le_sub_one_of_lt h4)) E.lt)⟩

theorem scanOffsets_length : ∀ (sizes : List Nat) (off : Nat), (scanOffsets off sizes).length = sizes.length
  | [], _ => rfl
  | _ :: ss, _ => congrArg (· + 1) (scanOffsets_length ss _)

theorem scanOffsets_map_snd : ∀ (sizes : List Nat) (off : Nat), (scanOffsets off sizes).map (·.2) = sizes
  | [], _ => rfl
  | s :: ss, _ => congrArg (s :: ·) (scanOffsets_map_snd ss _)

theorem lastEnd_cons_cons (p q : Nat × Nat) (l : List (Nat × Nat)) :
    lastEnd (p :: q :: l) = lastEnd (q :: l) := by
  simp [lastEnd, List.getLast?_cons_cons]

theorem lastEnd_scanOffsets (sizes : List Nat) :
    ∀ off, sizes ≠ [] → lastEnd (scanOffsets off sizes) = off + sizes.sum := by
  induction sizes with
  | nil => intro off h; exact absurd rfl h
  | cons s ss ih =>
    intro off _
    cases ss with
    | nil => simp [scanOffsets, lastEnd]
    | cons s' ss' =>
      have := ih (off + s) (by simp)
      simp only [scanOffsets] at this ⊢
      rw [lastEnd_cons_cons, this]
      simp [List.sum_cons]; omega

theorem lastEnd_scanOffsets_zero (sizes : List Nat) : lastEnd (scanOffsets 0 sizes) = sizes.sum := by
  cases sizes with
  | nil => simp [scanOffsets, lastEnd]
  | cons s ss => rw [lastEnd_scanOffsets _ _ (by simp)]; simp

theorem partitionPoint_lt (sizes : List Nat) (off i : Nat) (h : i < off) :
    partitionPoint i (scanOffsets off sizes) = 0 := by
  cases sizes with
  | nil => rfl
  | cons s ss => simp [scanOffsets, partitionPoint]; omega

theorem scan_locate (sizes : List Nat) : ∀ (off i : Nat), off ≤ i → i < off + sizes.sum →
    ∃ c o s, (scanOffsets off sizes)[c]? = some (o, s) ∧
      partitionPoint i (scanOffsets off sizes) = c + 1 ∧ o ≤ i ∧ i < o + s := by
  induction sizes with
  | nil => intro off i h1 h2; simp at h2; omega
  | cons s ss ih =>
    intro off i h1 h2
    simp only [List.sum_cons] at h2
    by_cases hlt : i < off + s
    · refine ⟨0, off, s, by simp [scanOffsets], ?_, h1, hlt⟩
      simp [scanOffsets, partitionPoint, h1, partitionPoint_lt ss (off + s) i hlt]
    · obtain ⟨c, o, s', hget, hpp, hle, hlt'⟩ := ih (off + s) i (by omega) (by omega)
      refine ⟨c + 1, o, s', by simpa [scanOffsets] using hget, ?_, hle, hlt'⟩
      simp [scanOffsets, partitionPoint, h1, hpp]; omega

theorem scan_step : ∀ (sizes : List Nat) (off c o s : Nat),
    (scanOffsets off sizes)[c + 1]? = some (o, s) →
    ∃ o' s', (scanOffsets off sizes)[c]? = some (o', s') ∧ o' + s' = o
  | [], _, _, _, _, h => nomatch h
  | [_], _, 0, _, _, h => nomatch h
  | s0 :: _ :: _, off, 0, _, _, h => by cases h; exact ⟨off, s0, rfl, rfl⟩
  | s0 :: ss, off, c + 1, o, s, h => scan_step ss (off + s0) c o s h

theorem Dim.new_step (cfg : DimCfg) (c o : Nat) (ho : (Dim.new cfg).origin (c + 1) = some o) :
    ∃ o' s', (Dim.new cfg).origin c = some o' ∧ (Dim.new cfg).chunkShape c = some s' ∧ o' + s' = o := by
  cases cfg with
  | fixed s0 =>
    cases ho
    exact ⟨c * s0, s0, rfl, rfl, (Nat.succ_mul c s0).symm⟩
  | varying sizes =>
    simp only [Dim.new, Dim.origin, Dim.chunkShape, Option.map_eq_some_iff] at ho ⊢
    obtain ⟨⟨o1, s1⟩, h1, rfl⟩ := ho
    obtain ⟨o', s', h2, h3⟩ := scan_step sizes 0 c o1 s1 h1
    exact ⟨o', s', ⟨(o', s'), h2, rfl⟩, ⟨(o', s'), h2, rfl⟩, h3⟩

theorem Dim.new_mono (cfg : DimCfg) {c o s : Nat} (ho : (Dim.new cfg).origin c = some o)
    (hs : (Dim.new cfg).chunkShape c = some s) :
    ∀ (c' o' : Nat), c < c' → (Dim.new cfg).origin c' = some o' → o + s ≤ o'
  | 0, _, hlt, _ => absurd hlt (Nat.not_lt_zero _)
  | k + 1, o', hlt, ho' => by
    obtain ⟨ok, sk, hok, hsk, rfl⟩ := Dim.new_step cfg k o' ho'
    rcases Nat.eq_or_lt_of_le (Nat.le_of_lt_succ hlt) with rfl | hlt'
    · cases ho.symm.trans hok
      cases hs.symm.trans hsk
      exact Nat.le_refl _
    · exact Nat.le_trans (Dim.new_mono cfg ho hs k ok hlt' hok) (Nat.le_add_right ..)

/-- `(a + s - 1) / s`, the number of chunks of a fixed dimension, is the least `k` with `a ≤ k * s` -/
theorem ceil_le_iff {s a k : Nat} (hs : 0 < s) : (a + s - 1) / s ≤ k ↔ a ≤ k * s :=
  (Nat.le_mul_iff_le_left hs).symm

theorem ceil_le (s a : Nat) (hs : 0 < s) : a ≤ (a + s - 1) / s * s :=
  (ceil_le_iff hs).1 (Nat.le_refl _)

theorem lt_ceil_iff {s a k : Nat} (hs : 0 < s) : k < (a + s - 1) / s ↔ k * s < a := by
  rw [← Nat.not_le, ceil_le_iff hs, Nat.not_le]

theorem ceil_pred_lt (s a : Nat) (hs : 0 < s) (ha : 0 < a) : ((a + s - 1) / s - 1) * s < a :=
  (lt_ceil_iff hs).1 (Nat.sub_lt ((lt_ceil_iff hs).2 (by rwa [Nat.zero_mul])) Nat.one_pos)

theorem ceil_mul (g c : Nat) (hc : 0 < c) : (g * c + c - 1) / c = g :=
  Nat.le_antisymm ((ceil_le_iff hc).2 (Nat.le_refl _)) (Nat.le_of_mul_le_mul_right (ceil_le c (g * c) hc) hc)

theorem dimOK_fixed (s a : Nat) (hs : 0 < s) : DimOK (.fixed s) a ((a + s - 1) / s) where
  locate := by
    intro i hi
    exact ⟨i / s, i / s * s, s, (Nat.div_lt_iff_lt_mul hs).mpr (Nat.lt_of_lt_of_le hi (ceil_le s a hs)), rfl, rfl, rfl,
      Nat.div_mul_le_self i s, Nat.lt_div_mul_add hs, congrArg some Nat.mod_eq_sub_div_mul⟩
  defined := fun c _ => ⟨c * s, s, rfl, rfl, hs⟩
  mono := fun _ c' _ _ o' hlt _ ho hs ho' => Dim.new_mono (.fixed s) ho hs c' o' hlt ho'

theorem dimOK_varying (sizes : List Nat) (hpos : ∀ p ∈ scanOffsets 0 sizes, 0 < p.2) :
    DimOK (.varying (scanOffsets 0 sizes)) sizes.sum sizes.length where
  locate := by
    intro i hi
    obtain ⟨c, o, s, hget, hpp, hle, hlt⟩ := scan_locate sizes 0 i (Nat.zero_le _) (by omega)
    have hc : c < sizes.length := by
      have := (List.getElem?_eq_some_iff.mp hget).1
      rwa [scanOffsets_length] at this
    have hci : (Dim.varying (scanOffsets 0 sizes)).chunkIndex i = some c := by
      simp [Dim.chunkIndex, lastEnd_scanOffsets_zero, hi, hpp]
    refine ⟨c, o, s, hc, hci, by simp [Dim.origin, hget], by simp [Dim.chunkShape, hget], hle, hlt, ?_⟩
    simp only [Dim.elemIndex, hci]
    simp [Dim.origin, hget]
  defined := by
    intro c hc
    have hc' : c < (scanOffsets 0 sizes).length := by rwa [scanOffsets_length]
    have hget : (scanOffsets 0 sizes)[c]? = some (scanOffsets 0 sizes)[c] := List.getElem?_eq_getElem hc'
    exact ⟨(scanOffsets 0 sizes)[c].1, (scanOffsets 0 sizes)[c].2,
      by simp [Dim.origin, hget], by simp [Dim.chunkShape, hget], hpos _ (List.getElem_mem hc')⟩
  mono := fun _ c' _ _ o' hlt _ ho hs ho' => Dim.new_mono (.varying sizes) ho hs c' o' hlt ho'

theorem dimOK_new (c : DimCfg) (a G : Nat) (hwf : Grid.wfDim (Dim.new c) = true)
    (hG : (Dim.new c).gridShape a = some G) : DimOK (Dim.new c) a G := by
  cases c with
  | fixed s =>
    simp only [Dim.new, Grid.wfDim, decide_eq_true_eq] at hwf
    simp only [Dim.new, Dim.gridShape, Option.some.injEq] at hG
    subst hG
    exact dimOK_fixed s a hwf
  | varying sizes =>
    simp only [Dim.new, Grid.wfDim, List.all_eq_true, decide_eq_true_eq] at hwf
    simp only [Dim.new, Dim.gridShape, lastEnd_scanOffsets_zero, scanOffsets_length] at hG
    split at hG
    · rename_i h
      simp only [beq_iff_eq] at h
      simp only [Option.some.injEq] at hG
      subst h hG
      exact dimOK_varying sizes hwf
    · cases hG

theorem dimNext_new (c : DimCfg) (a G : Nat) (hG : (Dim.new c).gridShape a = some G) :
    DimNext (Dim.new c) G := by
  intro k o s hk ho hs
  -- chunk `k + 1` exists; `Dim.new_step` says where its predecessor ends
  obtain ⟨o1, ho1⟩ : ∃ o1, (Dim.new c).origin (k + 1) = some o1 := by
    cases c with
    | fixed s0 => exact ⟨_, rfl⟩
    | varying sizes =>
      simp only [Dim.new, Dim.gridShape] at hG
      split at hG
      · cases hG
        exact ⟨_, by rw [Dim.new, Dim.origin, List.getElem?_eq_getElem hk]; rfl⟩
      · cases hG
  obtain ⟨o', s', ho', hs', he⟩ := Dim.new_step c k o1 ho1
  cases ho.symm.trans ho'
  cases hs.symm.trans hs'
  rw [ho1, he]

namespace Grid

theorem chunk_cons_inv {d : Dim} {g : Grid} {c0 : Nat} {c o s : List Nat}
    (ho : chunkOrigin (d :: g) (c0 :: c) = some o) (hs : chunkShape (d :: g) (c0 :: c) = some s) :
    ∃ o0 ot s0 st, o = o0 :: ot ∧ s = s0 :: st ∧ (d.origin c0 = some o0 ∧ d.chunkShape c0 = some s0) ∧
      g.chunkOrigin c = some ot ∧ g.chunkShape c = some st := by
  obtain ⟨o0, ot, h1, h2, rfl⟩ := zipOpt_cons_some.mp ho
  obtain ⟨s0, st, h3, h4, rfl⟩ := zipOpt_cons_some.mp hs
  exact ⟨o0, ot, s0, st, rfl, rfl, ⟨h1, h3⟩, h2, h4⟩

theorem subset_eq_some {g : Grid} {c : Idx} {sub : Subset} :
    g.subset c = some sub ↔ ∃ o s, g.chunkOrigin c = some o ∧ g.chunkShape c = some s ∧ sub = ⟨o, s⟩ := by
  unfold Grid.subset
  cases g.chunkOrigin c <;> cases g.chunkShape c <;> simp [eq_comm]

theorem chunksInArraySubset_wf {g : Grid} {r : Subset} {arr : Shape} {chunks : Subset} (hr : r.wf = true)
    (hra : r.rank = arr.length) (h : g.chunksInArraySubset r arr = some chunks) : chunks.wf = true := by
  rw [Subset.wf_iff] at hr ⊢
  unfold Grid.chunksInArraySubset at h
  split at h
  next e he =>
    have hel : e.length = r.start.length := by
      unfold Subset.endInc at he
      split at he
      · cases he
      · cases he
        rw [List.length_map, addIdx_length, ← hr, Nat.min_self]
    have fin : ∀ cs ce : Idx, g.chunkIndices r.start = some cs → ce.length = min g.length r.start.length →
        cs.length = ((Subset.zipSub ce cs).map (· + 1)).length := fun cs ce hcs hce => by
      rw [List.length_map, zipSub_length, hce, zipOpt_length _ _ _ _ hcs, Nat.min_self]
    split at h
    next c hc =>
      dsimp only at h
      split at h
      next cs ce hcs hce => cases h; cases hce; exact fin cs c hcs (by rw [zipOpt_length _ _ _ _ hc, hel])
      next => cases h
    next =>
      dsimp only at h
      split at h
      next cs ce hcs hce => cases h; exact fin cs ce hcs (by rw [zipOpt_length _ _ _ _ hce, ← hra]; rfl)
      next => cases h
  next => cases h; rfl

def Meets (g : Grid) (c st sh : List Nat) : Prop :=
  ∃ o s i, g.chunkOrigin c = some o ∧ g.chunkShape c = some s ∧ Subset.mem i o s = true ∧ Subset.mem i st sh = true

/-- the same through `g.subset` -/
theorem meets_iff {g : Grid} {c st sh : List Nat} :
    Meets g c st sh ↔ ∃ sub i, g.subset c = some sub ∧ sub.contains i = true ∧ Subset.mem i st sh = true := by
  constructor
  · rintro ⟨o, s, i, ho, hs, h1, h2⟩
    exact ⟨⟨o, s⟩, i, subset_eq_some.mpr ⟨o, s, ho, hs, rfl⟩, h1, h2⟩
  · rintro ⟨sub, i, hsub, h1, h2⟩
    obtain ⟨o, s, ho, hs, rfl⟩ := subset_eq_some.mp hsub
    exact ⟨o, s, i, ho, hs, h1, h2⟩

theorem meets_nil : Meets [] [] [] [] := ⟨[], [], [], rfl, rfl, rfl, rfl⟩

theorem meets_cons {d : Dim} {g : Grid} {c0 st0 sh0 : Nat} {c st sh : List Nat} :
    Meets (d :: g) (c0 :: c) (st0 :: st) (sh0 :: sh) ↔
      (∃ i, d.Holds c0 i ∧ st0 ≤ i ∧ i < st0 + sh0) ∧ Meets g c st sh := by
  constructor
  · rintro ⟨o, s, i, ho, hs, hm1, hm2⟩
    obtain ⟨o0, ot, s0, st', rfl, rfl, h0, ht⟩ := chunk_cons_inv ho hs
    match i, hm1, hm2 with
    | i0 :: it, hm1, hm2 =>
      obtain ⟨a1, a2⟩ := Subset.mem_cons_iff.mp hm1
      obtain ⟨b1, b2⟩ := Subset.mem_cons_iff.mp hm2
      exact ⟨⟨i0, ⟨o0, s0, h0.1, h0.2, a1.1, a1.2⟩, b1.1, b1.2⟩, ot, st', it, ht.1, ht.2, a2, b2⟩
  · rintro ⟨⟨i0, ⟨o0, s0, ho0, hs0, h1, h2⟩, h3, h4⟩, o, s, i, ho, hs, hm1, hm2⟩
    exact ⟨o0 :: o, s0 :: s, i0 :: i, zipOpt_cons_eq ho0 ho, zipOpt_cons_eq hs0 hs,
      Subset.mem_cons_iff.mpr ⟨⟨h1, h2⟩, hm1⟩, Subset.mem_cons_iff.mpr ⟨⟨h3, h4⟩, hm2⟩⟩

end Grid

inductive GridOK' : Grid → Shape → Shape → Prop
  | nil : GridOK' [] [] []
  | cons {d : Dim} {a G : Nat} {ds : Grid} {as Gs : Shape} :
      DimOK d a G → DimNext d G → GridOK' ds as Gs → GridOK' (d :: ds) (a :: as) (G :: Gs)

section
open Subset

theorem GridOK'.length {g : Grid} {arr G : Shape} (h : GridOK' g arr G) :
    arr.length = g.length ∧ G.length = g.length := by
  induction h with
  | nil => simp
  | cons _ _ _ ih => simp [ih.1, ih.2]

theorem GridOK'.defined {g : Grid} {arr G : Shape} (h : GridOK' g arr G) :
    ∀ c : Idx, inB c G = true → ∃ o s, g.chunkOrigin c = some o ∧ g.chunkShape c = some s ∧
      o.length = g.length ∧ s.length = g.length ∧ s.any (· == 0) = false := by
  induction h with
  | nil =>
    intro c hc
    match c, hc with
    | [], _ => exact ⟨[], [], rfl, rfl, rfl, rfl, rfl⟩
  | @cons d a G0 ds as Gs hd _ _ ih =>
    intro c hc
    match c, hc with
    | c0 :: ct, hc =>
      obtain ⟨hc0, hct⟩ := inB_cons_iff.mp hc
      obtain ⟨o0, s0, ho0, hs0, hpos⟩ := hd.defined c0 hc0
      obtain ⟨o, s, ho, hs, hlo, hls, hne⟩ := ih ct hct
      exact ⟨o0 :: o, s0 :: s, zipOpt_cons_eq ho0 ho, zipOpt_cons_eq hs0 hs, congrArg Nat.succ hlo,
        congrArg Nat.succ hls, any_zero_cons.mpr ⟨hpos, hne⟩⟩

/-- chunk `c` of `g`: origin `o`, shape `s`, both of the rank of the grid, no extent 0 (`GridOK'.defined`, by name) -/
structure Grid.ChunkAt (g : Grid) (c o s : List Nat) : Prop where
  origin : g.chunkOrigin c = some o
  shape : g.chunkShape c = some s
  originLen : o.length = g.length
  shapeLen : s.length = g.length
  nonempty : s.any (· == 0) = false

theorem GridOK'.chunkAt {g : Grid} {arr G : Shape} (h : GridOK' g arr G) (c : Idx) (hc : inB c G = true) :
    ∃ o s, g.ChunkAt c o s := by
  obtain ⟨o, s, h1, h2, h3, h4, h5⟩ := h.defined c hc
  exact ⟨o, s, h1, h2, h3, h4, h5⟩

theorem GridOK'.disjoint {g : Grid} {arr G : Shape} (h : GridOK' g arr G) :
    ∀ (c c' o s o' s' i : List Nat), inB c G = true → inB c' G = true →
      g.chunkOrigin c = some o → g.chunkShape c = some s →
      g.chunkOrigin c' = some o' → g.chunkShape c' = some s' →
      mem i o s = true → mem i o' s' = true → c' = c := by
  induction h with
  | nil =>
    intro c c' o s o' s' i hc hc'
    match c, c', hc, hc' with
    | [], [], _, _ => exact fun _ _ _ _ _ _ => rfl
  | @cons d a G0 ds as Gs hd _ _ ih =>
    intro c c' o s o' s' i hc hc' ho hs ho' hs' hm hm'
    match c, c', hc, hc' with
    | c0 :: ct, c0' :: ct', hc, hc' =>
      obtain ⟨hc0, hct⟩ := inB_cons_iff.mp hc
      obtain ⟨hc0', hct'⟩ := inB_cons_iff.mp hc'
      obtain ⟨o0, ot, s0, st, rfl, rfl, h0, ht⟩ := Grid.chunk_cons_inv ho hs
      obtain ⟨o0', ot', s0', st', rfl, rfl, h0', ht'⟩ := Grid.chunk_cons_inv ho' hs'
      match i, hm, hm' with
      | i0 :: it, hm, hm' =>
        obtain ⟨m0, mt⟩ := mem_cons_iff.mp hm
        obtain ⟨m0', mt'⟩ := mem_cons_iff.mp hm'
        rw [hd.uniq hc0 hc0' h0.1 h0.2 m0.1 m0.2 h0'.1 h0'.2 m0'.1 m0'.2,
          ih ct ct' ot st ot' st' it hct hct' ht.1 ht.2 ht'.1 ht'.2 mt mt']

end

/-- what the chunk queries say about an element `i`: its chunk `c` below the grid shape `G`, with origin `o` and shape
`s`, and its position `e` inside that chunk (`GridOK'.disjoint`: no other chunk below `G` contains it) -/
structure Grid.Located (g : Grid) (G : Shape) (i c o s e : List Nat) : Prop where
  index : g.chunkIndices i = some c
  inGrid : inB c G = true
  origin : g.chunkOrigin c = some o
  shape : g.chunkShape c = some s
  elem : g.chunkElementIndices i = some e
  add : addIdx e o = i
  elemIn : inB e s = true
  mem : Subset.mem i o s = true

theorem GridOK'.locate {g : Grid} {arr G : Shape} (h : GridOK' g arr G) :
    ∀ i : Idx, inB i arr = true → ∃ c o s e, g.Located G i c o s e := by
  induction h with
  | nil =>
    intro i hi
    match i, hi with
    | [], _ => exact ⟨[], [], [], [], rfl, rfl, rfl, rfl, rfl, rfl, rfl, rfl⟩
  | @cons d a G0 ds as Gs hd _ _ ih =>
    intro i hi
    match i, hi with
    | i0 :: is, hi =>
      obtain ⟨hi0, his⟩ := inB_cons_iff.mp hi
      obtain ⟨c0, o0, s0, L0⟩ := hd.located i0 hi0
      obtain ⟨c, o, s, e, ih⟩ := ih is his
      exact ⟨c0 :: c, o0 :: o, s0 :: s, (i0 - o0) :: e, zipOpt_cons_eq L0.index ih.index,
        inB_cons_iff.mpr ⟨L0.inGrid, ih.inGrid⟩, zipOpt_cons_eq L0.origin ih.origin, zipOpt_cons_eq L0.shape ih.shape,
        zipOpt_cons_eq L0.elem ih.elem, by rw [addIdx, ih.add, Nat.sub_add_cancel L0.le],
        inB_cons_iff.mpr ⟨Nat.sub_lt_left_of_lt_add L0.le L0.lt, ih.elemIn⟩,
        Subset.mem_cons_iff.mpr ⟨⟨L0.le, L0.lt⟩, ih.mem⟩⟩

/-- `chunks_in_array_subset`, N-dimensional, on the start/shape lists of the region -/
theorem GridOK'.chunksIn {g : Grid} {arr G : Shape} (h : GridOK' g arr G) :
    ∀ st sh : List Nat, st.length = g.length → sh.length = g.length →
    Subset.allLe (addIdx st sh) arr = true → sh.any (· == 0) = false →
    ∃ cs ce, g.chunkIndices st = some cs ∧ g.chunkIndices ((addIdx st sh).map (· - 1)) = some ce ∧
      ∀ c, Subset.mem c cs ((Subset.zipSub ce cs).map (· + 1)) = true ↔ (inB c G = true ∧ g.Meets c st sh) := by
  induction h with
  | nil =>
    intro st sh hst hsh _ _
    match st, sh, hst, hsh with
    | [], [], _, _ =>
      refine ⟨[], [], rfl, rfl, fun c => ?_⟩
      cases c with
      | nil => exact ⟨fun _ => ⟨rfl, Grid.meets_nil⟩, fun _ => rfl⟩
      | cons _ _ => exact ⟨fun h => (nomatch h), fun h => (nomatch h.1)⟩
  | @cons d a G0 ds as Gs hd _ _ ih =>
    intro st sh hst hsh hle hne
    match st, sh, hst, hsh with
    | st0 :: stt, sh0 :: sht, hst, hsh =>
      obtain ⟨hle0, hlet⟩ := Subset.allLe_cons_iff.mp hle
      obtain ⟨hne0, hnet⟩ := any_zero_cons.mp hne
      obtain ⟨cs0, ce0, hcs0, hce0, hiff0⟩ := hd.chunksIn st0 sh0 hle0 hne0
      obtain ⟨cs, ce, hcs, hce, hiff⟩ := ih stt sht (Nat.succ.inj hst) (Nat.succ.inj hsh) hlet hnet
      refine ⟨cs0 :: cs, ce0 :: ce, zipOpt_cons_eq hcs0 hcs, zipOpt_cons_eq hce0 hce, fun c => ?_⟩
      cases c with
      | nil => exact ⟨fun h => (nomatch h), fun h => (nomatch h.1)⟩
      | cons c0 ct =>
        rw [Subset.zipSub, List.map_cons, Subset.mem_cons_iff, hiff0 c0, hiff ct, inB_cons_iff]
        exact and_and_and_comm.trans (and_congr_right' Grid.meets_cons.symm)

theorem Grid.Located.subset {g : Grid} {G : Shape} {i c o s e : List Nat} (L : g.Located G i c o s e) :
    g.subset c = some ⟨o, s⟩ :=
  Grid.subset_eq_some.mpr ⟨o, s, L.origin, L.shape, rfl⟩

theorem GridOK'.located_unique {g : Grid} {arr G : Shape} (h : GridOK' g arr G) {i c o s e : List Nat}
    (L : g.Located G i c o s e) {c' : Idx} {sub' : Subset} (hc' : inB c' G = true) (hsub' : g.subset c' = some sub')
    (hcont : sub'.contains i = true) : c' = c := by
  obtain ⟨o', s', ho', hs', rfl⟩ := Grid.subset_eq_some.mp hsub'
  exact h.disjoint c c' o s o' s' i L.inGrid hc' L.origin L.shape ho' hs' L.mem hcont

theorem GridOK'.partition {g : Grid} {arr G : Shape} (h : GridOK' g arr G) (i : Idx) (hi : inB i arr = true) :
    ∃ c sub, g.chunkIndices i = some c ∧ inB c G = true ∧ g.subset c = some sub ∧ sub.contains i = true ∧
      ∀ c' sub', inB c' G = true → g.subset c' = some sub' → sub'.contains i = true → c' = c := by
  obtain ⟨c, o, s, e, hl⟩ := h.locate i hi
  exact ⟨c, ⟨o, s⟩, hl.index, hl.inGrid, hl.subset, hl.mem, fun c' sub' => h.located_unique hl⟩

theorem GridOK'.chunksInSubset {g : Grid} {arr G : Shape} (h : GridOK' g arr G) (r : Subset) (hr : r.wf = true)
    (hb : r.inboundsShape arr = true) (hne : r.isEmpty = false) :
    ∃ box, g.chunksInArraySubset r arr = some box ∧
      ∀ c, box.contains c = true ↔
        (inB c G = true ∧ ∃ sub i, g.subset c = some sub ∧ sub.contains i = true ∧ r.contains i = true) := by
  obtain ⟨st, sh⟩ := r
  simp only [Subset.wf_iff] at hr
  simp only [Subset.inboundsShape_iff_allLe] at hb
  simp only [Subset.isEmpty] at hne
  have hl : st.length = g.length := hb.1.trans h.length.1
  obtain ⟨cs, ce, hcs, hce, hiff⟩ := h.chunksIn st sh hl (hr.symm.trans hl) hb.2 hne
  refine ⟨⟨cs, (Subset.zipSub ce cs).map (· + 1)⟩, ?_, ?_⟩
  · simp only [Grid.chunksInArraySubset, Subset.endInc, Subset.isEmpty, hne, Bool.false_eq_true,
      if_false, hce, hcs]
  · exact fun c => (hiff c).trans (and_congr_right' Grid.meets_iff)

theorem gridOK'_new : ∀ (cfg : List DimCfg) (arr G : Shape), (Grid.new cfg).wf = true →
    (Grid.new cfg).gridShape arr = some G → arr.length = cfg.length → GridOK' (Grid.new cfg) arr G
  | [], [], G, _, hG, _ => by
    cases (zipOpt_nil_left ..).symm.trans hG
    exact .nil
  | c :: cfg, a :: as, G, hwf, hG, hlen => by
    simp only [Grid.new, List.map_cons, Grid.wf, List.all_cons, Bool.and_eq_true] at hwf
    obtain ⟨G0, Gs, h0, hs, rfl⟩ := zipOpt_cons_some.mp hG
    exact .cons (dimOK_new c a G0 hwf.1 h0) (dimNext_new c a G0 h0)
      (gridOK'_new cfg as Gs hwf.2 hs (Nat.succ.inj hlen))

theorem regular_eq_new (cs : Shape) : Grid.regular cs = Grid.new (cs.map DimCfg.fixed) := by
  simp only [Grid.regular, Grid.new, List.map_map]
  apply List.map_congr_left
  intro a _
  rfl

theorem regular_wf (cs : Shape) (hpos : ∀ k ∈ cs, 0 < k) : (Grid.regular cs).wf = true := by
  simp only [Grid.wf, Grid.regular, List.all_map, List.all_eq_true]
  intro k hk
  simp only [Function.comp, Grid.wfDim, decide_eq_true_eq]
  exact hpos k hk

theorem regular_chunkShape : ∀ (cs : Shape) (c : Idx), c.length = cs.length →
    (Grid.regular cs).chunkShape c = some cs
  | [], [], _ => rfl
  | _ :: cs, _ :: c, h => zipOpt_cons_eq (f := fun (d : Dim) c => d.chunkShape c) rfl
    (regular_chunkShape cs c (Nat.succ.inj h))

theorem regular_chunkIndices_some : ∀ (cs : Shape) (e : Idx), ∃ c, (Grid.regular cs).chunkIndices e = some c
  | [], _ => ⟨[], zipOpt_nil_left ..⟩
  | _ :: _, [] => ⟨[], rfl⟩
  | s :: cs, i :: e => (regular_chunkIndices_some cs e).elim fun c hc => ⟨(i / s) :: c, zipOpt_cons_eq rfl hc⟩

theorem regular_gridShape_some : ∀ (cs arr : Shape), ∃ G, (Grid.regular cs).gridShape arr = some G
  | [], _ => ⟨[], zipOpt_nil_left ..⟩
  | _ :: _, [] => ⟨[], rfl⟩
  | s :: cs, a :: arr => (regular_gridShape_some cs arr).elim fun G hG => ⟨((a + s - 1) / s) :: G, zipOpt_cons_eq rfl hG⟩

/-- on a regular grid `chunks_in_array_subset` does not depend on the array shape (the fall-back to the grid
shape is only taken when `chunk_indices` fails) -/
theorem regular_chunksIn_indep (cs : Shape) (r : Subset) (arr arr' : Shape) :
    (Grid.regular cs).chunksInArraySubset r arr = (Grid.regular cs).chunksInArraySubset r arr' := by
  simp only [Grid.chunksInArraySubset]
  cases r.endInc with
  | none => rfl
  | some e =>
    obtain ⟨c, hc⟩ := regular_chunkIndices_some cs e
    simp only [hc]

theorem gridOK'_regular (cs arr G : Shape) (hwf : (Grid.regular cs).wf = true)
    (hG : (Grid.regular cs).gridShape arr = some G) (hlen : arr.length = cs.length) :
    GridOK' (Grid.regular cs) arr G := by
  rw [regular_eq_new] at hwf hG ⊢
  exact gridOK'_new _ arr G hwf hG (hlen.trans (List.length_map ..).symm)

end Zarrs
