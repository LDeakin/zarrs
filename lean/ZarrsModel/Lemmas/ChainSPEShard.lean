import ZarrsModel.Lemmas.ChainSPEElems
import ZarrsModel.Lemmas.ChainSPEPlan
/- C05 on chains, one sharding level, layer by layer (the sharding case of `level_step`, Lemmas/ChainSPETop.lean, puts
them together): what the encoder finds through its handle (`PEOld`, `level_index`), the updates `peEncode` hands to
`ShardPE.partialEncode` (`peEncode_apply`), and that the stored inner chunks keep holding the pieces
(`ChunksHold.update`). -/
namespace Zarrs.Partial
open Zarrs Zarrs.Codec Zarrs.Subset Zarrs.Shard Zarrs.ShardPE

theorem peEncode_mem (fill : Elem) (enc : List Elem → Bytes) (st : List (Option (List Elem))) (i : Nat)
    (ch : Option Bytes) :
    (i, ch) ∈ peEncode fill enc st ↔
      i < st.length ∧ ∃ x, st.getD i none = some x ∧ ch = (if x.all (· == fill) then none else some (enc x)) := by
  simp only [peEncode, List.mem_filterMap, List.mem_range]
  constructor
  · rintro ⟨j, hj, hm⟩
    cases hs : st.getD j none with
    | none => rw [hs] at hm; cases hm
    | some x =>
      rw [hs] at hm
      simp only [Option.some.injEq, Prod.mk.injEq] at hm
      obtain ⟨rfl, rfl⟩ := hm
      exact ⟨hj, x, hs, rfl⟩
  · rintro ⟨hi, x, hx, rfl⟩
    exact ⟨i, hi, by rw [hx]⟩

theorem peEncode_nodup (fill : Elem) (enc : List Elem → Bytes) (st : List (Option (List Elem))) :
    ((peEncode fill enc st).map (·.1)).Nodup := by
  unfold peEncode
  rw [filterMap_keys _ (by
    intro i p hp
    cases hs : st.getD i none with
    | none => rw [hs] at hp; cases hp
    | some x => rw [hs] at hp; cases hp; rfl)]
  exact List.Nodup.sublist List.filter_sublist List.nodup_range

theorem peEncode_updatesOk (fill : Elem) (enc : List Elem → Bytes) (st : List (Option (List Elem))) (c : Cfg)
    (hn : st.length = c.nChunks) : UpdatesOk c (peEncode fill enc st) :=
  ⟨fun u hu => hn ▸ ((peEncode_mem fill enc st u.1 u.2).mp hu).1, peEncode_nodup fill enc st⟩

theorem peEncode_key_iff (fill : Elem) (enc : List Elem → Bytes) (st : List (Option (List Elem))) (i : Nat)
    (hi : i < st.length) :
    i ∈ (peEncode fill enc st).map (·.1) ↔ ∃ x, st.getD i none = some x := by
  constructor
  · intro h
    obtain ⟨u, hu, rfl⟩ := List.mem_map.mp h
    obtain ⟨_, x, hx, _⟩ := (peEncode_mem fill enc st u.1 u.2).mp hu
    exact ⟨x, hx⟩
  · rintro ⟨x, hx⟩
    exact List.mem_map.mpr ⟨(i, _), (peEncode_mem fill enc st i _).mpr ⟨hi, x, hx, rfl⟩, rfl⟩

theorem peEncode_size (fill : Elem) (enc : List Elem → Bytes) (st : List (Option (List Elem))) (M : Nat)
    (h : ∀ i x, st.getD i none = some x → (enc x).length ≤ M) :
    (dataNew (peEncode fill enc st)).length ≤ st.length * M := by
  rw [dataNew_length]
  have h1 : ∀ b ∈ ((peEncode fill enc st).filterMap (·.2)).map List.length, b ≤ M := by
    intro b hb
    obtain ⟨y, hy, rfl⟩ := List.mem_map.mp hb
    obtain ⟨u, hu, huy⟩ := List.mem_filterMap.mp hy
    obtain ⟨_, x, hx, hch⟩ := (peEncode_mem fill enc st u.1 u.2).mp hu
    rw [hch] at huy
    split at huy
    · cases huy
    · cases huy; exact h _ x hx
  have h2 : (((peEncode fill enc st).filterMap (·.2)).map List.length).length ≤ st.length := by
    rw [List.length_map]
    refine Nat.le_trans (List.length_filterMap_le _ _) ?_
    unfold peEncode
    refine Nat.le_trans (List.length_filterMap_le _ _) ?_
    simp
  have := sum_le_of_bound _ M h1
  exact Nat.le_trans this (Nat.mul_le_mul_right M h2)

/-- from an absent value the only request `peRead` can make is the empty one: the right disjunct of `PEOld.read` -/
theorem peOld_absent (h : BHandle) (hh : BHandleAbsent h) (n : Nat) :
    PEOld (List.replicate n (sentinel, sentinel)) (List.replicate n none) h n := by
  refine ⟨by simp, by simp, ?_, ?_⟩
  · intro i e he
    rw [List.getElem?_replicate] at he
    split at he
    · cases he
      constructor
      · intro hl; simp [isLive] at hl
      · rintro ⟨b, hb⟩
        rw [List.getElem?_replicate] at hb
        split at hb <;> cases hb
    · cases he
  · intro want hw
    right
    have : want = [] := by
      cases want with
      | nil => rfl
      | cons a as =>
        obtain ⟨b, hb⟩ := hw a (by simp)
        rw [List.getElem?_replicate] at hb
        split at hb <;> cases hb
    exact ⟨this, hh _⟩

theorem peOld_present (c : Cfg) (h : BHandle) (v : Bytes) (chunks : List (Option Bytes))
    (hh : BHandleOk h v) (hdec : decode c true v = .ok chunks) (hwf : wellFormed c v = true) :
    ∃ idx ib, indexBytes c v = some ib ∧ decodeIndex c true ib = .ok idx ∧ currentIndex c (some v) = some idx ∧
      PEOld idx chunks h c.nChunks := by
  obtain ⟨ib, idx', T⟩ := table_of hdec hwf
  obtain ⟨hlc, hpt⟩ := (mapM_ok_iff _ _ _).mp T.dec
  refine ⟨idx', ib, T.hib, T.hdi, currentIndex_of_table T, T.len, T.chunks_len, ?_, ?_⟩
  · intro i e he
    obtain ⟨ch, hch, hde⟩ := hpt i e he
    rcases (decEntry_ok_iff v e ch).mp hde with ⟨hl, rfl⟩ | ⟨hl, _, rfl⟩
    · simp [hl, hch]
    · simp [hl, hch]
  · intro want hw
    left
    have hfacts : ∀ i ∈ want, (ByteRange.fromStart (idx'.getD i (0, 0)).1 (some (idx'.getD i (0, 0)).2)).valid v.length = true ∧
        (ByteRange.fromStart (idx'.getD i (0, 0)).1 (some (idx'.getD i (0, 0)).2)).extract v = (chunks.getD i none).getD [] := by
      intro i hi
      obtain ⟨b, hb⟩ := hw i hi
      have hic : i < chunks.length := (List.getElem?_eq_some_iff.mp hb).1
      have hii : i < idx'.length := by rw [hlc]; exact hic
      obtain ⟨ch, hch, hde⟩ := hpt i idx'[i] (List.getElem?_eq_getElem hii)
      rw [hb] at hch
      cases hch
      rcases (decEntry_ok_iff v _ _).mp hde with ⟨_, h⟩ | ⟨_, hle, h⟩
      · cases h
      · simp only [List.getD_eq_getElem?_getD, List.getElem?_eq_getElem hii, Option.getD_some, hb]
        refine ⟨by simp only [ByteRange.valid, Option.getD_some, decide_eq_true_eq]; omega, ?_⟩
        simp only [ByteRange.extract, ByteRange.start, ByteRange.stop]
        exact (Option.some.inj h).symm
    rw [hh _ (by
      intro r hr
      obtain ⟨i, hi, rfl⟩ := List.mem_map.mp hr
      exact (hfacts i hi).1)]
    congr 2
    rw [List.map_map]
    apply List.map_congr_left
    intro i hi
    exact (hfacts i hi).2

/-- the index read through the handle is none for an absent value, which stands for the all-sentinel index: the entries
`shardPE` goes on with (second conjunct, in the form its `getD` leaves) are the current index in both cases -/
theorem level_index (cfg : Cfg) (ish shB : Shape) (b2b : List BStage) (ht : tiles ish shB = true)
    (hb : ∀ st ∈ b2b, BOk st) (v0 : Option Bytes) (chunks : List (Option Bytes))
    (hSt : St { cfg with nChunks := prod (zipDiv shB ish) } v0 chunks) :
    ∃ idx, shardIndexPD cfg true shB ish (bStack b2b (v0.map (encB b2b))) = some (v0.map fun _ => idx) ∧
      (v0.map fun _ => idx).getD (List.replicate (prod (zipDiv shB ish)) (sentinel, sentinel)) = idx ∧
      currentIndex { cfg with nChunks := prod (zipDiv shB ish) } v0 = some idx ∧
      PEOld idx chunks (bStack b2b (v0.map (encB b2b))) (prod (zipDiv shB ish)) := by
  cases v0 with
  | none =>
    have hc : chunks = List.replicate (prod (zipDiv shB ish)) none := hSt
    have hh := bStack_absent b2b
    exact ⟨_, shardIndexPD_absent cfg true ht hh, rfl, rfl, by rw [hc]; exact peOld_absent _ hh _⟩
  | some d =>
    obtain ⟨hdec, hwf, _⟩ := hSt.of_some
    have hh := bStack_ok b2b hb d
    obtain ⟨idx, ib, hib, hdi, hcur, hO⟩ := peOld_present _ _ d chunks hh hdec hwf
    refine ⟨idx, ?_, rfl, hcur, hO⟩
    rw [← shardIndexPD_cfg cfg (prod (zipDiv shB ish))]
    exact shardIndexPD_legal _ true ht rfl d ib hh hib hdi

theorem peEncode_apply (fill : Elem) (enc : List Elem → Bytes) (chunks : List (Option Bytes))
    (st : List (Option (List Elem))) (hl : st.length = chunks.length) (i : Nat) (hi : i < chunks.length) :
    (applyUpdates chunks (peEncode fill enc st))[i]? = some (match st.getD i none with
      | some x => if x.all (· == fill) then none else some (enc x)
      | none => chunks[i]) := by
  cases hs : st.getD i none with
  | some x =>
    exact setAll_mem chunks _ (peEncode_nodup fill enc st) i _
      ((peEncode_mem fill enc st i _).mpr ⟨by rw [hl]; exact hi, x, hs, rfl⟩) hi
  | none =>
    rw [applyUpdates_untouched chunks _ i fun hk => by
      obtain ⟨x, hx⟩ := (peEncode_key_iff fill enc st i (by rw [hl]; exact hi)).mp hk
      rw [hs] at hx; cases hx]
    exact List.getElem?_eq_getElem hi

theorem ChunksHold.update {fill : Elem} {ish : Shape} {R : Bytes → List Elem → Prop} {chunks : List (Option Bytes)}
    {pieces pieces' : List (List Elem)} (h : ChunksHold fill ish R chunks pieces) (enc : List Elem → Bytes)
    (st : List (Option (List Elem))) (hl : st.length = chunks.length) (hpl : pieces'.length = pieces.length)
    (hst : ∀ i, i < chunks.length → match st.getD i none with
      | some x => pieces'[i]? = some x
      | none => pieces'[i]? = pieces[i]?)
    (hp : ∀ p ∈ pieces', p.length = prod ish) (hR : ∀ p ∈ pieces', R (enc p) p) :
    ChunksHold fill ish R (applyUpdates chunks (peEncode fill enc st)) pieces' := by
  refine ⟨by rw [applyUpdates_length, h.1, hpl], fun i h1' h2 => ?_⟩
  have h1 : i < chunks.length := by rw [applyUpdates_length] at h1'; exact h1'
  have hget := (List.getElem?_eq_some_iff.mp (peEncode_apply fill enc chunks st hl i h1)).2
  have hs := hst i h1
  rw [hget]
  cases hx : st.getD i none with
  | some x =>
    rw [hx] at hs
    simp only at hs ⊢
    have hxe : pieces'[i] = x := (List.getElem?_eq_some_iff.mp hs).2
    have hm : x ∈ pieces' := hxe ▸ List.getElem_mem h2
    rw [hxe]
    by_cases hall : x.all (· == fill) = true
    · rw [if_pos hall]
      exact (all_beq_iff_replicate fill x _ (hp x hm)).mp hall
    · rw [if_neg hall]
      exact ⟨fun h => hall ((all_beq_iff_replicate fill x _ (hp x hm)).mpr h), hR x hm⟩
  | none =>
    rw [hx] at hs
    simp only at hs ⊢
    have h2o : i < pieces.length := by rw [← hpl]; exact h2
    have e2 : pieces'[i] = pieces[i] := by
      rw [List.getElem?_eq_getElem h2, List.getElem?_eq_getElem h2o] at hs
      exact Option.some.inj hs
    rw [e2]
    exact h.2 i h1 h2o

end Zarrs.Partial
