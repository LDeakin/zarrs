import ZarrsModel.Model.MemConc
/- The sequential specification and its checker as list facts.  `perms` enumerates every permutation
(`mem_perms_of_perm`), so the executable checker `linearizable` misses no order. -/
namespace Zarrs.MemConc

theorem legalSeq_cons (a : Option Bytes) (d : Done) (ds : List Done) :
    legalSeq a (d :: ds) = if (specStep a d.op).2 = d.res then legalSeq (specStep a d.op).1 ds else none := by
  simp only [legalSeq, beq_iff_eq]

theorem legalSeq_append (a : Option Bytes) (l1 l2 : List Done) :
    legalSeq a (l1 ++ l2) = (legalSeq a l1).bind (fun a' => legalSeq a' l2) := by
  induction l1 generalizing a with
  | nil => rfl
  | cons d ds ih =>
    rw [List.cons_append, legalSeq_cons, legalSeq_cons]
    split
    · exact ih _
    · rfl

theorem legalSeq_snoc {a A : Option Bytes} {l : List Done} {d : Done}
    (h : legalSeq a l = some A) (hr : (specStep A d.op).2 = d.res) :
    legalSeq a (l ++ [d]) = some (specStep A d.op).1 := by
  rw [legalSeq_append, h, Option.bind_some, legalSeq_cons, if_pos hr]
  rfl

theorem legalSeq_map_congr {α} (f g : α → Done) (l : List α) (a : Option Bytes)
    (h : ∀ e ∈ l, (f e).op = (g e).op ∧ (f e).res = (g e).res) : legalSeq a (l.map f) = legalSeq a (l.map g) := by
  induction l generalizing a with
  | nil => rfl
  | cons e es ih =>
    have he := h e List.mem_cons_self
    rw [List.map_cons, List.map_cons, legalSeq_cons, legalSeq_cons, he.1, he.2,
      ih _ (fun e' he' => h e' (List.mem_cons_of_mem _ he'))]

theorem respectsRealTime_iff (l : List Done) :
    respectsRealTime l = true ↔ l.Pairwise (fun d e => ¬ e.resp < d.inv) := by
  induction l with
  | nil => simp [respectsRealTime]
  | cons d ds ih =>
    simp only [respectsRealTime, Bool.and_eq_true, List.all_eq_true, Bool.not_eq_eq_eq_not, Bool.not_true,
      decide_eq_false_iff_not, List.pairwise_cons, ih]

theorem mem_perms_of_perm {α} {ops order : List α} (h : order.Perm ops) : order ∈ perms ops := by
  induction ops generalizing order with
  | nil => rw [h.eq_nil]; exact List.mem_singleton_self _
  | cons x xs ih =>
    obtain ⟨a, b, rfl⟩ := List.append_of_mem (h.symm.subset List.mem_cons_self)
    simp only [perms, List.mem_flatMap, List.mem_map, List.mem_range]
    refine ⟨a ++ b, ih (List.perm_middle.symm.trans h).cons_inv, a.length, ?_, ?_⟩
    · rw [List.length_append]
      exact Nat.lt_succ_of_le (Nat.le_add_right _ _)
    · rw [List.take_left, List.drop_left]

end Zarrs.MemConc
