import ZarrsModel.Model.ChainSPE
import ZarrsModel.Lemmas.ArrayPaste
import ZarrsModel.Lemmas.ChainSDecShard
/- C05 on chains: the element level of the sharding partial encoder (`shardPEElems`), in the words of `ShardPD` (cell,
piece, item). At the head what a region write has to satisfy (`writeOk`), what the writes of one call leave
(`applyRegionWrites`, which `applyWrites` computes: `applyWrites_eq`), and the write of a whole chunk (`*_whole`). `PEInv` ties the map of decoded pieces to the pieces of the shard as updated by the writes so far. It holds
because a cell met by a write but not read either lies inside the write (`not_straddles_sub`), so the fill-value piece it
is started from is overwritten entirely, or is not stored, and then its piece is the fill-value piece. -/
namespace Zarrs.Partial
open Zarrs Zarrs.Codec Zarrs.Subset Zarrs.Shard

def writeOk (es : Nat) (sh : Shape) (w : RWrite) : Prop :=
  w.1.wf = true ∧ w.1.inboundsShape sh = true ∧ w.2.length = w.1.numElements ∧ ∀ y ∈ w.2, y.length = es

theorem writeOk.wf {es : Nat} {sh : Shape} {w : RWrite} (h : writeOk es sh w) : w.1.wf = true := h.1
theorem writeOk.inbounds {es : Nat} {sh : Shape} {w : RWrite} (h : writeOk es sh w) : w.1.inboundsShape sh = true := h.2.1
theorem writeOk.length {es : Nat} {sh : Shape} {w : RWrite} (h : writeOk es sh w) : w.2.length = w.1.numElements := h.2.2.1
theorem writeOk.elems {es : Nat} {sh : Shape} {w : RWrite} (h : writeOk es sh w) : ∀ y ∈ w.2, y.length = es := h.2.2.2

/-- what a full rewrite stores after the region writes of one call -/
def applyRegionWrites (sh : Shape) (old : List Elem) (ws : List RWrite) : List Elem :=
  ws.foldl (fun cur w => updateRuns sh w.1 cur w.2) old

theorem applyRegionWrites_cons (shard : Shape) (old : List Elem) (w : RWrite) (ws : List RWrite) :
    applyRegionWrites shard old (w :: ws) = applyRegionWrites shard (updateRuns shard w.1 old w.2) ws := rfl

theorem applyWrites_eq (es : Nat) (sh : Shape) : ∀ (ws : List RWrite) (xs : List Elem),
    (∀ w ∈ ws, writeOk es sh w) → applyWrites es sh xs ws = some (applyRegionWrites sh xs ws) := by
  intro ws
  induction ws with
  | nil => intro xs _; rfl
  | cons w ws ih =>
    intro xs hok
    have hw := hok w (by simp)
    simp only [applyWrites, hw.wf, hw.inbounds, Bool.and_self, Bool.not_true, Bool.false_eq_true, if_false,
      validated_some es _ w.2 hw.length hw.elems, applyRegionWrites_cons]
    exact ih _ (fun w' hw' => hok w' (by simp [hw']))

theorem updateRuns_whole (sh : Shape) (xs ys : List Elem) (hx : xs.length = prod sh) (hy : ys.length = prod sh) :
    updateRuns sh (Subset.ofShape sh) xs ys = ys := by
  obtain ⟨hw, hb⟩ := ofShape_inShape sh
  obtain ⟨hl, hp⟩ := updateRuns_spec sh (Subset.ofShape sh) xs ys hw hb hx hy
  apply list_ext_box sh _ _ hl hy
  intro j hj
  rw [hp j hj, Subset.contains_ofShape, if_pos hj]
  simp only [Subset.ofShape]
  rw [zipSub_zeros j _ (by rw [inB_length hj]; exact Nat.le_refl _)]

theorem applyRegionWrites_whole (sh : Shape) (xs ys : List Elem) (hx : xs.length = prod sh)
    (hy : ys.length = prod sh) : applyRegionWrites sh xs [(Subset.ofShape sh, ys)] = ys := by
  simp only [applyRegionWrites, List.foldl_cons, List.foldl_nil]
  exact updateRuns_whole sh xs ys hx hy

theorem writeOk_whole (es : Nat) (sh : Shape) (ys : List Elem) (hy : ys.length = prod sh)
    (hye : ∀ y ∈ ys, y.length = es) : writeOk es sh (Subset.ofShape sh, ys) :=
  ⟨(ofShape_inShape sh).1, (ofShape_inShape sh).2, hy, hye⟩

theorem zipAnyLt_eq_zipUnderflow : ∀ (a b : List Nat), zipAnyLt a b = zipUnderflow a b
  | [], _ | _ :: _, [] => rfl
  | _ :: as, _ :: bs => by rw [zipAnyLt, zipUnderflow, zipAnyLt_eq_zipUnderflow as bs]

theorem zipAnyGt_eq_zipUnderflow : ∀ (a b : List Nat), zipAnyGt a b = zipUnderflow b a
  | [], [] | [], _ :: _ | _ :: _, [] => rfl
  | _ :: as, _ :: bs => by rw [zipAnyGt, zipUnderflow, zipAnyGt_eq_zipUnderflow as bs]

theorem not_straddles_sub (cs r : Subset) (hr : r.wf = true) (hrank : cs.rank = r.rank)
    (h : straddles cs r = false) (g : Idx) (hg : cs.contains g = true) : r.contains g = true := by
  simp only [straddles, zipAnyLt_eq_zipUnderflow, zipAnyGt_eq_zipUnderflow, zipUnderflow_eq, Bool.or_eq_false_iff,
    Bool.not_eq_false'] at h
  exact mem_of_allLe g cs.start cs.shape r.start r.shape (Subset.wf_iff.mp hr) hrank h.1 h.2 hg

theorem piece_update {inner shard : Shape} (ht : tiles inner shard = true) {es : Nat} (w : RWrite) (hw : writeOk es shard w)
    (cur : List Elem) (hcur : cur.length = prod shard)
    (p : Idx × Subset) (hp : p ∈ w.1.chunks inner) (base : List Elem) (hbl : base.length = prod inner)
    (hbase : ∀ j, inB j inner = true → w.1.contains (addIdx j p.2.start) = false →
        base[ravel j inner]? = cur[ravel (addIdx j p.2.start) shard]?) :
    (((w.1.overlap p.2).relativeTo w.1.start).extract w.1.shape w.2).length = (w.1.overlap p.2).numElements ∧
    updateRuns inner ((w.1.overlap p.2).relativeTo p.2.start) base
        (((w.1.overlap p.2).relativeTo w.1.start).extract w.1.shape w.2) =
      p.2.extract shard (updateRuns shard w.1 cur w.2) := by
  obtain ⟨hp2, hcin⟩ := item_cell ht w.1 hw.wf hw.inbounds p hp
  have V := item_overlap ht w.1 hw.wf hw.inbounds p hp
  obtain ⟨hcw, hcb⟩ := cellBox_inbounds ht p.1 hcin
  rw [← hp2] at hcw hcb
  have hpsh := V.shape
  obtain ⟨hpcl, hpp⟩ := V.inRegion.extract_spec w.2 hw.length
  refine ⟨hpcl, ?_⟩
  obtain ⟨hL1, hL2⟩ := updateRuns_spec inner ((w.1.overlap p.2).relativeTo p.2.start) base _ V.relWf V.relIn hbl hpcl
  have hE1 : (p.2.extract shard (updateRuns shard w.1 cur w.2)).length = prod inner := by
    rw [hp2]
    exact cellBox_extract_length ht p.1 hcin _ (updateRuns_length shard w.1 cur w.2 hw.wf hw.inbounds hcur hw.length)
  apply list_ext_box inner _ _ hL1 hE1
  intro j hj
  have hgm : p.2.contains (addIdx j p.2.start) = true :=
    mem_addIdx j p.2.start p.2.shape (Subset.wf_iff.mp hcw) (by rw [hpsh]; exact hj)
  have hm : ((w.1.overlap p.2).relativeTo p.2.start).contains j = (w.1.overlap p.2).contains (addIdx j p.2.start) :=
    mem_relativeTo j _ _ p.2.start V.inCell.rank.symm (zipUnderflow_of_allLe _ _ V.inCell.start_le)
      (by rw [inB_length hj, ← Subset.rank, V.inCell.rank, Subset.rank, Subset.wf_iff.mp hcw, hpsh]; exact Nat.le_refl _)
  have hE := extract_updateRuns shard p.2 w.1 cur w.2 hcw hcb hw.wf hw.inbounds hcur hw.length j (by rw [hpsh]; exact hj)
  rw [hpsh] at hE
  rw [hL2 j hj, hE, hm, V.contains, hgm, Bool.and_true]
  by_cases hc : w.1.contains (addIdx j p.2.start) = true
  · rw [if_pos hc, if_pos hc]
    simp only [Subset.relativeTo]
    rw [zipSub_shift j (w.1.overlap p.2).start p.2.start V.inCell.start_le]
    exact hpp _ (by rw [V.contains, hc, hgm]; rfl)
  · rw [if_neg hc, if_neg hc]
    exact hbase j hj (by simpa using hc)

theorem piece_untouched {inner shard : Shape} (ht : tiles inner shard = true) {es : Nat} (w : RWrite)
    (hw : writeOk es shard w)
    (cur : List Elem) (hcur : cur.length = prod shard)
    (c : Idx) (hc : inB c (zipDiv shard inner) = true)
    (hnot : (c, cellBox inner c) ∉ w.1.chunks inner) :
    (cellBox inner c).extract shard (updateRuns shard w.1 cur w.2) = (cellBox inner c).extract shard cur := by
  obtain ⟨hcw, hcb⟩ := cellBox_inbounds ht c hc
  apply list_ext_box inner _ _
    (cellBox_extract_length ht c hc _ (updateRuns_length shard w.1 cur w.2 hw.wf hw.inbounds hcur hw.length))
    (cellBox_extract_length ht c hc _ hcur)
  intro j hj
  have h1 := extract_updateRuns shard (cellBox inner c) w.1 cur w.2 hcw hcb hw.wf hw.inbounds hcur hw.length j hj
  have h2 := (extract_spec (cellBox inner c) shard cur hcw hcb hcur).2 j hj
  refine (h1.trans (if_neg fun hrc => hnot ?_)).trans h2.symm
  have hb' := Subset.inboundsShape_iff_allLe.mp hw.inbounds
  have hil := tiles_length ht
  have hcl : inner.length = w.1.rank := by simp only [Subset.rank]; omega
  rw [mem_chunks]
  refine ⟨?_, rfl⟩
  rw [(w.1.chunkBox inner).mem_indices (w.1.chunkBox_wf inner hw.wf hcl)]
  apply (w.1.contains_chunkBox inner hw.wf hcl (tiles_pos ht) c).mpr
  refine ⟨?_, _, hrc, mem_addIdx j _ _ (Subset.wf_iff.mp hcw) hj⟩
  have := inB_length hc
  simp only [zipDiv_length, Subset.rank] at this hcl ⊢
  omega

/-- what the sharding partial encoder finds (`read`, second alternative: an absent value, of which nothing is requested
since no entry is live) -/
structure PEOld (entries : List (Nat × Nat)) (chunks : List (Option Bytes)) (h : BHandle) (n : Nat) : Prop where
  elen : entries.length = n
  clen : chunks.length = n
  live : ∀ (i : Nat) (e : Nat × Nat), entries[i]? = some e → (isLive e = true ↔ ∃ b, chunks[i]? = some (some b))
  read : ∀ want : List Nat, (∀ i ∈ want, ∃ b, chunks[i]? = some (some b)) →
    h (want.map (fun i => ByteRange.fromStart (entries.getD i (0, 0)).1 (some (entries.getD i (0, 0)).2))) =
        some (some (want.map (fun i => (chunks.getD i none).getD []))) ∨
      (want = [] ∧ h [] = some none)

theorem peRead_fold (es : Nat) (inner : Shape) (innerDec : Bytes → Option (List Elem)) (bytes : Nat → Bytes)
    (X : Nat → List Elem) : ∀ (want : List Nat) (init : List (Option (List Elem))),
    (∀ i ∈ want, i < init.length ∧ (innerDec (bytes i)).bind (validated es (prod inner)) = some (X i)) →
    ∃ st, (List.zip want (want.map bytes)).foldl (fun (acc : Option (List (Option (List Elem)))) (p : Nat × Bytes) =>
        match acc, (innerDec p.2).bind (validated es (prod inner)) with
        | some st, some xs => some (st.set p.1 (some xs))
        | _, _ => none) (some init) = some st ∧ st.length = init.length ∧
      ∀ i, st.getD i none = if i ∈ want then some (X i) else init.getD i none := by
  intro want
  induction want with
  | nil => intro init _; exact ⟨init, rfl, rfl, fun i => by simp⟩
  | cons a as ih =>
    intro init h
    obtain ⟨ha1, ha2⟩ := h a (by simp)
    obtain ⟨st, h1, h2, h3⟩ := ih (init.set a (some (X a))) (fun i hi => by
      rw [List.length_set]; exact h i (by simp [hi]))
    refine ⟨st, ?_, by rw [h2, List.length_set], ?_⟩
    · simp only [List.map_cons, List.zip_cons_cons, List.foldl_cons, ha2]
      exact h1
    · intro i
      rw [h3 i]
      by_cases hia : i ∈ as
      · simp [hia]
      · by_cases hie : i = a
        · subst hie
          simp only [hia, if_false, List.mem_cons, true_or, if_true, List.getD_eq_getElem?_getD,
            List.getElem?_set_self ha1, Option.getD_some]
        · simp [hia, hie, List.getElem?_set_ne (Ne.symm hie)]

theorem PEOld.mem_want {entries : List (Nat × Nat)} {chunks : List (Option Bytes)} {h : BHandle} {n : Nat}
    (O : PEOld entries chunks h n) (strad : List Nat) (i : Nat) :
    i ∈ (List.range entries.length).filter (fun i => strad.contains i && isLive (entries.getD i (sentinel, sentinel))) ↔
      i < n ∧ i ∈ strad ∧ ∃ b, chunks[i]? = some (some b) := by
  rw [List.mem_filter, List.mem_range, O.elen, Bool.and_eq_true, List.contains_iff_mem]
  refine and_congr_right fun hi => and_congr_right fun _ => O.live i _ ?_
  rw [List.getD_eq_getElem?_getD, List.getElem?_eq_getElem (by rw [O.elen]; exact hi)]
  rfl

theorem ChunksDecode.piece {es : Nat} {fill : Elem} {inner : Shape} {innerDec : Bytes → Option (List Elem)}
    {chunks : List (Option Bytes)} {pieces : List (List Elem)} (hcd : ChunksDecode es fill inner innerDec chunks pieces)
    (i : Nat) (hi : i < chunks.length) : pieces[i]? = some (pieces.getD i []) ∧
      match chunks[i]? with
      | some (some b) => (innerDec b).bind (validated es (prod inner)) = some (pieces.getD i [])
      | _ => pieces.getD i [] = List.replicate (prod inner) fill := by
  have hlp : i < pieces.length := by rw [← hcd.1]; exact hi
  simp only [List.getD_eq_getElem?_getD, List.getElem?_eq_getElem hi, List.getElem?_eq_getElem hlp, Option.getD_some,
    true_and]
  cases hc : chunks[i] with
  | none => exact hcd.of_none hlp hc
  | some b =>
    have hb := hcd.of_some hlp hc
    simp only [hb.1, Option.bind_some]
    exact validated_some _ _ _ hb.2.1 hb.2.2

theorem peRead_spec (es : Nat) (fill : Elem) (inner : Shape) (entries : List (Nat × Nat)) (chunks : List (Option Bytes))
    (innerDec : Bytes → Option (List Elem)) (h : BHandle) (n : Nat) (pieces : List (List Elem))
    (O : PEOld entries chunks h n) (hcd : ChunksDecode es fill inner innerDec chunks pieces)
    (strad : List Nat) (hs : ∀ i ∈ strad, i < n) :
    ∃ st0, peRead es inner entries innerDec h strad = some st0 ∧ st0.length = n ∧
      ∀ i, i < n → match st0.getD i none with
        | some x => pieces[i]? = some x
        | none => i ∈ strad → pieces[i]? = some (List.replicate (prod inner) fill) := by
  have hany : strad.any (fun i => decide (entries.length ≤ i)) = false := by
    rw [List.any_eq_false]
    intro i hi
    have := hs i hi
    rw [O.elen]
    simp; omega
  unfold peRead
  rw [hany]
  simp only [Bool.false_eq_true, if_false]
  have hwmem := O.mem_want strad
  generalize (List.range entries.length).filter (fun i =>
      strad.contains i && isLive (entries.getD i (sentinel, sentinel))) = want at hwmem
  have hpiece := fun i (hi : i < n) => hcd.piece i (by rw [O.clen]; exact hi)
  -- the fold over the answers and "nothing at all" from an absent value (`want = []`) give the same map: this one
  have key : ∀ st : List (Option (List Elem)), st.length = n →
      (∀ i, st.getD i none = if i ∈ want then some (pieces.getD i []) else none) →
      st.length = n ∧ ∀ i, i < n → match st.getD i none with
        | some x => pieces[i]? = some x
        | none => i ∈ strad → pieces[i]? = some (List.replicate (prod inner) fill) := by
    refine fun st h2 h3 => ⟨h2, fun i hi => ?_⟩
    obtain ⟨hp1, hp2⟩ := hpiece i hi
    rw [h3 i]
    by_cases hiw : i ∈ want
    · rw [if_pos hiw]
      exact hp1
    · rw [if_neg hiw]
      intro hstr
      rw [hp1]
      cases hc : chunks[i]? with
      | none => rw [hc] at hp2; rw [hp2]
      | some o =>
        cases o with
        | none => rw [hc] at hp2; rw [hp2]
        | some b => exact absurd ((hwmem i).mpr ⟨hi, hstr, b, hc⟩) hiw
  rcases O.read want (fun i hi => ((hwmem i).mp hi).2.2) with hr | ⟨hw0, hr⟩
  · rw [hr]
    obtain ⟨st, h1, h2, h3⟩ := peRead_fold es inner innerDec (fun i => (chunks.getD i none).getD [])
      (fun i => pieces.getD i []) want (List.replicate entries.length none) (by
        intro i hi
        obtain ⟨hin, _, b, hb⟩ := (hwmem i).mp hi
        have := (hpiece i hin).2
        rw [hb] at this
        exact ⟨by rw [List.length_replicate, O.elen]; exact hin,
          by simpa only [List.getD_eq_getElem?_getD, hb, Option.getD_some] using this⟩)
    exact ⟨st, h1, key st (by rw [h2, List.length_replicate, O.elen]) fun i => by rw [h3 i, getD_replicate_self]⟩
  · subst hw0
    rw [List.map_nil, hr]
    exact ⟨_, rfl, key _ (by rw [List.length_replicate, O.elen]) fun i => by
      rw [getD_replicate_self, if_neg List.not_mem_nil]⟩

/-- `old`: the shard before the call, `strad`: the numbers of the inner chunks the initial read asked for -/
def PEInv (fill : Elem) (inner shard : Shape) (old : List Elem) (strad : List Nat) (st : List (Option (List Elem)))
    (cur : List Elem) : Prop :=
  st.length = prod (zipDiv shard inner) ∧
  ∀ i, i < prod (zipDiv shard inner) →
    match st.getD i none with
    | some x => (splitShard shard inner cur)[i]? = some x
    | none => (splitShard shard inner cur)[i]? = (splitShard shard inner old)[i]? ∧
        (i ∈ strad → (splitShard shard inner old)[i]? = some (List.replicate (prod inner) fill))

theorem chunks_keys_nodup {inner shard : Shape} (ht : tiles inner shard = true) {es : Nat} (w : RWrite)
    (hw : writeOk es shard w) : ((w.1.chunks inner).map (fun p => ravel p.1 (zipDiv shard inner))).Nodup := by
  have hb' := Subset.inboundsShape_iff_allLe.mp hw.inbounds
  have hcl : inner.length = w.1.rank := by have := tiles_length ht; simp only [Subset.rank]; omega
  apply nodup_map_of_injOn
  · simp only [Subset.chunks, Iter.new_items]
    apply nodup_map_of_injOn _ _ ((w.1.chunkBox inner).indices_nodup (w.1.chunkBox_wf inner hw.wf hcl))
    intro a _ b _ hab
    exact (Prod.mk.inj hab).1
  · intro a ha b hb2 hab
    obtain ⟨ha1, ha2⟩ := item_cell ht w.1 hw.wf hw.inbounds a ha
    obtain ⟨hb1, hb3⟩ := item_cell ht w.1 hw.wf hw.inbounds b hb2
    have := ravel_inj a.1 b.1 _ ha2 hb3 hab
    exact Prod.ext this (by rw [ha1, hb1, this])

theorem pe_base {inner shard : Shape} (ht : tiles inner shard = true) (fill : Elem) (old : List Elem) (strad : List Nat)
    (st : List (Option (List Elem))) (cur : List Elem) (hcur : cur.length = prod shard) {es : Nat} (w : RWrite)
    (hw : writeOk es shard w)
    (hJ : PEInv fill inner shard old strad st cur)
    (hstr : ∀ p ∈ w.1.chunks inner, straddles p.2 w.1 = true → ravel p.1 (zipDiv shard inner) ∈ strad)
    (p : Idx × Subset) (hp : p ∈ w.1.chunks inner) :
    ∃ base,
      (st.getD (ravel p.1 (zipDiv shard inner)) none = some base ∨
        st.getD (ravel p.1 (zipDiv shard inner)) none = none ∧ base = List.replicate (prod inner) fill) ∧
      base.length = prod inner ∧
      ∀ j, inB j inner = true → w.1.contains (addIdx j p.2.start) = false →
        base[ravel j inner]? = cur[ravel (addIdx j p.2.start) shard]? := by
  obtain ⟨hp2, hpin⟩ := item_cell ht w.1 hw.wf hw.inbounds p hp
  have hcrank := (item_overlap ht w.1 hw.wf hw.inbounds p hp).rank
  obtain ⟨c, q⟩ := p
  obtain rfl : q = cellBox inner c := hp2
  obtain ⟨hcw, hcb⟩ := cellBox_inbounds ht c hpin
  have hJp := hJ.2 _ (ravel_lt _ _ hpin)
  rw [splitShard_getElem? shard inner cur c hpin] at hJp
  obtain ⟨hE1, hE2⟩ := extract_spec (cellBox inner c) shard cur hcw hcb hcur
  cases hst : st.getD (ravel c (zipDiv shard inner)) none with
  | some x =>
    rw [hst] at hJp
    obtain rfl : (cellBox inner c).extract shard cur = x := Option.some.inj hJp
    exact ⟨_, Or.inl rfl, hE1, fun j hj _ => hE2 j hj⟩
  | none =>
    rw [hst] at hJp
    refine ⟨List.replicate (prod inner) fill, Or.inr ⟨rfl, rfl⟩, by simp, ?_⟩
    intro j hj hnot
    by_cases hs : straddles (cellBox inner c) w.1 = true
    · rw [← Option.some.inj (hJp.1.trans (hJp.2 (hstr _ hp hs)))]
      exact hE2 j hj
    · exfalso
      have hgm : (cellBox inner c).contains (addIdx j (cellBox inner c).start) = true :=
        mem_addIdx j _ _ (Subset.wf_iff.mp hcw) hj
      rw [not_straddles_sub _ w.1 hw.wf hcrank (by simpa using hs) _ hgm] at hnot
      cases hnot

theorem peWriteStep_inv {inner shard : Shape} (ht : tiles inner shard = true) (es : Nat) (fill : Elem)
    (hfill : fill.length = es) (old : List Elem) (strad : List Nat) (st : List (Option (List Elem))) (cur : List Elem)
    (hcur : cur.length = prod shard)
    (w : RWrite) (hw : writeOk es shard w)
    (hJ : PEInv fill inner shard old strad st cur)
    (hstr : ∀ p ∈ w.1.chunks inner, straddles p.2 w.1 = true → ravel p.1 (zipDiv shard inner) ∈ strad) :
    ∃ st', peWriteStep es fill inner (zipDiv shard inner) st (w, w.1.chunks inner) = some st' ∧
      PEInv fill inner shard old strad st' (updateRuns shard w.1 cur w.2) := by
  have hall : w.2.all (·.length == es) = true := by
    rw [List.all_eq_true]; intro y hy'; simpa using hw.elems y hy'
  unfold peWriteStep
  simp only [hall, Bool.not_true, Bool.false_eq_true, if_false]
  have hitem := item_cell ht w.1 hw.wf hw.inbounds
  have hkeys := chunks_keys_nodup ht w hw
  have hbase := pe_base ht fill old strad st cur hcur w hw hJ hstr
  obtain ⟨hJl, hJc⟩ := hJ
  obtain ⟨st', h1, h2, h3, h4⟩ := ArrCfg.foldOpt_setKeys (fun p : Idx × Subset => ravel p.1 (zipDiv shard inner))
    (fun p => p.2.extract shard (updateRuns shard w.1 cur w.2)) (peChunkStep es fill inner (zipDiv shard inner) w)
    (w.1.chunks inner) st hkeys (fun p hp => by rw [hJl]; exact ravel_lt _ _ (hitem p hp).2) (by
      intro st' p hp hl hg
      obtain ⟨base, hb1, hb2, hb3⟩ := hbase p hp
      obtain ⟨hlen, heq⟩ := piece_update ht w hw cur hcur p hp base hb2 hb3
      have hk : ¬ ravel p.1 (zipDiv shard inner) ≥ st'.length := by
        have := ravel_lt _ _ (hitem p hp).2
        omega
      unfold peChunkStep
      simp only [hg]
      rw [if_neg hk, if_neg (by simpa using hlen)]
      rcases hb1 with hs | ⟨hs, rfl⟩
      · simp only [hs]
        rw [if_neg (by simpa using hb2), heq]
      · simp only [hs, hfill, bne_self_eq_false, Bool.false_eq_true, if_false]
        rw [if_neg (by simp), heq])
  refine ⟨st', h1, by rw [h2, hJl], ?_⟩
  intro i hi
  have hc := unravel_inB i _ hi
  have hri := ravel_unravel i _ hi
  generalize unravel i (zipDiv shard inner) = c at hc hri
  subst hri
  rw [splitShard_getElem? shard inner _ c hc]
  by_cases hcm : (c, cellBox inner c) ∈ w.1.chunks inner
  · rw [h3 _ hcm]
  · have hnk : ravel c (zipDiv shard inner) ∉ (w.1.chunks inner).map (fun p => ravel p.1 (zipDiv shard inner)) := by
      intro hmem
      obtain ⟨p, hp, hpe⟩ := List.mem_map.mp hmem
      obtain ⟨hp2, hpin⟩ := hitem p hp
      have := ravel_inj p.1 c _ hpin hc hpe
      apply hcm
      rw [← this, ← hp2]
      exact hp
    rw [h4 _ hnk, piece_untouched ht w hw cur hcur c hc hcm, ← splitShard_getElem? shard inner cur c hc]
    exact hJc _ hi

theorem chunks_of_empty (r : Subset) (inner : Shape) (hr : r.wf = true) (he : r.isEmpty = true) :
    r.chunks inner = [] := by
  have hpos := r.rank_pos_of_empty hr he
  simp only [Subset.chunks, Iter.new_items, r.chunkBox_empty inner he, newEmpty_indices _ hpos, List.map_nil]

theorem writeChunks_ok {inner shard : Shape} (ht : tiles inner shard = true) (es : Nat) (w : RWrite)
    (hw : writeOk es shard w) : writeChunks shard inner (zipDiv shard inner) w = some (w.1.chunks inner) := by
  have hwf := hw.wf
  have hb' := hw.inbounds
  simp only [Subset.inboundsShape, Subset.rank, Bool.and_eq_true, beq_iff_eq] at hb'
  have hil := tiles_length ht
  unfold writeChunks
  simp only [hwf, Bool.not_true, Bool.false_eq_true, if_false, zipAnyGt_eq_zipUnderflow, zipUnderflow_eq, hb'.2]
  unfold innerChunksOf
  cases he : w.1.endInc with
  | none =>
    have : w.1.isEmpty = true := by
      unfold Subset.endInc at he
      split at he
      · assumption
      · cases he
    simp only [chunks_of_empty w.1 inner hwf this]
  | some e =>
    simp only
    rw [if_neg]
    simp only [Subset.rank, zipDiv_length, bne_iff_ne, ne_eq, Bool.or_eq_true, not_or,
      Decidable.not_not]
    omega

theorem peWrites_inv {inner shard : Shape} (ht : tiles inner shard = true) (es : Nat) (fill : Elem)
    (hfill : fill.length = es) (old : List Elem) (strad : List Nat) :
    ∀ (ws : List RWrite) (st : List (Option (List Elem))) (cur : List Elem), cur.length = prod shard →
      (∀ w ∈ ws, writeOk es shard w) →
      (∀ w ∈ ws, ∀ p ∈ w.1.chunks inner, straddles p.2 w.1 = true → ravel p.1 (zipDiv shard inner) ∈ strad) →
      PEInv fill inner shard old strad st cur →
      ∃ st', ArrCfg.foldOpt (peWriteStep es fill inner (zipDiv shard inner)) st
          (ws.map (fun w => (w, w.1.chunks inner))) = some st' ∧
        PEInv fill inner shard old strad st' (applyRegionWrites shard cur ws) := by
  intro ws
  induction ws with
  | nil => intro st cur _ _ _ hJ; exact ⟨st, rfl, hJ⟩
  | cons w ws ih =>
    intro st cur hcur hok hS hJ
    have hw := hok w (by simp)
    obtain ⟨st1, h1, hJ1⟩ := peWriteStep_inv ht es fill hfill old strad st cur hcur w hw hJ (hS w (by simp))
    obtain ⟨st2, h2, hJ2⟩ := ih st1 (updateRuns shard w.1 cur w.2)
      (updateRuns_length shard w.1 cur w.2 hw.wf hw.inbounds hcur hw.length)
      (fun w' hw' => hok w' (by simp [hw'])) (fun w' hw' => hS w' (by simp [hw'])) hJ1
    rw [applyRegionWrites_cons]
    refine ⟨st2, ?_, hJ2⟩
    simp only [List.map_cons, ArrCfg.foldOpt, h1, h2]

theorem applyRegionWrites_ok (shard : Shape) (es : Nat) : ∀ (ws : List RWrite) (old : List Elem),
    old.length = prod shard → (∀ x ∈ old, x.length = es) → (∀ w ∈ ws, writeOk es shard w) →
    (applyRegionWrites shard old ws).length = prod shard ∧ ∀ z ∈ applyRegionWrites shard old ws, z.length = es := by
  intro ws
  induction ws with
  | nil => intro old h he _; exact ⟨h, he⟩
  | cons w ws ih =>
    intro old h he hok
    have hw := hok w (by simp)
    rw [applyRegionWrites_cons]
    refine ih _ (updateRuns_length shard w.1 old w.2 hw.wf hw.inbounds h hw.length) (fun x hx => ?_)
      (fun w' hw' => hok w' (by simp [hw']))
    rcases updateRuns_mem shard w.1 old w.2 hw.wf hw.inbounds h hw.length x hx with h1 | h1
    · exact he x h1
    · exact hw.elems x h1

theorem shardPEElems_spec {inner shard : Shape} (ht : tiles inner shard = true) (es : Nat) (fill : Elem)
    (hfill : fill.length = es) (entries : List (Nat × Nat)) (chunks : List (Option Bytes))
    (innerDec : Bytes → Option (List Elem)) (innerEnc : List Elem → Bytes) (h : BHandle)
    (old : List Elem) (hold : old.length = prod shard)
    (O : PEOld entries chunks h (prod (zipDiv shard inner)))
    (hcd : ChunksDecode es fill inner innerDec chunks (splitShard shard inner old))
    (ws : List RWrite) (hws : ∀ w ∈ ws, writeOk es shard w) :
    ∃ st, shardPEElems es fill shard inner (zipDiv shard inner) entries innerDec innerEnc h ws =
        some (peEncode fill innerEnc st) ∧
      st.length = prod (zipDiv shard inner) ∧
      ∀ i, i < prod (zipDiv shard inner) →
        match st.getD i none with
        | some x => (splitShard shard inner (applyRegionWrites shard old ws))[i]? = some x
        | none => (splitShard shard inner (applyRegionWrites shard old ws))[i]? = (splitShard shard inner old)[i]? := by
  have hmap : ws.mapM (fun w => (writeChunks shard inner (zipDiv shard inner) w).map (fun cs => (w, cs))) =
      some (ws.map (fun w => (w, w.1.chunks inner))) := by
    apply mapM_some_of_forall
    intro w hw
    rw [writeChunks_ok ht es w (hws w hw)]
    rfl
  have hitem : ∀ w ∈ ws, ∀ p ∈ w.1.chunks inner, p.2 = cellBox inner p.1 ∧ inB p.1 (zipDiv shard inner) = true :=
    fun w hw => item_cell ht w.1 (hws w hw).wf (hws w hw).inbounds
  have hstr : ∀ i ∈ straddlers straddles (zipDiv shard inner) (ws.map (fun w => (w, w.1.chunks inner))),
      i < prod (zipDiv shard inner) := by
    intro i hi
    simp only [straddlers, List.mem_flatMap, List.mem_map, List.mem_filter] at hi
    obtain ⟨wc, ⟨w, hw, rfl⟩, p, ⟨hp, _⟩, rfl⟩ := hi
    exact ravel_lt _ _ (hitem w hw p hp).2
  obtain ⟨st0, hr0, hJ0⟩ := peRead_spec es fill inner entries chunks innerDec h _ _ O hcd _ hstr
  obtain ⟨st, hfold, hJ⟩ := peWrites_inv ht es fill hfill old
    (straddlers straddles (zipDiv shard inner) (ws.map (fun w => (w, w.1.chunks inner)))) ws st0 old hold hws (by
    intro w hw p hp hs
    simp only [straddlers, List.mem_flatMap, List.mem_map, List.mem_filter]
    exact ⟨(w, w.1.chunks inner), ⟨w, hw, rfl⟩, p, ⟨hp, hs⟩, rfl⟩) ⟨hJ0.1, fun i hi => by
      have := hJ0.2 i hi
      split <;> rename_i heq <;> rw [heq] at this
      · exact this
      · exact ⟨rfl, this⟩⟩
  refine ⟨st, ?_, hJ.1, fun i hi => ?_⟩
  · unfold shardPEElems shardPEElemsWith
    simp only [hmap, hr0, hfold]
  · have := hJ.2 i hi
    split <;> rename_i heq <;> rw [heq] at this
    · exact this
    · exact this.1

end Zarrs.Partial
