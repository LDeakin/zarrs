import ZarrsModel.Model.Lossy
/- helper lemmas for the lossy-codec theorems of C03 -/
namespace Zarrs.Lossy

/-- the arithmetic core of `roundBits`, with the quantum `q`, its half `h` and the saturation bound `M` abstract -/
def roundQ (q h M x : Nat) : Nat := min (x + (x / q % 2) + (h - 1)) M / q * q

theorem roundBits_eq_roundQ (width keep maxbits x : Nat) (hk : keep < maxbits) :
    roundBits width keep maxbits x =
      roundQ (2 ^ (maxbits - keep)) (2 ^ (maxbits - keep - 1)) (2 ^ width - 1) x := by
  simp only [roundBits, roundQ, if_pos hk]

theorem pow_quantum (keep maxbits : Nat) (hk : keep < maxbits) :
    2 ^ (maxbits - keep) = 2 * 2 ^ (maxbits - keep - 1) := by
  obtain ⟨m, hm⟩ : ∃ m, maxbits - keep = m + 1 := ⟨maxbits - keep - 1, by omega⟩
  rw [hm, Nat.add_sub_cancel, Nat.pow_succ, Nat.mul_comm]

theorem div_mul_of_between (q a t : Nat) (hq : 0 < q) (h1 : q * a ≤ t) (h2 : t < q * a + q) :
    t / q * q = q * a := by
  have ht : t = q * a + (t - q * a) := by omega
  rw [ht, Nat.mul_add_div hq, Nat.div_eq_of_lt (by omega), Nat.add_zero, Nat.mul_comm]

theorem roundQ_mod (q h M x : Nat) : roundQ q h M x % q = 0 := by
  simp only [roundQ, Nat.mul_mod_left]

theorem roundQ_le (q h M x : Nat) : roundQ q h M x ≤ M :=
  Nat.le_trans (Nat.div_mul_le_self _ q) (Nat.min_le_right _ M)

theorem roundQ_quot_rem (q h M a r : Nat) (hq : q = 2 * h) (hr : r < q) (hs : q * a + r + h ≤ M) :
    roundQ q h M (q * a + r) = if r + a % 2 ≤ h then q * a else q * (a + 1) := by
  obtain ⟨k, rfl⟩ : ∃ k, h = k + 1 := ⟨h - 1, by omega⟩
  have hq0 : 0 < q := by omega
  simp only [roundQ, Nat.add_sub_cancel]
  rw [Nat.mul_add_div hq0, Nat.div_eq_of_lt hr, Nat.add_zero, Nat.min_eq_left (by omega)]
  split
  · exact div_mul_of_between q _ _ hq0 (by omega) (by omega)
  · exact div_mul_of_between q _ _ hq0 (by rw [Nat.mul_succ]; omega) (by rw [Nat.mul_succ]; omega)

theorem exists_quot_rem (q x : Nat) (hq : 0 < q) : ∃ a r, r < q ∧ x = q * a + r :=
  ⟨x / q, x % q, Nat.mod_lt _ hq, (Nat.div_add_mod x q).symm⟩

theorem roundQ_near (q h M x : Nat) (hq : q = 2 * h) (hh : 0 < h) (hs : x + h ≤ M) :
    roundQ q h M x ≤ x + h ∧ x ≤ roundQ q h M x + h := by
  obtain ⟨a, r, hr, rfl⟩ := exists_quot_rem q x (by omega)
  rw [roundQ_quot_rem q h M a r hq hr hs, Nat.mul_succ]
  split <;> omega

theorem roundQ_tie_even (q h M x : Nat) (hq : q = 2 * h) (hh : 0 < h) (hs : x + h ≤ M)
    (htie : x % q = h) : roundQ q h M x / q % 2 = 0 := by
  obtain ⟨a, r, hr, rfl⟩ := exists_quot_rem q x (by omega)
  rw [Nat.mul_add_mod, Nat.mod_eq_of_lt hr] at htie
  rw [roundQ_quot_rem q h M a r hq hr hs]
  split
  · rw [Nat.mul_div_cancel_left _ (by omega)]; omega
  · rw [Nat.mul_div_cancel_left _ (by omega)]; omega

theorem roundQ_fixed (q h M x : Nat) (hq : q = 2 * h) (hh : 0 < h) (hx : x ≤ M) (h0 : x % q = 0) :
    roundQ q h M x = x := by
  obtain ⟨k, rfl⟩ : ∃ k, h = k + 1 := ⟨h - 1, by omega⟩
  have hq0 : 0 < q := by omega
  have hxa := Nat.div_add_mod x q
  rw [h0, Nat.add_zero] at hxa
  simp only [roundQ, Nat.add_sub_cancel]
  generalize x / q = a at hxa ⊢
  rw [← hxa]
  apply div_mul_of_between q a _ hq0
  · exact Nat.le_min.2 ⟨by omega, by omega⟩
  · have := Nat.min_le_left (q * a + a % 2 + k) M
    omega

theorem roundQ_idem (q h M x : Nat) (hq : q = 2 * h) (hh : 0 < h) :
    roundQ q h M (roundQ q h M x) = roundQ q h M x :=
  roundQ_fixed q h M _ hq hh (roundQ_le q h M x) (roundQ_mod q h M x)

end Zarrs.Lossy
