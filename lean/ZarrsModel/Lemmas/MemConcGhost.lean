import ZarrsModel.Lemmas.MemConcView
/- Pending ghost records; the ghost entries added by one step (`NewSpec`); the ghost invariant `GInv` is preserved -/
namespace Zarrs.MemConc

/-- an entry of the ghost list belonging to the operation its thread is still executing -/
def PendOK (ps : Progs) (v : VState) (e : LinE) : Prop :=
  (∃ c, v.ts e.t = .setHold c ∧ e.res = .unit) ∨
  (∃ c, v.ts e.t = .getHold c ∧ v.cur ≠ some c ∧ e.res = readRes e.op (logical ps v c))

theorem PendOK.busy {ps v e} (h : PendOK ps v e) : v.ts e.t ≠ .idle := by
  rcases h with ⟨_, h, _⟩ | ⟨_, h, _⟩ <;> (rw [h]; nofun)

/-- a record appended by a step from `v` to `v'`; `pend`: pending afterwards unless the step completes its operation -/
structure NewOK (ps : Progs) (time : Nat) (v v' : VState) (e : LinE) : Prop where
  lt : e.lt = time
  k : e.k = v.pc e.t
  op : opAt ps e.t e.k = some e.op
  pre : v.ts e.t = .idle ∨ ∃ c, v.ts e.t = .getHold c ∧ v.cur = some c
  pend : e.k = v'.pc e.t → PendOK ps v' e

/-- what a step appends to the ghost linearization list -/
structure NewSpec (ps : Progs) (time : Nat) (v v' : VState) (t : Nat) (new : List LinE) : Prop where
  legal : legalG (v.cur.map (logical ps v)) new = some (v'.cur.map (logical ps v'))
  each : ∀ e ∈ new, NewOK ps time v v' e
  pw : new.Pairwise (fun a b => a.t ≠ b.t)
  hold : ∀ c0, v'.ts t = .setHold c0 → ∃ e ∈ new, e.t = t ∧ e.k = v'.pc t
  getOther : ∀ t' c', v.ts t' = .getHold c' → v.cur = some c' → t' ≠ t →
      v'.cur = some c' ∨ ∃ e ∈ new, e.t = t' ∧ e.k = v.pc t'

section
variable {ps : Progs} {time : Nat} {v v' : VState} {t : Nat}

theorem NewSpec.single {op : Op} {res : Res} (hop : opAt ps t (v.pc t) = some op)
    (hpre : v.ts t = .idle ∨ ∃ c, v.ts t = .getHold c ∧ v.cur = some c)
    (hpost : (v'.pc t = v.pc t + 1 ∧ v'.ts t = .idle) ∨ (v'.pc t = v.pc t ∧ res = .unit ∧ ∃ c, v'.ts t = .setHold c))
    (hcur : ∀ c', v.cur = some c' → v'.cur = some c')
    (hstep : specStep (v.cur.map (logical ps v)) op = (v'.cur.map (logical ps v'), res)) :
    NewSpec ps time v v' t [⟨t, v.pc t, op, res, time⟩] := by
  refine ⟨by simp only [legalG_cons, hstep, if_true]; rfl, ?_, List.pairwise_singleton _ _, fun c0 h => ?_,
    fun _ c' _ h _ => .inl (hcur c' h)⟩
  · intro e he
    rw [List.mem_singleton] at he; subst he
    refine ⟨rfl, rfl, hop, hpre, fun h => ?_⟩
    rcases hpost with ⟨hpc, _⟩ | ⟨_, hres, c, hts⟩
    · exact absurd (h.trans hpc) (Nat.ne_of_lt (Nat.lt_succ_self _))
    · exact .inl ⟨c, hts, hres⟩
  · rcases hpost with ⟨_, hts⟩ | ⟨hpc, _⟩
    · rw [hts] at h; cases h
    · exact ⟨_, List.mem_singleton_self _, rfl, hpc.symm⟩

end

theorem VStep.new_spec {ps time v lin t v' lin' r} (hwf : VWF ps v)
    (hst : VStep ps time v lin t v' lin' r) :
    ∃ new, lin' = lin ++ new ∧ NewSpec ps time v v' t new := by
  have hfr := logical_frame hwf hst
  have hidle : upd v.ts t .idle t = .idle := if_pos rfl
  have hnl : ∀ c0, upd v.ts t .idle t ≠ .setHold c0 := fun _ => by rw [hidle]; nofun
  have hresp : upd v.pc t (v.pc t + 1) t = v.pc t + 1 ∧ upd v.ts t .idle t = .idle := ⟨if_pos rfl, hidle⟩
  -- a step whose thread ends up holding no write lock leaves the logical value of the key's cell as it is
  have hsame : (∀ c0, v'.ts t ≠ .setHold c0) → v.cur.map (logical ps v') = v.cur.map (logical ps v) := by
    intro hnl
    cases v.cur with
    | none => rfl
    | some c => exact congrArg some (hfr c (.inl hnl))
  -- a step that linearizes nothing: the map entry stays and the stepping thread takes no lock
  have silent : v'.cur = v.cur → (∀ c0, v'.ts t ≠ .setHold c0) →
      ∃ new, lin = lin ++ new ∧ NewSpec ps time v v' t new := by
    intro hcur hnl
    refine ⟨[], (List.append_nil _).symm, ?_, (fun _ h => nomatch h), .nil, fun c0 h => absurd h (hnl c0),
      fun _ _ _ h _ => .inl (hcur ▸ h)⟩
    rw [hcur, hsame hnl]
    rfl
  cases hst with
  | s1e op c hop hw hts hcur hfree hv hl hr =>
    subst hv hl hr
    refine ⟨_, rfl, .single hop (.inl hts) (.inr ⟨rfl, rfl, c, if_pos rfl⟩) (fun _ h => h) ?_⟩
    simp only [hcur, Option.map_some, specStep_write _ _ hw, Option.getD_some]
    rw [logical_free hfree, logical_locked (t := t) (op := op) (by exact if_pos rfl) (by exact hop)]
  | s1n op hop hw hts hcur hv hl hr =>
    subst hv hl hr
    refine ⟨_, rfl, .single hop (.inl hts) (.inr ⟨rfl, rfl, v.ncells, if_pos rfl⟩)
      (fun _ h => by rw [hcur] at h; cases h) ?_⟩
    simp only [hcur, Option.map_none, Option.map_some, specStep_write _ _ hw, Option.getD_none]
    rw [logical_locked (t := t) (op := op) (by exact if_pos rfl) (by exact hop)]
    simp only [hwf.cell_nil v.ncells (Nat.le_refl _)]
  | s2 op c hop hts hv hl hr =>
    subst hv hl hr
    exact silent rfl hnl
  | g1m op hop hrd hts hcur hv hl hr =>
    subst hv hl hr
    refine ⟨_, rfl, .single hop (.inl hts) (.inl hresp) (fun _ h => h) ?_⟩
    simp only [hcur, Option.map_none, specStep_read_none _ hrd]
  | g1h op c hop hrd hts hcur hv hl hr =>
    subst hv hl hr
    have hts' : upd v.ts t (.getHold c) t = .getHold c := if_pos rfl
    have hnl : ∀ c0, upd v.ts t (.getHold c) t ≠ .setHold c0 := fun _ => by rw [hts']; nofun
    exact silent rfl hnl
  | g2 op c hop hts hfree hv hl hr =>
    subst hv hr
    obtain ⟨_, op', hop', hrd⟩ := hwf.get_op t c hts
    have : op' = op := by rw [hop] at hop'; cases hop'; rfl
    subst this
    by_cases hc : v.cur = some c
    · rw [if_pos hc] at hl; subst hl
      refine ⟨_, rfl, .single hop (.inr ⟨c, hts, hc⟩) (.inl hresp) (fun _ h => h) ?_⟩
      rw [hsame hnl]
      simp only [hc, Option.map_some, specStep_read _ _ hrd, logical_free hfree]
    · rw [if_neg hc] at hl; subst hl
      exact silent rfl hnl
  | sz hop hts hfree hv hl hr =>
    subst hv hl hr
    refine ⟨_, rfl, .single hop (.inl hts) (.inl hresp) (fun _ h => h) ?_⟩
    rw [hsame hnl]
    cases hc : v.cur with
    | none => rfl
    | some c => simp only [Option.map_some, specStep, logical_free (hfree c hc)]
  | e1 hop hts hv hl hr =>
    subst hv hr
    rw [List.append_assoc] at hl; subst hl
    cases hc : v.cur with
    | none =>
      exact ⟨_, rfl, .single hop (.inl hts) (.inl hresp) (fun _ h => by rw [hc] at h; cases h) rfl⟩
    | some c =>
      have hh : ∀ e ∈ helpers ps v c time, Helped ps v c time e := fun e => helpers_spec hwf
      -- the helped readers hold an Arc: they are other threads than the idle `t`
      have hne : ∀ e ∈ helpers ps v c time, e.t ≠ t :=
        fun e he h => nomatch (h ▸ (hh e he).ts).symm.trans hts
      refine ⟨_, rfl, ?_, ?_, ?_, fun c0 h => absurd h (hnl c0), ?_⟩
      · rw [hc]
        show legalG (some (logical ps v c)) (helpers ps v c time ++ [_]) = some none
        rw [legalG_append, legalG_reads _ _ (fun e he => ⟨(hh e he).read, (hh e he).res⟩)]
        rfl
      · intro e he
        rcases List.mem_append.mp he with he | he
        · have h := hh e he
          exact ⟨h.lt, h.k, h.op, .inr ⟨c, h.ts, hc⟩, fun _ => .inr ⟨c, (if_neg (hne e he)).trans h.ts, nofun,
            h.res.trans (congrArg (readRes e.op) (hfr c (.inl hnl)).symm)⟩⟩
        · rw [List.mem_singleton] at he; subst he
          exact ⟨rfl, rfl, hop, .inl hts, fun h => absurd (h.trans hresp.1) (Nat.ne_of_lt (Nat.lt_succ_self _))⟩
      · rw [List.pairwise_append]
        refine ⟨helpers_pairwise ps v c time, List.pairwise_singleton _ _, fun a ha b hb => ?_⟩
        rw [List.mem_singleton] at hb; subst hb
        exact hne a ha
      · intro t' c' hts' hc' _
        obtain ⟨_, op', hop', _⟩ := hwf.get_op t' c' hts'
        rw [hc] at hc'; cases hc'
        exact .inr ⟨⟨t', v.pc t', op', readRes op' (logical ps v c), time⟩, List.mem_append_left _
          (mem_helpers.mpr ⟨t', op', hwf.ts_lt t' (by rw [hts']; nofun), hts', hop', rfl⟩), rfl, rfl⟩

/-- the ghost invariant: the linearization list is a legal register run ending in the logical value of the key,
and accounts for exactly the linearized pending operations -/
structure GInv (ps : Progs) (i0 : Option Bytes) (v : VState) (lin : List LinE) : Prop where
  legal : legalG i0 lin = some (v.cur.map (logical ps v))
  k_le : ∀ e ∈ lin, e.k ≤ v.pc e.t
  op_ok : ∀ e ∈ lin, opAt ps e.t e.k = some e.op
  pend : ∀ e ∈ lin, e.k = v.pc e.t → PendOK ps v e
  hold_lin : ∀ t c, v.ts t = .setHold c → ∃ e ∈ lin, e.t = t ∧ e.k = v.pc t
  get_lin : ∀ t c, v.ts t = .getHold c → v.cur = some c ∨ ∃ e ∈ lin, e.t = t ∧ e.k = v.pc t
  nodup : lin.Pairwise (fun a b => ¬ (a.t = b.t ∧ a.k = b.k))

theorem PendOK.frame {ps time v lin t v' lin' r e} (hwf : VWF ps v) (hst : VStep ps time v lin t v' lin' r)
    (hne : e.t ≠ t) (h : PendOK ps v e) : PendOK ps v' e := by
  rcases h with ⟨c, h1, h2⟩ | ⟨c, h1, h2, h3⟩
  · exact Or.inl ⟨c, by rw [hst.ts_other hne]; exact h1, h2⟩
  · have hc := (hwf.get_op e.t c h1).1
    exact Or.inr ⟨c, by rw [hst.ts_other hne]; exact h1, hst.cur_orphan h2 hc,
      by rw [logical_frame hwf hst c (Or.inr ⟨h2, hc⟩)]; exact h3⟩

theorem ginv_step {ps i0 time v lin t v' new r} (hwf : VWF ps v) (g : GInv ps i0 v lin)
    (hst : VStep ps time v lin t v' (lin ++ new) r) (ns : NewSpec ps time v v' t new) :
    GInv ps i0 v' (lin ++ new) := by
  refine ⟨?_, ?_, ?_, ?_, ?_, ?_, ?_⟩
  · rw [legalG_append, g.legal]; exact ns.legal
  · exact List.forall_mem_append.mpr ⟨fun e he => Nat.le_trans (g.k_le e he) (hst.pc_le e.t),
      fun e he => (ns.each e he).k ▸ hst.pc_le e.t⟩
  · exact List.forall_mem_append.mpr ⟨g.op_ok, fun e he => (ns.each e he).op⟩
  · intro e he hk
    rcases List.mem_append.mp he with he | he
    · by_cases het : e.t = t
      · -- an old record of the stepping thread: not of the operation a responding step leaves behind,
        -- and not pending before a first step, which finds its thread idle
        exfalso
        rw [het] at hk
        cases hr : r with
        | none =>
          obtain ⟨h1, h2, _⟩ := hst.pc_silent hr
          exact (g.pend e he (by rw [het, hk, h1])).busy (het ▸ h2)
        | some x =>
          have hle := g.k_le e he
          rw [het, hk, (hst.pc_resp hr).1] at hle
          exact Nat.not_succ_le_self _ hle
      · rw [hst.pc_other het] at hk
        exact (g.pend e he hk).frame hwf hst het
    · exact (ns.each e he).pend hk
  · intro t' c' hts'
    by_cases het : t' = t
    · subst het
      obtain ⟨e, he, h⟩ := ns.hold c' hts'
      exact ⟨e, List.mem_append_right _ he, h⟩
    · rw [hst.ts_other het] at hts'
      rw [hst.pc_other het]
      obtain ⟨e, he, h⟩ := g.hold_lin t' c' hts'
      exact ⟨e, List.mem_append_left _ he, h⟩
  · intro t' c' hts'
    by_cases het : t' = t
    · exact .inl (hst.get_self (het ▸ hts'))
    · rw [hst.ts_other het] at hts'
      rw [hst.pc_other het]
      rcases g.get_lin t' c' hts' with h | ⟨e, he, h⟩
      · exact (ns.getOther t' c' hts' h het).imp id (fun ⟨e, he, h⟩ => ⟨e, List.mem_append_right _ he, h⟩)
      · exact .inr ⟨e, List.mem_append_left _ he, h⟩
  · rw [List.pairwise_append]
    refine ⟨g.nodup, ns.pw.imp (fun {a b} h h' => h h'.1), ?_⟩
    intro a ha b hb ⟨h1, h2⟩
    -- an old pending record of the same thread: but that thread was idle, or held the Arc of the current cell
    have hp := g.pend a ha (by rw [h2, (ns.each b hb).k, h1])
    rcases (ns.each b hb).pre with h' | ⟨c', h', hc'⟩
    · exact hp.busy (h1 ▸ h')
    · rcases hp with ⟨c, h, _⟩ | ⟨c, h, hc, _⟩
      · rw [h1, h'] at h; cases h
      · rw [h1, h'] at h; cases h; exact hc hc'

end Zarrs.MemConc
