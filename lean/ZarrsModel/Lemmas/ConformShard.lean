import ZarrsModel.Model.Conform
import ZarrsModel.Lemmas.CodecShard
import ZarrsModel.Lemmas.ListBasic
/- C12: the specification-level writer's placement of inner chunks is legal, whatever order and padding it chose -/
namespace Zarrs.Conform
open Zarrs Zarrs.Codec

def placeStep (pad base : Nat) (chunks : List (Option Bytes)) (acc : Bytes × List (Nat × Nat × Nat)) (i : Nat) :
    Bytes × List (Nat × Nat × Nat) :=
  match chunks.getD i none with
  | none => acc
  | some b => (acc.1 ++ List.replicate pad 0xAA ++ b, acc.2 ++ [(i, base + acc.1.length + pad, b.length)])

/-- the data and placements produced from a data prefix of length `len`, as a forward recursion -/
def placeFrom (pad base : Nat) (chunks : List (Option Bytes)) : Nat → List Nat → Bytes × List (Nat × Nat × Nat)
  | _, [] => ([], [])
  | len, i :: is =>
    match chunks.getD i none with
    | none => placeFrom pad base chunks len is
    | some b =>
      (List.replicate pad 0xAA ++ b ++ (placeFrom pad base chunks (len + pad + b.length) is).1,
        (i, base + len + pad, b.length) :: (placeFrom pad base chunks (len + pad + b.length) is).2)

theorem placeFrom_cons_none {pad base : Nat} {chunks : List (Option Bytes)} {len i : Nat} {is : List Nat}
    (h : chunks.getD i none = none) :
    placeFrom pad base chunks len (i :: is) = placeFrom pad base chunks len is := by
  rw [placeFrom]; simp only [h]

theorem placeFrom_cons_some {pad base : Nat} {chunks : List (Option Bytes)} {len i : Nat} {is : List Nat} {b : Bytes}
    (h : chunks.getD i none = some b) :
    placeFrom pad base chunks len (i :: is) =
      (List.replicate pad 0xAA ++ b ++ (placeFrom pad base chunks (len + pad + b.length) is).1,
        (i, base + len + pad, b.length) :: (placeFrom pad base chunks (len + pad + b.length) is).2) := by
  rw [placeFrom]; simp only [h]

theorem place_foldl (pad base : Nat) (chunks : List (Option Bytes)) (idxs : List Nat) :
    ∀ (d : Bytes) (pl : List (Nat × Nat × Nat)),
    idxs.foldl (placeStep pad base chunks) (d, pl) =
      (d ++ (placeFrom pad base chunks d.length idxs).1, pl ++ (placeFrom pad base chunks d.length idxs).2) := by
  induction idxs with
  | nil => intro d pl; simp [placeFrom]
  | cons i is ih =>
    intro d pl
    rw [List.foldl_cons]
    cases h : chunks.getD i none with
    | none =>
      rw [placeFrom_cons_none h]
      simp only [placeStep, h]
      exact ih d pl
    | some b =>
      rw [placeFrom_cons_some h]
      simp only [placeStep, h]
      rw [ih]
      simp only [List.length_append, List.length_replicate, List.append_assoc, List.cons_append, List.nil_append,
        Nat.add_assoc]

/-- what makes a placement legal: every triple (chunk index, offset, length) of `placed` points at its chunk inside
    `data`, offsets counted from `start`; two triples do not overlap; every stored chunk among `idxs` has a triple -/
structure Placed (start : Nat) (chunks : List (Option Bytes)) (idxs : List Nat) (data : Bytes)
    (placed : List (Nat × Nat × Nat)) : Prop where
  lies : ∀ p ∈ placed, ∃ b pre post, chunks.getD p.1 none = some b ∧ p.2.2 = b.length ∧
    data = pre ++ b ++ post ∧ p.2.1 = start + pre.length
  apart : ∀ p ∈ placed, ∀ q ∈ placed, p.1 ≠ q.1 → p.2.1 + p.2.2 ≤ q.2.1 ∨ q.2.1 + q.2.2 ≤ p.2.1
  covers : ∀ i ∈ idxs, ∀ b, chunks.getD i none = some b → ∃ p ∈ placed, p.1 = i

theorem placeFrom_spec (pad base : Nat) (chunks : List (Option Bytes)) (idxs : List Nat) : ∀ (len : Nat),
    Placed (base + len) chunks idxs (placeFrom pad base chunks len idxs).1 (placeFrom pad base chunks len idxs).2 := by
  induction idxs with
  | nil => intro len; refine ⟨?_, ?_, ?_⟩ <;> simp [placeFrom]
  | cons i is ih =>
    intro len
    cases h : chunks.getD i none with
    | none =>
      rw [placeFrom_cons_none h]
      obtain ⟨m, d, c⟩ := ih len
      refine ⟨m, d, fun j hj b hb => ?_⟩
      rcases List.mem_cons.1 hj with rfl | hj
      · rw [hb] at h; cases h
      · exact c j hj b hb
    | some b =>
      rw [placeFrom_cons_some h]
      obtain ⟨m, d, c⟩ := ih (len + pad + b.length)
      -- the later placements lie behind this chunk
      have hge : ∀ q ∈ (placeFrom pad base chunks (len + pad + b.length) is).2,
          base + (len + pad + b.length) ≤ q.2.1 := by
        intro q hq
        obtain ⟨_, pre, _, _, _, _, h4⟩ := m q hq
        omega
      refine ⟨fun p hp => ?_, fun p hp q hq hne => ?_, fun j hj b' hb => ?_⟩
      · rcases List.mem_cons.1 hp with rfl | hp
        · exact ⟨b, List.replicate pad 0xAA, _, h, rfl, rfl, by simp⟩
        · obtain ⟨b', pre, post, h1, h2, h3, h4⟩ := m p hp
          refine ⟨b', List.replicate pad 0xAA ++ b ++ pre, post, h1, h2, ?_, ?_⟩
          · simp only [h3, List.append_assoc]
          · simp only [h4, List.length_append, List.length_replicate]; omega
      · rcases List.mem_cons.1 hp with rfl | hp <;> rcases List.mem_cons.1 hq with rfl | hq
        · exact absurd rfl hne
        · have := hge q hq
          left; simp only; omega
        · have := hge p hp
          right; simp only; omega
        · exact d p hp q hq hne
      · rcases List.mem_cons.1 hj with rfl | hj
        · exact ⟨_, List.mem_cons_self, rfl⟩
        · obtain ⟨p, hp, hpi⟩ := c j hj b' hb
          exact ⟨p, List.mem_cons_of_mem _ hp, hpi⟩

theorem placeFrom_le (pad base : Nat) (chunks : List (Option Bytes)) (idxs : List Nat) (len : Nat) :
    ∀ p ∈ (placeFrom pad base chunks len idxs).2,
      p.2.1 + p.2.2 ≤ base + len + (placeFrom pad base chunks len idxs).1.length := by
  intro p hp
  obtain ⟨b, pre, post, _, h2, h3, h4⟩ := (placeFrom_spec pad base chunks idxs len).lies p hp
  rw [h3]; simp only [List.length_append]; omega

theorem placeFrom_length (pad base : Nat) (chunks : List (Option Bytes)) (idxs : List Nat) :
    ∀ (len : Nat), (placeFrom pad base chunks len idxs).1.length =
      ((idxs.filterMap (fun i => chunks.getD i none)).map (fun b => b.length + pad)).sum := by
  induction idxs with
  | nil => intro len; simp [placeFrom]
  | cons i is ih =>
    intro len
    cases h : chunks.getD i none with
    | none => rw [placeFrom_cons_none h]; simp only [List.filterMap_cons, h]; exact ih len
    | some b =>
      rw [placeFrom_cons_some h]
      simp only [List.filterMap_cons, h, List.length_append, List.length_replicate, List.map_cons, List.sum_cons, ih]
      omega

def entryOf (placed : List (Nat × Nat × Nat)) (i : Nat) : Nat × Nat :=
  match placed.find? (·.1 == i) with
  | some p => (p.2.1, p.2.2)
  | none => (Shard.sentinel, Shard.sentinel)

def placeIdxs (l : Layout) (n : Nat) : List Nat := if l.reverseInner then (List.range n).reverse else List.range n

theorem placeInner_eq (l : Layout) (base : Nat) (chunks : List (Option Bytes)) :
    placeInner l base chunks = ((placeFrom l.pad base chunks 0 (placeIdxs l chunks.length)).1,
      (List.range chunks.length).map (entryOf (placeFrom l.pad base chunks 0 (placeIdxs l chunks.length)).2)) := by
  have := place_foldl l.pad base chunks (placeIdxs l chunks.length) [] []
  simp only [List.nil_append, List.length_nil] at this
  have h2 : placeInner l base chunks =
      (((placeIdxs l chunks.length).foldl (placeStep l.pad base chunks) ([], [])).1,
        (List.range chunks.length).map
          (entryOf ((placeIdxs l chunks.length).foldl (placeStep l.pad base chunks) ([], [])).2)) := rfl
  rw [h2, this]

theorem placeInner_entries_length (l : Layout) (base : Nat) (chunks : List (Option Bytes)) :
    (placeInner l base chunks).2.length = chunks.length := by
  rw [placeInner_eq]; simp

theorem placeInner_data_length (l : Layout) (base : Nat) (chunks : List (Option Bytes)) :
    (placeInner l base chunks).1.length = ((chunks.filterMap id).map (fun b => b.length + l.pad)).sum := by
  rw [placeInner_eq]
  simp only [placeFrom_length]
  unfold placeIdxs
  cases l.reverseInner
  · simp only [Bool.false_eq_true, if_false, range_filterMap_getD]
  · simp only [if_true, List.filterMap_reverse, List.map_reverse, List.sum_reverse, range_filterMap_getD]

theorem entryOf_cases (placed : List (Nat × Nat × Nat)) (i : Nat) :
    (entryOf placed i = (Shard.sentinel, Shard.sentinel) ∧ ∀ p ∈ placed, p.1 ≠ i) ∨
      ∃ p ∈ placed, p.1 = i ∧ entryOf placed i = (p.2.1, p.2.2) := by
  unfold entryOf
  cases h : placed.find? (·.1 == i) with
  | none =>
    left
    refine ⟨rfl, ?_⟩
    intro p hp
    have := List.find?_eq_none.mp h p hp
    simpa using this
  | some p =>
    right
    exact ⟨p, List.mem_of_find?_eq_some h, by simpa using List.find?_some h, rfl⟩

theorem legal_of_placed (c : Shard.Cfg) (chunks : List (Option Bytes)) (hn : chunks.length = c.nChunks)
    (data : Bytes) (placed : List (Nat × Nat × Nat))
    (hpl : Placed (Shard.base c) chunks (List.range chunks.length) data placed)
    (hsmall : data.length + Shard.indexSize c < Shard.sentinel) :
    Shard.Legal c (if c.indexAtEnd then data ++ Shard.encodeIndex c ((List.range chunks.length).map (entryOf placed))
      else Shard.encodeIndex c ((List.range chunks.length).map (entryOf placed)) ++ data) chunks := by
  refine Shard.legal_of_entries c chunks hn data _ (by simp) ?_ ?_ hsmall
  · intro i hc h
    have hg : chunks.getD i none = chunks[i] := by
      rw [List.getD_eq_getElem?_getD, List.getElem?_eq_getElem hc]; rfl
    rw [List.getElem_map, List.getElem_range]
    split <;> rename_i heq <;> rw [heq] at hg
    · rcases entryOf_cases placed i with ⟨h, _⟩ | ⟨p, hp, hpi, _⟩
      · exact h
      · obtain ⟨b, _, _, h1, _⟩ := hpl.lies p hp
        rw [hpi, hg] at h1; cases h1
    · rename_i _ b
      rcases entryOf_cases placed i with ⟨_, hno⟩ | ⟨p, hp, hpi, he⟩
      · obtain ⟨p, hp, hpi⟩ := hpl.covers i (List.mem_range.2 hc) b hg
        exact absurd hpi (hno p hp)
      · obtain ⟨b', pre, post, h1, h2, h3, h4⟩ := hpl.lies p hp
        rw [hpi, hg, Option.some.injEq] at h1
        subst h1
        exact ⟨pre, post, h3, by rw [he, h4, h2]⟩
  · intro i j hi hj hij hli hlj
    simp only [List.getElem_map, List.getElem_range] at hli hlj ⊢
    rcases entryOf_cases placed i with ⟨h, _⟩ | ⟨p, hp, hpi, hep⟩
    · rw [h] at hli; simp [Shard.isLive] at hli
    rcases entryOf_cases placed j with ⟨h, _⟩ | ⟨q, hq, hqj, heq⟩
    · rw [h] at hlj; simp [Shard.isLive] at hlj
    rw [hep, heq]
    exact hpl.apart p hp q hq (by rw [hpi, hqj]; exact hij)

/-- the shard the specification writer stores for the inner chunks `chunks`: `chunkBody` of `Model/Conform.lean` writes
    this out for the configuration of its chain -/
def shardValue (l : Layout) (c : Shard.Cfg) (chunks : List (Option Bytes)) : Bytes :=
  let p := placeInner l (Shard.base c) chunks
  if c.indexAtEnd then p.1 ++ Shard.encodeIndex c p.2 else Shard.encodeIndex c p.2 ++ p.1

theorem shardValue_length (l : Layout) (c : Shard.Cfg) (chunks : List (Option Bytes)) (hn : chunks.length = c.nChunks) :
    (shardValue l c chunks).length = (placeInner l (Shard.base c) chunks).1.length + Shard.indexSize c := by
  have hi := Shard.encodeIndex_length c (placeInner l (Shard.base c) chunks).2 (by rw [placeInner_entries_length, hn])
  simp only [shardValue]
  split <;> simp only [List.length_append, hi]
  exact Nat.add_comm _ _

theorem placeFrom_wf (pad base : Nat) (chunks : List (Option Bytes))
    (hc : ∀ ch ∈ chunks, ∀ b, ch = some b → ∀ x ∈ b, x < 256) (idxs : List Nat) :
    ∀ (len : Nat), ∀ x ∈ (placeFrom pad base chunks len idxs).1, x < 256 := by
  induction idxs with
  | nil => intro len x hx; simp [placeFrom] at hx
  | cons i is ih =>
    intro len x hx
    cases h : chunks.getD i none with
    | none =>
      rw [placeFrom_cons_none h] at hx
      exact ih len x hx
    | some b =>
      rw [placeFrom_cons_some h] at hx
      simp only [List.mem_append, List.mem_replicate] at hx
      rcases hx with (⟨_, rfl⟩ | hx) | hx
      · decide
      · exact hc _ (mem_of_getD_some h) b rfl x hx
      · exact ih _ x hx

theorem placeInner_wf (l : Layout) (base : Nat) (chunks : List (Option Bytes))
    (hc : ∀ ch ∈ chunks, ∀ b, ch = some b → ∀ x ∈ b, x < 256) :
    ∀ x ∈ (placeInner l base chunks).1, x < 256 := by
  rw [placeInner_eq]
  exact placeFrom_wf _ _ _ hc _ _

theorem shardValue_wf (l : Layout) (c : Shard.Cfg) (chunks : List (Option Bytes))
    (hc : ∀ ch ∈ chunks, ∀ b, ch = some b → ∀ x ∈ b, x < 256) : ∀ x ∈ shardValue l c chunks, x < 256 := by
  unfold shardValue
  split
  · exact List.forall_mem_append.2 ⟨placeInner_wf _ _ _ hc, Shard.encodeIndex_wf _ _⟩
  · exact List.forall_mem_append.2 ⟨Shard.encodeIndex_wf _ _, placeInner_wf _ _ _ hc⟩

theorem shardValue_legal (l : Layout) (c : Shard.Cfg) (chunks : List (Option Bytes)) (hn : chunks.length = c.nChunks)
    (hsmall : (shardValue l c chunks).length < Shard.sentinel) : Shard.Legal c (shardValue l c chunks) chunks := by
  rw [shardValue_length l c chunks hn] at hsmall
  simp only [shardValue]
  rw [placeInner_eq] at hsmall ⊢
  have hidx : ∀ i, i < chunks.length → i ∈ placeIdxs l chunks.length := by
    intro i hi
    unfold placeIdxs
    split <;> simp [hi]
  have hpl := placeFrom_spec l.pad (Shard.base c) chunks (placeIdxs l chunks.length) 0
  exact legal_of_placed c chunks hn _ _
    ⟨hpl.lies, hpl.apart, fun i hi b hb => hpl.covers i (hidx i (List.mem_range.1 hi)) b hb⟩ hsmall

end Zarrs.Conform
