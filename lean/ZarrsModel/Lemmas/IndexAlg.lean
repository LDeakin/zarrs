import ZarrsModel.Model.Iter
/- Index vectors and boxes: everything about `addIdx`, `zipSub`, `zipMin`/`zipMax`, `allLe`, `inB` and `Subset.mem` that holds
coordinate by coordinate.  The list functions of the model recurse over their arguments in parallel, so a law is a fact
about `Nat` lifted by that recursion.  Few laws need a lifting of their own: index vectors under `addIdx`, `zipSub` and
`allLe` are an ordered commutative monoid with cancellation (up to truncation to the shorter list, whence the hypotheses
on lengths), a box is an interval of that order (`mem_iff`), and what is said about translating, comparing and
containing boxes follows by rewriting.  Liftings of their own have the laws with a one-dimensional fact of their own:
intersecting intervals (`mem_overlap`, `mem_bound`), dividing them into chunks (`mem_chunkBox`), an inclusive end
(`zipSub_map_succ`, `mem_ofStartEndInc`), extents being positive or all one (`mem_ones`).  The last section reads a vector
by position (`inB_iff`, `addIdx_getD`, `allLe_getD`; beside them `prod_perm`, the size of a permuted shape) and
identifies the truncating `containsZip` of the source with `mem` on equal ranks (`containsZip_eq_mem`). -/
namespace Zarrs
open Subset

@[simp] theorem addIdx_length : ∀ (a b : Idx), (addIdx a b).length = min a.length b.length
  | [], _ => (Nat.zero_min _).symm
  | _ :: _, [] => rfl
  | _ :: as, _ :: bs => by rw [addIdx, List.length_cons, addIdx_length as bs]; exact (Nat.add_min_add_right ..).symm
@[simp] theorem zipMin_length : ∀ (a b : List Nat), (zipMin a b).length = min a.length b.length
  | [], _ => (Nat.zero_min _).symm
  | _ :: _, [] => rfl
  | _ :: as, _ :: bs => by rw [zipMin, List.length_cons, zipMin_length as bs]; exact (Nat.add_min_add_right ..).symm
@[simp] theorem zipMax_length : ∀ (a b : List Nat), (zipMax a b).length = min a.length b.length
  | [], _ => (Nat.zero_min _).symm
  | _ :: _, [] => rfl
  | _ :: as, _ :: bs => by rw [zipMax, List.length_cons, zipMax_length as bs]; exact (Nat.add_min_add_right ..).symm
@[simp] theorem zipSub_length : ∀ (a b : List Nat), (zipSub a b).length = min a.length b.length
  | [], _ => (Nat.zero_min _).symm
  | _ :: _, [] => rfl
  | _ :: as, _ :: bs => by rw [zipSub, List.length_cons, zipSub_length as bs]; exact (Nat.add_min_add_right ..).symm
@[simp] theorem zipDiv_length : ∀ (a b : List Nat), (zipDiv a b).length = min a.length b.length
  | [], _ => (Nat.zero_min _).symm
  | _ :: _, [] => rfl
  | _ :: as, _ :: bs => by rw [zipDiv, List.length_cons, zipDiv_length as bs]; exact (Nat.add_min_add_right ..).symm
@[simp] theorem zipMul_length : ∀ (a b : List Nat), (zipMul a b).length = min a.length b.length
  | [], _ => (Nat.zero_min _).symm
  | _ :: _, [] => rfl
  | _ :: as, _ :: bs => by rw [zipMul, List.length_cons, zipMul_length as bs]; exact (Nat.add_min_add_right ..).symm

theorem addIdx_length_eq (a b : List Nat) (h : a.length = b.length) : (addIdx a b).length = a.length := by
  rw [addIdx_length, h, Nat.min_self]

theorem zipSub_length_eq (a b : List Nat) (h : a.length = b.length) : (zipSub a b).length = a.length := by
  rw [zipSub_length, h, Nat.min_self]

theorem inB_cons_iff {i : Nat} {is : Idx} {s : Nat} {ss : Shape} :
    inB (i :: is) (s :: ss) = true ↔ i < s ∧ inB is ss = true := by
  rw [inB, Bool.and_eq_true, decide_eq_true_eq]

theorem Subset.mem_cons (i : Nat) (is : Idx) (o : Nat) (os : Idx) (n : Nat) (ns : Shape) :
    mem (i :: is) (o :: os) (n :: ns) = (decide (o ≤ i) && decide (i < o + n) && mem is os ns) := rfl

theorem Subset.mem_cons_iff {i : Nat} {is : Idx} {o : Nat} {os : Idx} {n : Nat} {ns : Shape} :
    mem (i :: is) (o :: os) (n :: ns) = true ↔ (o ≤ i ∧ i < o + n) ∧ mem is os ns = true := by
  rw [Subset.mem_cons, Bool.and_eq_true, Bool.and_eq_true, decide_eq_true_eq, decide_eq_true_eq]

theorem Subset.allLe_cons_iff {a : Nat} {as : List Nat} {b : Nat} {bs : List Nat} :
    allLe (a :: as) (b :: bs) = true ↔ a ≤ b ∧ allLe as bs = true := by
  rw [allLe, Bool.and_eq_true, decide_eq_true_eq]

theorem any_zero_cons {n : Nat} {ns : List Nat} :
    (n :: ns).any (· == 0) = false ↔ 0 < n ∧ ns.any (· == 0) = false := by
  rw [List.any_cons, Bool.or_eq_false_iff, beq_eq_false_iff_ne, Nat.pos_iff_ne_zero]

theorem Subset.wf_iff {s : Subset} : s.wf = true ↔ s.start.length = s.shape.length := by
  rw [wf, beq_iff_eq]

theorem Subset.inboundsShape_iff_allLe {s : Subset} {arr : Shape} :
    s.inboundsShape arr = true ↔ s.start.length = arr.length ∧ allLe (addIdx s.start s.shape) arr = true := by
  rw [inboundsShape, Bool.and_eq_true, beq_iff_eq]
  rfl

theorem inB_length {i : Idx} {sh : Shape} (h : inB i sh = true) : i.length = sh.length := by
  fun_induction inB i sh with
  | case1 => rfl
  | case2 i is s ss ih => rw [List.length_cons, List.length_cons, ih (inB_cons_iff.mp h).2]
  | case3 => cases h

theorem addIdx_comm (a b : List Nat) : addIdx a b = addIdx b a := by
  induction a generalizing b with
  | nil => cases b <;> rfl
  | cons x xs ih =>
    cases b with
    | nil => rfl
    | cons y ys => rw [addIdx, addIdx, ih, Nat.add_comm]

theorem zipSub_addIdx_cancel (j o : List Nat) (h : j.length ≤ o.length) : zipSub (addIdx j o) o = j := by
  induction j generalizing o with
  | nil => cases o <;> rfl
  | cons x xs ih =>
    cases o with
    | nil => cases h
    | cons y ys =>
      show (x + y - y) :: zipSub (addIdx xs ys) ys = x :: xs
      rw [Nat.add_sub_cancel, ih ys (Nat.le_of_succ_le_succ h)]

theorem addIdx_zipSub_cancel (a o : List Nat) (hl : a.length ≤ o.length) (h : allLe o a = true) :
    addIdx (zipSub a o) o = a := by
  induction a generalizing o with
  | nil => cases o <;> rfl
  | cons x xs ih =>
    cases o with
    | nil => cases hl
    | cons y ys =>
      simp only [allLe, Bool.and_eq_true, decide_eq_true_eq] at h
      show (x - y + y) :: addIdx (zipSub xs ys) ys = x :: xs
      rw [Nat.sub_add_cancel h.1, ih ys (Nat.le_of_succ_le_succ hl) h.2]

theorem addIdx_assoc (a b c : List Nat) : addIdx (addIdx a b) c = addIdx a (addIdx b c) := by
  induction a generalizing b c with
  | nil => rfl
  | cons x xs ih =>
    cases b with
    | nil => rfl
    | cons y ys =>
      cases c with
      | nil => rfl
      | cons z zs =>
        show (x + y + z) :: addIdx (addIdx xs ys) zs = (x + (y + z)) :: addIdx xs (addIdx ys zs)
        rw [Nat.add_assoc, ih]

theorem zipSub_addIdx_right (i r o : List Nat) : zipSub i (addIdx r o) = zipSub (zipSub i o) r := by
  induction i generalizing r o with
  | nil => rfl
  | cons x xs ih =>
    cases r with
    | nil => cases o <;> rfl
    | cons y ys =>
      cases o with
      | nil => rfl
      | cons z zs =>
        show (x - (y + z)) :: zipSub xs (addIdx ys zs) = (x - z - y) :: zipSub (zipSub xs zs) ys
        rw [ih, Nat.add_comm, Nat.sub_add_eq]

theorem addIdx_zeros (j : Idx) (n : Nat) (h : j.length ≤ n) : addIdx j (List.replicate n 0) = j := by
  induction j generalizing n with
  | nil => cases n <;> simp [addIdx]
  | cons x xs ih =>
    cases n with
    | zero => simp at h
    | succ n =>
      simp only [List.length_cons, Nat.add_le_add_iff_right] at h
      simp [List.replicate_succ, addIdx, ih n h]


theorem addIdx_of_zeros (z o : List Nat) (hz : ∀ x ∈ z, x = 0) (hl : z.length = o.length) : addIdx z o = o := by
  rw [List.eq_replicate_iff.mpr ⟨rfl, hz⟩, addIdx_comm, addIdx_zeros o _ (Nat.le_of_eq hl.symm)]

theorem zipSub_zeros (a : List Nat) (n : Nat) (h : a.length ≤ n) : zipSub a (List.replicate n 0) = a := by
  induction a generalizing n with
  | nil => cases n <;> simp [zipSub]
  | cons x xs ih =>
    cases n with
    | zero => simp at h
    | succ n =>
      simp only [List.replicate_succ, zipSub, Nat.sub_zero, List.cons.injEq, true_and]
      exact ih n (by simpa using h)


theorem zipSub_chain (i a o : List Nat) (h1 : allLe o a = true) (h2 : allLe a i = true)
    (hl : i.length = a.length) (hl2 : a.length = o.length) :
    addIdx (zipSub i a) (zipSub a o) = zipSub i o := by
  rw [← zipSub_addIdx_cancel (addIdx (zipSub i a) (zipSub a o)) o (by simp only [addIdx_length, zipSub_length]; omega),
    addIdx_assoc, addIdx_zipSub_cancel a o (Nat.le_of_eq hl2) h1, addIdx_zipSub_cancel i a (Nat.le_of_eq hl) h2]

theorem zipSub_shift (j a o : List Nat) (h : allLe o a = true) :
    zipSub j (zipSub a o) = zipSub (addIdx j o) a := by
  induction j generalizing a o with
  | nil => rfl
  | cons x xs ih =>
    cases a with
    | nil => cases o <;> rfl
    | cons y ys =>
      cases o with
      | nil => rfl
      | cons z zs =>
        simp only [allLe, Bool.and_eq_true, decide_eq_true_eq] at h
        show (x - (y - z)) :: zipSub xs (zipSub ys zs) = (x + z - y) :: zipSub (addIdx xs zs) ys
        rw [ih ys zs h.2, Nat.sub_sub_right x h.1]

theorem zipMax_comm (a b : List Nat) : zipMax a b = zipMax b a := by
  induction a generalizing b with
  | nil => cases b <;> rfl
  | cons x xs ih => cases b with
    | nil => rfl
    | cons y ys => simp [zipMax, ih ys, Nat.max_comm]

theorem zipMin_comm (a b : List Nat) : zipMin a b = zipMin b a := by
  induction a generalizing b with
  | nil => cases b <;> rfl
  | cons x xs ih => cases b with
    | nil => rfl
    | cons y ys => simp [zipMin, ih ys, Nat.min_comm]

theorem allLe_refl (sh : Shape) : allLe sh sh = true := by
  induction sh with
  | nil => rfl
  | cons x xs ih => simp [allLe, ih]

theorem allLe_zeros (n : Nat) (sh : Shape) : allLe (List.replicate n 0) sh = true := by
  induction n generalizing sh with
  | zero => cases sh <;> rfl
  | succ n ih => cases sh <;> simp [List.replicate_succ, allLe, ih]

theorem allLe_trans : ∀ (a b c : List Nat), a.length ≤ b.length → allLe a b = true → allLe b c = true →
    allLe a c = true
  | [], _, _, _, _, _ | _ :: _, _ :: _, [], _, _, _ => rfl
  | _ :: as, _ :: bs, _ :: cs, hl, h1, h2 =>
    allLe_cons_iff.mpr ⟨Nat.le_trans (allLe_cons_iff.mp h1).1 (allLe_cons_iff.mp h2).1,
      allLe_trans as bs cs (Nat.le_of_succ_le_succ hl) (allLe_cons_iff.mp h1).2 (allLe_cons_iff.mp h2).2⟩

theorem allLe_addIdx_left (r o : List Nat) : allLe o (addIdx r o) = true := by
  induction r generalizing o with
  | nil => cases o <;> rfl
  | cons x xs ih =>
    cases o with
    | nil => rfl
    | cons y ys =>
      show (decide (y ≤ x + y) && allLe ys (addIdx xs ys)) = true
      rw [ih, decide_eq_true (Nat.le_add_left y x)]; rfl

theorem allLe_addIdx_right : ∀ (a b c : List Nat), a.length ≤ c.length →
    allLe (addIdx a c) (addIdx b c) = allLe a b
  | [], _, _, _ | _ :: _, [], [], _ | _ :: _, [], _ :: _, _ => rfl
  | x :: xs, y :: ys, z :: zs, h => by
    rw [addIdx, addIdx, allLe, allLe, allLe_addIdx_right xs ys zs (Nat.le_of_succ_le_succ h)]
    exact congrArg (· && _) (decide_eq_decide.mpr Nat.add_le_add_iff_right)

theorem allLe_shift (r rsh o s : List Nat) (hl : r.length ≤ o.length) (h : allLe (addIdx r rsh) s = true) :
    allLe (addIdx (addIdx r o) rsh) (addIdx o s) = true := by
  rwa [addIdx_assoc, addIdx_comm o rsh, ← addIdx_assoc, addIdx_comm o s,
    allLe_addIdx_right _ s o (by rw [addIdx_length]; exact Nat.le_trans (Nat.min_le_left ..) hl)]

theorem allLe_rel (sa na sb nb : List Nat) (hl : sa.length = sb.length)
    (h1 : allLe sb sa = true) (h2 : allLe (addIdx sa na) (addIdx sb nb) = true) :
    allLe (addIdx (zipSub sa sb) na) nb = true := by
  rwa [← allLe_addIdx_right _ nb sb (by simp only [addIdx_length, zipSub_length]; omega), addIdx_assoc,
    addIdx_comm na, ← addIdx_assoc, addIdx_zipSub_cancel sa sb (Nat.le_of_eq hl) h1, addIdx_comm nb]

/-- both sides truncate alike, so no condition on the lengths -/
theorem zipUnderflow_eq : ∀ (a b : List Nat), zipUnderflow a b = !allLe b a
  | [], [] | [], _ :: _ | _ :: _, [] => rfl
  | x :: xs, y :: ys => by
    rw [zipUnderflow, allLe, zipUnderflow_eq xs ys, Bool.not_and, ← decide_not]
    exact congrArg (· || _) (decide_eq_decide.mpr Nat.not_le.symm)

theorem zipUnderflow_of_allLe (a o : List Nat) (h : allLe o a = true) : zipUnderflow a o = false := by
  rw [zipUnderflow_eq, h]; rfl

theorem allLe_of_zipUnderflow {a o : List Nat} (h : zipUnderflow a o = false) : allLe o a = true := by
  rwa [zipUnderflow_eq, Bool.not_eq_false'] at h

theorem zipUnderflow_any (x y : List Nat) (h : zipUnderflow x y = true) :
    (zipSub x y).any (· == 0) = true := by
  fun_induction zipUnderflow x y with
  | case1 a as b bs ih =>
    simp only [Bool.or_eq_true, decide_eq_true_eq] at h
    simp only [zipSub, List.any_cons, Bool.or_eq_true, beq_iff_eq]
    exact h.imp (fun h => by omega) ih
  | case2 => cases h

theorem inB_addIdx_right : ∀ (i s c : List Nat), i.length ≤ c.length → s.length ≤ c.length →
    inB (addIdx i c) (addIdx s c) = inB i s
  | [], [], _, _, _ | [], _ :: _, _ :: _, _, _ | _ :: _, [], _ :: _, _, _ => rfl
  | x :: xs, y :: ys, z :: zs, h1, h2 => by
    rw [addIdx, addIdx, inB, inB,
      inB_addIdx_right xs ys zs (Nat.le_of_succ_le_succ h1) (Nat.le_of_succ_le_succ h2)]
    exact congrArg (· && _) (decide_eq_decide.mpr Nat.add_lt_add_iff_right)

theorem inB_of_allLe : ∀ (i a b : List Nat), a.length = b.length → inB i a = true → allLe a b = true →
    inB i b = true
  | [], [], [], _, _, _ => rfl
  | _ :: xs, _ :: ys, _ :: zs, hl, h1, h2 =>
    inB_cons_iff.mpr ⟨Nat.lt_of_lt_of_le (inB_cons_iff.mp h1).1 (allLe_cons_iff.mp h2).1,
      inB_of_allLe xs ys zs (Nat.succ.inj hl) (inB_cons_iff.mp h1).2 (allLe_cons_iff.mp h2).2⟩

theorem mem_iff : ∀ {i o n : List Nat},
    mem i o n = true ↔ o.length = n.length ∧ allLe o i = true ∧ inB i (addIdx o n) = true
  | [], [], [] => ⟨fun _ => ⟨rfl, rfl, rfl⟩, fun _ => rfl⟩
  | [], [], _ :: _ | [], _ :: _, [] | _ :: _, _ :: _, [] => ⟨nofun, fun h => nomatch h.1⟩
  | [], _ :: _, _ :: _ | _ :: _, [], _ => ⟨nofun, fun h => nomatch h.2.2⟩
  | x :: xs, y :: ys, z :: zs => by
    rw [mem_cons_iff, mem_iff, List.length_cons, List.length_cons, Nat.succ_inj, allLe_cons_iff, addIdx, inB_cons_iff]
    exact ⟨fun ⟨⟨a, b⟩, c, d, e⟩ => ⟨c, ⟨a, d⟩, b, e⟩, fun ⟨c, ⟨a, d⟩, b, e⟩ => ⟨⟨a, b⟩, c, d, e⟩⟩

theorem mem_length {i o n : List Nat} (h : mem i o n = true) : i.length = o.length ∧ o.length = n.length := by
  obtain ⟨hl, _, h⟩ := mem_iff.mp h
  exact ⟨(inB_length h).trans (by rw [addIdx_length, ← hl, Nat.min_self]), hl⟩

theorem allLe_of_mem (i o n : List Nat) (h : mem i o n = true) : allLe o i = true :=
  (mem_iff.mp h).2.1

theorem inB_of_allLe_end (i st sh arr : List Nat) (hl : st.length = arr.length)
    (h : allLe (addIdx st sh) arr = true) (hm : mem i st sh = true) : inB i arr = true :=
  inB_of_allLe i _ arr (by rw [addIdx_length, ← (mem_length hm).2, Nat.min_self, hl]) (mem_iff.mp hm).2.2 h

theorem Subset.inB_of_inboundsShape {s : Subset} {arr : Shape} (hb : s.inboundsShape arr = true) {i : Idx}
    (hi : s.contains i = true) : inB i arr = true := by
  rw [inboundsShape_iff_allLe] at hb
  exact inB_of_allLe_end i _ _ arr hb.1 hb.2 hi

theorem mem_addIdx_right (i o n c : List Nat) (hi : i.length ≤ c.length) (ho : o.length ≤ c.length) :
    mem (addIdx i c) (addIdx o c) n = mem i o n := by
  rw [Bool.eq_iff_iff, mem_iff, mem_iff, allLe_addIdx_right o i c ho, addIdx_assoc, addIdx_comm c n, ← addIdx_assoc,
    inB_addIdx_right i _ c hi (by rw [addIdx_length]; exact Nat.le_trans (Nat.min_le_left ..) ho),
    addIdx_length, Nat.min_eq_left ho]

theorem mem_addIdx (j st sh : List Nat) (hl : st.length = sh.length) (h : inB j sh = true) :
    mem (addIdx j st) st sh = true := by
  have hj : j.length = st.length := (inB_length h).trans hl.symm
  rw [mem_iff, addIdx_comm st, inB_addIdx_right j sh st (Nat.le_of_eq hj) (Nat.le_of_eq hl.symm)]
  exact ⟨hl, allLe_addIdx_left j st, h⟩

theorem mem_zipSub (i st sh : List Nat) (h : mem i st sh = true) :
    inB (zipSub i st) sh = true ∧ addIdx (zipSub i st) st = i := by
  obtain ⟨hl, h1, h2⟩ := mem_iff.mp h
  have e := addIdx_zipSub_cancel i st (Nat.le_of_eq (mem_length h).1) h1
  refine ⟨?_, e⟩
  rwa [← inB_addIdx_right _ sh st (by rw [zipSub_length]; exact Nat.min_le_right ..) (Nat.le_of_eq hl.symm), e,
    addIdx_comm]

theorem mem_translate (i o s n : List Nat) (hs : s.length = o.length) :
    mem i (addIdx o s) n = true ↔ ∃ j, j.length = o.length ∧ addIdx j o = i ∧ mem j s n = true := by
  constructor
  · intro h
    have hi : i.length = o.length := by rw [(mem_length h).1, addIdx_length, hs, Nat.min_self]
    have e := addIdx_zipSub_cancel i o (Nat.le_of_eq hi)
      (allLe_trans o _ i (by rw [addIdx_length, hs, Nat.min_self]; exact Nat.le_refl _)
        (addIdx_comm o s ▸ allLe_addIdx_left s o) (allLe_of_mem _ _ _ h))
    refine ⟨zipSub i o, by rw [zipSub_length, hi, Nat.min_self], e, ?_⟩
    rwa [← mem_addIdx_right _ s n o (by rw [zipSub_length]; exact Nat.min_le_right ..) (Nat.le_of_eq hs), e,
      addIdx_comm s o]
  · rintro ⟨j, hj, rfl, h⟩
    rwa [addIdx_comm o s, mem_addIdx_right j s n o (Nat.le_of_eq hj) (Nat.le_of_eq hs)]

theorem mem_relativeTo (i st sh o : List Nat) (ho : o.length = st.length)
    (hu : zipUnderflow st o = false) (hi : i.length ≤ st.length) :
    mem i (zipSub st o) sh = mem (addIdx i o) st sh := by
  rw [← mem_addIdx_right i (zipSub st o) sh o (ho ▸ hi) (by rw [zipSub_length]; exact Nat.min_le_right ..),
    addIdx_zipSub_cancel st o (Nat.le_of_eq ho.symm) (allLe_of_zipUnderflow hu)]

theorem mem_of_allLe (i so sn oo on : List Nat) (ho : oo.length = on.length)
    (hr : so.length = oo.length) (h1 : allLe oo so = true)
    (h2 : allLe (addIdx so sn) (addIdx oo on) = true) (hm : mem i so sn = true) : mem i oo on = true := by
  obtain ⟨hs, a, b⟩ := mem_iff.mp hm
  exact mem_iff.mpr ⟨ho, allLe_trans oo so i (Nat.le_of_eq hr.symm) h1 a,
    inB_of_allLe i _ _ (by rw [addIdx_length, addIdx_length, ← hs, ← ho, hr]) b h2⟩

theorem Subset.contains_ofShape (sh : Shape) (i : Idx) : (Subset.ofShape sh).contains i = inB i sh := by
  rw [Bool.eq_iff_iff, contains, mem_iff, ofShape, addIdx_comm, addIdx_zeros sh _ (Nat.le_refl _)]
  exact ⟨fun h => h.2.2, fun h => ⟨List.length_replicate, allLe_zeros .., h⟩⟩

theorem mem_of_any_zero (i st sh : List Nat) (h : sh.any (· == 0) = true) : mem i st sh = false := by
  fun_induction mem i st sh with
  | case1 => cases h
  | case2 x xs o os n ns ih =>
    simp only [List.any_cons, Bool.or_eq_true, beq_iff_eq] at h
    simp only [Bool.and_eq_false_iff, decide_eq_false_iff_not]
    rcases h with h | h
    · left; omega
    · right; exact ih h
  | case3 => rfl

theorem mem_start : ∀ (st sh : List Nat), st.length = sh.length → sh.any (· == 0) = false →
    mem st st sh = true
  | [], [], _, _ => rfl
  | _ :: os, _ :: ns, h, hne =>
    Subset.mem_cons_iff.mpr ⟨⟨Nat.le_refl _, Nat.lt_add_of_pos_right (any_zero_cons.mp hne).1⟩,
      mem_start os ns (Nat.succ.inj h) (any_zero_cons.mp hne).2⟩

theorem mem_last : ∀ (st sh : List Nat), st.length = sh.length → sh.any (· == 0) = false →
    mem ((addIdx st sh).map (· - 1)) st sh = true
  | [], [], _, _ => rfl
  | o :: os, n :: ns, h, hne => by
    have hn := (any_zero_cons.mp hne).1
    exact Subset.mem_cons_iff.mpr ⟨⟨Nat.le_sub_one_of_lt (Nat.lt_add_of_pos_right hn), Nat.sub_one_lt (by omega)⟩,
      mem_last os ns (Nat.succ.inj h) (any_zero_cons.mp hne).2⟩

theorem allLe_end_of_inB_last (st sh arr : List Nat) (hne : sh.any (· == 0) = false)
    (h : inB ((addIdx st sh).map (· - 1)) arr = true) : allLe (addIdx st sh) arr = true := by
  fun_induction addIdx st sh generalizing arr with
  | case1 o os n ns ih =>
    match arr, h with
    | a :: as, h =>
      obtain ⟨hn, hne'⟩ := any_zero_cons.mp hne
      simp only [List.map_cons, inB_cons_iff] at h
      exact Subset.allLe_cons_iff.mpr ⟨by omega, ih as hne' h.2⟩
  | case2 => rfl

theorem ones_end (st sh : List Nat) (h : ∀ x ∈ sh, x = 1) (hl : st.length = sh.length) :
    (addIdx st sh).map (· - 1) = st := by
  induction st generalizing sh with
  | nil => rfl
  | cons o os ih =>
    cases sh with
    | nil => cases hl
    | cons n ns =>
      show (o + n - 1) :: (addIdx os ns).map (· - 1) = o :: os
      rw [h n List.mem_cons_self, Nat.add_sub_cancel,
        ih ns (fun x hx => h x (List.mem_cons_of_mem _ hx)) (Nat.succ.inj hl)]

theorem mem_ones (c st sh : List Nat) (h : ∀ x ∈ sh, x = 1) (hm : mem c st sh = true) : c = st := by
  induction c generalizing st sh with
  | nil => cases st with
    | nil => rfl
    | cons _ _ => cases sh <;> cases hm
  | cons x xs ih =>
    cases st with
    | nil => cases hm
    | cons o os =>
      cases sh with
      | nil => cases hm
      | cons n ns =>
        simp only [mem, Bool.and_eq_true, decide_eq_true_eq, h n List.mem_cons_self] at hm
        rw [ih os ns (fun x hx => h x (List.mem_cons_of_mem _ hx)) hm.2,
          Nat.le_antisymm (Nat.le_of_lt_succ hm.1.2) hm.1.1]

theorem ones_nonempty (sh : List Nat) (h : ∀ x ∈ sh, x = 1) : sh.any (· == 0) = false := by
  rw [List.any_eq_false]
  intro x hx h0
  rw [h x hx] at h0
  cases h0

theorem Subset.inboundsShape_iff_mem (s : Subset) (arr : Shape) (hs : s.wf = true) (hne : s.isEmpty = false) :
    s.inboundsShape arr = true ↔ (s.rank = arr.length ∧ ∀ i, s.contains i = true → inB i arr = true) := by
  rw [inboundsShape_iff_allLe]
  exact ⟨fun ⟨hr, h⟩ => ⟨hr, fun i hi => inB_of_allLe_end i s.start s.shape arr hr h hi⟩,
    fun ⟨hr, h⟩ => ⟨hr, allLe_end_of_inB_last _ _ _ hne (h _ (mem_last s.start s.shape (wf_iff.mp hs) hne))⟩⟩

theorem lt_add_sub {m x : Nat} (e : Nat) (h : m ≤ x) : x < m + (e - m) ↔ x < e := by omega

theorem lt_add_sub_succ {m e : Nat} (x : Nat) (h : m ≤ e) : x < m + (e - m + 1) ↔ x ≤ e := by omega

theorem intervals_meet {a m b n : Nat} :
    (∃ i, (a ≤ i ∧ i < a + m) ∧ (b ≤ i ∧ i < b + n)) ↔ (a < b + n ∧ b < a + m) ∧ 0 < m ∧ 0 < n := by
  constructor
  · rintro ⟨i, ⟨h1, h2⟩, h3, h4⟩
    exact ⟨⟨Nat.lt_of_le_of_lt h1 h4, Nat.lt_of_le_of_lt h3 h2⟩,
      Nat.lt_add_right_iff_pos.mp (Nat.lt_of_le_of_lt h1 h2), Nat.lt_add_right_iff_pos.mp (Nat.lt_of_le_of_lt h3 h4)⟩
  · rintro ⟨⟨h1, h2⟩, hm, hn⟩
    exact ⟨max a b, ⟨Nat.le_max_left .., Nat.max_lt.mpr ⟨Nat.lt_add_of_pos_right hm, h2⟩⟩,
      Nat.le_max_right .., Nat.max_lt.mpr ⟨h1, Nat.lt_add_of_pos_right hn⟩⟩

theorem bool_and_and_and_comm (a b c d : Bool) : ((a && b) && (c && d)) = ((a && c) && (b && d)) := by
  cases a <;> cases b <;> cases c <;> rfl

theorem overlap_dim (x oa na ob nb : Nat) :
    (decide (max oa ob ≤ x) && decide (x < max oa ob + (min (oa + na) (ob + nb) - max oa ob))) =
      ((decide (oa ≤ x) && decide (x < oa + na)) && (decide (ob ≤ x) && decide (x < ob + nb))) := by
  rw [Bool.eq_iff_iff]
  simp only [Bool.and_eq_true, decide_eq_true_eq, Nat.max_le]
  constructor
  · rintro ⟨h, h'⟩
    rw [lt_add_sub _ (Nat.max_le.mpr h), Nat.lt_min] at h'
    exact ⟨⟨h.1, h'.1⟩, h.2, h'.2⟩
  · rintro ⟨⟨h1, h2⟩, h3, h4⟩
    rw [lt_add_sub _ (Nat.max_le.mpr ⟨h1, h3⟩), Nat.lt_min]
    exact ⟨⟨h1, h3⟩, h2, h4⟩

theorem mem_overlap (i oa na ob nb : List Nat) (ha : oa.length = na.length) (hb : ob.length = nb.length)
    (hr : oa.length = ob.length) :
    mem i (zipMax oa ob) (zipSub (zipMin (addIdx oa na) (addIdx ob nb)) (zipMax oa ob)) =
      (mem i oa na && mem i ob nb) := by
  induction oa generalizing i na ob nb with
  | nil => match na, ob, nb, ha, hb, hr with | [], [], [], _, _, _ => cases i <;> rfl
  | cons o1 os1 ih =>
    match na, ob, nb, ha, hb, hr with
    | n1 :: ns1, o2 :: os2, n2 :: ns2, ha, hb, hr =>
      cases i with
      | nil => rfl
      | cons x xs =>
        rw [zipMax, addIdx, addIdx, zipMin, zipSub, Subset.mem_cons, Subset.mem_cons, Subset.mem_cons,
          ih xs ns1 os2 ns2 (Nat.succ.inj ha) (Nat.succ.inj hb) (Nat.succ.inj hr), overlap_dim,
          bool_and_and_and_comm]

theorem bound_dim (x o n e : Nat) :
    (decide (min o e ≤ x) && decide (x < min o e + (min (o + n) e - min o e))) =
      ((decide (o ≤ x) && decide (x < o + n)) && decide (x < e)) := by
  rw [Bool.eq_iff_iff]
  simp only [Bool.and_eq_true, decide_eq_true_eq]
  constructor
  · rintro ⟨h, h'⟩
    rw [lt_add_sub _ h, Nat.lt_min] at h'
    exact ⟨⟨by omega, h'.1⟩, h'.2⟩
  · rintro ⟨⟨h1, h2⟩, h3⟩
    have h : min o e ≤ x := Nat.le_trans (Nat.min_le_left _ _) h1
    rw [lt_add_sub _ h, Nat.lt_min]
    exact ⟨h, h2, h3⟩

theorem mem_bound (i o n e : List Nat) (h : o.length = n.length) (he : e.length = o.length) :
    mem i (zipMin o e) (zipSub (zipMin (addIdx o n) e) (zipMin o e)) = (mem i o n && inB i e) := by
  induction o generalizing i n e with
  | nil => match n, e, h, he with | [], [], _, _ => cases i <;> rfl
  | cons o1 os ih =>
    match n, e, h, he with
    | n1 :: ns, e1 :: es, h, he =>
      cases i with
      | nil => rfl
      | cons x xs =>
        rw [zipMin, addIdx, zipMin, zipSub, Subset.mem_cons, Subset.mem_cons, inB, ih xs ns es (Nat.succ.inj h) (Nat.succ.inj he),
          bound_dim, bool_and_and_and_comm]

/-- one dimension of `Chunks`: the chunks `st / cs ..= (st + sh - 1) / cs` are those whose extent
`[c * cs, c * cs + cs)` meets `[st, st + sh)`.  The same for any grid dimension, not only division by `cs`, is
`DimOK.chunksIn` (Lemmas/Grid), lifted by `GridOK'.chunksIn` as this is by `mem_chunkBox`. -/
theorem chunk_dim (st sh cs c : Nat) (hcs : 0 < cs) (hsh : 0 < sh) :
    (st / cs ≤ c ∧ c < st / cs + ((st + sh - 1) / cs - st / cs + 1)) ↔
      ∃ i, (st ≤ i ∧ i < st + sh) ∧ (c * cs ≤ i ∧ i < c * cs + cs) := by
  have hmono : st / cs ≤ (st + sh - 1) / cs := Nat.div_le_div_right (by omega)
  have hlo : st / cs ≤ c ↔ st < c * cs + cs := by
    rw [← Nat.succ_mul, ← Nat.div_lt_iff_lt_mul hcs, Nat.lt_succ_iff]
  have hhi : c ≤ (st + sh - 1) / cs ↔ c * cs < st + sh := by
    rw [Nat.le_div_iff_mul_le hcs]; omega
  rw [lt_add_sub_succ c hmono, intervals_meet, hlo, hhi]
  exact ⟨fun h => ⟨h, hsh, hcs⟩, fun h => h.1⟩

theorem mem_chunkBox (c st sh cs : List Nat) (h1 : st.length = sh.length) (h2 : cs.length = st.length)
    (hpos : ∀ k ∈ cs, 0 < k) (hne : sh.any (· == 0) = false) :
    mem c (zipDiv st cs) ((zipSub (zipDiv ((addIdx st sh).map (· - 1)) cs) (zipDiv st cs)).map (· + 1)) = true ↔
      (c.length = st.length ∧ ∃ i, mem i st sh = true ∧ mem i (zipMul c cs) cs = true) := by
  induction st generalizing c sh cs with
  | nil =>
    match sh, cs, h1, h2 with
    | [], [], _, _ =>
      cases c with
      | nil => exact ⟨fun _ => ⟨rfl, [], rfl, rfl⟩, fun _ => rfl⟩
      | cons _ _ => exact ⟨fun h => (nomatch h), fun h => (nomatch h.1)⟩
  | cons o os ih =>
    match sh, cs, h1, h2 with
    | n :: ns, k :: ks, h1, h2 =>
      cases c with
      | nil => exact ⟨fun h => (nomatch h), fun h => (nomatch h.1)⟩
      | cons c0 ct =>
        obtain ⟨hn, hne'⟩ := any_zero_cons.mp hne
        have hk : 0 < k := hpos k (List.mem_cons_self ..)
        rw [zipDiv, addIdx, List.map_cons, zipDiv, zipSub, List.map_cons, Subset.mem_cons_iff,
          ih ct ns ks (Nat.succ.inj h1) (Nat.succ.inj h2) (fun k hk => hpos k (List.mem_cons_of_mem _ hk)) hne',
          chunk_dim o n k c0 hk hn, List.length_cons, List.length_cons, Nat.succ_inj]
        constructor
        · rintro ⟨⟨i0, hi0, hi0'⟩, hl, it, hit, hit'⟩
          exact ⟨hl, i0 :: it, Subset.mem_cons_iff.mpr ⟨hi0, hit⟩, Subset.mem_cons_iff.mpr ⟨hi0', hit'⟩⟩
        · rintro ⟨hl, i, hi, hi'⟩
          match i, hi, hi' with
          | i0 :: it, hi, hi' =>
            obtain ⟨a1, a2⟩ := Subset.mem_cons_iff.mp hi
            obtain ⟨b1, b2⟩ := Subset.mem_cons_iff.mp hi'
            exact ⟨⟨i0, a1, b1⟩, hl, it, a2, b2⟩

/-- the inclusive end `e` is the exclusive end `e + 1` -/
theorem zipSub_map_succ (st e : List Nat) (hle : allLe st e = true) :
    (zipSub e st).map (· + 1) = zipSub (e.map (· + 1)) st := by
  induction st generalizing e with
  | nil => cases e <;> rfl
  | cons y ys ih =>
    cases e with
    | nil => rfl
    | cons z zs =>
      obtain ⟨h1, h2⟩ := allLe_cons_iff.mp hle
      simp only [zipSub, List.map_cons, ih zs h2, List.cons.injEq, and_true]
      omega

theorem mem_ofStartEndInc (i st e : List Nat) (hl : st.length = e.length) (hle : allLe st e = true) :
    mem i st ((zipSub e st).map (· + 1)) = true ↔
      (allLe st i = true ∧ allLe i e = true ∧ i.length = st.length) := by
  induction st generalizing i e with
  | nil =>
    match e, hl with
    | [], _ =>
      cases i with
      | nil => exact ⟨fun _ => ⟨rfl, rfl, rfl⟩, fun _ => rfl⟩
      | cons _ _ => exact ⟨fun h => (nomatch h), fun h => (nomatch h.2.2)⟩
  | cons y ys ih =>
    match e, hl, hle with
    | z :: zs, hl, hle =>
      cases i with
      | nil => exact ⟨fun h => (nomatch h), fun h => (nomatch h.2.2)⟩
      | cons x xs =>
        obtain ⟨h1, h2⟩ := allLe_cons_iff.mp hle
        simp only [zipSub, List.map_cons, mem_cons_iff, ih xs zs (Nat.succ.inj hl) h2, allLe_cons_iff,
          List.length_cons, Nat.succ_inj]
        exact ⟨fun ⟨⟨a, b⟩, c, d, e⟩ => ⟨⟨a, c⟩, ⟨by omega, d⟩, e⟩,
          fun ⟨⟨a, c⟩, ⟨b, d⟩, e⟩ => ⟨⟨a, by omega⟩, c, d, e⟩⟩

/-! coordinates by position -/

theorem prod_perm {l1 l2 : List Nat} (h : l1.Perm l2) : prod l1 = prod l2 := by
  induction h with
  | nil => rfl
  | cons x _ ih => simp [prod, ih]
  | swap x y l => simp [prod, Nat.mul_left_comm]
  | trans _ _ ih1 ih2 => exact ih1.trans ih2

theorem inB_iff (i : Idx) (sh : Shape) :
    inB i sh = true ↔ i.length = sh.length ∧ ∀ k, k < sh.length → i.getD k default < sh.getD k default := by
  induction i generalizing sh with
  | nil =>
    cases sh with
    | nil => simp [inB]
    | cons s ss => simp [inB]
  | cons a as ih =>
    cases sh with
    | nil => simp [inB]
    | cons s ss =>
      rw [inB, Bool.and_eq_true, decide_eq_true_eq, ih ss, List.length_cons, List.length_cons, Nat.succ_inj]
      constructor
      · rintro ⟨h1, h2, h3⟩
        exact ⟨h2, fun k hk => match k with
          | 0 => h1
          | k + 1 => h3 k (Nat.lt_of_succ_lt_succ hk)⟩
      · rintro ⟨h1, h2⟩
        exact ⟨h2 0 (Nat.succ_pos _), h1, fun k hk => h2 (k + 1) (Nat.succ_lt_succ hk)⟩

theorem addIdx_map {α} (l : List α) (f g : α → Nat) :
    addIdx (l.map f) (l.map g) = l.map (fun a => f a + g a) := by
  induction l with
  | nil => rfl
  | cons a l ih => simp [addIdx, ih]

theorem addIdx_getD (i st : List Nat) (h : i.length = st.length) (a : Nat) :
    (addIdx i st).getD a 0 = i.getD a 0 + st.getD a 0 := by
  induction i generalizing st a with
  | nil =>
    cases st with
    | nil => rfl
    | cons y ys => cases h
  | cons x xs ih =>
    cases st with
    | nil => cases h
    | cons y ys =>
      cases a with
      | zero => rfl
      | succ a =>
        rw [addIdx, List.getD_cons_succ, List.getD_cons_succ, List.getD_cons_succ]
        exact ih ys (Nat.succ.inj h) a

theorem allLe_getD (x y : List Nat) (h : x.length = y.length) (hle : allLe x y = true) (a : Nat) :
    x.getD a 0 ≤ y.getD a 0 := by
  induction x generalizing y a with
  | nil => cases y <;> simp
  | cons p ps ih =>
    cases y with
    | nil => simp at h
    | cons q qs =>
      simp only [List.length_cons, Nat.add_right_cancel_iff] at h
      simp only [allLe, Bool.and_eq_true, decide_eq_true_eq] at hle
      cases a with
      | zero => simpa using hle.1
      | succ a => simpa using ih qs h hle.2 a

theorem allLe_map {α} (l : List α) (f g : α → Nat) (h : ∀ a ∈ l, f a ≤ g a) :
    allLe (l.map f) (l.map g) = true := by
  induction l with
  | nil => rfl
  | cons a l ih =>
    simp only [List.map_cons, allLe, Bool.and_eq_true, decide_eq_true_eq]
    exact ⟨h a (by simp), ih (fun a' ha' => h a' (by simp [ha']))⟩

theorem containsZip_eq_mem : ∀ (i o n : List Nat), i.length = o.length → o.length = n.length →
    containsZip i o n = mem i o n
  | [], [], [], _, _ => rfl
  | i :: is, o :: os, n :: ns, h1, h2 => by
    simp only [containsZip, Subset.mem]
    rw [containsZip_eq_mem is os ns (by simpa using h1) (by simpa using h2)]
  | [], _ :: _, _, h1, _ => by simp at h1
  | _ :: _, [], _, h1, _ => by simp at h1
  | _ :: _, _ :: _, [], _, h2 => by simp at h2
  | [], [], _ :: _, _, h2 => by simp at h2

end Zarrs
