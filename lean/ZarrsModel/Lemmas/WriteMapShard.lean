import ZarrsModel.Model.WriteMapShard
import ZarrsModel.Lemmas.WriteMap
import ZarrsModel.Lemmas.ShardPD
/- Lemmas for C17 on the sharded routes (a), (a'), (b), (c), (d) of Model/WriteMapShard.lean.  (a), (a'), (b): the
route's views tile the buffer (a view of it), so each byte is written once (`Tiling.bytes_full` / `Tiling.bytes_view`).
(c), (d) rest on the per-chunk pieces of an array read (`Grid.Pieces`), (d) refined by (a').  The statements of
`Props/C17Shard` are written in `IntoTree.wf`, `pdView`, `Partial.pdWritten`. -/
namespace Zarrs
open Zarrs.Subset

def IntoTree.wf : IntoTree → Shape → Prop
  | .fill, _ => True
  | .leaf, _ => True
  | .shard inner sub, sh => Partial.tiles inner sh = true ∧ ∀ k, k < prod (zipDiv sh inner) → (sub k).wf inner

/-- the `⟨st, inner⟩` of `decodeIntoMap`: `view.start + chunk_subset.start` in `ShardingCodec::decode_into` -/
def subView (o : Idx) (cps inner : Shape) (k : Nat) : Subset :=
  ⟨addIdx o (shardChunkSubset cps inner k).start, inner⟩

/-- `shardPDViews inner r = (r.chunks inner).map (pdView r)` by `rfl` -/
def pdView (r : Subset) (p : Idx × Subset) : Subset := (r.overlap p.2).relativeTo r.start

end Zarrs

namespace Zarrs.Partial
open Zarrs Zarrs.Subset Zarrs.Codec

/-- what the step of item `p` writes at index `j` of the region's buffer -/
def pdWritten (fixed : Option Nat) (fill : Elem) (inner cps : Shape) (entries : List (Nat × Nat))
    (innerPD : Shape → Elem → BHandle → AHandle) (h : BHandle) (r : Subset) (p : Idx × Subset) (j : Idx) : Option Elem :=
  match entries[ravel p.1 cps]? with
  | none => none
  | some e =>
    match shardPart fixed fill inner innerPD h e (r.overlap p.2) p.2 with
    | none => none
    | some part => part[ravel (zipSub j (pdView r p).start) (pdView r p).shape]?

end Zarrs.Partial

namespace Zarrs
open Zarrs.Subset

theorem flatOpt_map_some {α β} (l : List β) (f : β → Option (List α)) (g : β → List α)
    (h : ∀ x ∈ l, f x = some (g x)) : flatOpt (l.map f) = some (l.flatMap g) := by
  induction l with
  | nil => rfl
  | cons x xs ih =>
    simp only [List.map_cons, List.flatMap_cons]
    rw [h x (by simp)]
    simp only [flatOpt]
    rw [ih (fun y hy => h y (by simp [hy]))]

theorem flatOpt_some {α} : ∀ (l : List (Option (List α))) (m : List α), flatOpt l = some m →
    ∃ ms : List (List α), l = ms.map some ∧ m = ms.flatten := by
  intro l
  induction l with
  | nil => intro m h; simp only [flatOpt, Option.some.injEq] at h; exact ⟨[], rfl, by simp [← h]⟩
  | cons x xs ih =>
    intro m h
    cases x with
    | none => simp [flatOpt] at h
    | some a =>
      simp only [flatOpt] at h
      cases hr : flatOpt xs with
      | none => simp [hr] at h
      | some b =>
        simp only [hr, Option.some.injEq] at h
        obtain ⟨ms, h1, h2⟩ := ih b hr
        exact ⟨a :: ms, by simp [h1], by simp [← h, h2]⟩

theorem flatOpt_map_getD {α β} (l : List β) (f : β → Option (List α)) (h : ∀ x ∈ l, ∃ m, f x = some m) :
    flatOpt (l.map f) = some (l.flatMap fun x => (f x).getD []) :=
  flatOpt_map_some l f _ fun x hx => (h x hx).elim fun m hm => by rw [hm]; rfl

theorem flatOpt_map_perm {β} (l : List β) (f : β → Option (List (Nat × Nat))) (g : β → List (Nat × Nat))
    (h : ∀ x ∈ l, ∃ m, f x = some m ∧ (rangeBytes m).Perm (rangeBytes (g x))) :
    ∃ m, flatOpt (l.map f) = some m ∧ (rangeBytes m).Perm (rangeBytes (l.flatMap g)) := by
  refine ⟨_, flatOpt_map_getD l f fun x hx => (h x hx).imp fun _ h => h.1, ?_⟩
  rw [rangeBytes_flatMap, rangeBytes_flatMap]
  refine perm_flatMap_left l _ _ fun x hx => ?_
  obtain ⟨m, hm, hp⟩ := h x hx
  rw [hm]
  exact hp

theorem flatOpt_map_all {α β} (P : α → Prop) (l : List β) (f : β → Option (List α))
    (h : ∀ x ∈ l, ∃ m, f x = some m ∧ ∀ y ∈ m, P y) :
    ∃ m, flatOpt (l.map f) = some m ∧ ∀ y ∈ m, P y := by
  refine ⟨_, flatOpt_map_getD l f fun x hx => (h x hx).imp fun _ h => h.1, fun y hy => ?_⟩
  obtain ⟨x, hx, hy⟩ := List.mem_flatMap.mp hy
  obtain ⟨m, hm, hp⟩ := h x hx
  rw [hm] at hy
  exact hp y hy

open Zarrs.Partial (chunksPerShard_of_tiles)

theorem shardChunkTiling {inner sh : Shape} (ht : Partial.tiles inner sh = true) :
    Tiling (List.range (prod (zipDiv sh inner))) (shardChunkSubset (zipDiv sh inner) inner) (inB · sh = true) :=
  Tiling.comap (fun k => unravel k (zipDiv sh inner)) (by rw [range_map_unravel]; exact Partial.cellsTiling ht)

theorem shardDecodeViews_perm {inner sh : Shape} (ht : Partial.tiles inner sh = true) (es : Nat) :
    (rangeBytes ((List.range (prod (zipDiv sh inner))).flatMap
      (fun k => (shardChunkSubset (zipDiv sh inner) inner k).byteRanges sh es))).Perm (List.range (prod sh * es)) :=
  (shardChunkTiling ht).bytes_full es

theorem subViewTiling {inner : Shape} (v : Subset) (hv : v.wf = true) (ht : Partial.tiles inner v.shape = true) :
    Tiling (List.range (prod (zipDiv v.shape inner))) (subView v.start (zipDiv v.shape inner) inner)
      (v.contains · = true) :=
  (shardChunkTiling ht).translate v.start (Subset.wf_iff.mp hv)

theorem rangeBytes_refine (rs : List (Nat × Nat)) (f : Nat × Nat → List (Nat × Nat))
    (hf : ∀ r ∈ rs, (rangeBytes (f r)).Perm (List.range' r.1 r.2)) :
    (rangeBytes (rs.flatMap f)).Perm (rangeBytes rs) := by
  rw [rangeBytes_flatMap]
  exact perm_flatMap_left rs _ _ hf

/-- `tiles` only speaks of `[0, len)`, hence the ranges moved to offset 0 (`hge`: the subtraction does not truncate) -/
theorem rangeBytes_of_tiles_shifted (o l : Nat) (q : List (Nat × Nat))
    (hq : tiles l (q.map (fun x => (x.1 - o, x.2))) = true) (hge : ∀ x ∈ q, o ≤ x.1) :
    (rangeBytes q).Perm (List.range' o l) := by
  rw [tiles_iff_perm] at hq
  have hm : rangeBytes q = (rangeBytes (q.map (fun x => (x.1 - o, x.2)))).map (o + ·) := by
    simp only [rangeBytes, List.flatMap_map, List.map_flatMap]
    apply flatMap_congr'
    intro x hx
    have := hge x hx
    rw [List.range'_eq_map_range (s := x.1), List.range'_eq_map_range (s := x.1 - o), List.map_map]
    apply List.map_congr_left
    intro a _
    simp only [Function.comp]
    omega
  rw [hm, List.range'_eq_map_range]
  exact hq.map _

theorem decodeInto_refines (out : Shape) (es : Nat) : ∀ (t : IntoTree) (sh : Shape) (v : Subset), t.wf sh →
    v.wf = true → v.inboundsShape out = true → v.shape = sh →
    ∃ m, decodeIntoMap out es t sh v = some m ∧ (rangeBytes m).Perm (rangeBytes (v.byteRanges out es)) := by
  intro t
  induction t with
  | fill => intro sh v _ _ _ _; exact ⟨_, rfl, List.Perm.refl _⟩
  | leaf =>
    intro sh v _ _ _ hs
    refine ⟨_, ?_, List.Perm.refl _⟩
    simp only [decodeIntoMap, Subset.numElements, hs, beq_self_eq_true, if_true]
  | shard inner sub ih =>
    intro sh v hwf hv hvb hs
    subst hs
    obtain ⟨ht, hsub⟩ := hwf
    have T := subViewTiling v hv ht
    have hstep : ∀ k ∈ List.range (prod (zipDiv v.shape inner)), ∃ m,
        (fun k => if (addIdx v.start (shardChunkSubset (zipDiv v.shape inner) inner k).start).length != inner.length
          then none
          else decodeIntoMap out es (sub k) inner
            ⟨addIdx v.start (shardChunkSubset (zipDiv v.shape inner) inner k).start, inner⟩) k = some m ∧
        (rangeBytes m).Perm (rangeBytes ((subView v.start (zipDiv v.shape inner) inner k).byteRanges out es)) := by
      intro k hk
      obtain ⟨hw, hb⟩ := T.inboundsShape (fun _ h => Subset.inB_of_inboundsShape hvb h) hk
      have hlen : (addIdx v.start (shardChunkSubset (zipDiv v.shape inner) inner k).start).length = inner.length := by
        simpa [subView, Subset.wf] using hw
      obtain ⟨m, hm, hp⟩ := ih k inner (subView v.start (zipDiv v.shape inner) inner k) (hsub k (List.mem_range.mp hk)) hw hb rfl
      refine ⟨m, ?_, hp⟩
      simp only [hlen, bne_self_eq_false, Bool.false_eq_true, if_false]
      exact hm
    obtain ⟨m, hm, hp⟩ := flatOpt_map_perm _ _ _ hstep
    refine ⟨m, ?_, hp.trans (T.bytes_view out es hv hvb)⟩
    simp only [decodeIntoMap, chunksPerShard_of_tiles ht]
    exact hm

theorem pdTiling (inner : Shape) (r : Subset) (hr : r.wf = true) (hpos : ∀ k ∈ inner, 0 < k)
    (hcl : inner.length = r.rank) : Tiling (r.chunks inner) (pdView r) (inB · r.shape = true) :=
  (Partial.chunksTiling inner hpos r hr hcl).relativeTo hr

theorem shardPDViews_perm (inner : Shape) (r : Subset) (hr : r.wf = true) (hpos : ∀ k ∈ inner, 0 < k)
    (hcl : inner.length = r.rank) (es : Nat) :
    (rangeBytes ((shardPDViews inner r).flatMap (fun v => v.byteRanges r.shape es))).Perm
      (List.range (r.numElements * es)) := by
  rw [shardPDViews, List.flatMap_map]
  exact (pdTiling inner r hr hpos hcl).bytes_full es

theorem Grid.Pieces.shardedReadMap {α} {cfg : ArrCfg α} {R box : Subset} (P : cfg.grid.Pieces cfg.shape R box)
    (hr : R.wf = true) (tree : Idx → IntoTree)
    (htree : ∀ c cs, cfg.grid.subset c = some cs → (tree c).wf cs.shape) (es : Nat) :
    ∃ m, cfg.shardedReadMap tree R es = some m ∧ tiles (R.numElements * es) m = true := by
  simp only [ArrCfg.shardedReadMap, P.chunks]
  refine (flatOpt_map_perm box.indices _ (fun c => (pieceView cfg.grid R c).byteRanges R.shape es)
    fun c hc => ?_).elim fun m h => ⟨m, h.1, (tiles_iff_perm _ _).mpr (h.2.trans ((P.views hr).bytes_full es))⟩
  obtain ⟨cs, i0, hcs, hi0c, hi0r⟩ := P.meets c hc
  obtain ⟨hw, hin⟩ := (P.views hr).inboundsShape (fun _ h => h) hc
  simp only [pieceView, hcs, Grid.boxOf_eq hcs] at hw hin ⊢
  -- the test `inChunk.inboundsShape cs.shape` of `shardedReadMap` passes: the piece is a box inside the chunk
  have hinc := (Subset.overlap_subBox_left hi0c hi0r).rel_inbounds
  simp only [hinc, Bool.not_true, Bool.false_eq_true, if_false]
  split
  · rename_i hwhole
    simp only [Bool.and_eq_true, beq_iff_eq] at hwhole
    exact decodeInto_refines R.shape es (tree c) cs.shape _ (htree c cs hcs) hw hin
      (by simpa [Subset.relativeTo] using hwhole.2)
  · exact ⟨_, rfl, List.Perm.refl _⟩

end Zarrs
