import ZarrsModel.Model.MetaOpts
import ZarrsModel.Lemmas.MetaOptsAlias
import ZarrsModel.Lemmas.MetaOptsChain
import ZarrsModel.Lemmas.MetaOptsDoc
import ZarrsModel.Lemmas.MetaV2ConvWf
/- helper lemmas for `Props/C13Opts.lean`: what `metadataOpt` gives for an accepted handle, in terms of the lemma
   library's well-formedness predicates (`ArrayDoc.good`, `ArrayDocV2.shapeOk`/`wfParts`) -/
namespace Zarrs.MetaOpts
open Zarrs.Json Zarrs.Meta Zarrs.MetaV2

/-- what `openV3 plug r d = some (.v3 d ch)` says -/
structure OpenV3Of (plug : Plug) (r : Nat) (d : ArrayDoc) (ch : Chain) : Prop where
  ok : openOk d r = true
  dataType : dataTypeOk d.dataType = true
  chain : chainOf plug d.codecs = some ch

theorem openV3_inv (plug : Plug) (r : Nat) (d : ArrayDoc) (ch : Chain) (hopen : openV3 plug r d = some (.v3 d ch)) :
    OpenV3Of plug r d ch := by
  unfold openV3 at hopen
  split at hopen
  · rename_i hc
    simp only [Bool.and_eq_true] at hc
    cases hch : chainOf plug d.codecs with
    | none => rw [hch] at hopen; cases hopen
    | some ch' =>
      rw [hch] at hopen
      cases hopen
      exact ⟨hc.1, hc.2, hch⟩
  · cases hopen

theorem openV3_intro (plug : Plug) (r : Nat) (d : ArrayDoc) (ch : Chain) (h : OpenV3Of plug r d ch) :
    openV3 plug r d = some (.v3 d ch) := by
  unfold openV3
  simp [h.ok, h.dataType, h.chain]

/-- what `openV2 plug d = some (.v2 d)` says -/
structure OpenV2Of (plug : Plug) (d : ArrayDocV2) (v : ArrayDoc) (ch : Chain) : Prop where
  ok : openOkV2 d = true
  conv : v2ToV3 d = .ok v
  dataType : dataTypeOk v.dataType = true
  chain : chainOf plug v.codecs = some ch

theorem openV2_inv (plug : Plug) (d : ArrayDocV2) (h : Handle) (hopen : openV2 plug d = some h) :
    h = .v2 d ∧ ∃ v ch, OpenV2Of plug d v ch := by
  unfold openV2 at hopen
  split at hopen
  · rename_i ho
    split at hopen
    · rename_i v hv
      split at hopen
      · rename_i hc
        simp only [Bool.and_eq_true] at hc
        cases hch : chainOf plug v.codecs with
        | none => rw [hch] at hc; simp at hc
        | some ch =>
          simp only [Option.some.injEq] at hopen
          exact ⟨hopen.symm, v, ch, ho, hv, hc.1, hch⟩
      · cases hopen
    · cases hopen
  · cases hopen

theorem openV2_intro (plug : Plug) (d : ArrayDocV2) (v : ArrayDoc) (ch : Chain) (h : OpenV2Of plug d v ch) :
    openV2 plug d = some (.v2 d) := by
  unfold openV2
  simp [h.ok, h.conv, h.dataType, h.chain]

theorem OpenV2Of.openV3 {plug : Plug} {d : ArrayDocV2} {v : ArrayDoc} {ch : Chain} (h : OpenV2Of plug d v ch) :
    OpenV3Of plug d.chunks.length v ch :=
  ⟨openOkV2_openOk d v h.conv h.ok, h.dataType, h.chain⟩

/-- what `metadata_opt` makes of the handle's attributes `a` and a V3 document `b`: the handle's document with the
    codecs its chain writes, or the conversion of the handle's V2 document -/
def outDoc (o : Opts) (a : Obj) (b : ArrayDoc) : ArrayDoc :=
  rnDoc (o.conv codecV3) (o.conv dtypeV3) { b with attrs := withZarrs o a }

theorem outDoc_good (o : Opts) (a : Obj) (b : ArrayDoc) (hb : b.good) (ha : (J.obj a).wf) : (outDoc o a b).good :=
  rnDoc_good _ _ (o.conv_strOk codecV3 codecV3_ok rfl) (o.conv_strOk dtypeV3 dtypeV3_ok rfl) _ { hb with attrs := withZarrs_wf o _ ha }

theorem outDoc_dataType (o : Opts) (a : Obj) (b : ArrayDoc) (h : dataTypeOk b.dataType = true) :
    (outDoc o a b).dataType = b.dataType :=
  o.conv_dataType _ h

/-- the renaming keeps the identifiers, by which the plugins are found, and the name of an accepted data type -/
theorem outDoc_opens (plug : Plug) (r : Nat) (o : Opts) (a : Obj) (b : ArrayDoc) (ch : Chain)
    (h : openV3 plug r b = some (.v3 b ch)) :
    openV3 plug r (outDoc o a b) = some (.v3 (outDoc o a b) (ch.rn (o.conv codecV3))) := by
  have hb := openV3_inv plug r b ch h
  refine openV3_intro plug r _ _ ⟨hb.ok, ?_, (chainOf_rn plug _ (o.conv_ident codecV3 codecV3_ok) _).trans (congrArg _ hb.chain)⟩
  rw [outDoc_dataType o a b hb.dataType]
  exact hb.dataType

def outV3 (o : Opts) (d : ArrayDoc) (ch : Chain) : ArrayDoc := outDoc o d.attrs { d with codecs := ch.metadatas o }

theorem metadataOpt_v3 (o : Opts) (d : ArrayDoc) (ch : Chain) : metadataOpt o (.v3 d ch) = some (.v3 (outV3 o d ch)) :=
  congrArg (fun e => some (ArrayOut.v3 e)) (aliased_eq o _)

theorem outV3_good (plug : Plug) (hp : PlugOk plug) (o : Opts) (d : ArrayDoc) (hd : d.good) (ch : Chain)
    (hch : chainOf plug d.codecs = some ch) : (outV3 o d ch).good :=
  outDoc_good o _ _
    { hd with codecs := metadatas_good plug hp o _ ch hch hd.codecs } hd.attrs

theorem a2b_written (plug : Plug) (hp : PlugOk plug) (o : Opts) (ms : List MetaV3) (ch : Chain)
    (hch : chainOf plug ms = some ch) : ch.a2b.written o = true := by
  have hk := (chainOf_wellKinded plug ms ch hch).a2b
  have hm : ch.a2b ∈ ch.all := by simp [Chain.all]
  obtain ⟨cfg, hc⟩ := chainOf_fromPlug plug ms ch hch _ hm
  have := hp.a2bWritten _ _ _ hc hk
  simp [Named.written, this]

theorem outV3_opens (plug : Plug) (hp : PlugOk plug) (o : Opts) (d : ArrayDoc) (r : Nat) (ch : Chain)
    (hopen : openV3 plug r d = some (.v3 d ch)) : openV3 plug r (outV3 o d ch) = some (.v3 (outV3 o d ch) (ch.stored o)) := by
  have hd := openV3_inv plug r d ch hopen
  rw [Chain.stored_eq]
  exact outDoc_opens plug r o _ _ _ (openV3_intro plug r _ _ ⟨hd.ok, hd.dataType, chainOf_metadatas plug o ch
    (chainOf_wellKinded plug _ ch hd.chain) (chainOf_fromPlug plug _ ch hd.chain) hp (a2b_written plug hp o _ ch hd.chain)⟩)

theorem outV3_fixed (plug : Plug) (hp : PlugOk plug) (o : Opts) (d : ArrayDoc) (ch : Chain) (hch : chainOf plug d.codecs = some ch) :
    outV3 o (outV3 o d ch) (ch.stored o) = outV3 o d ch := by
  show ({ d with attrs := withZarrs o (withZarrs o d.attrs), codecs := outCodecs o (ch.stored o),
                 dataType := rnV3 (o.conv dtypeV3) (rnV3 (o.conv dtypeV3) d.dataType) } : ArrayDoc) = _
  rw [withZarrs_idem, outCodecs_stored o ch (a2b_written plug hp o _ ch hch)]
  simp only [rnV3, o.conv_idem dtypeV3 dtypeV3_ok]
  rfl

theorem openArray_storeV3 (plug : Plug) (r : Nat) (k : NodeKeys) (e : ArrayDoc) (he : e.good) :
    openArray plug r (storeArray k (.v3 e)) = openV3 plug r e := by
  unfold openArray openArrayKeys storeArray
  simp only [arrayDoc_ofText_toText e he, Option.map_some]

/-- the document `metadata_opt` gives for a V2 array whose version is kept: nothing but the attributes and the ids of
    filters and compressor differs from `d` -/
def outV2 (o : Opts) (d : ArrayDocV2) : ArrayDocV2 := rnDocV2 (o.conv codecV2) { d with attrs := withZarrs o d.attrs }

theorem metadataOpt_v2 (o : Opts) (d : ArrayDocV2) (ho : o.convertVersion = .default) :
    metadataOpt o (.v2 d) = some (.v2 (outV2 o d)) := by
  unfold metadataOpt
  simp only [ho]
  exact congrArg (fun e => some (ArrayOut.v2 e)) (aliasedV2_eq o _)

theorem outV2_shapeOk (o : Opts) (d : ArrayDocV2) (h : d.shapeOk) : (outV2 o d).shapeOk :=
  rnDocV2_shapeOk _ _ { h with }

theorem outV2_wfParts (o : Opts) (d : ArrayDocV2) (h : d.wfParts) : (outV2 o d).wfParts :=
  rnDocV2_wfParts _ (o.conv_strOk codecV2 codecV2_ok rfl) _ { h with attrs := withZarrs_wf o _ h.attrs }

theorem v2ToV3_outV2 (o : Opts) (d : ArrayDocV2) :
    v2ToV3 (outV2 o d) = (v2ToV3 d).map (fun v => { v with attrs := withZarrs o d.attrs }) :=
  (v2ToV3_rnDocV2 _ o.conv_codecIdent _).trans (v2ToV3_attrs d _)

theorem outV2_fixed (o : Opts) (d : ArrayDocV2) : outV2 o (outV2 o d) = outV2 o d := by
  show rnDocV2 _ (rnDocV2 _ { d with attrs := withZarrs o (withZarrs o d.attrs) }) = _
  rw [withZarrs_idem, rnDocV2_idem _ (o.conv_idem codecV2 codecV2_ok)]
  rfl

theorem outV2_opens (plug : Plug) (o : Opts) (d : ArrayDocV2) (hopen : openV2 plug d = some (.v2 d)) :
    openV2 plug (outV2 o d) = some (.v2 (outV2 o d)) := by
  obtain ⟨_, v, ch, hd⟩ := openV2_inv plug d _ hopen
  obtain ⟨hr, hm, _⟩ := (openOkV2_iff d).1 hd.ok
  have hv' : v2ToV3 (outV2 o d) = .ok { v with attrs := withZarrs o d.attrs } := by rw [v2ToV3_outV2, hd.conv]; rfl
  exact openV2_intro plug _ _ ch ⟨(openOkV2_iff _).2 ⟨hr, hm, _, hv'⟩, hv', hd.dataType, hd.chain⟩

/-- through the stored keys (`.zarray`, `.zattrs`), when no `zarr.json` is in the way -/
theorem openArray_storeV2 (plug : Plug) (r : Nat) (k : NodeKeys) (hk : k.zarrJson = none) (e : ArrayDocV2) (hs : e.shapeOk)
    (hw : e.wfParts) (hn : ∀ kv ∈ e.extra, kv.1 ≠ kNodeType) :
    openArray plug r (storeArray k (.v2 e)) = openV2 plug e := by
  have hopen := arrayDocV2_openTexts_storeTexts e hs hw hn
  unfold openArray openArrayKeys storeArray
  simp only [hk, hopen, Option.map_some]

theorem metadataOpt_v2v3 (o : Opts) (d : ArrayDocV2) (v : ArrayDoc) (ho : o.convertVersion = .v3) (hv : v2ToV3 d = .ok v) :
    metadataOpt o (.v2 d) = some (.v3 (outDoc o d.attrs v)) := by
  unfold metadataOpt
  simp only [ho, v2ToV3_attrs, hv, Except.map]
  exact congrArg (fun e => some (ArrayOut.v3 e)) (aliased_eq o _)

theorem renameV3_eq (a : Aliases) : renameV3 a = rnV3 a.convert := rfl

/-- the other fields of `outDoc o a b` are those of `b` by `rfl` (the data type by `outDoc_dataType`) -/
theorem outDoc_codecs (o : Opts) (a : Obj) (b : ArrayDoc) :
    (outDoc o a b).codecs = if o.convertAliased then b.codecs.map (renameV3 codecV3) else b.codecs := by
  rw [renameV3_eq]
  show b.codecs.map (rnV3 (o.conv codecV3)) = _
  unfold Opts.conv
  cases o.convertAliased
  · exact List.map_id' _
  · rfl

theorem openGroup_storeV3 (k : NodeKeys) (d : GroupDoc) (hd : d.good) (hok : groupOk d = true) :
    openGroup (storeGroup k (.v3 d)) = some (.v3 d) := by
  unfold openGroup storeGroup
  simp only [groupDoc_ofText_toText d hd, hok, if_true]

theorem openGroup_storeV2 (k : NodeKeys) (hk : k.zarrJson = none) (d : GroupDocV2) (hs : d.shapeOk) (hw : d.wfParts)
    (hok : d.extra.all (fun kv => !kv.2.mu) = true) : openGroup (storeGroup k (.v2 d)) = some (.v2 d) := by
  have hs0 : ({ d with attrs := [] } : GroupDocV2).shapeOk := { hs with }
  have hw0 : ({ d with attrs := [] } : GroupDocV2).wfParts := ⟨obj_nil_wf, hw.extra⟩
  have h0 := groupDocV2_ofText_toText { d with attrs := [] } hs0 hw0
  obtain ⟨attrs, extra⟩ := d
  unfold openGroup storeGroup
  simp only [hk, h0]
  cases attrs with
  | nil => simpa using hok
  | cons x xs =>
    simp only [List.isEmpty_cons, Bool.false_eq_true, if_false, parse_print (.obj (x :: xs)) hw.attrs]
    simpa using hok

end Zarrs.MetaOpts
