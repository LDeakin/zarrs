import ZarrsModel.Lemmas.DeflateHuff
import ZarrsModel.Lemmas.InflateBits
import ZarrsModel.Lemmas.DeflateRender
/-
The symbols of a compressed block: `blockLoop` of the reader on the bits of any encodable token list (literals and
copies) under any valid pair of code-length assignments gives `render`.
-/
namespace Zarrs.DeflateSpec
open Zarrs Zarrs.Inflate

theorem symIdx_spec (t : List Nat) (x : Nat) (hne : t ≠ []) (h0 : t.headD 0 ≤ x) :
    symIdx t x < t.length ∧ t.getD (symIdx t x) 0 ≤ x ∧
      (symIdx t x + 1 < t.length → x < t.getD (symIdx t x + 1) 0) := by
  induction t with
  | nil => exact absurd rfl hne
  | cons a t ih =>
    cases t with
    | nil => simpa [symIdx] using h0
    | cons b bs =>
      by_cases hx : x < b
      · simp only [symIdx, hx, if_true]
        refine ⟨by simp, by simpa using h0, fun _ => by simpa using hx⟩
      · simp only [symIdx, hx, if_false]
        obtain ⟨h1, h2, h3⟩ := ih (by simp) (by simp only [List.headD_cons]; omega)
        refine ⟨by simp only [List.length_cons] at h1 ⊢; omega, ?_, ?_⟩
        · rw [List.getD_cons_succ]; exact h2
        · intro hlt
          rw [List.getD_cons_succ]
          exact h3 (by simp only [List.length_cons] at hlt ⊢; omega)

/-- in a table whose entry `i` covers `2 ^ extra[i]` values from `base[i]` on, the offset of `x` from its base fits
    into the extra bits -/
theorem symIdx_extra (base extra : List Nat) (x : Nat) (hne : base ≠ []) (h0 : base.headD 0 ≤ x)
    (hstep : ∀ i, i + 1 < base.length → base.getD (i + 1) 0 ≤ base.getD i 0 + 2 ^ extra.getD i 0)
    (hlast : x < base.getD (base.length - 1) 0 + 2 ^ extra.getD (base.length - 1) 0) :
    symIdx base x < base.length ∧ base.getD (symIdx base x) 0 ≤ x ∧
      x - base.getD (symIdx base x) 0 < 2 ^ extra.getD (symIdx base x) 0 := by
  obtain ⟨h1, h2, hn⟩ := symIdx_spec base x hne h0
  refine ⟨h1, h2, ?_⟩
  by_cases hl : symIdx base x + 1 < base.length
  · have := hstep _ hl
    have := hn hl
    omega
  · have e : symIdx base x = base.length - 1 := by omega
    rw [e] at h2 ⊢
    omega

theorem lenBase_step : ∀ i, i < 28 → lenBase.getD (i + 1) 0 ≤ lenBase.getD i 0 + 2 ^ lenExtra.getD i 0 := by
  decide +kernel
theorem distBase_step : ∀ i, i < 29 → distBase.getD (i + 1) 0 ≤ distBase.getD i 0 + 2 ^ distExtra.getD i 0 := by
  decide +kernel

theorem lenSym_spec (len : Nat) (h3 : 3 ≤ len) (h258 : len ≤ 258) :
    lenSym len < 29 ∧ lenBase.getD (lenSym len) 0 ≤ len ∧
      len - lenBase.getD (lenSym len) 0 < 2 ^ lenExtra.getD (lenSym len) 0 :=
  have hl : lenBase.length = 29 := rfl
  have hb : lenBase.getD (lenBase.length - 1) 0 + 2 ^ lenExtra.getD (lenBase.length - 1) 0 = 259 := rfl
  symIdx_extra lenBase lenExtra len (by decide) (by simpa [lenBase] using h3)
    (fun i hi => lenBase_step i (by omega)) (by omega)

theorem distSym_spec (dist : Nat) (h1 : 1 ≤ dist) (h2 : dist ≤ 32768) :
    distSym dist < 30 ∧ distBase.getD (distSym dist) 0 ≤ dist ∧
      dist - distBase.getD (distSym dist) 0 < 2 ^ distExtra.getD (distSym dist) 0 :=
  have hl : distBase.length = 30 := rfl
  have hb : distBase.getD (distBase.length - 1) 0 + 2 ^ distExtra.getD (distBase.length - 1) 0 = 32769 := rfl
  symIdx_extra distBase distExtra dist (by decide) (by simpa [distBase] using h1)
    (fun i hi => distBase_step i (by omega)) (by omega)

theorem bitsLsb_eq (n v : Nat) : bitsLsb n v = PackBits.bitsOf n v := rfl

theorem takeBits_bitsLsb (n v : Nat) (r : Bits) (hv : v < 2 ^ n) : takeBits n (bitsLsb n v ++ r) = some (v, r) := by
  have := takeBits_bitsN n 0 v r
  rw [Nat.add_zero] at this
  rw [bitsLsb_eq, this]
  simp [takeBits, Nat.mod_eq_of_lt hv]

theorem bitsLsb_length (n v : Nat) : (bitsLsb n v).length = n := by simp [bitsLsb]

theorem copyBack_eq (n dist : Nat) (out : Array Nat) (h1 : 1 ≤ dist) (h2 : dist ≤ out.size) :
    copyBack n dist out = some (copyFrom n dist out.toList).toArray := by
  induction n generalizing out with
  | zero => simp [copyBack, copyFrom]
  | succ n ih =>
    have hc : ¬ (dist = 0 ∨ dist > out.size) := by omega
    simp only [copyBack, copyFrom, beq_iff_eq, Bool.or_eq_true, decide_eq_true_eq, hc, if_false]
    rw [ih _ (by simp only [Array.size_push]; omega)]
    congr 3
    cases out with
    | mk l =>
      simp only [Array.getD, List.getD_eq_getElem?_getD, Array.size]
      by_cases h : l.length - dist < l.length
      · simp [h]
      · simp [h]

/-- stated by `show`: the equation lemmas of `blockLoop` are too deep to generate -/
theorem blockLoop_lit {L D : Huff} {fuel : Nat} {bs bs' : Bits} {out : Array Nat} {sym : Nat}
    (h : decodeSym L bs = some (sym, bs')) (hs : sym < 256) :
    blockLoop L D (fuel + 1) bs out = blockLoop L D fuel bs' (out.push sym) := by
  show (match decodeSym L bs with | none => none | some (sym, bs) => _) = _
  rw [h]
  simp only [hs, if_true]

theorem blockLoop_eob {L D : Huff} {fuel : Nat} {bs bs' : Bits} {out : Array Nat}
    (h : decodeSym L bs = some (256, bs')) :
    blockLoop L D (fuel + 1) bs out = some (bs', out) := by
  show (match decodeSym L bs with | none => none | some (sym, bs) => _) = _
  rw [h]
  simp

theorem blockLoop_copy {L D : Huff} {fuel : Nat} {bs b1 b2 b3 b4 : Bits} {out out' : Array Nat} {sym le ds de : Nat}
    (h1 : decodeSym L bs = some (sym, b1)) (hs : 257 ≤ sym) (hs' : sym ≤ 285)
    (h2 : takeBits (lenExtra.getD (sym - 257) 0) b1 = some (le, b2))
    (h3 : decodeSym D b2 = some (ds, b3)) (hd : ds ≤ 29)
    (h4 : takeBits (distExtra.getD ds 0) b3 = some (de, b4))
    (h5 : copyBack (lenBase.getD (sym - 257) 0 + le) (distBase.getD ds 0 + de) out = some out') :
    blockLoop L D (fuel + 1) bs out = blockLoop L D fuel b4 out' := by
  show (match decodeSym L bs with | none => none | some (sym, bs) => _) = _
  rw [h1]
  have c1 : ¬ sym < 256 := by omega
  have c2 : (sym == 256) = false := by simp; omega
  have c3 : ¬ sym > 285 := by omega
  have c4 : ¬ ds > 29 := by omega
  simp only [c1, c2, c3, if_false, Bool.false_eq_true]
  rw [h2]
  simp only
  rw [h3]
  simp only [c4, if_false]
  rw [h4]
  simp only
  rw [h5]

theorem Token.ok_copy {len dist : Nat} :
    (Token.copy len dist).ok = true ↔ 3 ≤ len ∧ len ≤ 258 ∧ 1 ≤ dist ∧ dist ≤ 32768 := by
  simp only [Token.ok, Bool.and_eq_true, decide_eq_true_eq, and_assoc]

theorem encToken_lit_eq_some {L D : List Nat} {x : Nat} {a : Bits} (h : encToken L D (.lit x) = some a) :
    x < 256 ∧ codeOf L x = some a := by
  simp only [encToken] at h
  split at h
  · exact ⟨‹_›, h⟩
  · cases h

theorem encToken_copy_eq_some {L D : List Nat} {len dist : Nat} {a : Bits}
    (h : encToken L D (.copy len dist) = some a) :
    (3 ≤ len ∧ len ≤ 258 ∧ 1 ≤ dist ∧ dist ≤ 32768) ∧ ∃ c1 c2, codeOf L (257 + lenSym len) = some c1 ∧
      codeOf D (distSym dist) = some c2 ∧
      a = c1 ++ bitsLsb (lenExtra.getD (lenSym len) 0) (len - lenBase.getD (lenSym len) 0) ++
        (c2 ++ bitsLsb (distExtra.getD (distSym dist) 0) (dist - distBase.getD (distSym dist) 0)) := by
  simp only [encToken] at h
  split at h
  · rename_i hok
    split at h
    · rename_i c1 c2 h1 h2
      exact ⟨hok, c1, c2, h1, h2, (Option.some.inj h).symm⟩
    · cases h
  · cases h

theorem encToken_length_pos {L D : List Nat} {t : Token} {a : Bits} (h : encToken L D t = some a) :
    1 ≤ a.length := by
  cases t with
  | lit x => exact codeOf_length_pos _ _ _ (encToken_lit_eq_some h).2
  | copy len dist =>
    obtain ⟨_, c1, c2, h1, _, rfl⟩ := encToken_copy_eq_some h
    have := codeOf_length_pos _ _ _ h1
    simp only [List.length_append]
    omega

/-- by induction along the writer; one unit of fuel per bit is enough (the reader takes `bs.length + 1`) -/
theorem blockLoop_tokens (litLens distLens : List Nat) (hL : validLens litLens = true)
    (hD : validLens distLens = true) (toks : List Token) (bits tail : Bits) (out : Array Nat) (res : Bytes)
    (fuel : Nat) (he : encTokens litLens distLens toks = some bits) (hr : render toks out.toList = some res)
    (hf : bits.length ≤ fuel) :
    blockLoop (mkHuff litLens) (mkHuff distLens) fuel (bits ++ tail) out = some (tail, res.toArray) := by
  fun_induction encTokens litLens distLens toks generalizing bits out fuel with
  | case1 =>
    obtain ⟨fuel, rfl⟩ : ∃ f, fuel = f + 1 := ⟨fuel - 1, by have := codeOf_length_pos _ _ _ he; omega⟩
    cases hr
    exact blockLoop_eob (decodeSym_codeOf' litLens hL 256 bits tail he)
  | case3 => cases he
  | case2 t ts a b hb ha ih =>
    cases he
    have ha1 := encToken_length_pos ha
    rw [List.length_append] at hf
    obtain ⟨fuel, rfl⟩ : ∃ f, fuel = f + 1 := ⟨fuel - 1, by omega⟩
    rw [List.append_assoc]
    cases t with
    | lit x =>
      obtain ⟨hx, hc⟩ := encToken_lit_eq_some ha
      obtain ⟨mid, ht, hr⟩ := render_cons_eq_some hr
      obtain ⟨_, rfl⟩ := renderTok_lit_eq_some ht
      rw [blockLoop_lit (decodeSym_codeOf' litLens hL x a _ hc) hx]
      exact ih b (out.push x) fuel hb (by simpa using hr) (by omega)
    | copy len dist =>
      obtain ⟨⟨hlen3, hlen258, hdist1, hdist32k⟩, c1, c2, hc1, hc2, rfl⟩ := encToken_copy_eq_some ha
      obtain ⟨mid, ht, hr⟩ := render_cons_eq_some hr
      obtain ⟨⟨_, _, _, _, hdistOut⟩, rfl⟩ := renderTok_copy_eq_some ht
      obtain ⟨hl1, hl2, hl3⟩ := lenSym_spec len hlen3 hlen258
      obtain ⟨hd1, hd2, hd3⟩ := distSym_spec dist hdist1 hdist32k
      have hsz : dist ≤ out.size := by simpa using hdistOut
      have e1 : lenBase.getD (257 + lenSym len - 257) 0 + (len - lenBase.getD (lenSym len) 0) = len := by
        rw [Nat.add_sub_cancel_left]; omega
      have e2 : distBase.getD (distSym dist) 0 + (dist - distBase.getD (distSym dist) 0) = dist := by
        omega
      rw [List.append_assoc, List.append_assoc, List.append_assoc]
      rw [blockLoop_copy (decodeSym_codeOf' litLens hL _ c1 _ hc1) (by omega) (by omega)
        (by rw [Nat.add_sub_cancel_left]; exact takeBits_bitsLsb _ _ _ hl3)
        (decodeSym_codeOf' distLens hD _ c2 _ hc2) (by omega)
        (takeBits_bitsLsb _ _ _ hd3)
        (by rw [e1, e2]; exact copyBack_eq len dist out hdist1 hsz)]
      exact ih b _ fuel hb (by simpa using hr) (by omega)

end Zarrs.DeflateSpec
