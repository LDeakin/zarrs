import ZarrsModel.Lemmas.MemConcGhost
/- Responses equal ghost responses; the history invariant (linearization times lie
inside the operations' intervals, the ghost list matches the completed operations) -/
namespace Zarrs.MemConc

theorem VStep.resp_spec {ps i0 time v lin t v' lin' r} (g : GInv ps i0 v lin)
    (hst : VStep ps time v lin t v' lin' r) (res : Res) (hr : r = some res) :
    ∃ e ∈ lin', e.t = t ∧ e.k = v.pc t ∧ e.res = res ∧ (e ∈ lin ∨ e.lt = time) := by
  subst hr
  -- the steps that linearize and respond at once append the record last
  have last : ∀ (l : List LinE) (op : Op), ∃ e ∈ l ++ [⟨t, v.pc t, op, res, time⟩],
      e.t = t ∧ e.k = v.pc t ∧ e.res = res ∧ (e ∈ lin ∨ e.lt = time) :=
    fun _ _ => ⟨_, List.mem_append_right _ (List.mem_singleton_self _), rfl, rfl, rfl, .inr rfl⟩
  cases hst with
  | s1e op c hop hw hts hcur hfree hv hl hr => cases hr
  | s1n op hop hw hts hcur hv hl hr => cases hr
  | g1h op c hop hrd hts hcur hv hl hr => cases hr
  | s2 op c hop hts hv hl hr =>
    cases hr; subst hl
    obtain ⟨e, he, h1, h2⟩ := g.hold_lin t c hts
    rcases g.pend e he (h1 ▸ h2) with ⟨_, _, h⟩ | ⟨_, h, _⟩
    · exact ⟨e, he, h1, h2, h, .inl he⟩
    · rw [h1, hts] at h; cases h
  | g1m op hop hrd hts hcur hv hl hr => cases hr; subst hl; exact last _ _
  | g2 op c hop hts hfree hv hl hr =>
    cases hr
    by_cases hc : v.cur = some c
    · rw [if_pos hc] at hl; subst hl; exact last _ _
    · -- linearized by the erase that orphaned `c`, with the logical value of `c`: its content, as `c` is unlocked
      rw [if_neg hc] at hl; subst hl
      rcases g.get_lin t c hts with h | ⟨e, he, h1, h2⟩
      · exact absurd h hc
      · refine ⟨e, he, h1, h2, ?_, .inl he⟩
        have hop' := g.op_ok e he
        rw [h1, h2, hop] at hop'
        cases hop'
        rcases g.pend e he (h1 ▸ h2) with ⟨_, h, _⟩ | ⟨c', h, _, h3⟩ <;> rw [h1, hts] at h <;> cases h
        rw [h3, logical_free hfree]
  | sz hop hts hfree hv hl hr => cases hr; subst hl; exact last _ _
  | e1 hop hts hv hl hr => cases hr; subst hl; exact last _ _

structure HInv (ps : Progs) (v : VState) (lin : List LinE) (time : Nat) (invs : List (Option Nat))
    (acc : List Done) : Prop where
  sorted : lin.Pairwise (fun a b => a.lt ≤ b.lt)
  lt_time : ∀ e ∈ lin, e.lt < time
  acc_lin : ∀ d ∈ acc, d.k < v.pc d.t ∧ ∃ e ∈ lin, e.t = d.t ∧ e.k = d.k ∧ e.op = d.op ∧ e.res = d.res ∧
      d.inv ≤ e.lt ∧ e.lt ≤ d.resp
  lin_acc : ∀ e ∈ lin, e.k < v.pc e.t → ∃ d ∈ acc, d.t = e.t ∧ d.k = e.k
  acc_nodup : acc.Pairwise (fun a b => ¬ (a.t = b.t ∧ a.k = b.k))
  linvs : invs.length = ps.length
  inv_idle : ∀ t, v.ts t = .idle → invs.getD t none = none
  inv_busy : ∀ t, v.ts t ≠ .idle → ∃ i, invs.getD t none = some i ∧ i < time ∧
      ∀ e ∈ lin, e.t = t → e.k = v.pc t → i ≤ e.lt

section
variable {ps : Progs} {i0 : Option Bytes} {time : Nat} {v v' : VState} {lin new : List LinE} {t : Nat}
  {r : Option Res} {invs : List (Option Nat)} {acc : List Done}

theorem HInv.matches (hh : HInv ps v lin time invs acc) {d : Done} (hd : d ∈ acc) : ∃ e ∈ lin, e.Matches d :=
  let ⟨_, e, he, h1, h2, h3, h4, h5, h6⟩ := hh.acc_lin d hd
  ⟨e, he, h1, h2, h3, h4, h5, h6⟩

theorem sorted_append_new (hh : HInv ps v lin time invs acc) (hnew : ∀ e ∈ new, e.lt = time) :
    (lin ++ new).Pairwise (fun a b => a.lt ≤ b.lt) ∧ ∀ e ∈ lin ++ new, e.lt < time + 1 := by
  constructor
  · rw [List.pairwise_append]
    refine ⟨hh.sorted, ?_, ?_⟩
    · exact List.pairwise_of_forall_mem_list (fun a ha b hb => by rw [hnew a ha, hnew b hb]; exact Nat.le_refl _)
    · intro a ha b hb; rw [hnew b hb]; exact Nat.le_of_lt (hh.lt_time a ha)
  · intro e he
    rcases List.mem_append.mp he with he | he
    · exact Nat.lt_succ_of_lt (hh.lt_time e he)
    · rw [hnew e he]; exact Nat.lt_succ_self _

theorem HInv.others (hh : HInv ps v lin time invs acc) (ht : t < ps.length)
    (hst : VStep ps time v lin t v' (lin ++ new) r) (hnew : ∀ e ∈ new, e.lt = time) (x : Option Nat)
    {t' : Nat} (hne : t' ≠ t) :
    (v'.ts t' = .idle → (invs.set t x).getD t' none = none) ∧
    (v'.ts t' ≠ .idle → ∃ i, (invs.set t x).getD t' none = some i ∧ i < time + 1 ∧
      ∀ e ∈ lin ++ new, e.t = t' → e.k = v'.pc t' → i ≤ e.lt) := by
  have hget : (invs.set t x).getD t' none = invs.getD t' none :=
    (getD_set (hh.linvs ▸ ht) x none t').trans (if_neg hne)
  rw [hget, hst.ts_other hne, hst.pc_other hne]
  refine ⟨hh.inv_idle t', fun ht' => ?_⟩
  obtain ⟨i, h3, h4, h5⟩ := hh.inv_busy t' ht'
  refine ⟨i, h3, Nat.lt_succ_of_lt h4, fun e he h6 h7 => ?_⟩
  rcases List.mem_append.mp he with he | he
  · exact h5 e he h6 h7
  · rw [hnew e he]; exact Nat.le_of_lt h4

/-- a step that does not complete the operation: thread `t` was idle, its invocation time is `time` -/
theorem hinv_step_none (g : GInv ps i0 v lin) (hh : HInv ps v lin time invs acc)
    (ht : t < ps.length) (hst : VStep ps time v lin t v' (lin ++ new) r) (ns : NewSpec ps time v v' t new)
    (hr : r = none) : HInv ps v' (lin ++ new) (time + 1) (invs.set t (some time)) acc := by
  obtain ⟨hpc, hidle, hbusy⟩ := hst.pc_silent hr
  have hpc' : ∀ t', v'.pc t' = v.pc t' := by
    intro t'; by_cases h : t' = t
    · rw [h, hpc]
    · exact hst.pc_other h
  have hnew : ∀ e ∈ new, e.lt = time := fun e he => (ns.each e he).lt
  obtain ⟨h1, h2⟩ := sorted_append_new hh hnew
  have htl : t < invs.length := by rw [hh.linvs]; exact ht
  refine ⟨h1, h2, ?_, ?_, hh.acc_nodup, List.length_set.trans hh.linvs, ?_, ?_⟩
  · intro d hd
    obtain ⟨h3, e, he, h4⟩ := hh.acc_lin d hd
    exact ⟨by rw [hpc']; exact h3, e, List.mem_append_left _ he, h4⟩
  · intro e he hk
    rw [hpc'] at hk
    rcases List.mem_append.mp he with he | he
    · exact hh.lin_acc e he hk
    · exact absurd hk ((ns.each e he).k ▸ Nat.lt_irrefl _)
  · intro t' ht'
    exact (hh.others ht hst hnew _ (fun e : t' = t => hbusy (e ▸ ht'))).1 ht'
  · intro t' ht'
    by_cases hne : t' = t
    · subst hne
      refine ⟨time, (getD_set htl _ _ _).trans (if_pos rfl), Nat.lt_succ_self _, ?_⟩
      intro e he h3 h4
      rcases List.mem_append.mp he with he | he
      · exact absurd (h3 ▸ hidle) (g.pend e he (by rw [h4, hpc, h3])).busy
      · rw [hnew e he]; exact Nat.le_refl _
    · exact (hh.others ht hst hnew _ hne).2 ht'

theorem hinv_step_some (g : GInv ps i0 v lin) (g' : GInv ps i0 v' (lin ++ new))
    (hh : HInv ps v lin time invs acc) (ht : t < ps.length) (hst : VStep ps time v lin t v' (lin ++ new) r)
    (ns : NewSpec ps time v v' t new) {res : Res} (hr : r = some res) {op : Op}
    (hop : opAt ps t (v.pc t) = some op) :
    HInv ps v' (lin ++ new) (time + 1) (invs.set t none)
      (acc ++ [⟨t, v.pc t, op, res, invOf invs t time, time⟩]) := by
  obtain ⟨hpc, hidle⟩ := hst.pc_resp hr
  have htl : t < invs.length := by rw [hh.linvs]; exact ht
  have hnew : ∀ e ∈ new, e.lt = time := fun e he => (ns.each e he).lt
  obtain ⟨h1, h2⟩ := sorted_append_new hh hnew
  refine ⟨h1, h2, ?_, ?_, ?_, List.length_set.trans hh.linvs, ?_, ?_⟩
  · intro d hd
    rcases List.mem_append.mp hd with hd | hd
    · obtain ⟨h3, e, he, h4⟩ := hh.acc_lin d hd
      exact ⟨Nat.lt_of_lt_of_le h3 (hst.pc_le d.t), e, List.mem_append_left _ he, h4⟩
    · rw [List.mem_singleton] at hd; subst hd
      refine ⟨hpc ▸ Nat.lt_succ_self _, ?_⟩
      obtain ⟨e, he, h3, h4, h5, h6⟩ := hst.resp_spec g res hr
      refine ⟨e, he, h3, h4, ?_, h5, ?_, ?_⟩
      · have := g'.op_ok e he
        rw [h3, h4, hop] at this
        cases this; rfl
      · show invOf invs t time ≤ e.lt
        unfold invOf
        rcases h6 with h6 | h6
        · have hp := g.pend e h6 (by rw [h3]; exact h4)
          have hb : v.ts t ≠ .idle := h3 ▸ hp.busy
          obtain ⟨i, h7, _, h9⟩ := hh.inv_busy t hb
          rw [h7]
          exact h9 e h6 h3 h4
        · rw [h6]
          by_cases hb : v.ts t = .idle
          · rw [hh.inv_idle t hb]; exact Nat.le_refl _
          · obtain ⟨i, h7, h8, _⟩ := hh.inv_busy t hb
            rw [h7]; exact Nat.le_of_lt h8
      · show e.lt ≤ time
        exact Nat.le_of_lt_succ (h2 e he)
  · intro e he hk
    by_cases hcur : e.t = t ∧ e.k = v.pc t
    · exact ⟨_, List.mem_append_right _ (List.mem_singleton_self _), hcur.1.symm, hcur.2.symm⟩
    · -- any other record was complete before the step, hence is not new
      have hlt : e.k < v.pc e.t := by
        by_cases het : e.t = t
        · rw [het, hpc] at hk
          rw [het]
          exact Nat.lt_of_le_of_ne (Nat.le_of_lt_succ hk) (fun h => hcur ⟨het, h⟩)
        · rw [hst.pc_other het] at hk
          exact hk
      rcases List.mem_append.mp he with he | he
      · obtain ⟨d, hd, h3⟩ := hh.lin_acc e he hlt
        exact ⟨d, List.mem_append_left _ hd, h3⟩
      · exact absurd hlt ((ns.each e he).k ▸ Nat.lt_irrefl _)
  · rw [List.pairwise_append]
    refine ⟨hh.acc_nodup, List.pairwise_singleton _ _, ?_⟩
    intro a ha b hb ⟨h3, h4⟩
    rw [List.mem_singleton] at hb; subst hb
    have := (hh.acc_lin a ha).1
    simp only at h3 h4
    rw [h3, h4] at this; exact Nat.lt_irrefl _ this
  · intro t' ht'
    by_cases hne : t' = t
    · subst hne
      exact (getD_set htl _ _ _).trans (if_pos rfl)
    · exact (hh.others ht hst hnew _ hne).1 ht'
  · intro t' ht'
    exact (hh.others ht hst hnew _ (fun e : t' = t => ht' (e ▸ hidle))).2 ht'

end

end Zarrs.MemConc
