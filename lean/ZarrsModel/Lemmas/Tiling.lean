import ZarrsModel.Lemmas.ArrayPaste
/- Tilings: a keyed family of boxes that partitions a set of indices (the chunks of a grid meeting a region, the inner
chunks of a shard, the views a read pastes into its output).  Families are made from others by cutting to a region
(`clip`), changing the origin (`relativeTo`, `translate`); what a tiling gives is read off the structure. -/
namespace Zarrs

structure Tiling {κ : Type} (K : List κ) (W : κ → Subset) (P : Idx → Prop) : Prop where
  nodup : K.Nodup
  ne : ∀ k ∈ K, ∃ i, (W k).contains i = true
  sub : ∀ k ∈ K, ∀ i, (W k).contains i = true → P i
  cover : ∀ i, P i → ∃ k ∈ K, (W k).contains i = true
  uniq : ∀ k ∈ K, ∀ k' ∈ K, ∀ i, (W k).contains i = true → (W k').contains i = true → k' = k

namespace Tiling
variable {κ : Type} {K : List κ} {W : κ → Subset} {P : Idx → Prop}

theorem inboundsShape (T : Tiling K W P) {out : Shape} (hP : ∀ i, P i → inB i out = true) {k : κ} (hk : k ∈ K) :
    (W k).wf = true ∧ (W k).inboundsShape out = true := by
  obtain ⟨i, hi⟩ := T.ne k hk
  have hw := (W k).wf_of_contains i hi
  refine ⟨hw, ((W k).inboundsShape_iff_mem _ hw ((W k).nonempty_of_contains i hi)).mpr
    ⟨?_, fun j hj => hP j (T.sub k hk j hj)⟩⟩
  rw [Subset.rank, ← (mem_length hi).1, inB_length (hP i (T.sub k hk i hi))]

theorem tile {R : Subset} (T : Tiling K W (R.contains · = true)) {k : κ} (hk : k ∈ K) : (W k).SubBox R :=
  (T.ne k hk).elim fun _ hi => .of_contains hi (T.sub k hk)

theorem any_contains {R : Subset} (T : Tiling K W (R.contains · = true)) (i : Idx) :
    K.any (fun k => (W k).contains i) = R.contains i := by
  rw [Bool.eq_iff_iff, List.any_eq_true]
  exact ⟨fun ⟨k, hk, h⟩ => T.sub k hk i h, fun h => T.cover i h⟩

theorem read_tile {α : Type} {R : Subset} (T : Tiling K W (R.contains · = true)) (a : AArr α)
    {k : κ} (hk : k ∈ K) : ((W k).relativeTo R.start).extract R.shape (a.read R) = a.read (W k) :=
  (a.read_subBox (T.tile hk)).symm

theorem lin_perm (T : Tiling K W P) (out : Shape) (hP : ∀ i, P i → inB i out = true) (L : List Nat)
    (hL : L.Nodup) (hmem : ∀ n, n ∈ L ↔ ∃ i, P i ∧ ravel i out = n) :
    (K.flatMap fun k => (W k).linearised out).Perm L := by
  have hlin := fun {k} (hk : k ∈ K) => mem_linearised (W k) out (T.inboundsShape hP hk).1
  have hnd : (K.flatMap fun k => (W k).linearised out).Nodup := by
    show List.Pairwise (· ≠ ·) _
    rw [List.pairwise_flatMap]
    refine ⟨fun k hk => ((W k).linearised_sorted out (T.inboundsShape hP hk).1 (T.inboundsShape hP hk).2).imp
      Nat.ne_of_lt, T.nodup.imp_of_mem ?_⟩
    intro a b ha hb hab x hx y hy hxy
    obtain ⟨i, hi, rfl⟩ := (hlin ha x).mp hx
    obtain ⟨j, hj, hjj⟩ := (hlin hb y).mp hy
    -- `ravel` is injective on the buffer, so the two tiles share an index
    obtain rfl : j = i := ravel_inj j i out (hP j (T.sub b hb j hj)) (hP i (T.sub a ha i hi)) (hjj.trans hxy.symm)
    exact hab (T.uniq a ha b hb j hi hj).symm
  rw [List.perm_ext_iff_of_nodup hnd hL]
  intro n
  rw [hmem n, List.mem_flatMap]
  constructor
  · rintro ⟨k, hk, hn⟩
    obtain ⟨i, hi, rfl⟩ := (hlin hk n).mp hn
    exact ⟨i, T.sub k hk i hi, rfl⟩
  · rintro ⟨i, hi, rfl⟩
    obtain ⟨k, hk, h⟩ := T.cover i hi
    exact ⟨k, hk, (hlin hk _).mpr ⟨i, h, rfl⟩⟩

theorem clip {R : Subset} (hR : R.wf = true) (hK : K.Nodup)
    (hmeet : ∀ k ∈ K, ∃ i, (W k).contains i = true ∧ R.contains i = true)
    (hcover : ∀ i, R.contains i = true →
      ∃ k ∈ K, (W k).contains i = true ∧ ∀ k' ∈ K, (W k').contains i = true → k' = k) :
    Tiling K (fun k => (W k).overlap R) (R.contains · = true) := by
  have hov : ∀ k ∈ K, ∀ i, ((W k).overlap R).contains i = true ↔ (W k).contains i = true ∧ R.contains i = true := by
    intro k hk i
    obtain ⟨i0, h1, h2⟩ := hmeet k hk
    rw [← Bool.and_eq_true]
    exact Bool.eq_iff_iff.mp (mem_overlap i _ _ _ _ (mem_length h1).2 (Subset.wf_iff.mp hR)
      ((mem_length h1).1.symm.trans (mem_length h2).1))
  refine ⟨hK, fun k hk => (hmeet k hk).imp fun i => (hov k hk i).mpr, fun k hk i hi => ((hov k hk i).mp hi).2,
    fun i hi => ?_, fun k hk k' hk' i hi hi' => ?_⟩
  · obtain ⟨k, hk, h, _⟩ := hcover i hi
    exact ⟨k, hk, (hov k hk i).mpr ⟨h, hi⟩⟩
  · obtain ⟨h, hiR⟩ := (hov k hk i).mp hi
    obtain ⟨k0, _, _, hu⟩ := hcover i hiR
    rw [hu k hk h, hu k' hk' ((hov k' hk' i).mp hi').1]

theorem relativeTo {R : Subset} (hR : R.wf = true) (T : Tiling K W (R.contains · = true)) :
    Tiling K (fun k => (W k).relativeTo R.start) (inB · R.shape = true) := by
  have hR' := Subset.wf_iff.mp hR
  have hshift : ∀ j, inB j R.shape = true → R.contains (addIdx j R.start) = true :=
    fun j => mem_addIdx j R.start R.shape hR'
  have key : ∀ k ∈ K, ((W k).relativeTo R.start).inboundsShape R.shape = true ∧
      ∀ j, inB j R.shape = true → ((W k).relativeTo R.start).contains j = (W k).contains (addIdx j R.start) := by
    intro k hk
    have hs := T.tile hk
    refine ⟨hs.rel_inbounds, fun j hj => ?_⟩
    exact mem_relativeTo j _ _ R.start hs.rank.symm (zipUnderflow_of_allLe _ _ hs.start_le)
      (by rw [← Subset.rank, hs.rank, Subset.rank, inB_length hj, hR']; exact Nat.le_refl _)
  refine ⟨T.nodup, ?_, fun k hk j hj => Subset.inB_of_inboundsShape (key k hk).1 hj, ?_, ?_⟩
  · intro k hk
    obtain ⟨i, hi⟩ := T.ne k hk
    obtain ⟨hj, e⟩ := mem_zipSub i R.start R.shape (T.sub k hk i hi)
    exact ⟨_, by rw [(key k hk).2 _ hj, e]; exact hi⟩
  · intro j hj
    obtain ⟨k, hk, h⟩ := T.cover _ (hshift j hj)
    exact ⟨k, hk, by rw [(key k hk).2 j hj]; exact h⟩
  · intro k hk k' hk' j hj hj'
    have hjB := Subset.inB_of_inboundsShape (key k hk).1 hj
    rw [(key k hk).2 j hjB] at hj
    rw [(key k' hk').2 j hjB] at hj'
    exact T.uniq k hk k' hk' _ hj hj'

theorem translate {sh : Shape} (T : Tiling K W (inB · sh = true)) (o : Idx) (ho : o.length = sh.length) :
    Tiling K (fun k => ⟨addIdx o (W k).start, (W k).shape⟩) ((Subset.mk o sh).contains · = true) := by
  have hmem : ∀ k ∈ K, ∀ i, (Subset.mk (addIdx o (W k).start) (W k).shape).contains i = true ↔
      ∃ j, j.length = o.length ∧ addIdx j o = i ∧ (W k).contains j = true := by
    intro k hk i
    obtain ⟨_, hb⟩ := T.inboundsShape (fun _ h => h) hk
    exact mem_translate i o _ _ ((Subset.inboundsShape_iff_allLe.mp hb).1.trans ho.symm)
  refine ⟨T.nodup, fun k hk => ?_, fun k hk i hi => ?_, fun i hi => ?_, fun k hk k' hk' i hi hi' => ?_⟩
  · obtain ⟨j, hj⟩ := T.ne k hk
    exact ⟨addIdx j o, (hmem k hk _).mpr ⟨j, by rw [inB_length (T.sub k hk j hj), ho], rfl, hj⟩⟩
  · obtain ⟨j, _, rfl, hj⟩ := (hmem k hk i).mp hi
    exact mem_addIdx j o sh ho (T.sub k hk j hj)
  · obtain ⟨hjB, e⟩ := mem_zipSub i o sh hi
    obtain ⟨k, hk, h⟩ := T.cover _ hjB
    exact ⟨k, hk, (hmem k hk i).mpr ⟨_, by rw [inB_length hjB, ho], e, h⟩⟩
  · obtain ⟨j, hjl, e, hj⟩ := (hmem k hk i).mp hi
    obtain ⟨j', hjl', e', hj'⟩ := (hmem k' hk' i).mp hi'
    have : j' = j := by
      rw [← zipSub_addIdx_cancel j o (Nat.le_of_eq hjl), ← zipSub_addIdx_cancel j' o (Nat.le_of_eq hjl'), e, e']
    exact T.uniq k hk k' hk' j hj (this ▸ hj')

theorem of_iff {Q : Idx → Prop} (h : ∀ i, P i ↔ Q i) (T : Tiling K W P) : Tiling K W Q :=
  ⟨T.nodup, T.ne, fun k hk i hi => (h i).mp (T.sub k hk i hi), fun i hi => T.cover i ((h i).mpr hi), T.uniq⟩

theorem comap {κ' : Type} (g : κ' → κ) {K' : List κ'} (T : Tiling (K'.map g) W P) :
    Tiling K' (fun k => W (g k)) P := by
  have hpw : K'.Pairwise fun a b => g a ≠ g b := List.pairwise_map.mp T.nodup
  have hinj : ∀ ⦃a⦄, a ∈ K' → ∀ ⦃b⦄, b ∈ K' → g a = g b → a = b :=
    List.Pairwise.forall_of_forall_of_flip (fun _ _ _ => rfl) (hpw.imp fun h e => (h e).elim)
      (hpw.imp fun h e => (h e.symm).elim)
  refine ⟨hpw.imp fun h e => h (congrArg g e), fun k hk => T.ne _ (List.mem_map_of_mem hk),
    fun k hk => T.sub _ (List.mem_map_of_mem hk), fun i hi => ?_,
    fun k hk k' hk' i h h' => hinj hk' hk (T.uniq _ (List.mem_map_of_mem hk) _ (List.mem_map_of_mem hk') i h h')⟩
  obtain ⟨_, hk, h⟩ := T.cover i hi
  obtain ⟨k, hk', rfl⟩ := List.mem_map.mp hk
  exact ⟨k, hk', h⟩

theorem perm {K' : List κ} (T : Tiling K W P) (h : K'.Perm K) : Tiling K' W P :=
  ⟨h.nodup_iff.mpr T.nodup, fun k hk => T.ne k (h.mem_iff.mp hk), fun k hk => T.sub k (h.mem_iff.mp hk),
    fun i hi => (T.cover i hi).imp fun _ hk => ⟨h.mem_iff.mpr hk.1, hk.2⟩,
    fun k hk k' hk' => T.uniq k (h.mem_iff.mp hk) k' (h.mem_iff.mp hk')⟩

theorem read {α : Type} [DecidableEq α] {R : Subset} (hR : R.wf = true) (T : Tiling K W (R.contains · = true))
    (a : AArr α) (f : List α → κ → Option (List α))
    (hf : ∀ k ∈ K, ∀ out, f out k = some (updateRuns R.shape ((W k).relativeTo R.start) out (a.read (W k))))
    (init : List α) (hinit : init.length = R.numElements) : ArrCfg.foldOpt f init K = some (a.read R) := by
  -- the buffer is the read of `R` from an array `o`; the step of a tile writes `a` to `o` there
  have key : ∀ K' : List κ, (∀ k ∈ K', k ∈ K) → ∀ o : AArr α, ArrCfg.foldOpt f (o.read R) K' =
      some ((o.overlay (fun i => K'.any fun k => (W k).contains i) a).read R) := by
    intro K'
    induction K' with
    | nil => intro _ o; rw [AArr.overlay_of_not o (P := fun i => [].any fun k => (W k).contains i) a fun _ => rfl]; rfl
    | cons k K' ih =>
      intro hK o
      rw [ArrCfg.foldOpt, hf k (hK k List.mem_cons_self), o.paste_read a (T.tile (hK k List.mem_cons_self))]
      simp only [ih (fun k' h => hK k' (List.mem_cons_of_mem _ h)), AArr.overlay_overlay, List.any_cons]
  rw [← AArr.read_write (fun _ => a []) R init (a []) hR hinit, key K (fun _ h => h)]
  exact congrArg some (AArr.read_congr _ _ R hR fun i hi => by rw [AArr.overlay, T.any_contains, if_pos hi])

/-- `I`: a state and the array it stands for -/
theorem write {α σ : Type} {R : Subset} (T : Tiling K W (R.contains · = true)) (I : σ → AArr α → Prop)
    (f : σ → κ → Option σ) (t : AArr α)
    (hstep : ∀ k ∈ K, ∀ s a, I s a → ∃ s', f s k = some s' ∧ I s' (a.overlay (W k).contains t)) {s : σ} {a : AArr α}
    (h : I s a) : ∃ s', ArrCfg.foldOpt f s K = some s' ∧ I s' (a.overlay R.contains t) := by
  rw [← AArr.overlay_congr a t T.any_contains]
  clear T
  induction K generalizing s a with
  | nil => exact ⟨s, rfl, by rwa [AArr.overlay_of_not a (P := fun i => [].any fun k => (W k).contains i) t fun _ => rfl]⟩
  | cons k K ih =>
    obtain ⟨s1, h1, hI1⟩ := hstep k List.mem_cons_self s a h
    obtain ⟨s2, h2, hI2⟩ := ih (fun k' hk' => hstep k' (List.mem_cons_of_mem _ hk')) hI1
    refine ⟨s2, by simp only [ArrCfg.foldOpt, h1, h2], ?_⟩
    rw [AArr.overlay_overlay] at hI2
    simpa only [List.any_cons] using hI2

theorem frame {α : Type} {sh : Shape} (T : Tiling K W (inB · sh = true)) (f : List α → κ → Option (List α))
    (val : κ → Idx → Option α)
    (hstep : ∀ k ∈ K, ∀ out out', out.length = prod sh → f out k = some out' →
      out'.length = prod sh ∧ ∀ j, inB j sh = true → out'[ravel j sh]? =
        if (W k).contains j = true then val k j else out[ravel j sh]?)
    (init out : List α) (hinit : init.length = prod sh) (h : ArrCfg.foldOpt f init K = some out) :
    out.length = prod sh ∧ ∀ j, inB j sh = true → ∃ k ∈ K, (W k).contains j = true ∧
      (∀ q ∈ K, (W q).contains j = true → q = k) ∧ out[ravel j sh]? = val k j := by
  -- along the fold a position inside the tile of a visited key holds that key's value; no later tile contains it
  have key : ∀ K' : List κ, K'.Nodup → (∀ k ∈ K', k ∈ K) → ∀ init out, init.length = prod sh →
      ArrCfg.foldOpt f init K' = some out → out.length = prod sh ∧ ∀ j, inB j sh = true →
        (∀ k ∈ K', (W k).contains j = true → out[ravel j sh]? = val k j) ∧
        ((∀ k ∈ K', (W k).contains j = false) → out[ravel j sh]? = init[ravel j sh]?) := by
    intro K'
    induction K' with
    | nil =>
      intro _ _ init out hinit h
      cases h
      exact ⟨hinit, fun j _ => ⟨fun k hk => (nomatch hk), fun _ => rfl⟩⟩
    | cons c K' ih =>
      intro hnd hsub init out hinit h
      rw [List.nodup_cons] at hnd
      simp only [ArrCfg.foldOpt] at h
      cases h1 : f init c with
      | none => rw [h1] at h; cases h
      | some o1 =>
        rw [h1] at h
        obtain ⟨hl1, hp1⟩ := hstep c (hsub c List.mem_cons_self) init o1 hinit h1
        obtain ⟨hl2, hp2⟩ := ih hnd.2 (fun k hk => hsub k (List.mem_cons_of_mem _ hk)) o1 out hl1 h
        refine ⟨hl2, fun j hj => ⟨fun k hk hkj => ?_, fun hnone => ?_⟩⟩
        · rcases List.mem_cons.mp hk with rfl | hk'
          · rw [(hp2 j hj).2 (fun q hq => Bool.eq_false_iff.mpr fun hqj =>
              hnd.1 ((T.uniq k (hsub k hk) q (hsub q (List.mem_cons_of_mem _ hq)) j hkj hqj) ▸ hq)),
              hp1 j hj, if_pos hkj]
          · exact (hp2 j hj).1 k hk' hkj
        · rw [(hp2 j hj).2 (fun q hq => hnone q (List.mem_cons_of_mem _ hq)), hp1 j hj,
            hnone c List.mem_cons_self]
          rfl
  obtain ⟨hl, hp⟩ := key K T.nodup (fun _ h => h) init out hinit h
  refine ⟨hl, fun j hj => ?_⟩
  obtain ⟨k, hk, hkj⟩ := T.cover j hj
  exact ⟨k, hk, hkj, fun q hq hqj => T.uniq k hk q hq j hkj hqj, (hp j hj).1 k hk hkj⟩

end Tiling

end Zarrs
