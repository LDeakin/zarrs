import ZarrsModel.Model.VlenArr
import ZarrsModel.Lemmas.VlenBasic
import ZarrsModel.Lemmas.ArrayList
import ZarrsModel.Lemmas.CodecTranspose
import ZarrsModel.Lemmas.ListBasic
/-
The byte-level helpers of Model/VlenArr.lean against the element view (`VArr.elems`): on valid values each succeeds (no
index / slice / `checked_sub` panic) and returns `VArr.ofElems` of the element-level result — gather, extract, update,
transpose, new_fill_value.  (`is_fill_value` is in Props/C01Vlen.lean, `merge_chunks_vlen` in Lemmas/VlenArrMerge.lean.)
-/
namespace Zarrs.VlenArr
open Zarrs Zarrs.Codec Zarrs.Vlen Zarrs.Partial

theorem pushAll_eq (xs : List Bytes) : ∀ acc : Bytes, pushAll acc xs = (acc ++ xs.flatten, offsetsFrom acc.length xs) := by
  induction xs with
  | nil => intro acc; simp [pushAll, offsetsFrom]
  | cons x xs ih =>
    intro acc
    simp only [pushAll, ih, offsetsFrom, List.flatten_cons, List.length_append, List.append_assoc]

theorem build_eq (xs : List Bytes) : build xs = VArr.ofElems xs := by
  simp [build, pushAll_eq, VArr.ofElems]

theorem windows_getElem? : ∀ (offs : List Nat) (i : Nat),
    (windows offs)[i]? = (match offs[i]?, offs[i + 1]? with
      | some a, some b => some (a, b)
      | _, _ => none)
  | [], _ => rfl
  | [_], 0 => rfl
  | [_], _ + 1 => rfl
  | _ :: _ :: _, 0 => rfl
  | _ :: b :: rest, i + 1 => windows_getElem? (b :: rest) i

theorem windows_le (n : Nat) (v : VArr) (h : v.valid n = true) :
    ∀ w ∈ windows v.offsets, w.1 ≤ w.2 ∧ w.2 ≤ v.data.length := by
  have hok := valid_offsetsOk n v h
  intro w hw
  simp only [offsetsOk, List.all_eq_true, Bool.and_eq_true, decide_eq_true_eq] at hok
  exact hok w hw

theorem getRange_eq_slice (b : Bytes) (a e : Nat) (h1 : a ≤ e) (h2 : e ≤ b.length) : getRange b a e = some (slice b a e) := by
  simp [getRange, h1, h2]

theorem elemAt?_eq (n : Nat) (v : VArr) (h : v.valid n = true) (i : Nat) : elemAt? v i = v.elems[i]? := by
  have h1 : elemAt? v i = (windows v.offsets)[i]?.bind (fun w => getRange v.data w.1 w.2) := by
    rw [windows_getElem?, elemAt?]
    cases v.offsets[i]? <;> cases v.offsets[i + 1]? <;> rfl
  rw [h1, VArr.elems, List.getElem?_map]
  cases hg : (windows v.offsets)[i]? with
  | none => rfl
  | some w =>
    have := windows_le n v h w (List.mem_of_getElem? hg)
    exact getRange_eq_slice _ _ _ this.1 this.2

theorem gatherVlen_spec (n : Nat) (v : VArr) (h : v.valid n = true) (idxs : List Nat) (ys : List Bytes)
    (hy : idxs.map (fun k => v.elems[k]?) = ys.map some) : gatherVlen v idxs = some (VArr.ofElems ys) := by
  unfold gatherVlen
  rw [mapM_congr_mem (elemAt? v) (fun k => v.elems[k]?) idxs (fun k _ => elemAt?_eq n v h k),
    (mapM_eq_some_iff _ idxs ys).2 hy]
  simp [build_eq]

theorem offsetsFrom_replicate (fill : Bytes) : ∀ (n s : Nat),
    offsetsFrom s (List.replicate n fill) = (List.range (n + 1)).map (fun i => s + i * fill.length) := by
  intro n
  induction n with
  | zero => intro s; simp [offsetsFrom]
  | succ n ih =>
    intro s
    rw [List.replicate_succ, offsetsFrom, ih, List.range_succ_eq_map (n := n + 1), List.map_cons, List.map_map]
    simp only [Nat.zero_mul, Nat.add_zero, List.cons.injEq, true_and]
    apply List.map_congr_left
    intro i _
    simp only [Function.comp, Nat.succ_eq_add_one, Nat.add_mul, Nat.one_mul]
    omega

theorem fillVArr_eq (n : Nat) (fill : Bytes) : fillVArr n fill = VArr.ofElems (List.replicate n fill) := by
  simp [fillVArr, VArr.ofElems, offsetsFrom_replicate]

theorem extractVlen_spec (r : Subset) (sh : Shape) (v : VArr) (hr : r.wf = true) (hb : r.inboundsShape sh = true)
    (hv : v.valid (prod sh) = true) :
    extractVlen r sh v = some (VArr.ofElems (r.extract sh v.elems)) := by
  unfold extractVlen
  simp only [hb, Bool.not_true, Bool.false_eq_true, if_false]
  apply gatherVlen_spec (prod sh) v hv
  rw [r.extract_exact sh v.elems hr hb (elems_length _ v hv), r.linearised_eq sh]
  simp [Subset.gather, List.map_map, Function.comp_def]

theorem extractRegionsVlen_spec (rs : List Subset) (sh : Shape) (v : VArr)
    (hrs : ∀ r ∈ rs, r.wf = true ∧ r.inboundsShape sh = true) (hv : v.valid (prod sh) = true) :
    extractRegionsVlen rs sh v = some (rs.map (fun r => VArr.ofElems (r.extract sh v.elems))) := by
  unfold extractRegionsVlen
  exact mapM_some_of_forall _ _ rs (fun r hr => extractVlen_spec r sh v (hrs r hr).1 (hrs r hr).2 hv)

theorem transposeVlen_enc (v : VArr) (sh : Shape) (order : List Nat) (ho : validOrder order sh.length = true)
    (hv : v.valid (prod sh) = true) :
    transposeVlen v sh order = some (VArr.ofElems (transposeEnc order sh v.elems)) := by
  unfold transposeVlen
  simp only [ho, Bool.not_true, Bool.false_eq_true, if_false]
  apply gatherVlen_spec (prod sh) v hv
  simp only [transposeEnc, List.map_map]
  apply List.map_congr_left
  intro j hj
  rw [mem_boxIndices] at hj
  have hlt : ravel (permute j (inverseOrder order)) sh < v.elems.length := by
    rw [elems_length _ v hv]; exact ravel_lt _ _ (inB_permute_inv j sh order ho hj)
  simp [List.getD_eq_getElem?_getD, List.getElem?_eq_getElem hlt]

theorem orderDecode_eq {order : List Nat} {n : Nat} (ho : validOrder order n = true) :
    orderDecode order = inverseOrder order := by
  obtain ⟨hl, hc⟩ := (validOrder_iff _ _).1 ho
  have hnd := validOrder_nodup ho
  obtain ⟨h1, h2, _⟩ := foldl_set_spec order.zipIdx (List.replicate order.length 0)
    (by rw [List.zipIdx_map_fst]; exact hnd)
    (by rw [List.zipIdx_map_fst, List.length_replicate, hl]; exact validOrder_lt ho)
  apply List.ext_getElem
  · unfold orderDecode; rw [h1, List.length_replicate, inverseOrder_length]
  · intro a ha hb
    rw [inverseOrder_getElem _ _ hb]
    have han : a < n := by rw [inverseOrder_length, hl] at hb; exact hb
    obtain ⟨hi, hspec⟩ := invAt_spec order a (hc a han)
    have hmem : (a, invAt order a) ∈ order.zipIdx := by
      rw [List.mem_zipIdx_iff_getElem?]
      simp [List.getElem?_eq_getElem hi, hspec]
    have := h2 _ hmem
    unfold orderDecode
    rw [List.getElem?_eq_getElem (by rw [h1, List.length_replicate]; rw [inverseOrder_length] at hb; exact hb)] at this
    exact Option.some.inj this

theorem transposeVlen_dec (v : VArr) (sh : Shape) (order : List Nat) (ho : validOrder order sh.length = true)
    (hv : v.valid (prod sh) = true) :
    transposeVlen v (permute sh order) (orderDecode order) = some (VArr.ofElems (transposeDec order sh v.elems)) := by
  have hoi : validOrder (inverseOrder order) (permute sh order).length = true := by
    rw [permute_length, (validOrder_cover ho).1]; exact validOrder_inverse ho
  -- decoding is encoding with the inverse order from the permuted shape
  rw [orderDecode_eq ho, transposeVlen_enc v (permute sh order) (inverseOrder order) hoi
    (by rw [prod_permute sh order ho]; exact hv)]
  simp only [transposeEnc, transposeDec, permute_permute_inv sh order ho rfl, inverseOrder_inverseOrder ho]

theorem sumDiffs_some : ∀ (ws : List (Nat × Nat)), (∀ w ∈ ws, w.1 ≤ w.2) →
    sumDiffs ws = some (ws.map (fun w => w.2 - w.1)).sum := by
  intro ws
  induction ws with
  | nil => intro _; rfl
  | cons w ws ih =>
    intro h
    simp only [sumDiffs, h w (by simp), if_true, ih (fun w' hw' => h w' (by simp [hw'])), Option.map_some,
      List.map_cons, List.sum_cons]
    congr 1; omega

/-- `size_subset_old` of `update_bytes_vlen`: the bytes of the elements at the indices `K`; for increasing indices at
most `input_bytes.len()`, which is why `(input_bytes.len() + size_subset_new).checked_sub(size_subset_old).unwrap()`
cannot panic -/
theorem sizeOld_le (n : Nat) (v : VArr) (h : v.valid n = true) (K : List Nat) (hs : K.Pairwise (· < ·))
    (hK : ∀ k ∈ K, k < n) : ∃ s, (K.mapM (offPair? v)).bind sumDiffs = some s ∧ s ≤ v.data.length := by
  have hn := elems_length n v h
  obtain ⟨o, ho⟩ : ∃ o, v.offsets = offsetsFrom o v.elems := ⟨_, offsets_eq n v h⟩
  have hpair : ∀ k ∈ K, offPair? v k = some (o + (v.elems.take k).flatten.length,
      o + (v.elems.take k).flatten.length + (v.elems.getD k []).length) := by
    intro k hk
    have hk' : k < v.elems.length := hn ▸ hK k hk
    rw [offPair?, ho, offsetsFrom_getElem? _ _ k (Nat.le_of_lt hk'), offsetsFrom_getElem? _ _ (k + 1) hk',
      List.take_succ_eq_append_getElem hk', List.flatten_append, List.length_append, List.flatten_singleton,
      List.getD_eq_getElem?_getD, List.getElem?_eq_getElem hk', Option.getD_some, Nat.add_assoc]
  refine ⟨_, ?_, Nat.le_trans (sum_length_sorted_le v.elems K hs (hn ▸ hK) 0 fun _ _ => Nat.zero_le _) ?_⟩
  · rw [mapM_some_of_forall _ _ K hpair, Option.bind_some, sumDiffs_some _ fun w hw => by
      obtain ⟨k, _, rfl⟩ := List.mem_map.mp hw
      exact Nat.le_add_right _ _]
    simp only [List.map_map, Function.comp_def, Nat.add_sub_cancel_left]
  · rw [List.drop_zero, elems_flatten n v h, List.length_drop]
    exact Nat.sub_le _ _

theorem updateBytesVlen_spec (v : VArr) (sh : Shape) (u : VArr) (r : Subset) (hr : r.wf = true)
    (hb : r.inboundsShape sh = true) (hv : v.valid (prod sh) = true) (hu : u.valid r.numElements = true) :
    updateBytesVlen v sh u r = some (VArr.ofElems (updateRuns sh r v.elems u.elems)) := by
  have hrw := hr
  simp only [Subset.wf, beq_iff_eq] at hrw
  have hbb := hb
  simp only [Subset.inboundsShape, Subset.rank, Subset.endExc, Bool.and_eq_true, beq_iff_eq] at hbb
  have hnew := sumDiffs_some (windows u.offsets) (fun w hw => (windows_le _ u hu w hw).1)
  obtain ⟨sizeOld, hold, hle⟩ := sizeOld_le _ v hv (r.linearised sh) (r.linearised_sorted sh hr hb)
    (linearised_lt r sh hr hb)
  unfold updateBytesVlen
  simp only [hb, Bool.not_true, Bool.false_eq_true, if_false, hnew, hold]
  rw [if_neg (by omega)]
  -- the element loop: the update's element inside `r`, the input's outside, i.e. `scatter`, which is `updateRuns`
  have hsc := updateRuns_scatter sh r v.elems u.elems hr hb (elems_length _ v hv) (elems_length _ u hu)
  have hfst : (boxIndices sh).zipIdx.map Prod.fst = boxIndices sh := List.zipIdx_map_fst 0 _
  rw [mapM_congr_mem _ (fun p : Idx × Nat =>
      if r.contains p.1 then u.elems[ravel (Subset.zipSub p.1 r.start) r.shape]? else v.elems[ravel p.1 sh]?)
    (boxIndices sh).zipIdx (by
      intro p hp
      obtain ⟨hin, hrv⟩ := zipIdx_boxIndices sh p hp
      have hlen := inB_length hin
      rw [containsZip_eq_mem p.1 r.start r.shape (by rw [hlen, hbb.1]) hrw]
      show (if r.contains p.1 = true then _ else _) = _
      rw [elemAt?_eq _ u hu, elemAt?_eq _ v hv, hrv])]
  rw [(mapM_eq_some_iff _ _ (updateRuns sh r v.elems u.elems)).2 (by
    rw [hsc, scatter]
    conv => rhs; rw [← hfst, List.map_map]
    rfl)]
  simp [build_eq]

end Zarrs.VlenArr
