import ZarrsModel.Lemmas.FsStoreKind
/- listings of the filesystem store against the ordered map: `list_prefix`, `size_prefix`, `list_dir` -/
namespace Zarrs.Fs
open Zarrs

theorem mem_listPrefix_abs (s : FsState) (hi : FsInv s) (p : Key) (path : List Name) (hp : prefixPath p = some path)
    (k : Key) (v : Bytes) :
    (k, v) ∈ s.listPrefix p path ↔ ((absFs s).get k = some v ∧ hasPrefix k p = true) := by
  obtain ⟨rfl, hpl⟩ := prefixPath_spec hp
  rw [mem_listPrefix s hi, absFs_get_kind s hi, Kind.fileOf_eq_some]
  constructor
  · rintro ⟨q, hq, rfl, h⟩
    have hsp : splitPath (dirKey path ++ joinPath q) = path ++ q :=
      splitPath_dirKey_append path q hq (plain_noSlash hpl)
        (plain_noSlash fun n hn => (kindAt_file_plain s hi _ v h).2 n (List.mem_append_right _ hn))
    exact ⟨by rw [hsp]; exact h, (hasPrefix_iff _ _).2 ⟨joinPath q, rfl⟩⟩
  · rintro ⟨hg, hpre⟩
    obtain ⟨rest, hr, hsp⟩ := (hasPrefix_dirKey_iff (plain_noSlash hpl) k).1 hpre
    refine ⟨rest, hr, ?_, hsp ▸ hg⟩
    rw [← joinPath_dirKey path rest hr, ← hsp, join_split]

theorem listPrefix_keys_abs (s : FsState) (hi : FsInv s) (p : Key) (path : List Name) (hp : prefixPath p = some path) :
    FsState.sortKeys ((s.listPrefix p path).map (·.1)) = (absFs s).keys.filter (hasPrefix · p) := by
  apply sorted_keys_ext _ _ (sortKeys_sorted _) (KV.sorted_keys_filter _ (absFs_sorted s) _)
  intro k
  rw [mem_sortKeys, List.mem_filter, List.mem_map, KV.mem_keys_iff_get]
  constructor
  · rintro ⟨⟨k', v⟩, hm, rfl⟩
    obtain ⟨h1, h2⟩ := (mem_listPrefix_abs s hi p path hp k' v).1 hm
    exact ⟨by rw [h1]; simp, h2⟩
  · rintro ⟨h1, h2⟩
    cases hg : (absFs s).get k with
    | none => exact absurd hg h1
    | some v => exact ⟨(k, v), (mem_listPrefix_abs s hi p path hp k v).2 ⟨hg, h2⟩, rfl⟩

theorem sizePrefix_abs (s : FsState) (hi : FsInv s) (p : Key) (path : List Name) (hp : prefixPath p = some path) :
    (s.listPrefix p path).foldl (fun acc kv => acc + kv.2.length) 0 =
      (((absFs s).filter (fun kv => hasPrefix kv.1 p)).map (·.2.length)).sum := by
  rw [foldl_add_eq_sum]
  apply List.Perm.sum_nat
  apply List.Perm.map
  have hn2 : ((absFs s).filter (fun kv => hasPrefix kv.1 p)).Nodup :=
    (KV.nodup_of_sorted _ (absFs_sorted s)).filter _
  rw [List.perm_ext_iff_of_nodup (nodup_listPrefix s hi _ path) hn2]
  rintro ⟨k, v⟩
  rw [mem_listPrefix_abs s hi p path hp, List.mem_filter, KV.mem_sorted_iff_get _ (absFs_sorted s)]

theorem listDir_keys_abs (s : FsState) (hi : FsInv s) (p : Key) (path : List Name) (hp : prefixPath p = some path)
    (k : Key) :
    k ∈ (s.listDir p path).1 ↔ (k ∈ (absFs s).keys ∧ parentOf k = p) := by
  obtain ⟨rfl, hpl⟩ := prefixPath_spec hp
  rw [mem_listDir_keys s hi, mem_absFs_keys s hi]
  constructor
  · rintro ⟨n, b, rfl, h⟩
    have hn2 := (plainName_spec ((kindAt_file_plain s hi _ b h).2 n (by simp))).2
    have hsp : splitPath (dirKey path ++ n) = path ++ [n] :=
      splitPath_dirKey_append path [n] (by simp) (plain_noSlash hpl) (by simpa using hn2)
    exact ⟨⟨b, by rw [hsp]; exact h⟩, parentOf_append_noSlash _ n (dirKey_dirShaped path) hn2⟩
  · rintro ⟨⟨b, hf⟩, hpar⟩
    obtain ⟨last, _, hsplit, hk⟩ := key_split_last k
    have hpe : (splitPath k).dropLast = path :=
      dirKey_inj _ _ (fun n hn => splitPath_noSlash k n (List.dropLast_subset _ hn)) (plain_noSlash hpl)
        ((parentOf_eq_dirKey k).symm.trans hpar)
    rw [hsplit, hpe] at hf
    exact ⟨last, b, by rw [hk, hpe], hf⟩

theorem listDir_prefixes_abs (s : FsState) (hi : FsInv s) (p : Key) (path : List Name) (hp : prefixPath p = some path)
    (q : Key) :
    q ∈ (s.listDir p path).2 ↔ Hier.oneBelow p q ∧ ∃ k ∈ (absFs s).keys, q <+: k := by
  obtain ⟨rfl, hpl⟩ := prefixPath_spec hp
  rw [mem_listDir_prefixes s hi]
  unfold Hier.oneBelow
  constructor
  · rintro ⟨n, r, v, hr, rfl, h⟩
    have hns := plain_noSlash (kindAt_file_plain s hi _ v h).2
    obtain ⟨hn1, hn2⟩ := plainName_spec ((kindAt_file_plain s hi _ v h).2 n (by simp))
    refine ⟨⟨n, hn1, hn2, rfl⟩, joinPath (path ++ n :: r), (file_key s hi _ v h).1, ?_⟩
    rw [← dirKey_snoc]
    exact (dirKey_prefix_iff (path ++ [n]) _ (by simp) (noSlash_snoc (plain_noSlash hpl) hn2) hns).2
      ⟨r, hr, by simp⟩
  · rintro ⟨⟨cn, _, hcn2, rfl⟩, k, hk, hpre⟩
    obtain ⟨b, hf⟩ := (mem_absFs_keys s hi k).1 hk
    rw [← dirKey_snoc, ← List.isPrefixOf_iff_prefix] at hpre
    obtain ⟨rest, hr, hsp⟩ := (hasPrefix_dirKey_iff (noSlash_snoc (plain_noSlash hpl) hcn2) k).1 hpre
    rw [hsp, List.append_assoc] at hf
    exact ⟨cn, rest, b, hr, rfl, hf⟩

theorem listDir_abs (s : FsState) (hi : FsInv s) (p : Key) (path : List Name) (hp : prefixPath p = some path) :
    s.listDir p path = Spec.listDir (absFs s) p := by
  obtain ⟨hs1, hs2⟩ := listDir_sorted s p path
  apply Prod.ext
  · apply sorted_keys_ext _ _ hs1
    · rw [Spec.listDir_eq]
      exact (KV.sorted_keys_filter _ (absFs_sorted s) _).filter _
    · intro k
      rw [listDir_keys_abs s hi p path hp, Spec.listDir_keys]
  · apply sorted_keys_ext _ _ hs2 (Spec.listDir_prefixes_sorted _ _)
    intro q
    rw [listDir_prefixes_abs s hi p path hp,
      Spec.listDir_prefixes _ _ ((prefixPath_spec hp).1 ▸ dirKey_dirShaped path) (absFs_keys_valid s hi)]

end Zarrs.Fs
