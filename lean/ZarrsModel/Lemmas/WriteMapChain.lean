import ZarrsModel.Model.WriteMapShard
import ZarrsModel.Lemmas.ShardPD
import ZarrsModel.Lemmas.PartialTranspose
import ZarrsModel.Lemmas.PartialSqueeze
import ZarrsModel.Lemmas.Partial
/- C17 on nested chains: when a chain fits a chunk shape (`WChain.wf`); the region an array-to-array stack hands to the
sharding partial decoder stays in bounds (`a2aRegion_ok`) -/
namespace Zarrs
open Zarrs.Subset
open Zarrs.Partial (AStage aOk shapesOf)

def WChain.wf : WChain → Shape → Prop
  | .leaf _, _ => True
  | .shard a2a inner sub, sh => aOk a2a sh ∧ Partial.tiles inner (shapesOf a2a sh) = true ∧ sub.wf inner

theorem a2aRegion_ok : ∀ (a2a : List AStage) (sh : Shape) (r : Subset), aOk a2a sh → r.wf = true →
    r.inboundsShape sh = true →
    (a2aRegion a2a sh r).wf = true ∧ (a2aRegion a2a sh r).inboundsShape (shapesOf a2a sh) = true := by
  intro a2a
  induction a2a with
  | nil => intro sh r _ hr hb; exact ⟨hr, hb⟩
  | cons st rest ih =>
    intro sh r hok hr hb
    obtain ⟨hst, hrest⟩ := hok
    have hs : shapesOf (st :: rest) sh = shapesOf rest (st.encShape sh) := rfl
    rw [hs]
    cases st with
    | transpose order =>
      obtain ⟨h1, h2⟩ := Partial.permRegion_inShape order sh r hr hb
      exact ih _ _ hrest h1 h2
    | squeeze =>
      obtain ⟨h1, h2, _⟩ := Partial.squeezeRegion_ok sh r hst hr hb
      exact ih _ _ hrest h1 h2
    | cache => exact ih _ _ hrest hr hb

end Zarrs
