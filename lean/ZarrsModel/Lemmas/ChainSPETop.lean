import ZarrsModel.Lemmas.ChainSPEShard
import ZarrsModel.Lemmas.ChainSDec
import ZarrsModel.Lemmas.ChainSArr
/- C05 on chains: one `partial_encode` call on any chain, histories. A chain is its array-to-array codecs (`withA2A`) over
a level (`levelPE`: `bytes` or `sharding_indexed`, with the bytes-to-bytes codecs). Peeling the first codec off a stored
value is definitional (`stores_cons`), so their default partial encoders are one induction against `Holds` (`a2a_step`),
whatever the level (`level_step`). -/
namespace Zarrs.Partial
open Zarrs Zarrs.Codec Zarrs.Subset Zarrs.Shard Zarrs.ShardPE

def ChainS.Holds (c : ChainS) (sh : Shape) (fill : Elem) (v : Option Bytes) (xs : List Elem) : Prop :=
  match v with
  | none => xs = List.replicate (prod sh) fill
  | some b => c.Stores sh fill b xs

theorem ChainS.Holds.of_none {c : ChainS} {sh : Shape} {fill : Elem} {xs : List Elem} (h : c.Holds sh fill none xs) :
    xs = List.replicate (prod sh) fill := h

theorem ChainS.Holds.of_some {c : ChainS} {sh : Shape} {fill : Elem} {b : Bytes} {xs : List Elem}
    (h : c.Holds sh fill (some b) xs) : c.Stores sh fill b xs := h

def ChainS.shardLen : ChainS → Option Bytes → Nat
  | .leaf _ _, _ => 0
  | .shard _ _ _ _ _ b2b, v => ((v.bind (decodeB2B b2b)).getD []).length

/-- what one `partial_encode` call can add to `shardLen`: every inner chunk re-encoded (`chainS_size'`) and one index;
`getD 0`: `innerSmall` makes the bound present -/
def ChainS.stepCost : ChainS → Shape → Nat
  | .leaf _ _, _ => 0
  | .shard a2a cfg ish _ inner _, sh =>
    prod (zipDiv (shapesOf a2a sh) ish) * (inner.bound ish).getD 0 +
      indexSize { cfg with nChunks := prod (zipDiv (shapesOf a2a sh) ish) }

/-- no cache among the top-level stages (`CodecChain::partial_encoder` uses none) -/
def ChainS.topNoCache : ChainS → Prop
  | .leaf c _ => (∀ st ∈ c.a2a, st.isCache = false) ∧ (∀ st ∈ c.b2b, st.isCache = false)
  | .shard a2a _ _ _ _ b2b => (∀ st ∈ a2a, st.isCache = false) ∧ (∀ st ∈ b2b, st.isCache = false)

def ChainS.innerSmall : ChainS → Prop
  | .leaf _ _ => True
  | .shard _ _ ish _ inner _ => inner.small ish ∧ (inner.bound ish).isSome = true

/-- `g` answers for the stored value `v`: absent, or serving its bytes -/
def Serves (g : BHandle) (v : Option Bytes) : Prop :=
  match v with
  | none => BHandleAbsent g
  | some b => BHandleOk g b

/-- what a full rewrite stores after the calls of a history -/
def applyHistory (sh : Shape) (old : List Elem) (hist : List (List RWrite)) : List Elem :=
  hist.foldl (applyRegionWrites sh) old

/-- a chunk is all fill after an array-to-array stage exactly when it was before: the stage fixes the all-fill chunk
(`aStage_fill`) and is invertible (`aStage_dec_enc`) -/
theorem aStage_enc_fill_iff (st : AStage) (sh : Shape) (es : Nat) (fill : Elem) (xs : List Elem) (ho : st.ok sh)
    (hl : xs.length = prod sh) (he : ∀ x ∈ xs, x.length = es) (hf : fill.length = es) :
    (st.enc sh xs).all (· == fill) = true ↔ xs.all (· == fill) = true := by
  constructor
  · intro h
    have h1 := (all_beq_iff_replicate fill _ _ (aStage_length st sh xs ho hl)).mp h
    have h2 := aStage_dec_enc st sh es xs ho hl he
    have h3 := aStage_dec_enc st sh es (List.replicate (prod sh) fill) ho (by simp)
      (fun x hx => by rw [List.eq_of_mem_replicate hx]; exact hf)
    rw [aStage_fill st sh fill ho, ← h1, h2] at h3
    rw [Option.some.inj h3]
    rw [List.all_eq_true]
    intro x hx
    rw [List.eq_of_mem_replicate hx]
    simp
  · intro h
    rw [(all_beq_iff_replicate fill xs _ hl).mp h, aStage_fill st sh fill ho, List.all_eq_true]
    intro x hx
    rw [List.eq_of_mem_replicate hx]
    simp

theorem holds_pd (c : ChainS) (sh : Shape) (fill : Elem) (hok : c.okWith aOk BLawful sh fill) (v : Option Bytes)
    (xs : List Elem) (hxl : xs.length = prod sh) (hxe : ∀ x ∈ xs, x.length = c.es) (g : BHandle)
    (hg : Serves g v) (hH : c.Holds sh fill v xs) : AHandleOk (c.partialDecoder sh fill g) sh xs := by
  cases v with
  | none =>
    rw [hH.of_none]
    exact chainS_absent c sh fill hok g hg
  | some b => exact stores_pd c sh fill b xs hok hxl hxe hH.of_some g hg

theorem storeHandle_serves (v : Option Bytes) : Serves (storeHandle v) v := by
  cases v with
  | none => exact storeHandle_none_absent
  | some b => exact storeHandle_some_ok b

def ChainS.a2a : ChainS → List AStage
  | .leaf c _ => c.a2a
  | .shard a2a .. => a2a

def ChainS.b2b : ChainS → List BStage
  | .leaf c _ => c.b2b
  | .shard _ _ _ _ _ b2b => b2b

def ChainS.withA2A : ChainS → List AStage → ChainS
  | .leaf c keep, l => .leaf { c with a2a := l } keep
  | .shard _ cfg ish es inner b2b, l => .shard l cfg ish es inner b2b

def ChainS.levelPE : ChainS → Elem → Option Bytes → Shape → List RWrite → Option (Option Bytes)
  | .leaf c _, fill, v, sh, ws => leafPE c c.b2b sh fill v ws
  | .shard _ cfg ish es inner b2b, fill, v, sh, ws => shardPE cfg ish es inner b2b sh fill v ws

theorem ChainS.withA2A_self (c : ChainS) : c.withA2A c.a2a = c := by cases c <;> rfl

theorem ChainS.withA2A_es (c : ChainS) (l : List AStage) : (c.withA2A l).es = c.es := by cases c <;> rfl

theorem ChainS.stepCost_eq (c : ChainS) (sh : Shape) : c.stepCost sh = (c.withA2A []).stepCost (shapesOf c.a2a sh) := by
  cases c <;> rfl

theorem ChainS.shardLen_none (c : ChainS) : c.shardLen none = 0 := by cases c <;> rfl

theorem ChainS.topNoCache_a2a (c : ChainS) (h : c.topNoCache) : ∀ st ∈ c.a2a, st.isCache = false := by
  cases c <;> exact h.1

theorem ChainS.topNoCache_b2b (c : ChainS) (h : c.topNoCache) : ∀ st ∈ c.b2b, st.isCache = false := by
  cases c <;> exact h.2

/-- the bytes-to-bytes codecs as `leafLevel_step`, `level_index`, `runPlan_lawful` ask them -/
theorem ChainS.b2b_ok (c : ChainS) (l : List AStage) {sh : Shape} {fill : Elem}
    (hok : (c.withA2A l).okWith aOk BLawful sh fill) (hnc : c.topNoCache) : ∀ st ∈ c.b2b, BOk st := by
  cases c with
  | leaf c keep => exact fun st hst => ⟨hok.leaf_b2b st hst, ChainS.topNoCache_b2b _ hnc st hst⟩
  | shard a2a cfg ish es inner b2b => exact fun st hst => ⟨hok.b2b st hst, ChainS.topNoCache_b2b _ hnc st hst⟩

theorem ChainS.small.innerSmall {c : ChainS} {sh : Shape} (h : c.small sh) : c.innerSmall := by
  cases c with
  | leaf c keep => trivial
  | shard a2a cfg ish es inner b2b =>
    obtain ⟨hsi, m, hm, _⟩ := h
    exact ⟨hsi, by rw [hm]; rfl⟩

theorem stores_cons (c : ChainS) (st : AStage) (l : List AStage) (sh : Shape) (fill : Elem) (b : Bytes) (xs : List Elem) :
    (c.withA2A (st :: l)).Stores sh fill b xs ↔ (c.withA2A l).Stores (st.encShape sh) fill b (st.enc sh xs) := by
  cases c <;> exact Iff.rfl

theorem okWith_cons {B : BStage → Prop} (c : ChainS) (st : AStage) (l : List AStage) (sh : Shape) (fill : Elem)
    (h : (c.withA2A (st :: l)).okWith aOk B sh fill) : st.ok sh ∧ (c.withA2A l).okWith aOk B (st.encShape sh) fill := by
  cases c with
  | leaf c keep =>
    exact ⟨h.leaf_a2a.1, h.es_pos, h.unit_pos, h.es_mod_unit, h.leaf_a2a.2, h.leaf_b2b, h.keepOk⟩
  | shard a2a cfg ish es inner b2b =>
    exact ⟨h.a2a.1, h.a2a.2, h.tiles, h.b2b, h.fill_length, h.inner_es, h.inner⟩

theorem ChainS.partialEncode_eq_aPE (c : ChainS) (hnc : c.topNoCache) (sh : Shape) (fill : Elem) (v : Option Bytes)
    (ws : List RWrite) :
    c.partialEncode sh fill v ws =
      aPE c.es fill (fun l esh => (c.withA2A l).partialDecoder esh fill (storeHandle v)) (c.levelPE fill v) c.a2a sh ws := by
  cases c with
  | leaf c keep =>
    simp only [ChainS.partialEncode, ChainS.partialEncodeWith, filter_not_eq_self AStage.isCache c.a2a (ChainS.topNoCache_a2a _ hnc),
      filter_not_eq_self BStage.isCache c.b2b (ChainS.topNoCache_b2b _ hnc)]
    rfl
  | shard a2a cfg ish es inner b2b =>
    simp only [ChainS.partialEncode, ChainS.partialEncodeWith, filter_not_eq_self AStage.isCache a2a (ChainS.topNoCache_a2a _ hnc),
      filter_not_eq_self BStage.isCache b2b (ChainS.topNoCache_b2b _ hnc)]
    rfl

/-- the `bytes` level: `ArrayToBytesPartialEncoderDefault` over lawful bytes-to-bytes codecs -/
theorem leafLevel_step (c : Chain) (keep : List Bool) (shB : Shape) (fill : Elem) (hb : ∀ st ∈ c.b2b, BOk st)
    (hes : 0 < c.es) (hdiv : c.es % c.unit = 0)
    (v : Option Bytes) (ys : List Elem) (hyl : ys.length = prod shB) (hye : ∀ y ∈ ys, y.length = c.es)
    (hH : (ChainS.leaf { c with a2a := [] } keep).Holds shB fill v ys)
    (ws : List RWrite) (hws : ∀ w ∈ ws, writeOk c.es shB w) :
    ∃ v', leafPE c c.b2b shB fill v ws = some v' ∧
      (ChainS.leaf { c with a2a := [] } keep).Holds shB fill v' (applyRegionWrites shB ys ws) ∧
      (v' = none ↔ (applyRegionWrites shB ys ws).all (· == fill) = true) := by
  have hpe : leafPE c c.b2b shB fill v ws =
      (if (applyRegionWrites shB ys ws).all (· == fill) then some none
       else some (some (encB c.b2b (bytesEnc c.big c.unit (applyRegionWrites shB ys ws).flatten)))) := by
    unfold leafPE
    cases v with
    | none =>
      have hv := hH.of_none
      subst hv
      simp only [readWhole_absent _ (bStack_absent c.b2b), validated_some c.es _ _ hyl hye,
        Option.bind_some, applyWrites_eq c.es shB ws _ hws, bWrite_none_one c.b2b hb]
    | some b =>
      have hv : b = encB c.b2b (bytesEnc c.big c.unit ys.flatten) := hH.of_some
      subst hv
      simp only [readWhole_ok _ _ (bStack_ok c.b2b hb _), bytesDecode_enc c.big c.es c.unit shB ys hes hdiv hyl hye,
        validated_some c.es _ ys hyl hye, Option.bind_some, applyWrites_eq c.es shB ws _ hws, bWrite_none_one c.b2b hb]
  rw [hpe]
  by_cases hall : (applyRegionWrites shB ys ws).all (· == fill) = true
  · rw [if_pos hall]
    exact ⟨none, rfl, (all_beq_iff_replicate fill _ _ (applyRegionWrites_ok shB c.es ws ys hyl hye hws).1).mp hall,
      by simp [hall]⟩
  · rw [if_neg hall]
    exact ⟨_, rfl, rfl, by simp [hall]⟩

/-- `Holds` at a sharding level without array-to-array codecs, in the words of `ShardPE` and `ChunksHold`: the `Option` form
of `stores_shard_iff` -/
theorem holds_shard (cfg : Cfg) (ish : Shape) (es : Nat) (inner : ChainS) (b2b : List BStage) (shB : Shape)
    (fill : Elem) (ht : tiles ish shB = true) (v : Option Bytes) (ys : List Elem)
    (hH : (ChainS.shard [] cfg ish es inner b2b).Holds shB fill v ys) :
    ∃ (v0 : Option Bytes) (chunks : List (Option Bytes)), v = v0.map (encB b2b) ∧
      St { cfg with nChunks := prod (zipDiv shB ish) } v0 chunks ∧
      ChunksHold fill ish (inner.Stores ish fill) chunks (splitShard shB ish ys) := by
  cases v with
  | none =>
    have hv := hH.of_none
    subst hv
    refine ⟨none, List.replicate (prod (zipDiv shB ish)) none, rfl, rfl, by simp [splitShard_length], ?_⟩
    intro i h1 h2
    simp only [List.getElem_replicate]
    exact splitShard_fill ht fill i h2
  | some b =>
    obtain ⟨v0, chunks, h1, h2, h3⟩ := (stores_shard_iff [] cfg ish es inner b2b shB fill b ys).mp hH.of_some
    exact ⟨some v0, chunks, by rw [h1]; rfl, h2, h3⟩

/-- at a sharding level, in turn: the index and the old chunks through the handle (`level_index`), the updated inner chunks
(`shardPEElems_spec`), the plan run through the bytes-to-bytes codecs (`runPlan_lawful`) as a call of
`ShardPE.partialEncode` (`step_inv`), whose chunks hold the pieces of the updated shard (`ChunksHold.update`) -/
theorem level_step (c : ChainS) (shB : Shape) (fill : Elem) (hok : (c.withA2A []).okWith aOk BLawful shB fill)
    (hnc : c.topNoCache) (hsm : c.innerSmall)
    (v : Option Bytes) (ys : List Elem) (hyl : ys.length = prod shB) (hye : ∀ y ∈ ys, y.length = c.es)
    (hH : (c.withA2A []).Holds shB fill v ys) (hlen : c.shardLen v + (c.withA2A []).stepCost shB < sentinel)
    (ws : List RWrite) (hws : ∀ w ∈ ws, writeOk c.es shB w) :
    ∃ v', c.levelPE fill v shB ws = some v' ∧ (c.withA2A []).Holds shB fill v' (applyRegionWrites shB ys ws) ∧
      (v' = none ↔ (applyRegionWrites shB ys ws).all (· == fill) = true) ∧
      c.shardLen v' ≤ c.shardLen v + (c.withA2A []).stepCost shB := by
  have hb := c.b2b_ok [] hok hnc
  cases c with
  | leaf c keep =>
    obtain ⟨v', h1, h2, h3⟩ := leafLevel_step c keep shB fill hb hok.es_pos hok.es_mod_unit v ys hyl hye hH ws hws
    exact ⟨v', h1, h2, h3, Nat.le_refl _⟩
  | shard a2a cfg ish es inner b2b =>
    have ht : tiles ish shB = true := hok.tiles
    have hiok := hok.inner
    obtain ⟨hism, hbs⟩ := hsm
    obtain ⟨m, hm⟩ := Option.isSome_iff_exists.mp hbs
    simp only [ChainS.shardLen, ChainS.stepCost, ChainS.withA2A, hm, Option.getD_some, shapesOf, List.foldl_nil] at hlen ⊢
    obtain ⟨v0, chunks, hvv, hSt, hhold⟩ := holds_shard cfg ish es inner b2b shB fill ht v ys hH
    have hdecv : ∀ (w : Option Bytes), (w.map (encB b2b)).bind (decodeB2B b2b) = w := by
      intro w
      cases w with
      | none => rfl
      | some d =>
        simp only [Option.map_some, Option.bind_some]
        exact decodeB2B_enc b2b (fun st hst => (hok.b2b st hst).dec) d
    rw [hvv, hdecv] at hlen ⊢
    have hpv : ∀ p : List Elem, (∀ x ∈ p, x.length = es) → ∀ x ∈ p, x.length = inner.es :=
      fun p he => by rw [hok.inner_es]; exact he
    have hM : ∀ p : List Elem, p.length = prod ish → (∀ x ∈ p, x.length = es) → (inner.encode ish fill p).length ≤ m :=
      fun p hl he => chainS_size' inner ish fill p m hiok hl (hpv p he) hm
    obtain ⟨idx, hipd, hentries, hcur, hO⟩ := level_index cfg ish shB b2b ht hb v0 chunks hSt
    have hp := splitShard_chunkOk ht hyl hye
    obtain ⟨st, hel, hstl, hstc⟩ := shardPEElems_spec ht es fill hok.fill_length idx chunks (inner.decode ish fill)
      (inner.encode ish fill) _ ys hyl hO
      ((hhold.imp fun p hm b h => stores_decode inner ish fill b p hiok (hp p hm).1 (hpv p (hp p hm).2) h).decode
        (fun _ _ h => h) hp) ws hws
    obtain ⟨hnewl, hnewe⟩ := applyRegionWrites_ok shB es ws ys hyl hye hws
    have hp' := splitShard_chunkOk ht hnewl hnewe
    have hcl : chunks.length = prod (zipDiv shB ish) := hO.clen
    have hx : ∀ i x, st.getD i none = some x → x ∈ splitShard shB ish (applyRegionWrites shB ys ws) := by
      intro i x hs
      have hi : i < prod (zipDiv shB ish) := by
        rw [← hstl]
        rcases Nat.lt_or_ge i st.length with h | h
        · exact h
        · simp [List.getD_eq_getElem?_getD, List.getElem?_eq_none h] at hs
      have := hstc i hi
      rw [hs] at this
      exact List.mem_of_getElem? this
    have hu : UpdatesOk { cfg with nChunks := prod (zipDiv shB ish) } (peEncode fill (inner.encode ish fill) st) :=
      peEncode_updatesOk fill _ st _ hstl
    have hsz := peEncode_size fill (inner.encode ish fill) st m
      (fun i x hs => hM x (hp' x (hx i x hs)).1 (hp' x (hx i x hs)).2)
    rw [hstl] at hsz
    obtain ⟨v0pre, hstpre, hprel, hrunp⟩ := runPlan_lawful _ b2b hb v0 chunks hSt idx
      (peEncode fill (inner.encode ish fill) st) hcur
    obtain ⟨vo', hpe, hst', hnone, hlen'⟩ := step_inv _ v0pre chunks _ hstpre hu (by omega)
    have hhold' := hhold.update (inner.encode ish fill) st (by rw [hstl, hcl])
      (by rw [splitShard_length, splitShard_length]) (fun i hi => hstc i (by rw [← hcl]; exact hi))
      (fun p hm => (hp' p hm).1) (fun p hm => stores_encode inner ish fill p hiok (hp' p hm).1 (hpv p (hp' p hm).2)
        (fits_of_small inner ish fill p hiok (hp' p hm).1 (hpv p (hp' p hm).2) hism))
    rw [hhold'.all_none_iff ht hnewl] at hnone
    refine ⟨vo'.map (encB b2b), ?_, ?_, by rw [← hnone]; cases vo' <;> simp, by rw [hdecv]; omega⟩
    · unfold ChainS.levelPE shardPE shardPEWith
      have hel' : shardPEElemsWith straddles es fill shB ish (zipDiv shB ish) idx (inner.decode ish fill)
          (inner.encode ish fill) (bStack b2b (Option.map (encB b2b) v0)) ws =
          some (peEncode fill (inner.encode ish fill) st) := hel
      simp only [chunksPerShard_of_tiles ht, hipd, hentries, hel', hrunp, hpe, Option.map_some]
    · cases vo' with
      | none => exact (all_beq_iff_replicate fill _ _ hnewl).mp (hnone.mp rfl)
      | some d => exact (stores_shard_iff [] cfg ish es inner b2b shB fill _ _).mpr ⟨d, _, rfl, hst', hhold'⟩

/-- by induction over the codecs, each reading the encoded chunk through the partial decoder of the rest of the chain
(`holds_pd`) -/
theorem a2a_step (c : ChainS) (fill : Elem) (hfl : fill.length = c.es) (hnc : c.topNoCache) (hsm : c.innerSmall)
    (v : Option Bytes) :
    ∀ (l : List AStage) (sh : Shape) (xs : List Elem) (ws : List RWrite), (∀ st ∈ l, st.isCache = false) →
      (c.withA2A l).okWith aOk BLawful sh fill → xs.length = prod sh → (∀ x ∈ xs, x.length = c.es) →
      (c.withA2A l).Holds sh fill v xs → c.shardLen v + (c.withA2A []).stepCost (shapesOf l sh) < sentinel →
      (∀ w ∈ ws, writeOk c.es sh w) →
      ∃ v', aPE c.es fill (fun l esh => (c.withA2A l).partialDecoder esh fill (storeHandle v)) (c.levelPE fill v) l sh ws =
          some v' ∧
        (c.withA2A l).Holds sh fill v' (applyRegionWrites sh xs ws) ∧
        (v' = none ↔ (applyRegionWrites sh xs ws).all (· == fill) = true) ∧
        c.shardLen v' ≤ c.shardLen v + (c.withA2A []).stepCost (shapesOf l sh) := by
  intro l
  induction l with
  | nil =>
    intro sh xs ws _ hok hxl hxe hH hlen hws
    exact level_step c sh fill hok hnc hsm v xs hxl hxe hH hlen ws hws
  | cons st rest ih =>
    intro sh xs ws hl hok hxl hxe hH hlen hws
    obtain ⟨ho, hok'⟩ := okWith_cons c st rest sh fill hok
    have hl1 := aStage_length st sh xs ho hxl
    have he1 : ∀ y ∈ st.enc sh xs, y.length = c.es := fun y hy => hxe y (aStage_mem st sh xs ho hxl y hy)
    obtain ⟨hnewl, hnewe⟩ := applyRegionWrites_ok sh c.es ws xs hxl hxe hws
    have hl2 := aStage_length st sh _ ho hnewl
    have hH' : (c.withA2A rest).Holds (st.encShape sh) fill v (st.enc sh xs) := by
      cases v with
      | none =>
        rw [hH.of_none]
        exact aStage_fill st sh fill ho
      | some b => exact (stores_cons c st rest sh fill b xs).mp hH.of_some
    have hread : (c.withA2A rest).partialDecoder (st.encShape sh) fill (storeHandle v) [Subset.ofShape (st.encShape sh)] =
        some [st.enc sh xs] :=
      (holds_pd _ _ fill hok' v _ hl1 (by rw [ChainS.withA2A_es]; exact he1) _
        (storeHandle_serves v) hH').whole hl1
    have hbody : aPE c.es fill (fun l esh => (c.withA2A l).partialDecoder esh fill (storeHandle v)) (c.levelPE fill v)
          (st :: rest) sh ws =
        (if (applyRegionWrites sh xs ws).all (· == fill) then some none
         else aPE c.es fill (fun l esh => (c.withA2A l).partialDecoder esh fill (storeHandle v)) (c.levelPE fill v) rest
           (st.encShape sh) [(Subset.ofShape (st.encShape sh), st.enc sh (applyRegionWrites sh xs ws))]) := by
      cases st with
      | cache => simp [AStage.isCache] at hl
      | _ =>
        simp only [aPE, hread, List.getLast?_singleton, aStage_dec_enc _ sh c.es xs ho hxl hxe, Option.bind_some,
          validated_some c.es _ xs hxl hxe, applyWrites_eq c.es sh ws xs hws]
    rw [hbody]
    by_cases hall : (applyRegionWrites sh xs ws).all (· == fill) = true
    · rw [if_pos hall]
      exact ⟨none, rfl, (all_beq_iff_replicate fill _ _ hnewl).mp hall, by simp [hall],
        by rw [ChainS.shardLen_none]; exact Nat.zero_le _⟩
    · rw [if_neg hall]
      obtain ⟨v', h1, h2, h3, h4⟩ := ih (st.encShape sh) (st.enc sh xs)
        [(Subset.ofShape (st.encShape sh), st.enc sh (applyRegionWrites sh xs ws))]
        (fun s hs => hl s (by simp [hs])) hok' hl1 he1 hH' hlen
        (by
          intro w hw
          rw [List.mem_singleton.mp hw]
          exact writeOk_whole c.es _ _ hl2 fun y hy => hnewe y (aStage_mem st sh _ ho hnewl y hy))
      rw [applyRegionWrites_whole _ _ _ hl1 hl2] at h2 h3
      rw [aStage_enc_fill_iff st sh c.es fill _ ho hnewl hnewe hfl] at h3
      refine ⟨v', h1, ?_, h3, h4⟩
      cases v' with
      | none => exact absurd (h3.mp rfl) hall
      | some b => exact (stores_cons c st rest sh fill b _).mpr h2

theorem ChainS.partialEncodeWith_straddles (c : ChainS) : c.partialEncodeWith straddles = c.partialEncode := rfl

/-- `C05Chain.chainS_partial_encode_refines` is this with the readers applied -/
theorem chainS_pe_step (c : ChainS) (sh : Shape) (fill : Elem) (hok : c.okWith aOk BLawful sh fill)
    (hfl : fill.length = c.es) (hnc : c.topNoCache) (hsm : c.innerSmall)
    (v : Option Bytes) (xs : List Elem) (hxl : xs.length = prod sh) (hxe : ∀ x ∈ xs, x.length = c.es)
    (hH : c.Holds sh fill v xs) (hlen : c.shardLen v + c.stepCost sh < sentinel)
    (ws : List RWrite) (hws : ∀ w ∈ ws, writeOk c.es sh w) :
    ∃ v', c.partialEncode sh fill v ws = some v' ∧ c.Holds sh fill v' (applyRegionWrites sh xs ws) ∧
      (v' = none ↔ (applyRegionWrites sh xs ws).all (· == fill) = true) ∧
      c.shardLen v' ≤ c.shardLen v + c.stepCost sh := by
  rw [c.partialEncode_eq_aPE hnc, c.stepCost_eq] at *
  have := a2a_step c fill hfl hnc hsm v c.a2a sh xs ws (c.topNoCache_a2a hnc)
  rw [c.withA2A_self] at this
  exact this hok hxl hxe hH hlen hws

/-- `hist ≠ []`: `Holds` allows a present value of an all-fill chunk (the full encoder's); only a call decides
presence -/
theorem chainS_pe_history (c : ChainS) (sh : Shape) (fill : Elem) (hok : c.okWith aOk BLawful sh fill)
    (hfl : fill.length = c.es) (hnc : c.topNoCache) (hsm : c.innerSmall) :
    ∀ (hist : List (List RWrite)) (v : Option Bytes) (xs : List Elem), xs.length = prod sh →
      (∀ x ∈ xs, x.length = c.es) → c.Holds sh fill v xs →
      c.shardLen v + hist.length * c.stepCost sh < sentinel →
      (∀ ws ∈ hist, ∀ w ∈ ws, writeOk c.es sh w) →
      ∃ v', c.runPE sh fill v hist = some v' ∧ c.Holds sh fill v' (applyHistory sh xs hist) ∧
        (hist ≠ [] → (v' = none ↔ (applyHistory sh xs hist).all (· == fill) = true)) := by
  intro hist
  induction hist with
  | nil => intro v xs _ _ hH _ _; exact ⟨v, rfl, hH, fun h => absurd rfl h⟩
  | cons ws rest ih =>
    intro v xs hxl hxe hH hlen hws
    simp only [List.length_cons, Nat.succ_mul] at hlen
    obtain ⟨v1, h1, h2, h3, h4⟩ := chainS_pe_step c sh fill hok hfl hnc hsm v xs hxl hxe hH (by omega) ws
      (hws ws (by simp))
    obtain ⟨hnl, hne⟩ := applyRegionWrites_ok sh c.es ws xs hxl hxe (hws ws (by simp))
    obtain ⟨v2, g1, g2, g3⟩ := ih v1 (applyRegionWrites sh xs ws) hnl hne h2 (by omega)
      (fun ws' h' => hws ws' (by simp [h']))
    refine ⟨v2, by simp only [ChainS.runPE, h1, Option.bind_some, g1], g2, ?_⟩
    intro _
    cases rest with
    | nil =>
      simp only [ChainS.runPE, Option.some.injEq] at g1
      subst g1
      exact h3
    | cons a as => exact g3 (by simp)

end Zarrs.Partial
