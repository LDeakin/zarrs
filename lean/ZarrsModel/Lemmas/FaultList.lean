import ZarrsModel.Model.FaultList
import ZarrsModel.Lemmas.FaultOpsMeta
/-
Listings as store-operation programs (`Model/FaultList.lean`): refinement of `Model/Hier.lean` without faults,
read-only-ness, and the small theory of `LProg` (a program that may start with one `list_prefix`).  The recursive
`getChildNodesP r true` is the same program as `Hier.childNodesP` of `Model/FaultOps.lean` (`getChildNodesP_true`);
the node method `Hier.openNodeP` of that file is refined here, through it (`Hier.openNodeP_pure`,
`Hier.openNodeP_readOnly`).
-/
namespace Zarrs.FaultList
open Zarrs Zarrs.Hier

theorem getChildNodesP_pure (r : Reader) (m : KV) (rec : Bool) : ∀ (fuel : Nat) (pre : Key),
    (getChildNodesP r rec fuel pre).pure m = (childNodes r m rec fuel pre).map (fun ts => (ts, m))
  | 0, pre => by rw [getChildNodesP, childNodes]; rfl
  | fuel + 1, pre => by
    rw [getChildNodesP, childNodes]
    simp only [Prog.pure]
    rw [discover_eq]
    apply childTreesWith_pure r m rec fuel
    intro q k hk
    cases rec with
    | false => simp only [Bool.false_eq_true, ↓reduceIte, subNodes, Bool.false_and, Prog.pure]; rfl
    | true =>
      simp only [↓reduceIte, subNodes, hk, Bool.and_self]
      exact getChildNodesP_pure r m true fuel q

theorem getChildNodesP_readOnly (r : Reader) (rec : Bool) : ∀ (fuel : Nat) (pre : Key),
    (getChildNodesP r rec fuel pre).readOnly
  | 0, pre => by rw [getChildNodesP]; trivial
  | fuel + 1, pre => by
    rw [getChildNodesP]
    intro d
    apply childTreesWith_readOnly
    intro q
    cases rec with
    | false => trivial
    | true => exact getChildNodesP_readOnly r true fuel q

theorem getChildNodesP_true (r : Reader) : ∀ (fuel : Nat) (pre : Key), getChildNodesP r true fuel pre = childNodesP r fuel pre
  | 0, pre => by rw [getChildNodesP, childNodesP]
  | fuel + 1, pre => by
    rw [getChildNodesP, childNodesP]
    have : (fun q => if true = true then getChildNodesP r true fuel q else Prog.ret []) = childNodesP r fuel := by
      funext q
      simp only [↓reduceIte]
      exact getChildNodesP_true r fuel q
    rw [this]

/-- `Node::open` in `fops_refines_meta` of Props/C20Ops; recursion bound `depthBound m`, as in `Model/Hier.lean` -/
theorem _root_.Zarrs.Hier.openNodeP_pure (r : Reader) (m : KV) (pre : Key) :
    (openNodeP r (depthBound m) pre).pure m = (openNode r m pre).map (fun ts => (ts, m)) := by
  unfold openNodeP openNode
  rw [Prog.pure_bind, getMetaP_pure]
  simp only
  cases getMeta r m pre with
  | invalid => rfl
  | missing => rfl
  | node k =>
    simp only
    cases k.isGroup with
    | false => rfl
    | true =>
      simp only [↓reduceIte, children]
      rw [Prog.pure_bind_ret, ← getChildNodesP_true, getChildNodesP_pure]
      cases childNodes r m true (depthBound m) pre <;> rfl

theorem _root_.Zarrs.Hier.openNodeP_readOnly (r : Reader) (fuel : Nat) (pre : Key) : (openNodeP r fuel pre).readOnly := by
  unfold openNodeP
  apply Prog.readOnly_bind _ _ (getMetaP_readOnly r pre)
  intro v
  cases v with
  | invalid => trivial
  | missing => trivial
  | node k =>
    simp only
    split
    · exact Prog.readOnly_bind _ _ (getChildNodesP_true r fuel pre ▸ getChildNodesP_readOnly r true fuel pre) (fun _ => trivial)
    · trivial

theorem childrenP_pure (r : Reader) (m : KV) (rec : Bool) (pre : Key) :
    (childrenP r rec (depthBound m) pre).pure m = (childNodes r m rec (depthBound m) pre).map (fun ts => (ts, m)) :=
  getChildNodesP_pure r m rec _ pre

/-- a method that maps the returned vector of nodes -/
theorem childrenP_bind_ret_pure {γ : Type} (r : Reader) (m : KV) (rec : Bool) (fuel : Nat) (pre : Key) (g : List Tree → γ) :
    ((childrenP r rec fuel pre).bind (fun ts => .ret (g ts))).pure m =
      ((childNodes r m rec fuel pre).map g).map (fun v => (v, m)) := by
  rw [Prog.pure_bind_ret, childrenP, getChildNodesP_pure]
  cases childNodes r m rec fuel pre <;> rfl

theorem childPathsP_pure (r : Reader) (m : KV) (rec : Bool) (pre : Key) :
    (childPathsP r rec (depthBound m) pre).pure m = (childPaths r m rec pre).map (fun v => (v, m)) :=
  childrenP_bind_ret_pure r m rec _ pre _
theorem childGroupPathsP_pure (r : Reader) (m : KV) (rec : Bool) (pre : Key) :
    (childGroupPathsP r rec (depthBound m) pre).pure m = (childGroupPaths r m rec pre).map (fun v => (v, m)) :=
  childrenP_bind_ret_pure r m rec _ pre _
theorem childArrayPathsP_pure (r : Reader) (m : KV) (rec : Bool) (pre : Key) :
    (childArrayPathsP r rec (depthBound m) pre).pure m = (childArrayPaths r m rec pre).map (fun v => (v, m)) :=
  childrenP_bind_ret_pure r m rec _ pre _
theorem childGroupsP_pure (r : Reader) (m : KV) (rec : Bool) (pre : Key) :
    (childGroupsP r rec (depthBound m) pre).pure m = (childGroups r m rec pre).map (fun v => (v, m)) :=
  childrenP_bind_ret_pure r m rec _ pre _

theorem childArraysP_pure (r : Reader) (arrOk : Key → Bool) (m : KV) (rec : Bool) (pre : Key) :
    (childArraysP r arrOk rec (depthBound m) pre).pure m = (childArrays r arrOk m rec pre).map (fun v => (v, m)) := by
  unfold childArraysP childArrays
  rw [Prog.pure_bind, childrenP, getChildNodesP_pure]
  cases childNodes r m rec (depthBound m) pre with
  | none => rfl
  | some ts =>
    simp only [Option.map_some, Option.bind_some]
    split <;> rfl

theorem childrenP_bind_readOnly {γ : Type} (r : Reader) (rec : Bool) (fuel : Nat) (pre : Key) (g : List Tree → Prog γ)
    (hg : ∀ ts, (g ts).readOnly) : ((childrenP r rec fuel pre).bind g).readOnly :=
  Prog.readOnly_bind _ _ (getChildNodesP_readOnly r rec fuel pre) hg

theorem childPathsP_readOnly (r : Reader) (rec : Bool) (fuel : Nat) (pre : Key) : (childPathsP r rec fuel pre).readOnly :=
  childrenP_bind_readOnly r rec fuel pre _ (fun _ => trivial)
theorem childGroupPathsP_readOnly (r : Reader) (rec : Bool) (fuel : Nat) (pre : Key) :
    (childGroupPathsP r rec fuel pre).readOnly := childrenP_bind_readOnly r rec fuel pre _ (fun _ => trivial)
theorem childArrayPathsP_readOnly (r : Reader) (rec : Bool) (fuel : Nat) (pre : Key) :
    (childArrayPathsP r rec fuel pre).readOnly := childrenP_bind_readOnly r rec fuel pre _ (fun _ => trivial)
theorem childGroupsP_readOnly (r : Reader) (rec : Bool) (fuel : Nat) (pre : Key) : (childGroupsP r rec fuel pre).readOnly :=
  childrenP_bind_readOnly r rec fuel pre _ (fun _ => trivial)
theorem childArraysP_readOnly (r : Reader) (arrOk : Key → Bool) (rec : Bool) (fuel : Nat) (pre : Key) :
    (childArraysP r arrOk rec fuel pre).readOnly :=
  childrenP_bind_readOnly r rec fuel pre _ (fun ts => by simp only; split <;> trivial)

theorem openNodeTreeP_pure (r : Reader) (m : KV) (pre : Key) :
    (openNodeTreeP r (depthBound m) pre).pure m = (openNodeTree r m pre).map (fun t => (t, m)) := by
  unfold openNodeTreeP openNodeTree getMetadataP
  rw [Prog.pure_bind, getMetaP_pure]
  simp only
  cases getMeta r m pre with
  | invalid => rfl
  | missing => rfl
  | node k =>
    simp only
    cases k.isGroup with
    | false => rfl
    | true =>
      simp only [↓reduceIte]
      rw [Prog.pure_bind_ret, getChildNodesP_pure]
      cases childNodes r m true (depthBound m) pre <;> rfl

theorem openNodeTree_flatten (r : Reader) (m : KV) (pre : Key) :
    (openNodeTree r m pre).map Tree.flatten = openNode r m pre := by
  unfold openNodeTree openNode children
  cases getMeta r m pre with
  | invalid => rfl
  | missing => rfl
  | node k =>
    simp only
    cases k.isGroup with
    | false => simp [Tree.flatten, flattenList_nil]
    | true =>
      simp only [↓reduceIte]
      cases childNodes r m true (depthBound m) pre with
      | none => rfl
      | some cs => simp [Tree.flatten]

theorem openNodeTreeP_readOnly (r : Reader) (fuel : Nat) (pre : Key) : (openNodeTreeP r fuel pre).readOnly := by
  unfold openNodeTreeP
  apply Prog.readOnly_bind _ _ (getMetaP_readOnly r pre)
  intro v
  cases v with
  | invalid => trivial
  | missing => trivial
  | node k =>
    simp only
    split
    · exact Prog.readOnly_bind _ _ (getChildNodesP_readOnly r true fuel pre) (fun _ => trivial)
    · trivial

theorem nodeExistsP_pure (m : KV) (pre : Key) : (nodeExistsP pre).pure m = some (nodeExists m pre, m) := by
  unfold nodeExistsP nodeExists
  simp only [Prog.pure]
  cases m.get (pre ++ kZarrJson) with
  | some v => rfl
  | none =>
    simp only [Prog.pure]
    cases m.get (pre ++ kZarray) with
    | some v => rfl
    | none =>
      simp only [Prog.pure]
      cases m.get (pre ++ kZgroup) <;> rfl

theorem nodeExistsP_readOnly (pre : Key) : (nodeExistsP pre).readOnly := by
  unfold nodeExistsP
  intro v
  cases v with
  | some v => trivial
  | none =>
    intro v
    cases v with
    | some v => trivial
    | none =>
      intro v
      cases v <;> trivial

/-- `node_exists` reads at most the three metadata keys, at least one -/
theorem nodeExistsP_ops (m : KV) (pre : Key) : 1 ≤ (nodeExistsP pre).ops m ∧ (nodeExistsP pre).ops m ≤ 3 := by
  unfold nodeExistsP
  simp only [Prog.ops]
  cases m.get (pre ++ kZarrJson) with
  | some v => simp [Prog.ops]
  | none =>
    simp only [Prog.ops]
    cases m.get (pre ++ kZarray) with
    | some v => simp [Prog.ops]
    | none =>
      simp only [Prog.ops]
      cases m.get (pre ++ kZgroup) <;> simp [Prog.ops]

theorem flistPrefix_eq (m : KV) (n : Nat) (F : List Nat) (q : Key) :
    flistPrefix ⟨m, n, F⟩ q =
      if F.contains (n + 1) then .err ⟨m, n + 1, F⟩ else .ok (m.keys.filter (hasPrefix · q)) ⟨m, n + 1, F⟩ := rfl

namespace LProg
variable {β : Type}

def readOnly : LProg β → Prop
  | .prog p => p.readOnly
  | .listPrefix _ cont => ∀ ks, (cont ks).readOnly

/-- on the store `m`, the program with its `list_prefix` replaced by a `list_dir` whose result is ignored: the same
run, pure run and count, so that the theory of `Prog` applies -/
def toProg (m : KV) : LProg β → Prog β
  | .prog p => p
  | .listPrefix q cont => .listDir q (fun _ => cont (m.keys.filter (hasPrefix · q)))

theorem run_toProg (p : LProg β) (m : KV) (n : Nat) (F : List Nat) : p.run ⟨m, n, F⟩ = (p.toProg m).run ⟨m, n, F⟩ := by
  cases p with
  | prog p => rfl
  | listPrefix q cont =>
    rw [run, toProg, Prog.run, flistPrefix_eq, Prog.flistDir_eq]
    cases F.contains (n + 1) <;> rfl

theorem pure_toProg (p : LProg β) (m : KV) : p.pure m = (p.toProg m).pure m := by
  cases p <;> rfl

theorem ops_toProg (p : LProg β) (m : KV) : p.ops m = (p.toProg m).ops m := by
  cases p <;> rfl

theorem readOnly_toProg (p : LProg β) (h : p.readOnly) (m : KV) : (p.toProg m).readOnly := by
  cases p with
  | prog p => exact h
  | listPrefix q cont => exact fun _ => h _

theorem fault_is_err (p : LProg β) (m : KV) (n : Nat) (F : List Nat) (k : Nat) (hk : k ∈ F) (h1 : n < k)
    (h2 : k ≤ n + p.ops m) : ∃ s', p.run ⟨m, n, F⟩ = .err s' := by
  rw [run_toProg]
  exact Prog.fault_is_err _ m n F k hk h1 (by rwa [← ops_toProg])

theorem run_ok (p : LProg β) (m : KV) (n : Nat) (F : List Nat) (v : β) (s' : FStore) (h : p.run ⟨m, n, F⟩ = .ok v s') :
    p.pure m = some (v, s'.m) ∧ s'.n = n + p.ops m := by
  rw [run_toProg] at h
  rw [pure_toProg, ops_toProg]
  exact ⟨(Prog.run_ok _ m n F v s' h).pure, (Prog.run_ok _ m n F v s' h).count⟩

theorem readOnly_run (p : LProg β) (h : p.readOnly) (m : KV) (n : Nat) (F : List Nat) : (p.run ⟨m, n, F⟩).st.m = m := by
  rw [run_toProg]
  exact Prog.readOnly_run _ (readOnly_toProg p h m) m n F

theorem trace_length (p : LProg β) (m : KV) : (p.trace m).length = p.ops m := by
  cases p with
  | prog p => exact Prog.trace_length p m
  | listPrefix q cont => simp only [trace, ops, List.length_cons, Prog.trace_length]

end LProg

theorem contains_listPrefix (m : KV) (pre x : Key) :
    (m.keys.filter (hasPrefix · pre)).contains (pre ++ x) = (m.get (pre ++ x)).isSome := by
  rw [Bool.eq_iff_iff, List.contains_iff_mem, List.mem_filter, KV.mem_keys_iff_get, Option.isSome_iff_ne_none]
  constructor
  · exact fun h => h.1
  · intro h
    refine ⟨h, ?_⟩
    simp [hasPrefix]

theorem nodeExistsListableP_pure (m : KV) (pre : Key) : (nodeExistsListableP pre).pure m = some (nodeExists m pre, m) := by
  simp only [nodeExistsListableP, LProg.pure, Prog.pure, contains_listPrefix, nodeExists]

theorem nodeExistsListableP_readOnly (pre : Key) : (nodeExistsListableP pre).readOnly := fun _ => trivial

theorem nodeExistsListableP_ops (m : KV) (pre : Key) : (nodeExistsListableP pre).ops m = 1 := rfl

end Zarrs.FaultList
