import ZarrsModel.Lemmas.ArrayChunk
import ZarrsModel.Lemmas.ArrayCell
import ZarrsModel.Lemmas.ArrayPaste
set_option linter.unusedSectionVars false
/- The refinement invariant `Inv` (the store represents an abstract array) and the single-chunk operations: under `Inv`
a write succeeds and `Inv` holds of the abstract array updated as `absOp` says; a read returns the abstract array's
elements.  The codec is asked to return the chunk just stored and nothing else (`Inv.update_overlay`); what is stored are
chunks of the abstract array, whose elements satisfy `Pe` (`InvG`).  The `_overlay` forms take the data as the read of a
target array `t` and leave `t` laid over the array where they wrote: the shape in which the multi-chunk operations use
them. -/
namespace Zarrs
open Subset

namespace AArr
variable {α : Type}

theorem overlay_good {Pe : α → Bool} {a : AArr α} (ha : ∀ i, Pe (a i) = true) {P : Idx → Bool} {v : Idx → α}
    (hv : ∀ i, P i = true → Pe (v i) = true) (i : Idx) : Pe (a.overlay P v i) = true := by
  simp only [overlay]
  split
  · exact hv i ‹_›
  · exact ha i

theorem write_good {Pe : α → Bool} {a : AArr α} (ha : ∀ i, Pe (a i) = true) (r : Subset) {data : List α} {d : α}
    (hd : ∀ e ∈ data, Pe e = true) (hf : Pe d = true) : ∀ i, Pe (a.write r data d i) = true :=
  overlay_good (P := r.contains) ha fun _ _ => getD_forall (P := (Pe · = true)) hd hf _

end AArr

namespace ArrCfg
variable {α : Type} [DecidableEq α]
variable {cfg : ArrCfg α} {G : Shape}

theorem retrieveChunk_congr (st st' : KV) (c : Idx) (h : st'.get (cfg.keyOf c) = st.get (cfg.keyOf c)) :
    cfg.retrieveChunk st' c = cfg.retrieveChunk st c := by
  rw [retrieveChunk_eqV, retrieveChunk_eqV, h]

theorem isFill_iff (xs : List α) : cfg.isFill xs = true ↔ ∀ x ∈ xs, x = cfg.fill := by
  simp [isFill, List.all_eq_true]

structure Inv (cfg : ArrCfg α) (G : Shape) (st : KV) (a : AArr α) : Prop where
  chunks : ∀ c, inB c G = true → ∀ cs, cfg.chunkSubset c = some cs → cfg.retrieveChunk st c = some (a.read cs)
  keys : ∀ k ∈ st.keys, ∃ c, inB c G = true ∧ k = cfg.keyOf c
  elide : cfg.storeEmpty = false → ∀ c, inB c G = true → ∀ cs, cfg.chunkSubset c = some cs →
    (cfg.keyOf c ∈ st.keys ↔ ∃ i, cs.contains i = true ∧ a i ≠ cfg.fill)

theorem Inv.init : Inv cfg G [] (fun _ => cfg.fill) where
  chunks := by
    intro c hc cs hcs
    rw [retrieveChunk_eqV, AArr.read, List.map_const', Subset.indices_length]
    simp only [retrieveChunkV, chunkSubset_shape hcs]
    rfl
  keys := by intro k hk; simp [KV.keys] at hk
  elide := by
    intro _ c _ cs _
    simp [KV.keys]

theorem isFill_read (a : AArr α) (cs : Subset) (hwf : cs.wf = true) :
    cfg.isFill (a.read cs) = false ↔ ∃ i, cs.contains i = true ∧ a i ≠ cfg.fill := by
  simp only [isFill, List.all_eq_false, beq_iff_eq]
  constructor
  · rintro ⟨x, hx, hne⟩
    obtain ⟨i, hi, rfl⟩ := List.mem_map.mp hx
    exact ⟨i, (cs.mem_indices hwf i).mp hi, hne⟩
  · rintro ⟨i, hi, hne⟩
    exact ⟨a i, List.mem_map_of_mem ((cs.mem_indices hwf i).mpr hi), hne⟩

structure InvG (Pe : α → Bool) (cfg : ArrCfg α) (G : Shape) (st : KV) (a : AArr α) : Prop where
  inv : Inv cfg G st a
  good : ∀ i, Pe (a i) = true

theorem Inv.update_overlay {Pe : α → Bool} (h : ROk Pe cfg G) {st st' : KV} {a : AArr α} (hinv : Inv cfg G st a)
    {c : Idx} {cs : Subset} (hc : inB c G = true) (hcs : cfg.chunkSubset c = some cs) (t : AArr α)
    (hget : (st'.get (cfg.keyOf c) = some (cfg.enc (t.read cs)) ∧
        (cfg.storeEmpty = false → cfg.isFill (t.read cs) = false)) ∨
      (st'.get (cfg.keyOf c) = none ∧ cfg.isFill (t.read cs) = true))
    (hframe : ∀ k, k ≠ cfg.keyOf c → st'.get k = st.get k)
    (ht : ∀ i, cs.contains i = true → Pe (t i) = true) : Inv cfg G st' (a.overlay cs.contains t) := by
  have hsh := chunkSubset_shape hcs
  have hwf := chunkSubset_wf hcs
  have hread : (a.overlay cs.contains t).read cs = t.read cs := AArr.read_congr _ _ cs hwf fun i hi => if_pos hi
  have hother : ∀ c', inB c' G = true → c' ≠ c → ∀ cs', cfg.chunkSubset c' = some cs' →
      st'.get (cfg.keyOf c') = st.get (cfg.keyOf c') ∧ ∀ i, cs'.contains i = true → a.overlay cs.contains t i = a i :=
    fun c' hc' hne cs' hcs' => ⟨hframe _ fun he => hne (h.keysInj _ _ he),
      fun i hi => if_neg fun hci => hne (h.chunk_disj hc hc' hcs hcs' hci hi)⟩
  refine ⟨fun c' hc' cs' hcs' => ?_, fun k hk => ?_, fun hel c' hc' cs' hcs' => ?_⟩
  · by_cases he : c' = c
    · subst he
      cases hcs.symm.trans hcs'
      rw [retrieveChunk_eqV, hread]
      simp only [retrieveChunkV, hsh]
      rcases hget with ⟨hg, _⟩ | ⟨hg, hf⟩
      · -- the one place where the codec law is used: on the chunk just stored
        rw [hg]
        simp only [h.decEnc c' cs.shape (t.read cs) hsh (t.read_length cs) fun e he => by
          obtain ⟨i, hi, rfl⟩ := List.mem_map.1 he
          exact ht i ((cs.mem_indices hwf i).mp hi)]
        exact if_pos (t.read_length cs)
      · rw [hg]
        exact congrArg some (List.eq_replicate_iff.mpr ⟨t.read_length cs, (isFill_iff _).mp hf⟩).symm
    · obtain ⟨hg, hel⟩ := hother c' hc' he cs' hcs'
      rw [retrieveChunk_congr st st' c' hg, hinv.chunks c' hc' cs' hcs', AArr.read_congr _ a cs' (chunkSubset_wf hcs') hel]
  · by_cases he : k = cfg.keyOf c
    · exact ⟨c, hc, he⟩
    · rw [KV.mem_keys_iff_get, hframe k he, ← KV.mem_keys_iff_get] at hk
      exact hinv.keys k hk
  · by_cases he : c' = c
    · subst he
      cases hcs.symm.trans hcs'
      rw [KV.mem_keys_iff_get, ← isFill_read _ cs hwf, hread]
      rcases hget with ⟨hg, hf⟩ | ⟨hg, hf⟩
      · simp only [hg, hf hel, ne_eq, reduceCtorEq, not_false_eq_true]
      · simp only [hg, hf, ne_eq, not_true_eq_false, Bool.true_eq_false]
    · obtain ⟨hg, hel'⟩ := hother c' hc' he cs' hcs'
      rw [KV.mem_keys_iff_get, hg, ← KV.mem_keys_iff_get, hinv.elide hel c' hc' cs' hcs']
      exact exists_congr fun i => and_congr_right fun hi => by rw [hel' i hi]

theorem Inv.update (h : COk cfg G) {st st' : KV} {a a' : AArr α} (hinv : Inv cfg G st a)
    {c : Idx} {cs : Subset} (hc : inB c G = true) (hcs : cfg.chunkSubset c = some cs)
    (new : List α) (hlen : new.length = cs.numElements)
    (hget : (st'.get (cfg.keyOf c) = some (cfg.enc new) ∧ (cfg.storeEmpty = false → cfg.isFill new = false)) ∨
      (st'.get (cfg.keyOf c) = none ∧ cfg.isFill new = true))
    (hframe : ∀ k, k ≠ cfg.keyOf c → st'.get k = st.get k)
    (hin : ∀ i, cs.contains i = true → new[ravel (zipSub i cs.start) cs.shape]? = some (a' i))
    (hout : ∀ i, cs.contains i = false → a' i = a i) : Inv cfg G st' a' := by
  cases AArr.read_of_getElem a' cs new (chunkSubset_wf hcs) hlen hin
  have : a' = a.overlay cs.contains a' := funext fun i => by
    cases hi : cs.contains i with
    | true => exact (if_pos hi).symm
    | false => exact (hout i hi).trans (if_neg (by rw [hi]; exact Bool.false_ne_true)).symm
  rw [this]
  exact Inv.update_overlay h.rok hinv hc hcs a' hget hframe fun _ _ => rfl

theorem getD_eq_of_getElem? {α} (l : List α) (n : Nat) (d x : α) (h : l[n]? = some x) : l.getD n d = x := by
  simp [List.getD, h]

variable {Pe : α → Bool}

theorem storeChunk_overlay (h : ROk Pe cfg G) {st : KV} {a : AArr α} (hinv : InvG Pe cfg G st a)
    {c : Idx} {cs : Subset} (hc : inB c G = true) (hcs : cfg.chunkSubset c = some cs)
    (t : AArr α) (ht : ∀ i, Pe (t i) = true) :
    ∃ st', cfg.storeChunk st c (t.read cs) = some st' ∧ InvG Pe cfg G st' (a.overlay cs.contains t) := by
  rw [storeChunk_eq, storeChunkW_eq_some.2 ⟨cs.shape, chunkSubset_shape hcs, t.read_length cs, rfl⟩]
  refine ⟨_, rfl, Inv.update_overlay h hinv.inv hc hcs t ?_ (fun k hk => by rw [KV.get_applyW, if_neg hk]) fun i _ => ht i,
    AArr.overlay_good hinv.good fun i _ => ht i⟩
  rw [KV.get_applyW, if_pos rfl]
  by_cases hcond : (!cfg.storeEmpty && cfg.isFill (t.read cs)) = true
  · rw [if_pos hcond]
    exact Or.inr ⟨rfl, ((Bool.and_eq_true _ _).mp hcond).2⟩
  · rw [if_neg hcond]
    refine Or.inl ⟨rfl, fun hse => ?_⟩
    simp only [hse, Bool.not_false, Bool.true_and, Bool.not_eq_true] at hcond
    exact hcond

theorem storeChunk_step (h : ROk Pe cfg G) {st : KV} {a : AArr α} (hinv : InvG Pe cfg G st a)
    {c : Idx} {cs : Subset} (hc : inB c G = true) (hcs : cfg.chunkSubset c = some cs)
    (data : List α) (hlen : data.length = cs.numElements) (hd : ∀ e ∈ data, Pe e = true) :
    ∃ st', cfg.storeChunk st c data = some st' ∧ InvG Pe cfg G st' (a.write cs data cfg.fill) := by
  have := storeChunk_overlay h hinv hc hcs _ (AArr.write_good hinv.good cs hd h.fillGood)
  rwa [AArr.read_write a cs data cfg.fill (chunkSubset_wf hcs) hlen,
    AArr.overlay_write a cs data cfg.fill fun _ hi => hi] at this

theorem eraseChunk_step (h : ROk Pe cfg G) {st : KV} {a : AArr α} (hinv : InvG Pe cfg G st a)
    {c : Idx} {cs : Subset} (hc : inB c G = true) (hcs : cfg.chunkSubset c = some cs) :
    InvG Pe cfg G (cfg.eraseChunk st c) (a.fillRegion cs cfg.fill) :=
  ⟨Inv.update_overlay h hinv.inv hc hcs (fun _ => cfg.fill)
      (Or.inr ⟨by simp [eraseChunk, KV.get_erase], by simp [isFill_iff, AArr.read]⟩)
      (fun k hk => by simp [eraseChunk, KV.get_erase, hk]) fun _ _ => h.fillGood,
    AArr.overlay_good hinv.good fun _ _ => h.fillGood⟩

theorem storeChunkSubset_step (h : ROk Pe cfg G) {st : KV} {a : AArr α} (hinv : InvG Pe cfg G st a)
    {c : Idx} {cs : Subset} (hc : inB c G = true) (hcs : cfg.chunkSubset c = some cs)
    (r : Subset) (hr : r.wf = true) (hrb : r.inboundsShape cs.shape = true)
    (data : List α) (hlen : data.length = r.numElements) (hd : ∀ e ∈ data, Pe e = true) :
    ∃ st', cfg.storeChunkSubset st c r data = some st' ∧
      InvG Pe cfg G st' (a.write ⟨addIdx r.start cs.start, r.shape⟩ data cfg.fill) := by
  have hwf := chunkSubset_wf hcs
  simp only [storeChunkSubset, chunkSubset_shape hcs]
  rw [if_neg (by rw [Bool.not_eq_true, Bool.not_eq_false']; exact hrb)]
  by_cases hfast : (r.shape == cs.shape && r.start.all (· == 0)) = true
  · rw [if_pos hfast]
    simp only [Bool.and_eq_true, beq_iff_eq, List.all_eq_true] at hfast
    have : (⟨addIdx r.start cs.start, r.shape⟩ : Subset) = cs := by
      rw [addIdx_of_zeros _ _ hfast.2 ((Subset.inboundsShape_iff_allLe.mp hrb).1.trans (Subset.wf_iff.mp hwf).symm), hfast.1]
    rw [this]
    exact storeChunk_step h hinv hc hcs data (by rw [hlen, Subset.numElements, hfast.1]; rfl) hd
  · -- the updated chunk is the read of the chunk from the array written to
    rw [if_neg hfast, ite_bne_of_eq hlen, hinv.inv.chunks c hc cs hcs]
    dsimp only
    rw [AArr.updateRuns_read a cs r hwf hr hrb data hlen cfg.fill]
    have := storeChunk_overlay h hinv hc hcs _
      (AArr.write_good hinv.good ⟨addIdx r.start cs.start, r.shape⟩ hd h.fillGood)
    rwa [AArr.overlay_write a _ data cfg.fill (cs.abs_sub r hwf hrb)] at this

theorem storeChunkSubset_overlay (h : ROk Pe cfg G) {st : KV} {a : AArr α} (hinv : InvG Pe cfg G st a)
    {c : Idx} {cs : Subset} (hc : inB c G = true) (hcs : cfg.chunkSubset c = some cs)
    {q : Subset} (hq : q.SubBox cs) (t : AArr α) (ht : ∀ i, Pe (t i) = true) :
    ∃ st', cfg.storeChunkSubset st c (q.relativeTo cs.start) (t.read q) = some st' ∧
      InvG Pe cfg G st' (a.overlay q.contains t) := by
  have := storeChunkSubset_step h hinv hc hcs (q.relativeTo cs.start) hq.rel_wf hq.rel_inbounds (t.read q)
    (t.read_length q) fun e he => (List.mem_map.1 he).elim fun i hi => hi.2 ▸ ht i
  rwa [hq.rel_abs, AArr.write_read] at this

theorem retrieveChunkSubset_read {st : KV} {a : AArr α} (hinv : Inv cfg G st a)
    {c : Idx} {cs : Subset} (hc : inB c G = true) (hcs : cfg.chunkSubset c = some cs)
    (r : Subset) (hr : r.wf = true) (hrb : r.inboundsShape cs.shape = true) :
    cfg.retrieveChunkSubset st c r = some (a.read ⟨addIdx r.start cs.start, r.shape⟩) := by
  simp only [retrieveChunkSubset, chunkSubset_shape hcs, hrb, Bool.not_true, Bool.false_eq_true, if_false,
    hinv.chunks c hc cs hcs, Option.map_some, a.extract_read cs r hr hrb]

theorem retrieveChunkSubset_sub {st : KV} {a : AArr α} (hinv : Inv cfg G st a)
    {c : Idx} {cs : Subset} (hc : inB c G = true) (hcs : cfg.chunkSubset c = some cs) {q : Subset} (hq : q.SubBox cs) :
    cfg.retrieveChunkSubset st c (q.relativeTo cs.start) = some (a.read q) := by
  rw [retrieveChunkSubset_read hinv hc hcs (q.relativeTo cs.start) hq.rel_wf hq.rel_inbounds, hq.rel_abs]

end ArrCfg
end Zarrs
