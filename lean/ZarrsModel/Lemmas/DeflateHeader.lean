import ZarrsModel.Lemmas.DeflateTokens
/-
The header of a dynamic block: `dynamicTables` of the reader on the bits of any valid `DynHeader` (any HCLEN that
covers the used code-length symbols, any run-length encoding that expands to the code lengths) gives the two tables.
-/
namespace Zarrs.DeflateSpec
open Zarrs Zarrs.Inflate

theorem clLens_loop (syms : List Nat) (f : Nat → Nat) (hf : ∀ s, f s < 8) (r : Bits) (acc : List Nat) :
    dynamicTables.clLens syms.length (syms.flatMap (fun s => bitsLsb 3 (f s)) ++ r) acc =
      some (acc ++ syms.map f, r) := by
  induction syms generalizing acc with
  | nil => simp [dynamicTables.clLens]
  | cons s syms ih =>
    simp only [List.length_cons, List.flatMap_cons, List.append_assoc, dynamicTables.clLens]
    rw [takeBits_bitsLsb 3 (f s) _ (hf s)]
    simp only
    rw [ih]
    simp

theorem clOrder_inv : ∀ s, s < 19 →
    (clOrder.idxOf? s).any (fun i => decide (i < 19) && (clOrder.getD i 0 == s)) = true := by decide +kernel

/-- stated for any function `f` that is this `match`: the `match` inside `dynamicTables` is an auxiliary constant of
    its own -/
theorem clLens_rebuild (cl : List Nat) (n : Nat) (hlen : cl.length = 19)
    (hz : ∀ s ∈ clOrder.drop n, cl.getD s 0 = 0) (f : Nat → Nat)
    (hf : ∀ sym, f sym = match clOrder.idxOf? sym with
      | some i => ((clOrder.take n).map (fun s => cl.getD s 0)).getD i 0
      | none => 0) :
    (List.range 19).map f = cl := by
  apply List.ext_getElem
  · simp [hlen]
  · intro i h1 h2
    have hi : i < 19 := by simpa using h1
    have hinv := clOrder_inv i hi
    rw [List.getElem_map, List.getElem_range, hf]
    cases hidx : clOrder.idxOf? i with
    | none => rw [hidx] at hinv; simp at hinv
    | some j =>
      rw [hidx] at hinv
      simp only [Option.any_some, Bool.and_eq_true, decide_eq_true_eq, beq_iff_eq] at hinv
      obtain ⟨hj, hcj⟩ := hinv
      have hcl : (clOrder.length : Nat) = 19 := rfl
      have hcj' : clOrder[j]? = some i := by
        rw [List.getD_eq_getElem?_getD, List.getElem?_eq_getElem (by omega)] at hcj
        rw [List.getElem?_eq_getElem (by omega)]
        simpa using hcj
      have hci : cl.getD i 0 = cl[i] := by
        rw [List.getD_eq_getElem?_getD, List.getElem?_eq_getElem h2]; rfl
      simp only
      rw [List.getD_eq_getElem?_getD, List.getElem?_map, List.getElem?_take]
      by_cases hjn : j < n
      · rw [if_pos hjn, hcj']
        simpa using hci
      · rw [if_neg hjn]
        have hm : i ∈ clOrder.drop n :=
          List.mem_iff_getElem?.2 ⟨j - n, by rw [List.getElem?_drop, show n + (j - n) = j by omega, hcj']⟩
        have := hz i hm
        rw [hci] at this
        simp [this]

theorem expandCl_length (syms : List ClSym) (acc all : List Nat) (h : expandCl syms acc = some all) :
    acc.length + syms.length ≤ all.length := by
  fun_induction expandCl syms acc with
  | case1 => cases h; exact Nat.le_refl _
  | case2 _ _ _ _ ih | case4 _ _ _ _ _ _ ih | case7 _ _ _ _ ih | case9 _ _ _ _ ih =>
    have := ih h
    simp only [List.length_append, List.length_replicate, List.length_cons, List.length_nil] at this ⊢
    omega
  | case3 | case5 | case6 | case8 | case10 => cases h

theorem readLens_done {clH : Huff} {fuel total : Nat} {bs : Bits} {acc : List Nat} (h : acc.length = total) :
    readLens clH (fuel + 1) total bs acc = some (acc, bs) := by
  rw [readLens]
  simp [h]

theorem readLens_len {clH : Huff} {fuel total : Nat} {bs bs' : Bits} {acc : List Nat} {sym : Nat}
    (hlt : acc.length < total) (h : decodeSym clH bs = some (sym, bs')) (hs : sym < 16) :
    readLens clH (fuel + 1) total bs acc = readLens clH fuel total bs' (acc ++ [sym]) := by
  rw [readLens, if_neg (by omega), h]
  simp only [hs, if_true]

/-- the three repeat symbols: `nb` extra bits give the count from `base` on, of `v` -/
theorem readLens_rep {clH : Huff} {fuel total : Nat} {bs b1 b2 : Bits} {acc : List Nat} {sym nb base r v : Nat}
    (hlt : acc.length < total) (h : decodeSym clH bs = some (sym, b1)) (ht : takeBits nb b1 = some (r, b2))
    (hk : (sym = 16 ∧ nb = 2 ∧ base = 3 ∧ acc.getLast? = some v) ∨ (sym = 17 ∧ nb = 3 ∧ base = 3 ∧ v = 0) ∨
      (sym = 18 ∧ nb = 7 ∧ base = 11 ∧ v = 0)) :
    readLens clH (fuel + 1) total bs acc = readLens clH fuel total b2 (acc ++ List.replicate (base + r) v) := by
  rw [readLens, if_neg (by omega), h]
  obtain ⟨rfl, rfl, rfl, hv⟩ | ⟨rfl, rfl, rfl, rfl⟩ | ⟨rfl, rfl, rfl, rfl⟩ := hk
  · simp [hv, ht]
  · simp [ht]
  · simp [ht]

theorem encCl_cons_eq_some {cl : List Nat} {s : ClSym} {syms : List ClSym} {bits : Bits}
    (h : encCl cl (s :: syms) = some bits) :
    ∃ a b, encClSym cl s = some a ∧ encCl cl syms = some b ∧ bits = a ++ b := by
  simp only [encCl] at h
  split at h
  · rename_i a b ha hb
    exact ⟨a, b, ha, hb, (Option.some.inj h).symm⟩
  · cases h

theorem encHeader_eq_some {h : DynHeader} {hb : Bits} (he : encHeader h = some hb) :
    ∃ r, encCl h.clLens h.rle = some r ∧
      hb = bitsLsb 5 (h.litLens.length - 257) ++ (bitsLsb 5 (h.distLens.length - 1) ++ (bitsLsb 4 h.hclen ++
        ((clOrder.take (h.hclen + 4)).flatMap (fun s => bitsLsb 3 (h.clLens.getD s 0)) ++ r))) := by
  simp only [encHeader] at he
  split at he
  · exact ⟨_, ‹_›, (Option.some.inj he).symm⟩
  · cases he

theorem readLens_rle (cl : List Nat) (hcl : validLens cl = true) (syms : List ClSym) (bits tail : Bits)
    (acc all : List Nat) (fuel total : Nat) (he : encCl cl syms = some bits) (hx : expandCl syms acc = some all)
    (ht : all.length = total) (hf : syms.length < fuel) :
    readLens (mkHuff cl) fuel total (bits ++ tail) acc = some (all, tail) := by
  obtain ⟨fuel, rfl⟩ : ∃ f, fuel = f + 1 := ⟨fuel - 1, by omega⟩
  induction syms generalizing bits acc fuel with
  | nil =>
    cases hx; cases he
    exact readLens_done ht
  | cons s syms ih =>
    have hf' : syms.length < fuel := by simp only [List.length_cons] at hf; omega
    obtain ⟨fuel, rfl⟩ : ∃ f, fuel = f + 1 := ⟨fuel - 1, by omega⟩
    have hlt : acc.length < total := by have := expandCl_length _ _ _ hx; simp only [List.length_cons] at this; omega
    obtain ⟨a, b, ha, hb, rfl⟩ := encCl_cons_eq_some he
    rw [List.append_assoc]
    cases s with
    | len l =>
      simp only [expandCl] at hx
      split at hx
      · rw [readLens_len hlt (decodeSym_codeOf' cl hcl l a _ ha) (by omega)]
        exact ih b _ hb hx fuel hf'
      · cases hx
    | c16 n =>
      obtain ⟨c, hc, rfl⟩ := Option.map_eq_some_iff.1 ha
      simp only [expandCl] at hx
      split at hx
      · rename_i p hp
        split at hx
        · rw [List.append_assoc, readLens_rep hlt (decodeSym_codeOf' cl hcl 16 c _ hc)
            (takeBits_bitsLsb 2 (n - 3) _ (by omega)) (.inl ⟨rfl, rfl, rfl, hp⟩), show 3 + (n - 3) = n by omega]
          exact ih b _ hb hx fuel hf'
        · cases hx
      · cases hx
    | c17 n =>
      obtain ⟨c, hc, rfl⟩ := Option.map_eq_some_iff.1 ha
      simp only [expandCl] at hx
      split at hx
      · rw [List.append_assoc, readLens_rep hlt (decodeSym_codeOf' cl hcl 17 c _ hc)
          (takeBits_bitsLsb 3 (n - 3) _ (by omega)) (.inr (.inl ⟨rfl, rfl, rfl, rfl⟩)), show 3 + (n - 3) = n by omega]
        exact ih b _ hb hx fuel hf'
      · cases hx
    | c18 n =>
      obtain ⟨c, hc, rfl⟩ := Option.map_eq_some_iff.1 ha
      simp only [expandCl] at hx
      split at hx
      · rw [List.append_assoc, readLens_rep hlt (decodeSym_codeOf' cl hcl 18 c _ hc)
          (takeBits_bitsLsb 7 (n - 11) _ (by omega)) (.inr (.inr ⟨rfl, rfl, rfl, rfl⟩)), show 11 + (n - 11) = n by omega]
        exact ih b _ hb hx fuel hf'
      · cases hx

/-- `DynHeader.ok`, condition by condition -/
structure DynHeader.Conds (h : DynHeader) : Prop where
  litLen : 257 ≤ h.litLens.length ∧ h.litLens.length ≤ 288
  distLen : 1 ≤ h.distLens.length ∧ h.distLens.length ≤ 32
  clLen : h.clLens.length = 19
  clLe7 : ∀ l ∈ h.clLens, l ≤ 7
  hclenLe : h.hclen ≤ 15
  clZero : ∀ s ∈ clOrder.drop (h.hclen + 4), h.clLens.getD s 0 = 0
  litValid : validLens h.litLens = true
  distValid : validLens h.distLens = true
  clValid : validLens h.clLens = true
  expands : expandCl h.rle [] = some (h.litLens ++ h.distLens)

theorem DynHeader.conds_of_ok (h : DynHeader) (hok : h.ok = true) : h.Conds := by
  unfold DynHeader.ok at hok
  simp only [Bool.and_eq_true, decide_eq_true_eq, List.all_eq_true, beq_iff_eq] at hok
  obtain ⟨⟨⟨⟨⟨⟨⟨⟨⟨⟨⟨a1, a2⟩, a3⟩, a4⟩, a5⟩, a6⟩, a7⟩, a8⟩, a9⟩, a10⟩, a11⟩, a12⟩ := hok
  exact ⟨⟨a1, a2⟩, ⟨a3, a4⟩, a5, a6, a7, a8, a9, a10, a11, a12⟩

theorem dynamicTables_header (h : DynHeader) (hok : h.ok = true) (hb tail : Bits) (he : encHeader h = some hb) :
    dynamicTables (hb ++ tail) = some (mkHuff h.litLens, mkHuff h.distLens, tail) := by
  have hc := DynHeader.conds_of_ok h hok
  have ⟨l1, l2⟩ := hc.litLen
  have ⟨d1, d2⟩ := hc.distLen
  have hcl := hc.hclenLe
  obtain ⟨r, hr, rfl⟩ := encHeader_eq_some he
  have hf : ∀ s, h.clLens.getD s 0 < 8 := by
    intro s
    by_cases hs : s < h.clLens.length
    · have := hc.clLe7 _ (getD_mem h.clLens s hs); omega
    · rw [List.getD_eq_getElem?_getD, List.getElem?_eq_none (by omega)]; simp
  have hlen : (clOrder.take (h.hclen + 4)).length = h.hclen + 4 := by
    rw [List.length_take]
    have : clOrder.length = 19 := rfl
    omega
  have hcl' := clLens_loop (clOrder.take (h.hclen + 4)) (fun s => h.clLens.getD s 0) hf (r ++ tail) []
  rw [hlen] at hcl'
  have hrd := readLens_rle h.clLens hc.clValid h.rle r tail [] (h.litLens ++ h.distLens)
    (h.litLens.length - 257 + (h.distLens.length - 1) + 400)
    (h.litLens.length - 257 + 257 + (h.distLens.length - 1) + 1) hr hc.expands
    (by simp only [List.length_append]; omega)
    (by have := expandCl_length _ _ _ hc.expands; simp only [List.length_append, List.length_nil] at this; omega)
  unfold dynamicTables
  simp only [List.append_assoc]
  rw [takeBits_bitsLsb 5 _ _ (by omega)]
  simp only
  rw [takeBits_bitsLsb 5 _ _ (by omega)]
  simp only
  rw [takeBits_bitsLsb 4 _ _ (by omega)]
  simp only
  rw [hcl']
  simp only [List.nil_append]
  rw [clLens_rebuild h.clLens (h.hclen + 4) hc.clLen hc.clZero]
  · rw [hrd]
    simp only
    have e : h.litLens.length - 257 + 257 = h.litLens.length := by omega
    rw [e, List.take_left', List.drop_left']
    · rfl
    · rfl
  · intro _; rfl

theorem encHeader_length (h : DynHeader) (hb : Bits) (he : encHeader h = some hb) : 14 ≤ hb.length := by
  obtain ⟨r, _, rfl⟩ := encHeader_eq_some he
  simp only [List.length_append, bitsLsb_length]
  omega

end Zarrs.DeflateSpec
