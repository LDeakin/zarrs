import ZarrsModel.Lemmas.ShardPD
import ZarrsModel.Lemmas.Partial
/- C02 for sharding: chains that read their whole input; when the piece of an inner chunk cannot be decoded, and that a
region touching it fails -/
namespace Zarrs.Partial
open Zarrs Zarrs.Codec Zarrs.Subset

def BDead (h : BHandle) : Prop := ∀ rs, h rs = none
/-- single-region requests only: `bytesPD` answers the empty list without asking its input -/
def ADead (h : AHandle) : Prop := ∀ q, h [q] = none

theorem bStage_dead (st : BStage) (h : BHandle) (hd : BDead h) : BDead (st.pd h) := by
  intro rs
  cases st with
  | stripSuffix n sum => simp only [BStage.pd, stripSuffixPD, hd _]
  | decodeAll e d => simp only [BStage.pd, decodeAllPD, hd _]
  | cache => simp only [BStage.pd, bytesCachePD, hd _]

def readsAll : BStage → Bool
  | .stripSuffix _ _ => false
  | .decodeAll _ _ => true
  | .cache => true

theorem bStage_readsAll (st : BStage) (hst : readsAll st = true) (g : BHandle)
    (hg : g [ByteRange.fromStart 0 none] = none) : BDead (st.pd g) := by
  intro rs
  cases st with
  | stripSuffix n sum => simp [readsAll] at hst
  | decodeAll e d => simp only [BStage.pd, decodeAllPD, hg]
  | cache => simp only [BStage.pd, bytesCachePD, hg]

theorem bChain_dead (stages : List BStage) (h : BHandle) (hd : BDead h) :
    BDead (stages.foldr (fun st h => st.pd h) h) := by
  induction stages with
  | nil => exact hd
  | cons st rest ih => exact bStage_dead st _ ih

theorem aStage_dead (st : AStage) (sh : Shape) (h : AHandle) (hd : ADead h) : ADead (st.pd sh h) := by
  intro q
  cases st with
  | transpose order => simp only [AStage.pd, transposePD, List.map_cons, List.map_nil, hd _]
  | squeeze => simp only [AStage.pd, squeezePD, List.map_cons, List.map_nil, hd _]
  | cache => simp only [AStage.pd, arrayCachePD, hd _]

theorem aPD_dead (stages : List AStage) : ∀ (sh : Shape) (h : AHandle), ADead h → ADead (aPD stages sh h) := by
  induction stages with
  | nil => intro _ h hd; exact hd
  | cons st rest ih => intro sh h hd; exact aStage_dead st sh _ (ih _ h hd)

theorem bytesPD_dead (big : Bool) (es unit : Nat) (sh : Shape) (fill : Elem) (h : BHandle) (hd : BDead h) :
    ADead (bytesPD big es unit sh fill h) := by
  intro q
  simp only [bytesPD, List.mapM_cons, List.mapM_nil, hd _]
  split <;> rfl

/-- holds of the storage handle (`storeHandle_strict` in Props/C02Shard) -/
def BHandleStrict (h : BHandle) (v : Bytes) : Prop :=
  ∀ rs, (∃ q ∈ rs, q.valid v.length = false) → h rs = none

theorem byteIntervalPD_whole_none (h : BHandle) (v : Bytes) (hstrict : BHandleStrict h v) (off size : Nat)
    (hbad : off + size > v.length) : byteIntervalPD off size h [ByteRange.fromStart 0 none] = none := by
  simp only [byteIntervalPD, List.all_cons, List.all_nil, ByteRange.valid, Option.getD_none, Nat.add_zero,
    Nat.zero_le, decide_true, Bool.and_self, if_true, List.map_cons, List.map_nil, ByteRange.start,
    ByteRange.length, Nat.sub_zero]
  apply hstrict
  refine ⟨_, List.mem_singleton.mpr rfl, ?_⟩
  simp only [ByteRange.valid, Option.getD_some, decide_eq_false_iff_not]
  omega

def ReadsWhole (innerPD : BHandle → AHandle) : Prop :=
  ∀ g q, g [ByteRange.fromStart 0 none] = none → innerPD g [q] = none

theorem foldOpt_none_of_mem {σ β} (f : σ → β → Option σ) (L : List β) (c : β) (hc : c ∈ L)
    (hf : ∀ s, f s c = none) : ∀ s, ArrCfg.foldOpt f s L = none := by
  induction L with
  | nil => simp at hc
  | cons b bs ih =>
    intro s
    simp only [ArrCfg.foldOpt]
    rcases List.mem_cons.mp hc with rfl | hc'
    · rw [hf s]
    · cases f s b with
      | none => rfl
      | some s' => exact ih hc' s'

theorem shardRegion_none_of_entry {fixed : Option Nat} {es : Nat} {fill : Elem} {inner cps : Shape}
    {entries : List (Nat × Nat)} {innerPD : Shape → Elem → BHandle → AHandle} {h : BHandle}
    (hpos : ∀ k ∈ inner, 0 < k) (r : Subset) (hwf : r.wf = true) (hcl : inner.length = r.rank) (i : Idx)
    (hi : r.contains i = true) (e : Nat × Nat) (hent : entries[ravel (zipDiv i inner) cps]? = some e)
    (hpart : ∀ ov cs, shardPart fixed fill inner innerPD h e ov cs = none) :
    shardRegion fixed es fill inner cps entries innerPD h r = none :=
  foldOpt_none_of_mem _ _ _ (own_item_mem inner hpos r hwf hcl i hi)
    (fun out => by simp only [shardStep, hent, hpart]) _

theorem shardPart_wrong_size (n : Nat) (fill : Elem) (inner : Shape) (innerPD : Shape → Elem → BHandle → AHandle)
    (h : BHandle) (e : Nat × Nat) (hlive : Shard.isLive e = true) (hsize : e.2 ≠ n) (ov cs : Subset) :
    shardPart (some n) fill inner innerPD h e ov cs = none := by
  rw [Shard.isLive_eq_true] at hlive
  have hso : sizeOk (some n) e.2 = false := by simp [sizeOk, hsize]
  simp only [shardPart, hlive, hso, Bool.false_eq_true, if_false, Bool.not_false, if_true]

theorem shardPart_outside (fixed : Option Nat) (fill : Elem) (inner : Shape)
    (innerPD : Shape → Elem → BHandle → AHandle) (h : BHandle) (v : Bytes) (hstrict : BHandleStrict h v)
    (hwhole : ReadsWhole (innerPD inner fill)) (e : Nat × Nat) (hlive : Shard.isLive e = true)
    (hbad : e.1 + e.2 > v.length) (ov cs : Subset) : shardPart fixed fill inner innerPD h e ov cs = none := by
  rw [Shard.isLive_eq_true] at hlive
  simp only [shardPart, hlive, Bool.false_eq_true, if_false,
    hwhole _ _ (byteIntervalPD_whole_none h v hstrict e.1 e.2 hbad)]
  split <;> rfl

end Zarrs.Partial
