import ZarrsModel.Lemmas.PartialArray
/- helper lemmas for C02: the `squeeze` partial decoder -/
namespace Zarrs.Partial
open Zarrs Zarrs.Codec

/-- the (start, extent, chunk extent) triples `SqueezePartialDecoder` keeps -/
def sqKeep (st n a : List Nat) : List ((Nat × Nat) × Nat) :=
  (List.zip (List.zip st n) a).filter (fun p => p.2 > 1)

theorem squeezeRegion_eq (sh : Shape) (r : Subset) :
    squeezeRegion sh r =
      (if r.isEmpty then
        Subset.newEmpty (if ((sqKeep r.start r.shape sh).map (·.1.1)).isEmpty then [0] else
          (sqKeep r.start r.shape sh).map (·.1.1)).length
      else if ((sqKeep r.start r.shape sh).map (·.1.1)).isEmpty then ⟨[0], [1]⟩ else
        ⟨(sqKeep r.start r.shape sh).map (·.1.1), (sqKeep r.start r.shape sh).map (·.1.2)⟩) := by
  unfold squeezeRegion sqKeep
  by_cases h1 : r.isEmpty = true <;>
    by_cases h2 : (List.map (fun x => x.1.1)
      (List.filter (fun p => decide (p.2 > 1)) ((r.start.zip r.shape).zip sh))).isEmpty = true <;>
    simp [h1, h2]

theorem sqKeep_snd (st n a : List Nat) (h1 : st.length = n.length) (h2 : st.length = a.length) :
    (sqKeep st n a).map (·.2) = a.filter (· > 1) := by
  have := List.filter_map (f := Prod.snd) (p := fun d => decide (d > 1)) (l := (st.zip n).zip a)
  rw [List.map_snd_zip (by rw [List.length_zip, ← h1, Nat.min_self, h2]; exact Nat.le_refl _)] at this
  exact this.symm

theorem prod_filter_gt_one (a : List Nat) (ha : ∀ d ∈ a, 0 < d) : prod (a.filter (· > 1)) = prod a := by
  induction a with
  | nil => rfl
  | cons d as ih =>
    have hd := ha d (by simp)
    have ih' := ih (fun d' hd' => ha d' (by simp [hd']))
    by_cases h : d > 1
    · simp [h, prod, ih']
    · have : d = 1 := Nat.le_antisymm (Nat.le_of_not_gt h) hd
      subst this
      simp [prod, ih']

theorem squeeze_core (st n a : List Nat) (h1 : st.length = n.length) (h2 : st.length = a.length)
    (hle : Subset.allLe (addIdx st n) a = true) (hn : n.any (· == 0) = false) (ha : ∀ d ∈ a, 0 < d) :
    Subset.allLe (addIdx ((sqKeep st n a).map (·.1.1)) ((sqKeep st n a).map (·.1.2))) ((sqKeep st n a).map (·.2)) = true ∧
    linIdx ((sqKeep st n a).map (·.1.1)) ((sqKeep st n a).map (·.1.2)) ((sqKeep st n a).map (·.2)) = linIdx st n a := by
  induction st generalizing n a with
  | nil =>
    cases n with
    | cons _ _ => simp at h1
    | nil =>
      cases a with
      | cons _ _ => simp at h2
      | nil => simp [sqKeep, addIdx, Subset.allLe]
  | cons o os ih =>
    cases n with
    | nil => simp at h1
    | cons m ns =>
      cases a with
      | nil => simp at h2
      | cons d as =>
        simp only [List.length_cons, Nat.add_right_cancel_iff] at h1 h2
        simp only [addIdx, Subset.allLe, Bool.and_eq_true, decide_eq_true_eq] at hle
        simp only [List.any_cons, Bool.or_eq_false_iff, beq_eq_false_iff_ne, ne_eq] at hn
        have hd := ha d (by simp)
        obtain ⟨ih1, ih2⟩ := ih ns as h1 h2 hle.2 hn.2 (fun d' hd' => ha d' (by simp [hd']))
        have hsnd := sqKeep_snd os ns as h1 h2
        by_cases hgt : d > 1
        · have hk : sqKeep (o :: os) (m :: ns) (d :: as) = ((o, m), d) :: sqKeep os ns as := by
            simp [sqKeep, hgt]
          rw [hk]
          simp only [List.map_cons, addIdx, Subset.allLe, Bool.and_eq_true, decide_eq_true_eq]
          refine ⟨⟨hle.1, ih1⟩, ?_⟩
          rw [linIdx_cons, linIdx_cons, ih2, hsnd, prod_filter_gt_one as (fun d' hd' => ha d' (by simp [hd']))]
        · have hd1 : d = 1 := Nat.le_antisymm (Nat.le_of_not_gt hgt) hd
          subst hd1
          have hm : m = 1 := by omega
          have ho : o = 0 := by omega
          subst hm ho
          have hk : sqKeep (0 :: os) (1 :: ns) (1 :: as) = sqKeep os ns as := by
            simp [sqKeep]
          rw [hk]
          refine ⟨ih1, ?_⟩
          rw [ih2, linIdx_cons]
          simp

theorem sqKeep_isEmpty (st n a : List Nat) (h1 : st.length = n.length) (h2 : st.length = a.length) :
    ((sqKeep st n a).map (·.1.1)).isEmpty = (a.filter (· > 1)).isEmpty := by
  rw [← sqKeep_snd st n a h1 h2]
  cases sqKeep st n a <;> rfl

theorem encShape_squeeze (sh : Shape) :
    AStage.squeeze.encShape sh = if (sh.filter (· > 1)).isEmpty then [1] else sh.filter (· > 1) := rfl

theorem prod_encShape_squeeze (sh : Shape) (hpos : ∀ d ∈ sh, 0 < d) : prod (AStage.squeeze.encShape sh) = prod sh := by
  rw [encShape_squeeze]
  by_cases h : (sh.filter (· > 1)).isEmpty = true
  · rw [if_pos h, ← prod_filter_gt_one sh hpos, List.isEmpty_iff.mp h]
    rfl
  · rw [if_neg h, prod_filter_gt_one sh hpos]

theorem newEmpty_inShape (d : Nat) (sh : Shape) (h : d = sh.length) :
    (Subset.newEmpty d).wf = true ∧ (Subset.newEmpty d).inboundsShape sh = true := by
  subst h
  rw [Subset.wf_iff, Subset.inboundsShape_iff_allLe]
  simp [Subset.newEmpty, addIdx_zeros _ _ (Nat.le_of_eq (List.length_replicate ..)), allLe_zeros]

theorem squeezeRegion_ok (sh : Shape) (r : Subset) (hpos : ∀ d ∈ sh, 0 < d)
    (hr : r.wf = true) (hb : r.inboundsShape sh = true) :
    (squeezeRegion sh r).wf = true ∧ (squeezeRegion sh r).inboundsShape (AStage.squeeze.encShape sh) = true ∧
    ∀ xs : List Elem, xs.length = prod sh →
      (squeezeRegion sh r).extract (AStage.squeeze.encShape sh) xs = r.extract sh xs := by
  have hp := prod_encShape_squeeze sh hpos
  obtain ⟨hrw, hb1, hb2⟩ := region_facts r sh hr hb
  have hsnd := sqKeep_snd r.start r.shape sh hrw hb1
  have hemp := sqKeep_isEmpty r.start r.shape sh hrw hb1
  rw [squeezeRegion_eq, encShape_squeeze, hemp]
  by_cases he : r.isEmpty = true
  · -- an empty region stays empty
    rw [if_pos he]
    have hd : (if (sh.filter (· > 1)).isEmpty = true then [0] else (sqKeep r.start r.shape sh).map (·.1.1)).length =
        (if (sh.filter (· > 1)).isEmpty = true then [1] else sh.filter (· > 1)).length := by
      split
      · rfl
      · rw [← hsnd]; simp
    have hdpos : 0 < (if (sh.filter (· > 1)).isEmpty = true then [1] else sh.filter (· > 1)).length := by
      split
      · exact Nat.one_pos
      · rename_i hne
        exact List.length_pos_iff.mpr fun h => hne (h ▸ rfl)
    rw [hd]
    obtain ⟨hw, hi⟩ := newEmpty_inShape _ (if (sh.filter (· > 1)).isEmpty = true then [1] else sh.filter (· > 1)) rfl
    refine ⟨hw, hi, fun xs hx => ?_⟩
    have hx' := hx.trans hp.symm
    rw [extract_empty _ _ xs hw hi (by rw [hx']; rfl) (by
        simp only [Subset.numElements, Subset.newEmpty]
        exact prod_replicate_zero _ hdpos),
      extract_empty r sh xs hr hb hx (by
        simp only [Subset.numElements]
        exact (prod_eq_zero_iff r.shape).2 he)]
  · rw [if_neg he]
    have hne : r.shape.any (· == 0) = false := Bool.eq_false_iff.2 he
    obtain ⟨c1, c2⟩ := squeeze_core r.start r.shape sh hrw hb1 hb2 hne hpos
    by_cases hf : (sh.filter (· > 1)).isEmpty = true
    · rw [if_pos hf, if_pos hf]
      have hw : (Subset.mk [0] [1]).wf = true := rfl
      have hi : (Subset.mk [0] [1]).inboundsShape [1] = true := rfl
      refine ⟨hw, hi, fun xs hx => ?_⟩
      have hx' := hx.trans hp.symm
      refine (List.map_inj_right fun _ _ => Option.some.inj).mp ?_
      rw [extract_lin _ _ xs hw hi (by rw [hx']; rw [encShape_squeeze, if_pos hf]),
        extract_lin r sh xs hr hb hx, ← c2]
      have hk : sqKeep r.start r.shape sh = [] := by
        have := hsnd
        rw [List.isEmpty_iff.mp hf] at this
        simpa using this
      rw [hk]
      rfl
    · rw [if_neg hf, if_neg hf]
      have hw : (Subset.mk ((sqKeep r.start r.shape sh).map (·.1.1)) ((sqKeep r.start r.shape sh).map (·.1.2))).wf = true :=
        Subset.wf_iff.mpr (by simp)
      have hi : (Subset.mk ((sqKeep r.start r.shape sh).map (·.1.1)) ((sqKeep r.start r.shape sh).map (·.1.2))).inboundsShape
          (sh.filter (· > 1)) = true := by
        rw [Subset.inboundsShape_iff_allLe, ← hsnd]
        exact ⟨by simp, c1⟩
      refine ⟨hw, hi, fun xs hx => ?_⟩
      have hx' := hx.trans hp.symm
      refine (List.map_inj_right fun _ _ => Option.some.inj).mp ?_
      rw [extract_lin _ _ xs hw hi (by rw [hx']; rw [encShape_squeeze, if_neg hf]),
        extract_lin r sh xs hr hb hx, ← c2, hsnd]

theorem squeezePD_ok' (sh : Shape) (h : AHandle) (xs : List Elem) (hpos : ∀ d ∈ sh, 0 < d) (hx : xs.length = prod sh)
    (hh : AHandleOk h (AStage.squeeze.encShape sh) xs) :
    AHandleOk (squeezePD sh h) sh xs := by
  intro rs hrs
  have hr : ∀ r ∈ rs, _ := fun r hr => squeezeRegion_ok sh r hpos (hrs r hr).1 (hrs r hr).2
  have h1 : ∀ r ∈ rs.map (squeezeRegion sh), r.wf = true ∧ r.inboundsShape (AStage.squeeze.encShape sh) = true :=
    List.forall_mem_map.mpr fun r hr' => ⟨(hr r hr').1, (hr r hr').2.1⟩
  unfold squeezePD
  -- `Function.comp_def`: comparing `(f ∘ squeezeRegion sh) r` with `f (squeezeRegion sh r)` by unfolding is slow
  rw [hh _ h1, List.map_map, Function.comp_def]
  exact congrArg some (List.map_congr_left fun r hr' => (hr r hr').2.2 xs hx)

end Zarrs.Partial
