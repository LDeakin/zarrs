import ZarrsModel.Lemmas.ShardPD
import ZarrsModel.Lemmas.ChainSDec
import ZarrsModel.Lemmas.CodecShard
import ZarrsModel.Lemmas.Partial
/- C02 for sharding, the decoder: the index read through the handle; the sync and the async partial decoder are ONE decoder
around a region function (`shardFrame`), so what does not depend on how a region is read (served shard, absent shard, a
failing region) is said once; `Served` from any value `Shard.decode` accepts.  Then chains with (nested) sharding codecs
(`okWith`, `fits`) and their partial decoders as one recursion (`ChainS.pdOf`) -/
namespace Zarrs.Partial
open Zarrs Zarrs.Codec Zarrs.Subset

section index
variable {shard inner : Shape} {h : BHandle} {entries : List (Nat × Nat)}

theorem decodeIndex_validate (c : Shard.Cfg) (validate : Bool) (ib : Bytes) (entries : List (Nat × Nat))
    (h : Shard.decodeIndex c true ib = .ok entries) : Shard.decodeIndex c validate ib = .ok entries := by
  cases validate with
  | true => exact h
  | false =>
    simp only [Shard.decodeIndex, crc32cDec, checksumDec, Bool.false_and, Bool.true_and] at h ⊢
    by_cases hlen : (ib.length != Shard.indexSize c) = true
    · simp [hlen] at h
    · simp only [hlen] at h ⊢
      by_cases hcrc : c.indexCrc = true
      · simp only [hcrc, if_true] at h ⊢
        by_cases hshort : ib.length < 4
        · simp [hshort] at h
        · simp only [hshort, if_false] at h ⊢
          by_cases hB : (le32 (crc32c (List.take (ib.length - 4) ib)) != List.drop (ib.length - 4) ib) = true
          · simp [hB] at h
          · simp only [hB] at h
            simpa using h
      · simp only [hcrc] at h ⊢
        exact h

theorem indexRange_read (cfg : Shard.Cfg) (h : BHandle) (v ib : Bytes) (hh : BHandleOk h v)
    (hib : Shard.indexBytes cfg v = some ib) : h [indexRange cfg] = some (some [ib]) := by
  unfold Shard.indexBytes at hib
  split at hib
  · cases hib
  · rename_i hlen
    have hlen : Shard.indexSize cfg ≤ v.length := by omega
    have hv : ∀ r ∈ [indexRange cfg], r.valid v.length = true := by
      intro r hr
      simp only [List.mem_singleton] at hr
      subst hr
      unfold indexRange
      split <;> simp [ByteRange.valid, hlen]
    rw [hh _ hv]
    congr 2
    simp only [List.map_cons, List.map_nil, List.cons.injEq, and_true]
    unfold indexRange
    split at hib
    · rename_i hend
      rw [if_pos hend]
      simp only [Option.some.injEq] at hib
      rw [← hib]
      simp only [ByteRange.extract, ByteRange.start, ByteRange.stop]
      exact slice_to_end v _
    · rename_i hend
      rw [if_neg hend]
      simp only [Option.some.injEq] at hib
      rw [← hib]
      simp [ByteRange.extract, ByteRange.start, ByteRange.stop, slice]

theorem cfg_eta (cfg : Shard.Cfg) (n : Nat) (hn : cfg.nChunks = n) : { cfg with nChunks := n } = cfg := by
  cases cfg; simp only at hn; subst hn; rfl

theorem shardIndexPD_legal (cfg : Shard.Cfg) (validate : Bool) (ht : tiles inner shard = true)
    (hn : cfg.nChunks = prod (zipDiv shard inner)) (v ib : Bytes) (hh : BHandleOk h v)
    (hib : Shard.indexBytes cfg v = some ib) (hdec : Shard.decodeIndex cfg true ib = .ok entries) :
    shardIndexPD cfg validate shard inner h = some (some entries) := by
  simp only [shardIndexPD, chunksPerShard_of_tiles ht, cfg_eta cfg _ hn, indexRange_read cfg h v ib hh hib,
    decodeIndex_validate cfg validate ib entries hdec]

theorem shardIndexPD_absent (cfg : Shard.Cfg) (validate : Bool) (ht : tiles inner shard = true)
    (hh : BHandleAbsent h) : shardIndexPD cfg validate shard inner h = some none := by
  simp only [shardIndexPD, chunksPerShard_of_tiles ht, hh _]

theorem shardIndexPD_cfg (cfg : Shard.Cfg) (n : Nat) (validate : Bool) (shard inner : Shape) (h : BHandle) :
    shardIndexPD { cfg with nChunks := n } validate shard inner h = shardIndexPD cfg validate shard inner h := by
  cases cfg; rfl

end index

/-- a region function of a sharding partial decoder (`shardRegion`, `asyncShardRegion`) -/
abbrev RegionFn := Option Nat → Nat → Elem → Shape → Shape → List (Nat × Nat) → (Shape → Elem → BHandle → AHandle) →
  BHandle → Subset → Option (List Elem)

/-- `ShardingPartialDecoder` and `AsyncShardingPartialDecoder` are one decoder around their region functions: index,
rank test, absent shard and the list of regions are the same text -/
def shardFrame (region : RegionFn) (cfg : Shard.Cfg) (validate : Bool) (shardShape innerShape : Shape) (es : Nat)
    (fill : Elem) (fixed : Option Nat) (innerPD : Shape → Elem → BHandle → AHandle) (h : BHandle) : AHandle :=
  match shardIndexPD cfg validate shardShape innerShape h with
  | none => fun _ => none
  | some index => fun rs =>
    if rs.any (fun r => !r.wf || r.rank != shardShape.length) then none else
    match index with
    | none => some (rs.map (fun r => List.replicate r.numElements fill))
    | some entries =>
      match chunksPerShard shardShape innerShape with
      | none => none
      | some cps => rs.mapM (region fixed es fill innerShape cps entries innerPD h)

theorem shardPD_eq_frame : @shardPD = shardFrame @shardRegion := rfl

def RegionOk (region : RegionFn) : Prop :=
  ∀ {fixed shard inner es fill innerPD h entries xss}, Served fixed shard inner es fill innerPD h entries xss →
    ∀ r : Subset, r.wf = true → r.inboundsShape shard = true →
      region fixed es fill inner (zipDiv shard inner) entries innerPD h r =
        some (r.extract shard (assemble shard inner xss))

theorem shardRegion_regionOk : RegionOk @shardRegion := fun S r hr hb => shardRegion_ok S r hr hb

section frame
variable {region : RegionFn} {fixed : Option Nat} {shard inner : Shape} {es : Nat} {fill : Elem}
  {innerPD : Shape → Elem → BHandle → AHandle} {h : BHandle} {entries : List (Nat × Nat)} {xss : List (List Elem)}

theorem shardFrame_cfg (cfg : Shard.Cfg) (n : Nat) (validate : Bool) :
    shardFrame region { cfg with nChunks := n } validate shard inner es fill fixed innerPD h =
      shardFrame region cfg validate shard inner es fill fixed innerPD h := by
  unfold shardFrame
  rw [shardIndexPD_cfg]

theorem shardFrame_served (hR : RegionOk region) (S : Served fixed shard inner es fill innerPD h entries xss)
    (cfg : Shard.Cfg) (validate : Bool) (hidx : shardIndexPD cfg validate shard inner h = some (some entries)) :
    AHandleOk (shardFrame region cfg validate shard inner es fill fixed innerPD h) shard (assemble shard inner xss) := by
  intro rs hrs
  unfold shardFrame
  rw [hidx]
  have hrank : rs.any (fun r => !r.wf || r.rank != shard.length) = false := by
    rw [List.any_eq_false]
    intro r hr
    obtain ⟨h1, h2⟩ := hrs r hr
    simp only [Subset.inboundsShape, Bool.and_eq_true, beq_iff_eq] at h2
    simp [h1, h2.1]
  simp only [hrank, Bool.false_eq_true, if_false, chunksPerShard_of_tiles S.tiles]
  exact mapM_some_of_forall _ _ rs fun r hr => hR S r (hrs r hr).1 (hrs r hr).2

theorem shardFrame_absent (cfg : Shard.Cfg) (validate : Bool) (ht : tiles inner shard = true) (hh : BHandleAbsent h)
    (rs : List Subset) (hrs : ∀ r ∈ rs, r.wf = true ∧ r.rank = shard.length) :
    shardFrame region cfg validate shard inner es fill fixed innerPD h rs =
      some (rs.map (fun r => List.replicate r.numElements fill)) := by
  unfold shardFrame
  rw [shardIndexPD_absent cfg validate ht hh]
  have : rs.any (fun r => !r.wf || r.rank != shard.length) = false :=
    List.any_eq_false.mpr fun r hr => by simp [(hrs r hr).1, (hrs r hr).2]
  simp only [this, Bool.false_eq_true, if_false]

theorem shardFrame_absent_ok (cfg : Shard.Cfg) (validate : Bool) (ht : tiles inner shard = true)
    (hh : BHandleAbsent h) :
    AHandleOk (shardFrame region cfg validate shard inner es fill fixed innerPD h) shard
      (List.replicate (prod shard) fill) := by
  intro rs hrs
  rw [shardFrame_absent cfg validate ht hh rs fun r hr =>
    ⟨(hrs r hr).1, (Subset.inboundsShape_iff_allLe.mp (hrs r hr).2).1⟩]
  exact congrArg some (List.map_congr_left fun r hr =>
    (extract_replicate r shard fill (hrs r hr).1 (hrs r hr).2).symm)

theorem shardFrame_none (cfg : Shard.Cfg) (validate : Bool) (ht : tiles inner shard = true)
    (hidx : shardIndexPD cfg validate shard inner h = some (some entries)) (rs : List Subset) (r : Subset)
    (hr : r ∈ rs) (hnone : region fixed es fill inner (zipDiv shard inner) entries innerPD h r = none) :
    shardFrame region cfg validate shard inner es fill fixed innerPD h rs = none := by
  unfold shardFrame
  rw [hidx]
  simp only [chunksPerShard_of_tiles ht]
  split
  · rfl
  · exact mapM_none_of_mem _ rs r hr hnone

end frame

/-- `Served` from a value `Shard.decode` accepts (a legal shard: `Shard.legal_decodes`; a partially encoded
one: `ShardPE.St`): reading needs no disjointness of the entries -/
theorem served_of_decode {cfg : Shard.Cfg} {shard inner : Shape} {es : Nat} {fill : Elem}
    {fixed : Option Nat} {innerPD : Shape → Elem → BHandle → AHandle} {encodes : List Elem → Bytes → Prop}
    {h : BHandle} {v : Bytes} {chunks : List (Option Bytes)} {xss : List (List Elem)}
    (ht : tiles inner shard = true) (hn : cfg.nChunks = prod (zipDiv shard inner)) (hfill : fill.length = es)
    (hh : BHandleOk h v) (hdec : Shard.decode cfg true v = .ok chunks) (hxl : xss.length = cfg.nChunks)
    (hx : ∀ i (h1 : i < chunks.length) (h2 : i < xss.length),
      match chunks[i] with
      | some b => encodes xss[i] b ∧ (xss[i].length = prod inner ∧ ∀ x ∈ xss[i], x.length = es)
      | none => xss[i] = List.replicate (prod inner) fill)
    (hinner : ∀ g b xs, encodes xs b → BHandleOk g b → AHandleOk (innerPD inner fill g) inner xs)
    (hfixed : ∀ n, fixed = some n → ∀ xs b, encodes xs b → b.length = n) :
    ∃ entries, (∀ validate, shardIndexPD cfg validate shard inner h = some (some entries)) ∧
      Served fixed shard inner es fill innerPD h entries xss := by
  obtain ⟨ib, entries, hib, hdi, hdec⟩ := (Shard.decode_ok_iff cfg true v chunks).mp hdec
  have hel := Shard.decodeIndex_length cfg true ib entries hdi
  obtain ⟨hlc, hpt⟩ := (mapM_ok_iff _ _ _).mp hdec
  refine ⟨entries, fun validate => shardIndexPD_legal cfg validate ht hn v ib hh hib hdi,
    ht, by rw [hel, hn], by rw [hxl, hn], hfill, ?_⟩
  intro k e xs hke hkx
  obtain ⟨hk, hke'⟩ := List.getElem?_eq_some_iff.mp hke
  obtain ⟨hk2, hkx'⟩ := List.getElem?_eq_some_iff.mp hkx
  have hkc : k < chunks.length := by omega
  obtain ⟨ch, hch, hde⟩ := hpt k e hke
  have h2 := hx k hkc hk2
  rw [hkx'] at h2
  rw [List.getElem?_eq_getElem hkc] at hch
  cases hch
  rcases (Shard.decEntry_ok_iff v e _).mp hde with ⟨hl, hc⟩ | ⟨hl, hle, hc⟩
  · rw [hc] at h2
    exact .dead hl h2
  · rw [hc] at h2
    simp only at h2
    have hsz : e.2 = (slice v e.1 (e.1 + e.2)).length := by
      rw [slice_length v e.1 (e.1 + e.2) hle]; omega
    have hso : sizeOk fixed e.2 = true := by
      cases hfx : fixed with
      | none => rfl
      | some n => simp only [sizeOk, beq_iff_eq]; rw [hsz]; exact hfixed n hfx xs _ h2.1
    refine .live hl hso h2.2.1 h2.2.2 ?_
    apply hinner _ _ xs h2.1
    exact byteIntervalPD_ok h v e.1 e.2 hh hle

theorem stackA2A_eq (a2a : List AStage) (sh : Shape) (inner : AHandle) : stackA2A a2a sh inner = aPD a2a sh inner :=
  stack_eq_aPD a2a sh fun _ => inner

theorem encodeA2A_eq (a2a : List AStage) (sh : Shape) (xs : List Elem) :
    encodeA2A a2a sh xs = (aEnc a2a sh xs, shapesOf a2a sh) := by
  unfold encodeA2A
  exact enc_fold a2a sh xs

def keepOk : List BStage → List Bool → Prop
  | [], _ => True
  | st :: rest, ks =>
    (match st with
     | .decodeAll e _ => ks.headD false = true → ∀ b : Bytes, (e b).length = b.length
     | _ => True) ∧ keepOk rest ks.tail

theorem bFixed_none (stages : List BStage) : ∀ keep, bFixed stages keep none = none := by
  induction stages with
  | nil => intro _; rfl
  | cons st rest ih =>
    intro keep
    have : st.fixedSize (keep.headD false) none = none := by
      cases st <;> simp [BStage.fixedSize]
    simp only [bFixed, this, ih]

/-- `R` is any relation the 4 checksum bytes preserve: `=` for fixed sizes, `≤` for bounds -/
theorem bFixed_length (R : Nat → Nat → Prop) (hR : ∀ a s, R a s → R (a + 4) (s + 4)) (stages : List BStage) :
    ∀ (keep : List Bool) (b : Bytes) (s n : Nat),
    keepOk stages keep → bFixed stages keep (some s) = some n → R b.length s →
    R (encB stages b).length n := by
  induction stages with
  | nil =>
    intro keep b s n _ hf hb
    simp only [bFixed, Option.some.injEq] at hf
    subst hf
    exact hb
  | cons st rest ih =>
    intro keep b s n hk hf hb
    simp only [bFixed] at hf
    rw [encB_cons]
    cases st with
    | stripSuffix m sum =>
      simp only [BStage.fixedSize, Option.map_some] at hf
      exact ih keep.tail _ (s + 4) n hk.2 hf (by simp only [BStage.enc, checksumEnc_length]; exact hR _ _ hb)
    | cache =>
      simp only [BStage.fixedSize] at hf
      exact ih keep.tail _ s n hk.2 hf hb
    | decodeAll e d =>
      simp only [BStage.fixedSize] at hf
      by_cases hkeep : keep.headD false = true
      · rw [if_pos hkeep] at hf
        exact ih keep.tail _ s n hk.2 hf (by simp only [BStage.enc]; rw [hk.1 hkeep b]; exact hb)
      · rw [if_neg hkeep, bFixed_none] at hf
        cases hf

theorem chain_encode_length (c : Chain) (keep : List Bool) (sh : Shape) (xs : List Elem) (n : Nat)
    (hdiv : c.es % c.unit = 0) (hxl : xs.length = prod sh) (hxe : ∀ x ∈ xs, x.length = c.es)
    (ha : aOk c.a2a sh) (hk : keepOk c.b2b keep) (hf : c.fixedSize keep sh = some n) :
    (c.encode sh xs).length = n := by
  rw [encode_eq]
  obtain ⟨hl, he⟩ := aEnc_chunk c.es c.a2a sh xs ha hxl hxe
  have hfl : (aEnc c.a2a sh xs).flatten.length = prod (shapesOf c.a2a sh) * c.es := by
    rw [flatten_length_of_all c.es _ he, hl]
  apply bFixed_length (· = ·) (fun _ _ h => by rw [h]) c.b2b keep _ _ n hk hf
  rw [bytesEnc_length c.big c.unit _ (by rw [hfl]; exact mul_mod_of_mod _ _ _ hdiv), hfl]

def ChainS.es : ChainS → Nat
  | .leaf c _ => c.es
  | .shard _ _ _ es _ _ => es

def ChainS.okWith (A : List AStage → Shape → Prop) (B : BStage → Prop) : ChainS → Shape → Elem → Prop
  | .leaf c keep, sh, _ =>
    0 < c.es ∧ 0 < c.unit ∧ c.es % c.unit = 0 ∧ A c.a2a sh ∧ (∀ st ∈ c.b2b, B st) ∧ keepOk c.b2b keep
  | .shard a2a _ ish es inner b2b, sh, fill =>
    A a2a sh ∧ tiles ish (shapesOf a2a sh) = true ∧ (∀ st ∈ b2b, B st) ∧ fill.length = es ∧ inner.es = es ∧
    ChainS.okWith A B inner ish fill

section okWith
variable {A A' : List AStage → Shape → Prop} {B B' : BStage → Prop} {sh : Shape} {fill : Elem}

section leaf
variable {c : Chain} {keep : List Bool} (h : (ChainS.leaf c keep).okWith A B sh fill)
include h
theorem ChainS.okWith.unit_pos : 0 < c.unit := h.2.1
theorem ChainS.okWith.es_mod_unit : c.es % c.unit = 0 := h.2.2.1
theorem ChainS.okWith.leaf_a2a : A c.a2a sh := h.2.2.2.1
theorem ChainS.okWith.leaf_b2b : ∀ st ∈ c.b2b, B st := h.2.2.2.2.1
theorem ChainS.okWith.keepOk : keepOk c.b2b keep := h.2.2.2.2.2
end leaf

section shard
variable {l : List AStage} {cfg : Shard.Cfg} {ish : Shape} {es : Nat} {ci : ChainS} {bs : List BStage}
  (h : (ChainS.shard l cfg ish es ci bs).okWith A B sh fill)
include h
theorem ChainS.okWith.a2a : A l sh := h.1
theorem ChainS.okWith.tiles : tiles ish (shapesOf l sh) = true := h.2.1
theorem ChainS.okWith.b2b : ∀ st ∈ bs, B st := h.2.2.1
theorem ChainS.okWith.fill_length : fill.length = es := h.2.2.2.1
theorem ChainS.okWith.inner_es : ci.es = es := h.2.2.2.2.1
theorem ChainS.okWith.inner : ci.okWith A B ish fill := h.2.2.2.2.2
end shard

theorem ChainS.okWith.es_pos : ∀ {c : ChainS} {sh : Shape} {fill : Elem}, c.okWith A B sh fill → 0 < c.es := by
  intro c
  induction c with
  | leaf c keep => intro sh fill h; exact h.1
  | shard a2a cfg ish es inner b2b ih =>
    intro sh fill h
    have := ih h.inner
    rw [h.inner_es] at this
    exact this

theorem ChainS.okWith_mono (hA : ∀ l sh, A l sh → A' l sh) (hB : ∀ st, B st → B' st) :
    ∀ (c : ChainS) (sh : Shape) (fill : Elem), c.okWith A B sh fill → c.okWith A' B' sh fill := by
  intro c
  induction c with
  | leaf c keep =>
    intro sh fill h
    exact ⟨h.es_pos, h.unit_pos, h.es_mod_unit, hA _ _ h.leaf_a2a, fun st hst => hB st (h.leaf_b2b st hst), h.keepOk⟩
  | shard a2a cfg ish es inner b2b ih =>
    intro sh fill h
    exact ⟨hA _ _ h.a2a, h.tiles, fun st hst => hB st (h.b2b st hst), h.fill_length, h.inner_es, ih ish fill h.inner⟩

end okWith

/-- every encoded shard (at every nesting level) is shorter than 2^64 - 1 bytes, so that offsets and sizes fit the
index and differ from the sentinel -/
def ChainS.fits : ChainS → Shape → Elem → List Elem → Prop
  | .leaf _ _, _, _, _ => True
  | .shard a2a cfg ish _ inner _, sh, fill, xs =>
    (∀ p ∈ splitShard (encodeA2A a2a sh xs).2 ish (encodeA2A a2a sh xs).1, ChainS.fits inner ish fill p) ∧
    (Shard.encode { cfg with nChunks := prod (zipDiv (encodeA2A a2a sh xs).2 ish) }
      (shardChunks (inner.encode ish fill) fill (encodeA2A a2a sh xs).2 ish (encodeA2A a2a sh xs).1)).length
        < Shard.sentinel

theorem chainS_encode_length {B : BStage → Prop} (c : ChainS) (sh : Shape) (fill : Elem) (xs : List Elem) (n : Nat)
    (hok : c.okWith aOk B sh fill) (hxl : xs.length = prod sh) (hxe : ∀ x ∈ xs, x.length = c.es)
    (hf : c.fixedSize sh = some n) : (c.encode sh fill xs).length = n := by
  cases c with
  | leaf c keep =>
    exact chain_encode_length c keep sh xs n hok.es_mod_unit hxl hxe hok.leaf_a2a hok.keepOk hf
  | shard a2a cfg ish es inner b2b => cases hf

/-- `CodecChain::partial_decoder` / `async_partial_decoder`: the same recursion, the sharding levels decoded around
`region` -/
def ChainS.pdOf (region : RegionFn) : ChainS → Shape → Elem → BHandle → AHandle
  | .leaf c _, sh, fill, input => c.partialDecoder sh fill input
  | .shard a2a cfg innerShape es inner b2b, sh, fill, input =>
    stackA2A a2a sh (shardFrame region cfg true (shapesOf a2a sh) innerShape es fill (inner.fixedSize innerShape)
      (fun ish f g => inner.pdOf region ish f g) (b2b.foldr (fun st h => st.pd h) input))

theorem partialDecoder_eq_pdOf : ∀ c : ChainS, c.partialDecoder = c.pdOf @shardRegion
  | .leaf _ _ => rfl
  | .shard a2a cfg ish es inner b2b => by
    funext sh fill input
    simp only [ChainS.partialDecoder, ChainS.pdOf, partialDecoder_eq_pdOf inner]
    rfl

theorem chainS_pdOf_absent {region : RegionFn} {B : BStage → Prop} : ∀ (c : ChainS) (sh : Shape) (fill : Elem),
    c.okWith aOk B sh fill → ∀ g : BHandle, BHandleAbsent g →
      AHandleOk (c.pdOf region sh fill g) sh (List.replicate (prod sh) fill) := by
  intro c
  cases c with
  | leaf c keep =>
    intro sh fill hok g hg
    exact chain_absent_handle c sh fill hok.leaf_a2a g hg
  | shard a2a cfg ish es inner b2b =>
    intro sh fill hok g hg
    simp only [ChainS.pdOf, stackA2A_eq]
    apply aChain_ok a2a sh _ _ hok.a2a (by simp)
    rw [aEnc_fill fill a2a sh hok.a2a]
    exact shardFrame_absent_ok cfg true hok.tiles (bChain_absent b2b g hg)

theorem chainS_absent {B : BStage → Prop} (c : ChainS) (sh : Shape) (fill : Elem) (hok : c.okWith aOk B sh fill) (g : BHandle)
    (hg : BHandleAbsent g) : AHandleOk (c.partialDecoder sh fill g) sh (List.replicate (prod sh) fill) :=
  partialDecoder_eq_pdOf c ▸ chainS_pdOf_absent c sh fill hok g hg

end Zarrs.Partial
