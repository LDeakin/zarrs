import ZarrsModel.Model.MetaOpts
import ZarrsModel.Lemmas.JsonStr
import ZarrsModel.Lemmas.ListBasic
/- `ExtensionAliases` (identifier / default name / conversion) and the transcribed tables.

   What the theorems need of a set of tables is one notion, `Aliases.Ok`; the laws are arguments over any `a` with
   `a.Ok`.  That the transcribed tables are `Ok` is a finite fact: the Boolean `Aliases.check` is evaluated once for the
   two codec tables together (`codecTables_ok`: they share the eight URL aliases) and once for the two data type
   tables (`dtypeTables_ok`).  Evaluating `ascii` on a literal is slow in the kernel (the URLs dominate) and is shared
   only inside one declaration: a lookup in an example comes from membership (`*_of_mem`) or from `codecIdent_plain` /
   `codecV3_identifier_plain`. -/
namespace Zarrs.MetaOpts
open Zarrs.Json Zarrs.Meta Zarrs.MetaV2

theorem tblGet_some_mem (t : List (Str × Str)) (k x : Str) (h : tblGet t k = some x) : (k, x) ∈ t := assoc_some_mem t k x h

theorem tblGet_of_mem (t : List (Str × Str)) (hn : (t.map (·.1)).Nodup) (k x : Str) (h : (k, x) ∈ t) :
    tblGet t k = some x := assoc_of_mem t hn k x h

/-- distinct keys: the association list is a function (what the `HashMap` it transcribes is) -/
theorem tbl_functional (t : List (Str × Str)) (hn : (t.map (·.1)).Nodup) (k x y : Str) (hx : (k, x) ∈ t) (hy : (k, y) ∈ t) :
    x = y := by
  have a := tblGet_of_mem t hn k x hx
  have b := tblGet_of_mem t hn k y hy
  rw [a] at b
  exact Option.some.inj b

theorem tblGet_none (t : List (Str × Str)) (k : Str) (h : k ∉ t.map (·.1)) : tblGet t k = none :=
  (assoc_eq_none_iff t k).2 h

theorem strOk_getD_tbl (t : List (Str × Str)) (ht : ∀ p ∈ t, ∀ b ∈ p.2, b < 128) (k : Str) (h : strOk k) :
    strOk ((tblGet t k).getD k) := by
  cases hg : tblGet t k with
  | none => exact h
  | some x =>
    exact strOk_ascii _ (ht _ (tblGet_some_mem _ _ _ hg))

/-- the conditions on a set of tables under which converting a name keeps its identifier: every identifier an alias
    (string or regex) leads to, written with its default name, is read back as that identifier; every default name
    is read back as its identifier -/
def Aliases.coherent (a : Aliases) : Bool :=
  a.aliasesStr.all (fun p => a.identifier (a.defaultName p.2) == p.2) &&
  a.aliasesRegex.all (fun r => let i := (tblGet a.aliasesStr r.2).getD r.2; a.identifier (a.defaultName i) == i) &&
  a.defaultNames.all (fun p => a.identifier p.2 == p.1)

/-- alias tables as the `HashMap`s of the code hold them (no key twice) and as the name conversion needs them
    (coherent; ASCII on the right-hand sides, so that a converted name can be written) -/
structure Aliases.Ok (a : Aliases) : Prop where
  coherent : a.coherent = true
  aliasKeys : (a.aliasesStr.map (·.1)).Nodup
  nameKeys : (a.defaultNames.map (·.1)).Nodup
  aliasAscii : ∀ p ∈ a.aliasesStr, ∀ b ∈ p.2, b < 128
  nameAscii : ∀ p ∈ a.defaultNames, ∀ b ∈ p.2, b < 128

def Aliases.check (a : Aliases) : Bool :=
  a.coherent && decide (a.aliasesStr.map (·.1)).Nodup && decide (a.defaultNames.map (·.1)).Nodup &&
  a.aliasesStr.all (fun p => p.2.all (· < 128)) && a.defaultNames.all (fun p => p.2.all (· < 128))

theorem Aliases.ok_of_check (a : Aliases) (h : a.check = true) : a.Ok := by
  simp only [Aliases.check, Bool.and_eq_true, decide_eq_true_eq, List.all_eq_true] at h
  obtain ⟨⟨⟨⟨h1, h2⟩, h3⟩, h4⟩, h5⟩ := h
  exact ⟨h1, h2, h3, h4, h5⟩

theorem Aliases.identifier_alias (a : Aliases) (ha : a.Ok) (n i : Str)
    (h : (n, i) ∈ a.aliasesStr) : a.identifier n = i := by
  unfold Aliases.identifier
  rw [tblGet_of_mem _ ha.aliasKeys n i h]

theorem Aliases.defaultName_of_mem (a : Aliases) (ha : a.Ok) (i dn : Str)
    (h : (i, dn) ∈ a.defaultNames) : a.defaultName i = dn := by
  unfold Aliases.defaultName
  rw [tblGet_of_mem _ ha.nameKeys i dn h]
  rfl

theorem Aliases.identifier_convert (a : Aliases) (ha : a.Ok) (n : Str) :
    a.identifier (a.convert n) = a.identifier n := by
  have h := ha.coherent
  unfold Aliases.coherent at h
  simp only [Bool.and_eq_true, List.all_eq_true, beq_iff_eq] at h
  obtain ⟨⟨h1, h2⟩, h3⟩ := h
  unfold Aliases.convert
  cases hs : tblGet a.aliasesStr n with
  | some i =>
    have hi : a.identifier n = i := by unfold Aliases.identifier; rw [hs]
    rw [hi]
    exact h1 (n, i) (tblGet_some_mem _ _ _ hs)
  | none =>
    cases hr : a.aliasesRegex.find? (fun r => r.1 n) with
    | some r =>
      have hi : a.identifier n = (tblGet a.aliasesStr r.2).getD r.2 := by unfold Aliases.identifier; rw [hs, hr]
      rw [hi]
      exact h2 r (List.mem_of_find?_eq_some hr)
    | none =>
      have hi : a.identifier n = n := by unfold Aliases.identifier; rw [hs, hr]
      rw [hi]
      unfold Aliases.defaultName
      cases hd : tblGet a.defaultNames n with
      | some dn => exact h3 (n, dn) (tblGet_some_mem _ _ _ hd)
      | none => exact hi

theorem Aliases.convert_idem (a : Aliases) (h : a.Ok) (n : Str) : a.convert (a.convert n) = a.convert n := by
  show a.defaultName (a.identifier (a.convert n)) = a.defaultName (a.identifier n)
  rw [a.identifier_convert h n]

theorem Aliases.convert_default (a : Aliases) (ha : a.Ok) (i dn : Str) (hm : (i, dn) ∈ a.defaultNames) :
    a.convert dn = dn := by
  have h := ha.coherent
  unfold Aliases.coherent at h
  simp only [Bool.and_eq_true, List.all_eq_true, beq_iff_eq] at h
  have hi : a.identifier dn = i := h.2 (i, dn) hm
  unfold Aliases.convert
  rw [hi, a.defaultName_of_mem ha i dn hm]

theorem Aliases.convert_is_default (a : Aliases) (n : Str) :
    (∃ dn, (a.identifier n, dn) ∈ a.defaultNames ∧ a.convert n = dn) ∨
    ((∀ dn, (a.identifier n, dn) ∉ a.defaultNames) ∧ a.convert n = a.identifier n) := by
  unfold Aliases.convert Aliases.defaultName
  cases hd : tblGet a.defaultNames (a.identifier n) with
  | some dn => exact Or.inl ⟨dn, tblGet_some_mem _ _ _ hd, rfl⟩
  | none =>
    refine Or.inr ⟨?_, rfl⟩
    intro dn hm
    unfold tblGet at hd
    simp only [Option.map_eq_none_iff, List.find?_eq_none] at hd
    have := hd _ hm
    simp at this

/-- Both codec tables in one evaluation.  Last two parts: every alias is namespaced (`zarrs.x`, `numcodecs.x`, a URL)
    and so holds a dot, except `endian` in the V3 table. -/
theorem codecTables_ok : codecV3.check = true ∧ codecV2.check = true ∧
    (∀ k ∈ codecAliasStrV3.map (·.1), k = ascii "endian" ∨ 46 ∈ k) ∧ (∀ k ∈ codecAliasesV2.map (·.1), 46 ∈ k) := by
  decide +kernel

theorem dtypeTables_ok : dtypeV3.check = true ∧ dtypeV2.check = true := by decide +kernel

theorem codecV3_ok : codecV3.Ok := codecV3.ok_of_check codecTables_ok.1
theorem codecV2_ok : codecV2.Ok := codecV2.ok_of_check codecTables_ok.2.1
theorem dtypeV3_ok : dtypeV3.Ok := dtypeV3.ok_of_check dtypeTables_ok.1
theorem dtypeV2_ok : dtypeV2.Ok := dtypeV2.ok_of_check dtypeTables_ok.2

/-- "each of the four tables" of the statements in `Props/C13Opts` -/
theorem Aliases.ok_of_default (a : Aliases) (ha : a = codecV3 ∨ a = codecV2 ∨ a = dtypeV3 ∨ a = dtypeV2) : a.Ok := by
  rcases ha with rfl | rfl | rfl | rfl
  · exact codecV3_ok
  · exact codecV2_ok
  · exact dtypeV3_ok
  · exact dtypeV2_ok

/-- closes `(ascii a, ascii b) ∈ t` for a codec table `t` syntactically: nothing is evaluated -/
macro "tbl_mem" : tactic =>
  `(tactic| simp only [codecV3, codecV2, codecAliasStrV3, codecAliasesV2, codecNamesV3, codecNamesV2, tbl, List.map_cons, List.mem_cons,
    true_or, or_true])

theorem codecV3_identifier_of_mem (n i : Str) (h : (n, i) ∈ codecAliasStrV3) : codecV3.identifier n = i :=
  codecV3.identifier_alias codecV3_ok n i h

theorem codecIdent_of_mem (n i : Str) (h : (n, i) ∈ codecAliasesV2) : codecIdent n = i := by
  unfold codecIdent
  rw [tblGet_of_mem codecAliasesV2 codecV2_ok.aliasKeys n i h]
  rfl

theorem codecName_of_mem (i dn : Str) (h : (i, dn) ∈ codecNamesV3) : codecName i = dn :=
  codecV3.defaultName_of_mem codecV3_ok i dn h

theorem codecIdent_plain (n : Str) (h : 46 ∉ n) : codecIdent n = n := by
  unfold codecIdent
  rw [tblGet_none _ _ (fun hm => h (codecTables_ok.2.2.2 n hm))]
  rfl

theorem codecV3_identifier_plain (n : Str) (h : 46 ∉ n) (he : n ≠ ascii "endian") : codecV3.identifier n = n := by
  unfold Aliases.identifier
  rw [show tblGet codecV3.aliasesStr n = none from
    tblGet_none _ _ (fun hm => (codecTables_ok.2.2.1 n hm).elim he h)]
  rfl

/-! ### the model of the conversion (`MetaV2`) uses the same tables -/

theorem codecIdent_eq (id : Str) : codecIdent id = codecV2.identifier id := by
  unfold codecIdent Aliases.identifier codecV2
  cases tblGet codecAliasesV2 id <;> rfl

theorem codecName_eq (i : Str) : codecName i = codecV3.defaultName i := rfl

theorem dtypeNameV3_eq (s : Str) : dtypeNameV3 s = dtypeV3.defaultName (dtypeV2.identifier s) := by
  unfold dtypeNameV3 Aliases.identifier Aliases.defaultName dtypeV3 dtypeV2
  cases tblGet dtypeAliasesV2 s with
  | some x => rfl
  | none =>
    simp only [List.find?_cons, List.find?_nil]
    cases isVoidName s <;> rfl

theorem dtypeV3_convert (n : Str) : dtypeV3.convert n = if n = ascii "binary" then ascii "bytes" else n := by
  unfold Aliases.convert Aliases.identifier Aliases.defaultName dtypeV3 dtypeAliasStrV3 tbl tblGet
  simp only [List.map_cons, List.map_nil, List.find?_cons, List.find?_nil]
  by_cases h : ascii "binary" = n
  · subst h; rfl
  · have : (ascii "binary" == n) = false := by simpa using h
    simp only [this]
    have h' : ¬ n = ascii "binary" := fun e => h e.symm
    simp [h']

end Zarrs.MetaOpts
