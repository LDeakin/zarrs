import ZarrsModel.Lemmas.ShardPEFrame
/- C05 at inner-chunk level, from the invariant `St` (the stored value is absent and every inner chunk is, or it decodes to
the inner chunks, passes the layout check and is tight).  An absent value is no case of its own: it is the empty value
under the all-sentinel index (`Base`); nor is "nothing survives": it is the empty base value (`peBase`).  Every call that
does not erase writes `place c w off data ib`; the code as found and the repaired encoder differ in `off` only
(`partialEncodePinned_val`, `partialEncode_val`). -/
namespace Zarrs.ShardPE
open Zarrs Zarrs.Codec Zarrs.Shard

theorem encodeIndex_idxNew_length (c : Cfg) (idx : List (Nat × Nat)) (us : List (Nat × Option Bytes)) (off : Nat)
    (hlen : idx.length = c.nChunks) : (encodeIndex c (idxNew idx us off)).length = indexSize c :=
  encodeIndex_length c _ (by rw [idxNew_length, hlen])

theorem not_kept_of_dead (idx : List (Nat × Nat)) (us : List (Nat × Option Bytes))
    (hdead : (idxDead idx us).all (fun e => !isLive e) = true) (e : Nat × Nat) : ¬ Kept idx us e := by
  rintro ⟨hl, j, hj, hjn⟩
  rw [← idxDead_untouched idx us j hjn] at hj
  have := List.all_eq_true.mp hdead e (List.mem_iff_getElem?.mpr ⟨j, hj⟩)
  simp [hl] at this

theorem dataNew_length (us : List (Nat × Option Bytes)) :
    (dataNew us).length = ((us.filterMap (·.2)).map List.length).sum := by
  unfold dataNew
  rw [dataOf_length, List.filterMap_map]
  rfl

/-- the common shape of the C05 statements about one call; `T`: the condition under which the new value is tight -/
def Outcome (c : Cfg) (chunks : List (Option Bytes)) (us : List (Nat × Option Bytes)) (T : Prop)
    (r : Option (Option Bytes)) : Prop :=
  match r with
  | some none => (∀ u ∈ us, u.2 = none) ∧ ∀ ch ∈ applyUpdates chunks us, ch = none
  | some (some v') => decode c true v' = .ok (applyUpdates chunks us) ∧ wellFormed c v' = true ∧ (T → tight c v' = true)
  | none => False

theorem Outcome.erased {c : Cfg} {chunks : List (Option Bytes)} {us : List (Nat × Option Bytes)} {T : Prop} :
    Outcome c chunks us T (some none) ↔ (∀ u ∈ us, u.2 = none) ∧ ∀ ch ∈ applyUpdates chunks us, ch = none := Iff.rfl

theorem Outcome.placed {c : Cfg} {chunks : List (Option Bytes)} {us : List (Nat × Option Bytes)} {T : Prop} {v' : Bytes} :
    Outcome c chunks us T (some (some v')) ↔
      decode c true v' = .ok (applyUpdates chunks us) ∧ wellFormed c v' = true ∧ (T → tight c v' = true) := Iff.rfl

theorem Outcome.ne_none {c : Cfg} {chunks : List (Option Bytes)} {us : List (Nat × Option Bytes)} {T : Prop}
    {r : Option (Option Bytes)} (h : Outcome c chunks us T r) : r ≠ none := by
  rintro rfl; exact h

theorem absent_dead (c : Cfg) (us : List (Nat × Option Bytes)) :
    (idxDead (List.replicate c.nChunks ((sentinel, sentinel) : Nat × Nat)) us).all (fun e => !isLive e) = true := by
  rw [List.all_eq_true]
  intro e he
  obtain ⟨j, hj⟩ := List.mem_iff_getElem?.mp he
  by_cases hjm : j ∈ us.map (·.1)
  · rw [idxDead_touched _ us j hjm e hj]; simp [isLive]
  · rw [idxDead_untouched _ us j hjm, List.getElem?_replicate] at hj
    split at hj
    · cases hj; simp [isLive]
    · cases hj

/-- the exact condition under which the value of `partialEncodePinned` is tight again -/
def Grow (c : Cfg) (v : Bytes) (us : List (Nat × Option Bytes)) : Prop :=
  c.indexAtEnd = true → ∀ idx, currentIndex c (some v) = some idx →
    (∃ u ∈ us, Option.isSome u.2 = true) ∨ liveEnd (idxDead idx us) = liveEnd idx ∨
      (idxDead idx us).all (fun e => !isLive e) = true

/-- from an `Outcome` to the `match` in which `Props/C05.lean` states its theorems -/
theorem Outcome.byCases {c : Cfg} {chunks : List (Option Bytes)} {us : List (Nat × Option Bytes)} {T : Prop}
    {r : Option (Option Bytes)} (h : Outcome c chunks us T r) {A : Prop} {B : Bytes → Prop}
    (hA : ((∀ u ∈ us, u.2 = none) ∧ ∀ ch ∈ applyUpdates chunks us, ch = none) → A)
    (hB : ∀ v', (decode c true v' = .ok (applyUpdates chunks us) ∧ wellFormed c v' = true ∧ (T → tight c v' = true)) →
      B v') :
    match (generalizing := false) r with
    | some none => A
    | some (some v') => B v'
    | none => False := by
  cases r with
  | none => exact h
  | some r =>
    cases r with
    | none => exact hA h
    | some v' => exact hB v' h

theorem liveEnd_entriesFrom (chunks : List (Option Bytes)) (off : Nat)
    (hs : off + (dataOf chunks).length < sentinel) :
    liveEnd (entriesFrom off chunks) = if (∃ ch ∈ chunks, Option.isSome ch = true) then off + (dataOf chunks).length
      else 0 := by
  split
  · rename_i hsome
    obtain ⟨k, e, h1, h2, h3⟩ := entriesFrom_last chunks off hsome hs
    refine liveEnd_eq _ _ (fun e he hl => ?_) ⟨e, List.mem_of_getElem? h1, h2, h3⟩
    rcases entriesFrom_mem chunks off e he with rfl | h
    · simp [isLive] at hl
    · exact h.2
  · rename_i hsome
    rw [entriesFrom_all_none chunks hsome off]
    exact liveEnd_of_dead _ fun e he => by rw [List.eq_of_mem_replicate he]; rfl

theorem encode_tight (c : Cfg) (chunks : List (Option Bytes)) (hn : chunks.length = c.nChunks)
    (hsmall : (dataOf chunks).length + indexSize c < sentinel) : tight c (encode c chunks) = true := by
  refine tight_of (currentIndex_of_table (encode_table c chunks hn hsmall)) fun hc => ?_
  have hb0 : base c = 0 := by simp [base, hc]
  rw [hb0, liveEnd_entriesFrom chunks 0 (by omega), encode_length c chunks hn]
  by_cases hsome : ∃ ch ∈ chunks, Option.isSome ch = true
  · rw [if_pos hsome]; omega
  · rw [if_neg hsome, dataOf_all_none chunks hsome]; simp

theorem encode_St (c : Cfg) (chunks : List (Option Bytes)) (hn : chunks.length = c.nChunks)
    (hsmall : (dataOf chunks).length + indexSize c < sentinel) : St c (some (encode c chunks)) chunks :=
  ⟨decode_encode c chunks hn hsmall, encode_wellFormed c chunks hn hsmall, encode_tight c chunks hn hsmall⟩

theorem St.take {c : Cfg} {d : Bytes} {chunks : List (Option Bytes)} (hst : St c (some d) chunks)
    (hc : c.indexAtEnd = false) (idx : List (Nat × Nat))
    (hcur : currentIndex c (some d) = some idx) (L : Nat) (h1 : liveEnd idx ≤ L) (h2 : indexSize c ≤ L) :
    St c (some (d.take L)) chunks ∧ currentIndex c (some (d.take L)) = some idx := by
  obtain ⟨hdec, hwf, _⟩ := hst.of_some
  obtain ⟨ib, idx', T⟩ := table_of hdec hwf
  cases (currentIndex_of_table T).symm.trans hcur
  have hiv := T.isz
  have hib := T.hib
  have hlt : (d.take L).length = min L d.length := List.length_take
  have hib' : indexBytes c (d.take L) = some ib := by
    unfold indexBytes at hib ⊢
    rw [if_neg (by omega)] at hib
    rw [if_neg (by rw [hlt]; omega)]
    simp only [hc, Bool.false_eq_true, if_false, Option.some.injEq] at hib ⊢
    rw [← hib, List.take_take, Nat.min_eq_left h2]
  have hcur2 := currentIndex_of hib' T.hdi
  obtain ⟨hlc, hpt⟩ := (mapM_ok_iff _ _ _).mp T.dec
  have hle : ∀ e ∈ idx, isLive e = true → e.1 + e.2 ≤ (d.take L).length := by
    intro e he hl
    have a1 := le_liveEnd idx e he hl
    have a2 := (T.wf.1 e he hl).1
    rw [hlt]; omega
  have hdec' : decode c true (d.take L) = .ok chunks := by
    refine (decode_ok_iff ..).mpr ⟨ib, idx, hib', T.hdi, (mapM_ok_iff ..).mpr ⟨hlc, ?_⟩⟩
    intro i a ha
    obtain ⟨b, hb, hde⟩ := hpt i a ha
    refine ⟨b, hb, ?_⟩
    rw [decEntry_ok_iff] at hde ⊢
    rcases hde with hd | ⟨hl, _, rfl⟩
    · exact Or.inl hd
    · have hm := List.mem_of_getElem? ha
      exact Or.inr ⟨hl, hle a hm hl, by rw [slice_take d L _ _ (Nat.le_trans (le_liveEnd idx a hm hl) h1)]⟩
  have hwf' : wellFormed c (d.take L) = true := by
    rw [wellFormed_iff]
    refine ⟨ib, idx, hib', T.hdi, ?_, T.wf.2⟩
    intro e he hl
    refine ⟨hle e he hl, ?_⟩
    have := (T.wf.1 e he hl).2
    simpa [indexRegion, hc] using this
  refine ⟨⟨hdec', hwf', ?_⟩, hcur2⟩
  unfold tight
  rw [hcur2]
  simp [hc]

/-- the bytes a history can add (`partialEncode_length`) -/
def histCost (c : Cfg) (hist : List (List (Nat × Option Bytes))) : Nat :=
  (hist.map (fun u => (dataNew u).length + indexSize c)).sum

def peDead (idx : List (Nat × Nat)) (us : List (Nat × Option Bytes)) : Bool := (idxDead idx us).all (fun e => !isLive e)

/-- what `partial_encode` keeps of the stored value -/
def peBase (idx : List (Nat × Nat)) (us : List (Nat × Option Bytes)) (vo : Option Bytes) : Bytes :=
  if peDead idx us then [] else vo.getD []

/-- `offsetNew` -/
def peOff (c : Cfg) (idx : List (Nat × Nat)) (us : List (Nat × Option Bytes)) : Nat :=
  if c.indexAtEnd then (if peDead idx us then 0 else liveEnd idx)
  else max (if peDead idx us then 0 else liveEnd idx) (indexSize c)

/-- `h2` is tightness of the old value: the write at `off` then covers it to its end. Without it a tail of the old value
stays behind the new index (F-C05-K1). -/
theorem writeAt_end (c : Cfg) (hc : c.indexAtEnd = true) (v1 : Option Bytes) (off : Nat) (data ib : Bytes)
    (h1 : off ≤ (v1.getD []).length) (h2 : (v1.getD []).length ≤ off + ib.length) :
    writeAt v1 off (data ++ ib) = some (place c (v1.getD []) off data ib) := by
  unfold writeAt place
  rw [if_pos hc, specSetPartial_eq_splice _ _ _ h1, List.drop_eq_nil_of_le (by simp only [List.length_append]; omega),
    List.append_nil, List.append_assoc]

theorem writeAt_start (c : Cfg) (hc : c.indexAtEnd = false) (v1 : Option Bytes) (off : Nat) (data ib : Bytes)
    (hib : ib.length = indexSize c) (h0 : indexSize c ≤ off) (h1 : off ≤ max (v1.getD []).length (indexSize c)) :
    writeAt (writeAt v1 0 ib) off data = some (place c (v1.getD []) off data ib) := by
  unfold writeAt place
  generalize v1.getD [] = w at *
  simp only [Option.getD_some, hc, Bool.false_eq_true, if_false]
  rw [specSetPartial_eq_splice w ib 0 (Nat.zero_le _), List.take_zero, List.nil_append, Nat.zero_add]
  have hl : (ib ++ w.drop ib.length).length = max w.length (indexSize c) := by
    simp only [List.length_append, List.length_drop]; omega
  rw [specSetPartial_eq_splice _ _ _ (by rw [hl]; exact h1), List.take_append, List.drop_append,
    List.take_of_length_le (l := ib) (by omega), List.drop_eq_nil_of_le (as := ib) (by omega), List.nil_append,
    List.drop_drop, List.drop_take, hib, show indexSize c + (off + data.length - indexSize c) = off + data.length by omega]

theorem partialEncodePinned_val (c : Cfg) (vo : Option Bytes) (us : List (Nat × Option Bytes)) (idx : List (Nat × Nat))
    (hcur : currentIndex c vo = some idx) (hlen : idx.length = c.nChunks)
    (hl : liveEnd idx ≤ (vo.getD []).length)
    (ht : c.indexAtEnd = true → (vo.getD []).length ≤ liveEnd idx + indexSize c) :
    partialEncodePinned c vo us =
      if (idxNew idx us (peOff c idx us)).all (fun e => !isLive e) then some none
      else some (some (place c (peBase idx us vo) (peOff c idx us) (dataNew us)
        (encodeIndex c (idxNew idx us (peOff c idx us))))) := by
  have hib := fun off => encodeIndex_idxNew_length c idx us off hlen
  rw [partialEncodePinned_eq c vo us idx hcur]
  unfold peBase peOff peDead
  cases hd : (idxDead idx us).all (fun e => !isLive e) <;> cases hc : c.indexAtEnd <;>
    simp only [Bool.false_eq_true, if_false, if_true] <;> split <;> try rfl
  · exact congrArg some (writeAt_start c hc vo _ _ _ (hib _) (Nat.le_max_right _ _) (by omega))
  · exact congrArg some (writeAt_end c hc vo _ _ _ hl (by rw [hib]; exact ht hc))
  · exact congrArg some (writeAt_start c hc none _ _ _ (hib _) (Nat.le_max_right _ _) (by simp))
  · exact congrArg some (writeAt_end c hc none _ _ _ (Nat.le_refl _) (Nat.zero_le _))


/-- `offsetNew` of the repaired encoder: where it shortens the shard, the end of the remaining live data -/
def peOffRepaired (c : Cfg) (idx : List (Nat × Nat)) (us : List (Nat × Option Bytes)) : Nat :=
  if c.indexAtEnd && ((dataNew us).isEmpty && decide (liveEnd (idxNew idx us (peOff c idx us)) < peOff c idx us))
  then liveEnd (idxNew idx us (peOff c idx us)) else peOff c idx us

theorem partialEncode_val (c : Cfg) (vo : Option Bytes) (us : List (Nat × Option Bytes)) (idx : List (Nat × Nat))
    (hcur : currentIndex c vo = some idx) (hlen : idx.length = c.nChunks)
    (hl : liveEnd idx ≤ (vo.getD []).length)
    (ht : c.indexAtEnd = true → (vo.getD []).length ≤ liveEnd idx + indexSize c) :
    partialEncode c vo us =
      if (idxNew idx us (peOff c idx us)).all (fun e => !isLive e) then some none
      else some (some (place c (peBase idx us vo) (peOffRepaired c idx us) (dataNew us)
        (encodeIndex c (idxNew idx us (peOff c idx us))))) := by
  by_cases hrep : (c.indexAtEnd && ((dataNew us).isEmpty &&
      decide (liveEnd (idxNew idx us (peOff c idx us)) < peOff c idx us))) = true
  · have hrep' := hrep
    simp only [Bool.and_eq_true, List.isEmpty_iff] at hrep'
    obtain ⟨hc, hd0, _⟩ := hrep'
    rw [partialEncode_eq c vo us idx hcur]
    unfold peOffRepaired place
    rw [if_pos hrep]
    unfold peBase
    unfold peOff peDead at hrep ⊢
    simp only [hc, if_true, Bool.true_and] at hrep ⊢
    cases hd : (idxDead idx us).all (fun e => !isLive e)
    · simp only [hd, Bool.false_eq_true, if_false] at hrep ⊢
      split
      · rfl
      · rw [hd0, List.append_nil, writeAt, Option.getD_none, specSetPartial_nil]
    · simp only [hd, if_true, Nat.not_lt_zero, decide_false, Bool.and_false, Bool.false_eq_true] at hrep
  · have : peOffRepaired c idx us = peOff c idx us := by unfold peOffRepaired; rw [if_neg hrep]
    rw [this, ← partialEncodePinned_val c vo us idx hcur hlen hl ht,
      partialEncode_eq c vo us idx hcur, partialEncodePinned_eq c vo us idx hcur]
    unfold peOff peDead at hrep
    cases hc : c.indexAtEnd
    · simp only [Bool.false_eq_true, if_false]
    · simp only [hc, Bool.true_and, if_true] at hrep ⊢
      simp only [hrep, Bool.false_eq_true, if_false]

/-- what `St` says of the index, an absent value read as the empty value under the all-sentinel index. `tight` with
`≤`: that is all `partial_encode` needs of the old value. -/
structure Base (c : Cfg) (vo : Option Bytes) (chunks : List (Option Bytes)) (idx : List (Nat × Nat)) : Prop where
  cur : currentIndex c vo = some idx
  ok : IdxOk c (vo.getD []) chunks idx
  region : c.indexAtEnd = false → ∀ e ∈ idx, isLive e = true → e.1 + e.2 ≤ 0 ∨ indexSize c ≤ e.1
  live : liveEnd idx ≤ (vo.getD []).length
  tight : c.indexAtEnd = true → (vo.getD []).length ≤ liveEnd idx + indexSize c

theorem St.base {c : Cfg} {vo : Option Bytes} {chunks : List (Option Bytes)} (h : St c vo chunks) :
    ∃ idx, Base c vo chunks idx := by
  cases vo with
  | none =>
    have hc : chunks = List.replicate c.nChunks none := h
    subst hc
    have hdead : ∀ e ∈ List.replicate c.nChunks ((sentinel, sentinel) : Nat × Nat), isLive e = false :=
      fun e he => by rw [List.eq_of_mem_replicate he]; rfl
    have hl := liveEnd_of_dead _ hdead
    refine ⟨_, rfl, ⟨by simp, ?_, ?_⟩, fun _ e he hl => (nomatch (hdead e he).symm.trans hl), by rw [hl]; exact Nat.zero_le _,
      fun _ => by rw [hl]; exact Nat.zero_le _⟩
    · refine mapM_ok_of_pointwise _ _ _ (by simp) fun i h1 h2 => ?_
      simp [decEntry]
    · intro i j a b _ hi _ ha
      exact nomatch (hdead a (List.mem_of_getElem? hi)).symm.trans ha
  | some v =>
    obtain ⟨hdec, hwf, ht⟩ := h.of_some
    obtain ⟨_, idx, T⟩ := table_of hdec hwf
    refine ⟨idx, currentIndex_of_table T, T.idxOk, ?_, liveEnd_le_of_table T, fun hc => ?_⟩
    · intro hc e he hl
      have := T.clearOfIndex he hl
      simpa only [indexRegion, hc, Bool.false_eq_true, if_false] using this
    · exact Nat.le_of_eq (tight_length ht (currentIndex_of_table T) hc)

/-- an offset at which a call may put its new data -/
structure OffOk (c : Cfg) (idx : List (Nat × Nat)) (us : List (Nat × Option Bytes)) (vo : Option Bytes) (off : Nat) :
    Prop where
  start : c.indexAtEnd = false → indexSize c ≤ off
  le : off ≤ (if c.indexAtEnd then (peBase idx us vo).length else max (peBase idx us vo).length (indexSize c))
  kept : ∀ e, Kept idx us e → e.1 + e.2 ≤ off

theorem peBase_length_le (idx : List (Nat × Nat)) (us : List (Nat × Option Bytes)) (vo : Option Bytes) :
    (peBase idx us vo).length ≤ (vo.getD []).length := by
  unfold peBase
  split
  · exact Nat.zero_le _
  · exact Nat.le_refl _

theorem Base.kept {c : Cfg} {vo : Option Bytes} {chunks : List (Option Bytes)} {idx : List (Nat × Nat)}
    (B : Base c vo chunks idx) (us : List (Nat × Option Bytes)) (e : Nat × Nat) (he : Kept idx us e) :
    e.1 + e.2 ≤ peOff c idx us ∧
      slice (peBase idx us vo) e.1 (e.1 + e.2) = slice (vo.getD []) e.1 (e.1 + e.2) ∧
      (c.indexAtEnd = false → e.1 + e.2 ≤ 0 ∨ indexSize c ≤ e.1) := by
  have hnd : peDead idx us = false := by
    cases hd : peDead idx us with
    | false => rfl
    | true => exact absurd he (not_kept_of_dead idx us hd e)
  have h1 := he.le_liveEnd
  obtain ⟨hl, j, hj, _⟩ := he
  refine ⟨?_, by unfold peBase; rw [hnd]; rfl, fun hc => B.region hc e (List.mem_of_getElem? hj) hl⟩
  unfold peOff
  rw [hnd]
  cases c.indexAtEnd <;> simp only [Bool.false_eq_true, if_false, if_true] <;> omega

theorem Base.offOk {c : Cfg} {vo : Option Bytes} {chunks : List (Option Bytes)} {idx : List (Nat × Nat)}
    (B : Base c vo chunks idx) (us : List (Nat × Option Bytes)) : OffOk c idx us vo (peOff c idx us) := by
  have := B.live
  refine ⟨fun hc => ?_, ?_, fun e he => (B.kept us e he).1⟩
  · simp only [peOff, hc, Bool.false_eq_true, if_false]
    exact Nat.le_max_right _ _
  · unfold peOff peBase
    cases c.indexAtEnd <;> cases peDead idx us <;>
      simp only [Bool.false_eq_true, if_false, if_true, List.length_nil] <;> omega

theorem Base.peOff_le {c : Cfg} {vo : Option Bytes} {chunks : List (Option Bytes)} {idx : List (Nat × Nat)}
    (B : Base c vo chunks idx) (us : List (Nat × Option Bytes)) :
    peOff c idx us ≤ max (vo.getD []).length (indexSize c) := by
  have h1 := (B.offOk us).le
  have := peBase_length_le idx us vo
  split at h1 <;> omega

/-- the value a call writes unless it erases the shard, for any offset `off` behind what is kept -/
theorem Base.frame {c : Cfg} {vo : Option Bytes} {chunks : List (Option Bytes)} {idx : List (Nat × Nat)}
    (B : Base c vo chunks idx) (us : List (Nat × Option Bytes)) (off : Nat) (ho : OffOk c idx us vo off) :
    Frame c (Kept idx us) (vo.getD []) off (dataNew us) (encodeIndex c (idxNew idx us off))
      (place c (peBase idx us vo) off (dataNew us) (encodeIndex c (idxNew idx us off))) :=
  frame_place c _ _ _ _ _ off (encodeIndex_idxNew_length c idx us off B.ok.len) ho.start ho.le
    fun e he => ⟨ho.kept e he, (B.kept us e he).2⟩

theorem Base.table {c : Cfg} {vo : Option Bytes} {chunks : List (Option Bytes)} {idx : List (Nat × Nat)}
    (B : Base c vo chunks idx) (us : List (Nat × Option Bytes)) (hu : UpdatesOk c us) (off : Nat)
    (ho : OffOk c idx us vo off) (hsmall : (vo.getD []).length + (dataNew us).length + indexSize c < sentinel) :
    Table c (place c (peBase idx us vo) off (dataNew us) (encodeIndex c (idxNew idx us off))) (applyUpdates chunks us)
      (encodeIndex c (idxNew idx us off)) (idxNew idx us off) := by
  have hl := place_length c (peBase idx us vo) off (dataNew us) _ (encodeIndex_idxNew_length c idx us off B.ok.len)
  have := peBase_length_le idx us vo
  have h1 := ho.le
  refine frame_result c idx _ chunks us off _ B.ok hu ?_ (by omega) (B.frame us off ho)
  split at h1 <;> omega

/-- the shard is erased exactly when no chunk is left: the value that would be written reads the updated chunks, and
its index is the one tested -/
theorem Base.idxNew_allDead_iff {c : Cfg} {vo : Option Bytes} {chunks : List (Option Bytes)} {idx : List (Nat × Nat)}
    (B : Base c vo chunks idx) (us : List (Nat × Option Bytes)) (hu : UpdatesOk c us)
    (hsmall : (vo.getD []).length + (dataNew us).length + indexSize c < sentinel) :
    (idxNew idx us (peOff c idx us)).all (fun e => !isLive e) = true ↔ ∀ ch ∈ applyUpdates chunks us, ch = none :=
  decEntries_all_none_iff (B.table us hu _ (B.offOk us) hsmall).dec

theorem Base.outcome_erased {c : Cfg} {vo : Option Bytes} {chunks : List (Option Bytes)} {idx : List (Nat × Nat)}
    (B : Base c vo chunks idx) (us : List (Nat × Option Bytes)) (hu : UpdatesOk c us)
    (hsmall : (vo.getD []).length + (dataNew us).length + indexSize c < sentinel)
    (hall : (idxNew idx us (peOff c idx us)).all (fun e => !isLive e) = true) {T : Prop} :
    Outcome c chunks us T (some none) := by
  have h := (B.idxNew_allDead_iff us hu hsmall).mp hall
  refine Outcome.erased.mpr ⟨fun u hm => ?_, h⟩
  obtain ⟨k, hk⟩ := List.mem_iff_getElem?.mp hm
  exact h u.2 (List.mem_of_getElem? (applyUpdates_touched chunks us hu.2 k u.1 u.2 hk
    (by rw [B.ok.chunks_len]; exact hu.1 u hm)))

/-- `hT`: the value is tight when the live data of the new index ends where the new data ends -/
theorem Base.outcome_placed {c : Cfg} {vo : Option Bytes} {chunks : List (Option Bytes)} {idx : List (Nat × Nat)}
    (B : Base c vo chunks idx) (us : List (Nat × Option Bytes)) (hu : UpdatesOk c us) (off : Nat)
    (ho : OffOk c idx us vo off) (hsmall : (vo.getD []).length + (dataNew us).length + indexSize c < sentinel) (T : Prop)
    (hT : T → c.indexAtEnd = true → liveEnd (idxNew idx us off) = off + (dataNew us).length) :
    Outcome c chunks us T
      (some (some (place c (peBase idx us vo) off (dataNew us) (encodeIndex c (idxNew idx us off))))) :=
  have ht := B.table us hu off ho hsmall
  Outcome.placed.mpr ⟨ht.decode, ht.wellFormed, fun t => tight_of (currentIndex_of_table ht)
    fun hc => by rw [(B.frame us off ho).endLen hc, hT t hc]⟩

/-- the code as found. The condition for tightness is that of `Grow`, spelt for an optional value: an absent one meets
it (`absent_dead`). -/
theorem pinned_outcome {c : Cfg} {vo : Option Bytes} {chunks : List (Option Bytes)} (hst : St c vo chunks)
    (us : List (Nat × Option Bytes)) (hu : UpdatesOk c us)
    (hsmall : (vo.getD []).length + (dataNew us).length + indexSize c < sentinel) :
    Outcome c chunks us (c.indexAtEnd = true → ∀ idx, currentIndex c vo = some idx →
      (∃ u ∈ us, Option.isSome u.2 = true) ∨ liveEnd (idxDead idx us) = liveEnd idx ∨
        (idxDead idx us).all (fun e => !isLive e) = true) (partialEncodePinned c vo us) := by
  obtain ⟨idx, B⟩ := hst.base
  have hlen := B.ok.len
  have ho := B.offOk us
  have hpeOff := B.peOff_le us
  rw [partialEncodePinned_val c vo us idx B.cur hlen B.live B.tight]
  split
  · rename_i hall
    exact B.outcome_erased us hu hsmall hall
  · refine B.outcome_placed us hu _ ho hsmall _ (fun hw hc => ?_)
    by_cases hsome : ∃ u ∈ us, Option.isSome u.2 = true
    · exact liveEnd_idxNew idx us _ hu.2 (fun u h => by rw [hlen]; exact hu.1 u h) (by omega)
        (fun j e hj he hl => ho.kept e ⟨hl, j, he, hj⟩) hsome
    · -- nothing is stored: the new index is the invalidated one
      rw [idxNew_of_none idx us hsome, dataNew_all_none us hsome]
      unfold peOff
      rw [if_pos hc]
      cases hd : peDead idx us
      · rcases hw hc idx B.cur with h | h | h
        · exact absurd h hsome
        · exact h
        · rw [show (idxDead idx us).all (fun e => !isLive e) = peDead idx us from rfl, hd] at h; cases h
      · exact liveEnd_of_dead _ fun e he => by simpa using List.all_eq_true.mp hd e he

theorem partialEncode_outcome {c : Cfg} {vo : Option Bytes} {chunks : List (Option Bytes)} (hst : St c vo chunks)
    (us : List (Nat × Option Bytes)) (hu : UpdatesOk c us)
    (hsmall : (vo.getD []).length + (dataNew us).length + indexSize c < sentinel) :
    Outcome c chunks us True (partialEncode c vo us) := by
  obtain ⟨idx, B⟩ := hst.base
  have hlen := B.ok.len
  have hr : ∀ u ∈ us, u.1 < idx.length := fun u h => by rw [hlen]; exact hu.1 u h
  have ho := B.offOk us
  have hle := ho.le
  have hpeOff := B.peOff_le us
  have hs : peOff c idx us + (dataNew us).length < sentinel := by omega
  have hk' : ∀ (j : Nat) (e : Nat × Nat), j ∉ us.map (·.1) → idx[j]? = some e → isLive e = true →
      e.1 + e.2 ≤ peOff c idx us := fun j e hj he hl => ho.kept e ⟨hl, j, he, hj⟩
  have hub := liveEnd_idxNew_le idx us _ hu.2 hk'
  rw [partialEncode_val c vo us idx B.cur hlen B.live B.tight]
  split
  · rename_i hall
    exact B.outcome_erased us hu hsmall hall
  · unfold peOffRepaired
    split
    · -- the shard is shortened: nothing is stored, the index moves to the end of the remaining live data
      rename_i hrep
      simp only [Bool.and_eq_true, decide_eq_true_eq, List.isEmpty_iff] at hrep
      obtain ⟨hc, hd0, hlt⟩ := hrep
      have hnone : ¬ ∃ u ∈ us, Option.isSome u.2 = true := fun hsome => by
        have := liveEnd_idxNew idx us _ hu.2 hr hs hk' hsome
        omega
      have hoff : idxNew idx us (peOff c idx us) = idxNew idx us (liveEnd (idxNew idx us (peOff c idx us))) := by
        rw [idxNew_of_none idx us hnone, idxNew_of_none idx us hnone]
      generalize hL : liveEnd (idxNew idx us (peOff c idx us)) = L at hoff hlt ⊢
      rw [hoff]
      refine B.outcome_placed us hu L { start := fun h => (by rw [hc] at h; cases h)
                                        le := by simp only [hc, if_true] at hle ⊢; omega
                                        kept := fun e he => ?_ } hsmall _ (fun _ _ => by rw [← hoff, hL, hd0]; rfl)
      obtain ⟨hl, j, hj, hjn⟩ := he
      rw [← hL]
      exact le_liveEnd _ e (List.mem_of_getElem? (by rw [idxNew_untouched idx us _ j hjn]; exact hj)) hl
    · rename_i hrep
      refine B.outcome_placed us hu _ ho hsmall _ (fun _ hc => ?_)
      by_cases hsome : ∃ u ∈ us, Option.isSome u.2 = true
      · exact liveEnd_idxNew idx us _ hu.2 hr hs hk' hsome
      · have hd0 := dataNew_all_none us hsome
        rw [hd0] at hrep hub ⊢
        simp only [hc, List.isEmpty_nil, Bool.true_and, decide_eq_true_eq] at hrep
        simp only [List.length_nil, Nat.add_zero] at hub ⊢
        omega

theorem partialEncode_length {c : Cfg} {vo : Option Bytes} {chunks : List (Option Bytes)} {idx : List (Nat × Nat)}
    (B : Base c vo chunks idx) (us : List (Nat × Option Bytes)) (v' : Bytes)
    (h : partialEncode c vo us = some (some v')) :
    v'.length ≤ (vo.getD []).length + (dataNew us).length + indexSize c := by
  rw [partialEncode_val c vo us idx B.cur B.ok.len B.live B.tight] at h
  split at h
  · cases h
  · cases h
    have := place_length c (peBase idx us vo) (peOffRepaired c idx us) (dataNew us) _
      (encodeIndex_idxNew_length c idx us (peOff c idx us) B.ok.len)
    have := peBase_length_le idx us vo
    omega

theorem step_inv (c : Cfg) (vo : Option Bytes) (chunks : List (Option Bytes)) (us : List (Nat × Option Bytes))
    (hst : St c vo chunks) (hu : UpdatesOk c us)
    (hsmall : (vo.getD []).length + (dataNew us).length + indexSize c < sentinel) :
    ∃ vo', partialEncode c vo us = some vo' ∧ St c vo' (applyUpdates chunks us) ∧
      (vo' = none ↔ ∀ ch ∈ applyUpdates chunks us, ch = none) ∧
      (vo'.getD []).length ≤ (vo.getD []).length + (dataNew us).length + indexSize c := by
  have h := partialEncode_outcome hst us hu hsmall
  obtain ⟨idx, B⟩ := hst.base
  have hv := partialEncode_val c vo us idx B.cur B.ok.len B.live B.tight
  rw [← B.idxNew_allDead_iff us hu hsmall]
  cases hr : partialEncode c vo us with
  | none => exact absurd hr h.ne_none
  | some r =>
    rw [hr] at h hv
    cases r with
    | none =>
      refine ⟨none, rfl, List.eq_replicate_iff.mpr ⟨by rw [applyUpdates_length, B.ok.chunks_len], (Outcome.erased.mp h).2⟩,
        ?_, Nat.zero_le _⟩
      split at hv
      · simp [*]
      · cases hv
    | some v' =>
      obtain ⟨hdec, hwf, htight⟩ := Outcome.placed.mp h
      refine ⟨some v', rfl, ⟨hdec, hwf, htight trivial⟩, ?_, partialEncode_length B us v' hr⟩
      split at hv
      · cases hv
      · simp [*]

theorem history_inv (c : Cfg) (hist : List (List (Nat × Option Bytes))) :
    ∀ (vo : Option Bytes) (chunks : List (Option Bytes)), St c vo chunks →
      (∀ us ∈ hist, UpdatesOk c us) →
      (vo.getD []).length + histCost c hist + indexSize c < sentinel →
      ∃ vo', runHist c vo hist = some vo' ∧ St c vo' (hist.foldl applyUpdates chunks) := by
  induction hist with
  | nil => intro vo chunks hst _ _; exact ⟨vo, rfl, hst⟩
  | cons us rest ih =>
    intro vo chunks hst hu hsmall
    simp only [histCost, List.map_cons, List.sum_cons] at hsmall
    obtain ⟨vo1, h1, hst1, _, hl1⟩ := step_inv c vo chunks us hst (hu us (by simp)) (by omega)
    obtain ⟨vo2, h2, hst2⟩ := ih vo1 (applyUpdates chunks us) hst1 (fun x hx => hu x (by simp [hx]))
      (by unfold histCost; omega)
    exact ⟨vo2, by simp only [runHist, h1, Option.bind_some, h2], by simpa using hst2⟩

end Zarrs.ShardPE
