import ZarrsModel.Lemmas.ArrayMulti
set_option linter.unusedSectionVars false
/- Multi-chunk reads (the reads of the tiles of `ROk.box_tiling`, `ROk.region_tiling` pasted into an output buffer:
`Tiling.read`), the invariant along a history (`run_inv`), and that the abstract run depends on the grid and the fill
value only (`absRun_congr`). -/
namespace Zarrs
open Subset

namespace ArrCfg
variable {α : Type} [DecidableEq α]
variable {cfg : ArrCfg α} {G : Shape} {Pe : α → Bool}

/-- same as `C01.opInBounds` -/
def opInB (cfg : ArrCfg α) (G : Shape) : WriteOp α → Prop
  | .storeChunk c d => inB c G = true ∧ ∃ s, cfg.chunkShape c = some s ∧ d.length = prod s
  | .storeChunks b d => b.wf = true ∧ b.inboundsShape G = true ∧
      ∃ region, cfg.grid.chunksSubset b = some region ∧ d.length = region.numElements
  | .storeChunkSubset c r d => inB c G = true ∧ r.wf = true ∧
      (∃ s, cfg.chunkShape c = some s ∧ r.inboundsShape s = true) ∧ d.length = r.numElements
  | .storeArraySubset r d => r.wf = true ∧ r.inboundsShape cfg.shape = true ∧ d.length = r.numElements
  | .eraseChunk c => inB c G = true
  | .eraseChunks b => b.wf = true ∧ b.inboundsShape G = true

def opData : WriteOp α → List α
  | .storeChunk _ d => d
  | .storeChunks _ d => d
  | .storeChunkSubset _ _ d => d
  | .storeArraySubset _ d => d
  | .eraseChunk _ => []
  | .eraseChunks _ => []

theorem retrieveArraySubset_read (h : ROk Pe cfg G) {st : KV} {a : AArr α} (hinv : Inv cfg G st a)
    (r : Subset) (hr : r.wf = true) (hb : r.inboundsShape cfg.shape = true) :
    cfg.retrieveArraySubset st r = some (a.read r) := by
  have hb' := Subset.inboundsShape_iff_allLe.mp hb
  simp only [retrieveArraySubset]
  rw [ite_bne_of_eq (a := r.rank) hb'.1]
  cases he : r.isEmpty with
  | true =>
    have hgl : 0 < cfg.grid.length := by rw [← h.rank, ← hb'.1]; exact r.rank_pos_of_empty hr he
    have hn0 : r.numElements = 0 := (prod_eq_zero_iff _).mpr he
    simp only [chunksIn_empty r he, newEmpty_numElements _ hgl, hn0, List.replicate_zero]
    rw [List.eq_nil_of_length_eq_zero ((a.read_length r).trans hn0)]
  | false =>
    obtain ⟨box, B⟩ := h.region_tiling r hr hb he
    simp only [B.eq]
    split
    · rename_i h0
      exact absurd h0 B.ne
    · rename_i h1
      obtain ⟨hc0G, hsub⟩ := B.single h1
      have hcs0 := h.boxOf_def hc0G
      simp only [hcs0]
      by_cases heq : (cfg.grid.boxOf box.start == r) = true
      · rw [if_pos heq, ← (Subset.beq_iff _ _).mp heq]
        exact hinv.chunks _ hc0G _ hcs0
      · rw [if_neg heq]
        exact retrieveChunkSubset_sub hinv hc0G hcs0 hsub
    · refine B.tiling.read hr a _ (fun c hc out => ?_) _ (by simp)
      obtain ⟨hcG, hsub⟩ := B.inGrid c hc
      simp only [h.boxOf_def hcG, retrieveChunkSubset_sub hinv hcG (h.boxOf_def hcG) hsub]

theorem retrieveChunks_read (h : ROk Pe cfg G) {st : KV} {a : AArr α} (hinv : Inv cfg G st a)
    (b : Subset) (hb : b.wf = true) (hbi : b.inboundsShape G = true) :
    ∃ region, cfg.grid.chunksSubset b = some region ∧ cfg.retrieveChunks st b = some (a.read region) := by
  have hbi' := Subset.inboundsShape_iff_allLe.mp hbi
  have hrk : b.rank = cfg.shape.length := hbi'.1.trans (h.G_length.trans h.rank.symm)
  simp only [retrieveChunks]
  rw [ite_bne_of_eq hrk]
  cases he : b.isEmpty with
  | true =>
    refine ⟨_, chunksSubset_empty b he, ?_⟩
    have hn0 : b.numElements = 0 := (prod_eq_zero_iff _).mpr he
    simp only [chunksSubset_empty b he, hn0]
    rw [List.eq_nil_of_length_eq_zero
      ((a.read_length _).trans (newEmpty_numElements _ (b.rank_pos_of_empty hb he)))]
  | false =>
    obtain ⟨region, B⟩ := h.box_tiling b hb hbi he
    refine ⟨region, B.eq, ?_⟩
    simp only [B.eq]
    split
    · rename_i h0
      rw [b.isEmpty_of_numElements_zero h0] at he; cases he
    · rename_i h1
      exact hinv.chunks _ (B.single h1).1 _ (B.single h1).2
    · exact B.tiling.read B.wf a _
        (fun c hc out => by
          simp only [h.boxOf_def (B.inGrid c hc), hinv.chunks c (B.inGrid c hc) _ (h.boxOf_def (B.inGrid c hc))])
        _ (by simp)

theorem applyOp_step (h : ROk Pe cfg G) {st : KV} {a : AArr α} (hinv : InvG Pe cfg G st a) (op : WriteOp α)
    (hop : opInB cfg G op) (hd : ∀ e ∈ opData op, Pe e = true) :
    ∃ st', cfg.applyOp st op = some st' ∧ InvG Pe cfg G st' (cfg.absOp a op) := by
  cases op with
  | storeChunk c d =>
    obtain ⟨hc, s, hs, hlen⟩ := hop
    obtain ⟨cs, hcs, _⟩ := h.chunk_def c hc
    cases hs.symm.trans (chunkSubset_shape hcs)
    simp only [applyOp, absOp, hcs]
    exact storeChunk_step h hinv hc hcs d hlen hd
  | storeChunks b d =>
    obtain ⟨hb, hbi, region, hreg, hlen⟩ := hop
    simp only [applyOp, absOp, hreg]
    have := storeChunks_overlay h hinv b hb hbi region hreg _ (AArr.write_good hinv.good region (data := d) hd h.fillGood)
    rwa [AArr.read_write a region d cfg.fill
      (chunksSubset_wf hb ((Subset.inboundsShape_iff_allLe.mp hbi).1.trans h.G_length) hreg) hlen,
      AArr.overlay_write a region d cfg.fill fun _ hi => hi] at this
  | storeChunkSubset c r d =>
    obtain ⟨hc, hr, ⟨s, hs, hrb⟩, hlen⟩ := hop
    obtain ⟨cs, hcs, _⟩ := h.chunk_def c hc
    cases hs.symm.trans (chunkSubset_shape hcs)
    simp only [applyOp, absOp, hcs]
    exact storeChunkSubset_step h hinv hc hcs r hr hrb d hlen hd
  | storeArraySubset r d =>
    obtain ⟨hr, hb, hlen⟩ := hop
    have := storeArraySubset_overlay h hinv r hr hb _ (AArr.write_good hinv.good r (data := d) hd h.fillGood)
    rwa [AArr.read_write a r d cfg.fill hr hlen, AArr.overlay_write a r d cfg.fill fun _ hi => hi] at this
  | eraseChunk c =>
    obtain ⟨cs, hcs, _⟩ := h.chunk_def c hop
    simp only [applyOp, absOp, hcs]
    exact ⟨_, rfl, eraseChunk_step h hinv hop hcs⟩
  | eraseChunks b =>
    obtain ⟨hb, hbi⟩ := hop
    obtain ⟨region, hreg, hinv'⟩ := eraseChunks_step h hinv b hb hbi
    simp only [applyOp, absOp, hreg]
    exact ⟨_, rfl, hinv'⟩

theorem run_inv (h : ROk Pe cfg G) (ops : List (WriteOp α)) :
    ∀ (st : KV) (a : AArr α), InvG Pe cfg G st a → (∀ op ∈ ops, opInB cfg G op ∧ ∀ e ∈ opData op, Pe e = true) →
      ∃ st', cfg.run st ops = some st' ∧ InvG Pe cfg G st' (ops.foldl cfg.absOp a) := by
  induction ops with
  | nil => intro st a hinv _; exact ⟨st, rfl, hinv⟩
  | cons op ops ih =>
    intro st a hinv hops
    obtain ⟨st1, h1, hinv1⟩ := applyOp_step h hinv op (hops op (by simp)).1 (hops op (by simp)).2
    obtain ⟨st2, h2, hinv2⟩ := ih st1 _ hinv1 (fun op' hop' => hops op' (by simp [hop']))
    refine ⟨st2, ?_, hinv2⟩
    simp only [run, foldOpt, h1] at h2 ⊢
    exact h2

theorem run_inv_nil (h : ROk Pe cfg G) (ops : List (WriteOp α))
    (hops : ∀ op ∈ ops, opInB cfg G op ∧ ∀ e ∈ opData op, Pe e = true) :
    ∃ st, cfg.run [] ops = some st ∧ InvG Pe cfg G st (cfg.absRun ops) :=
  run_inv h ops [] _ ⟨.init, fun _ => h.fillGood⟩ hops

theorem Inv.reads (h : ROk Pe cfg G) {st : KV} {a : AArr α} (hinv : Inv cfg G st a) :
    (∀ r : Subset, r.wf = true → r.inboundsShape cfg.shape = true → cfg.retrieveArraySubset st r = some (a.read r)) ∧
    (∀ c, inB c G = true → ∃ cs, cfg.chunkSubset c = some cs ∧ cfg.retrieveChunk st c = some (a.read cs)) ∧
    (∀ c r, inB c G = true → r.wf = true → (∃ s, cfg.chunkShape c = some s ∧ r.inboundsShape s = true) →
      ∃ cs, cfg.chunkSubset c = some cs ∧
        cfg.retrieveChunkSubset st c r = some (a.read ⟨addIdx r.start cs.start, r.shape⟩)) ∧
    (∀ b : Subset, b.wf = true → b.inboundsShape G = true →
      ∃ region, cfg.grid.chunksSubset b = some region ∧ cfg.retrieveChunks st b = some (a.read region)) := by
  refine ⟨fun r hr hb => retrieveArraySubset_read h hinv r hr hb, fun c hc => ?_, ?_,
    fun b hb hbi => retrieveChunks_read h hinv b hb hbi⟩
  · obtain ⟨cs, hcs, _⟩ := h.chunk_def c hc
    exact ⟨cs, hcs, hinv.chunks c hc cs hcs⟩
  · rintro c r hc hr ⟨s, hs, hrb⟩
    obtain ⟨cs, hcs, _⟩ := h.chunk_def c hc
    cases hs.symm.trans (chunkSubset_shape hcs)
    exact ⟨cs, hcs, retrieveChunkSubset_read hinv hc hcs r hr hrb⟩

theorem chunkSubset_congr {c1 c2 : ArrCfg α} (hg : c1.grid = c2.grid) : c1.chunkSubset = c2.chunkSubset := by
  funext c
  simp only [chunkSubset, hg]

theorem chunkShape_congr {c1 c2 : ArrCfg α} (hg : c1.grid = c2.grid) : c1.chunkShape = c2.chunkShape := by
  funext c
  simp only [chunkShape, hg]

theorem absRun_congr {c1 c2 : ArrCfg α} (hg : c1.grid = c2.grid) (hf : c1.fill = c2.fill)
    (ops : List (WriteOp α)) : c1.absRun ops = c2.absRun ops := by
  have : c1.absOp = c2.absOp := by
    funext a op
    cases op <;> simp only [absOp, chunkSubset_congr hg, hg, hf]
  simp only [absRun, this, hf]

theorem opInB_congr {c1 c2 : ArrCfg α} (G : Shape) (hsh : c1.shape = c2.shape) (hg : c1.grid = c2.grid)
    (op : WriteOp α) (h : opInB c1 G op) : opInB c2 G op := by
  cases op <;> simp only [opInB, chunkShape_congr hg, hg, hsh] at h ⊢ <;> exact h

end ArrCfg
end Zarrs
