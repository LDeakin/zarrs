import ZarrsModel.Model.Interleave
import ZarrsModel.Lemmas.ArrayCell
import ZarrsModel.Lemmas.ListBasic
/- helper lemmas for C16 (store level): key-addressed operations change a store key by key (`ActsOn`) and their results
depend on their keys only (`Spec.step_result_congr`); the schedule induction (`runMerge_solo`): inside any merge a task
runs, on the keys private to it, as it runs alone, so a merge of pairwise disjoint tasks and their sequential run are the
same key by key. -/
namespace Zarrs

def AgreeOn (S : Key → Prop) (m1 m2 : KV) : Prop := ∀ k, S k → m1.get k = m2.get k

theorem AgreeOn.refl (S : Key → Prop) (m : KV) : AgreeOn S m m := fun _ _ => rfl
theorem AgreeOn.symm {S : Key → Prop} {m1 m2 : KV} (h : AgreeOn S m1 m2) : AgreeOn S m2 m1 :=
  fun k hk => (h k hk).symm
theorem AgreeOn.trans {S : Key → Prop} {m1 m2 m3 : KV} (h : AgreeOn S m1 m2) (h' : AgreeOn S m2 m3) :
    AgreeOn S m1 m3 := fun k hk => (h k hk).trans (h' k hk)

/-- what `F` leaves at a key depends only on what was there (`congr`): with `frame`, this alone gives commutation with
operations on other keys (`comm`), and every key-addressed operation, so every key-addressed task, is of this kind -/
structure ActsOn (ks : List Key) (F : KV → KV) : Prop where
  frame : ∀ (m : KV) {k : Key}, k ∉ ks → (F m).get k = m.get k
  congr : ∀ {m1 m2 : KV} {k : Key}, m1.get k = m2.get k → (F m1).get k = (F m2).get k

namespace ActsOn
variable {ka kb : List Key} {F G : KV → KV}

theorem id (ks : List Key) : ActsOn ks (fun m => m) := ⟨fun _ _ _ => rfl, fun h => h⟩

theorem comp (hF : ActsOn ka F) (hG : ActsOn kb G) : ActsOn (ka ++ kb) (fun m => G (F m)) where
  frame m k hk := by
    rw [List.mem_append, not_or] at hk
    rw [hG.frame _ hk.2, hF.frame m hk.1]
  congr h := hG.congr (hF.congr h)

theorem foldl {β : Type} (g : KV → β → KV) (key : β → Key) (h : ∀ b, ActsOn [key b] (g · b)) (l : List β) :
    ActsOn (l.map key) (fun m => l.foldl g m) := by
  induction l with
  | nil => exact ActsOn.id []
  | cons b l ih => exact (h b).comp ih

/-- at every key one of the two leaves the content alone -/
theorem comm (hF : ActsOn ka F) (hG : ActsOn kb G) (hd : ∀ k, k ∈ ka → k ∉ kb) (m : KV) (k : Key) :
    (G (F m)).get k = (F (G m)).get k := by
  by_cases h : k ∈ ka
  · rw [hG.frame _ (hd k h), hF.congr (hG.frame m (hd k h))]
  · rw [hF.frame _ h, hG.congr (hF.frame m h)]

end ActsOn

/-- the single-key step every key-addressed operation is made of (the total case of `ArrCfg.kvStep`) -/
theorem KV.applyW_acts (k0 : Key) (w : Option Bytes → Option Bytes) :
    ActsOn [k0] (fun m => m.applyW k0 (w (m.get k0))) where
  frame m k hk := by rw [KV.get_applyW, if_neg (mt List.mem_singleton.2 hk)]
  congr {m1 m2 k} h := by
    rw [KV.get_applyW, KV.get_applyW]
    split
    next e => rw [← e, h]
    next => exact h

theorem Spec.step_acts {op : StoreOp} {ks : List Key} (hop : op.keys = some ks) :
    ActsOn ks (fun m => (Spec.step m op).1) := by
  cases op with
  | set k0 v => cases hop; exact KV.applyW_acts k0 fun _ => some v
  | setPartial kovs =>
    cases hop
    exact ActsOn.foldl _ (·.1) (fun x => KV.applyW_acts x.1 fun o => some (specSetPartial (o.getD []) x.2.1 x.2.2)) kovs
  | erase k0 => cases hop; exact KV.applyW_acts k0 fun _ => none
  | eraseValues ks0 =>
    cases hop
    have := ActsOn.foldl KV.erase (fun k => k) (fun k => KV.applyW_acts k fun _ => none) ks
    rwa [List.map_id'] at this
  | get _ | getPartial _ _ | sizeKey _ => exact ActsOn.id ks
  | _ => cases hop

theorem Spec.step_result_congr {m1 m2 : KV} {op : StoreOp} {ks : List Key} (hop : op.keys = some ks)
    (h : ∀ k ∈ ks, m1.get k = m2.get k) : (Spec.step m1 op).2 = (Spec.step m2 op).2 := by
  cases op with
  | get k0 | getPartial k0 _ | sizeKey k0 =>
    cases hop
    simp only [Spec.step, h k0 (List.mem_singleton_self k0)]
  | set _ _ | setPartial _ | erase _ | eraseValues _ => rfl
  | _ => cases hop

theorem disjointKeys_iff (a b : List Key) : disjointKeys a b = true ↔ ∀ k, k ∈ a → k ∉ b := by
  simp only [disjointKeys, List.all_eq_true, Bool.not_eq_true', List.contains_eq_mem, decide_eq_false_iff_not]

theorem disjointKeys_symm (a b : List Key) (h : disjointKeys a b = true) : disjointKeys b a = true := by
  rw [disjointKeys_iff] at h ⊢
  intro k hb ha
  exact h k ha hb

theorem runOps_nil (m : KV) : runOps m [] = (m, []) := rfl

theorem runOps_cons_snd (m : KV) (op : StoreOp) (rest : List StoreOp) :
    (runOps m (op :: rest)).2 = (Spec.step m op).2 :: (runOps (Spec.step m op).1 rest).2 := rfl

theorem runOps_append_fst (m : KV) (a b : List StoreOp) :
    (runOps m (a ++ b)).1 = (runOps (runOps m a).1 b).1 := by
  induction a generalizing m with
  | nil => rfl
  | cons op a ih => exact ih _

theorem runOps_sorted {m : KV} (hs : m.sorted) (t : List StoreOp) : (runOps m t).1.sorted := by
  induction t generalizing m with
  | nil => exact hs
  | cons op t ih => exact ih (Spec.step_sorted m hs op)

theorem Task.keyAddressed_cons (op : StoreOp) (t : Task) :
    Task.keyAddressed (op :: t) = true ↔ (∃ ks, op.keys = some ks) ∧ Task.keyAddressed t = true := by
  rw [Task.keyAddressed, List.all_cons, Bool.and_eq_true, Option.isSome_iff_exists]
  rfl

theorem Task.keys_cons (op : StoreOp) (t : Task) :
    Task.keys (op :: t) = (op.keys).getD [] ++ Task.keys t :=
  List.flatMap_cons

theorem Task.keys_nil : Task.keys [] = [] := rfl

theorem Task.keys_append (t u : Task) : Task.keys (t ++ u) = Task.keys t ++ Task.keys u :=
  List.flatMap_append

theorem Task.keyAddressed_append (t u : Task) :
    Task.keyAddressed (t ++ u) = true ↔ Task.keyAddressed t = true ∧ Task.keyAddressed u = true := by
  rw [Task.keyAddressed, List.all_append, Bool.and_eq_true]
  rfl

theorem Task.keys_flatten (ts : List Task) (k : Key) :
    k ∈ Task.keys ts.flatten ↔ ∃ t ∈ ts, k ∈ Task.keys t := by
  induction ts with
  | nil => simp [Task.keys]
  | cons t ts ih => rw [List.flatten_cons, Task.keys_append, List.mem_append, ih]; simp

theorem Task.keyAddressed_flatten (ts : List Task) (h : ∀ t ∈ ts, Task.keyAddressed t = true) :
    Task.keyAddressed ts.flatten = true := by
  rw [Task.keyAddressed, List.all_flatten, List.all_eq_true]
  exact h

theorem runOps_acts (t : Task) (ht : t.keyAddressed = true) : ActsOn t.keys (fun m => (runOps m t).1) := by
  induction t with
  | nil => exact ActsOn.id []
  | cons op t ih =>
    obtain ⟨⟨ks, hks⟩, ht'⟩ := (Task.keyAddressed_cons op t).1 ht
    rw [Task.keys_cons, hks]
    exact (Spec.step_acts hks).comp (ih ht')

theorem runOps_frame (m : KV) (t : Task) (ht : t.keyAddressed = true) (k : Key) (hk : k ∉ t.keys) :
    (runOps m t).1.get k = m.get k :=
  (runOps_acts t ht).frame m hk

theorem runOps_task_comm (m : KV) (hs : m.sorted) (t u : Task) (ht : t.keyAddressed = true)
    (hu : u.keyAddressed = true) (hd : ∀ k, k ∈ t.keys → k ∉ u.keys) :
    (runOps m (t ++ u)).1 = (runOps m (u ++ t)).1 := by
  rw [runOps_append_fst, runOps_append_fst]
  exact KV.ext_sorted _ _ (runOps_sorted (runOps_sorted hs t) u) (runOps_sorted (runOps_sorted hs u) t)
    ((runOps_acts t ht).comm (runOps_acts u hu) hd m)

def PrivateTo (ts : List Task) (i : Nat) (S : Key → Prop) : Prop :=
  ∀ j, j ≠ i → ∀ k ∈ Task.keys (ts.getD j []), ¬ S k

/-- `pairwiseDisjoint` by position -/
def PairwisePrivate (ts : List Task) : Prop := ∀ i, PrivateTo ts i (· ∈ Task.keys (ts.getD i []))

theorem pairwisePrivate_of_pairwiseDisjoint {ts : List Task} (h : pairwiseDisjoint ts = true) :
    PairwisePrivate ts := by
  induction ts with
  | nil => intro i j _ k hk; cases hk
  | cons t ts ih =>
    rw [pairwiseDisjoint, Bool.and_eq_true, List.all_eq_true] at h
    -- the head against a later position, which holds a member of `ts` or the empty task
    have head : ∀ j k, k ∈ Task.keys t → k ∉ Task.keys (ts.getD j []) := fun j k hk =>
      getD_forall (P := fun u => k ∉ Task.keys u) (fun u hu => (disjointKeys_iff _ _).1 (h.1 u hu) k hk)
        (Task.keys_nil ▸ List.not_mem_nil) j
    intro i j hji k hj hi
    cases i with
    | zero =>
      cases j with
      | zero => exact hji rfl
      | succ j => exact head j k hi hj
    | succ i =>
      cases j with
      | zero => exact head i k hj hi
      | succ j => exact ih h.2 i j (fun e => hji (congrArg (· + 1) e)) k hj hi

theorem isMergeOf_iff (ts : List Task) (sched : List Nat) :
    isMergeOf ts sched = true ↔
      (∀ j, j < ts.length → (sched.filter (· == j)).length = (ts.getD j []).length) ∧
      ∀ i ∈ sched, i < ts.length := by
  simp only [isMergeOf, Bool.and_eq_true, List.all_eq_true, List.mem_range, beq_iff_eq, decide_eq_true_eq]

theorem isMergeOf_nil {ts : List Task} (h : isMergeOf ts [] = true) : ∀ t ∈ ts, t = [] := by
  intro t ht
  obtain ⟨j, hj, rfl⟩ := List.getElem_of_mem ht
  have := ((isMergeOf_iff ts []).1 h).1 j hj
  rw [List.getD_eq_getElem?_getD, List.getElem?_eq_getElem hj] at this
  exact List.eq_nil_of_length_eq_zero this.symm

theorem isMergeOf_cons {ts : List Task} {i : Nat} {rest : List Nat} (h : isMergeOf ts (i :: rest) = true) :
    ∃ op more, ts[i]? = some (op :: more) ∧ isMergeOf (ts.set i more) rest = true := by
  rw [isMergeOf_iff] at h
  obtain ⟨hcnt, hlt⟩ := h
  have hil : i < ts.length := hlt i List.mem_cons_self
  have hlen := hcnt i hil
  rw [List.filter_cons_of_pos (by simp), List.length_cons, List.getD_eq_getElem?_getD,
    List.getElem?_eq_getElem hil, Option.getD_some] at hlen
  cases hti : ts[i] with
  | nil => rw [hti] at hlen; cases hlen
  | cons op more =>
    refine ⟨op, more, by rw [List.getElem?_eq_getElem hil, hti], ?_⟩
    rw [isMergeOf_iff, List.length_set]
    refine ⟨fun j hj => ?_, fun j hj => hlt j (List.mem_cons_of_mem _ hj)⟩
    rw [getD_set hil]
    split
    next e =>
      subst e
      rw [hti, List.length_cons] at hlen
      exact Nat.succ.inj hlen
    next e =>
      have := hcnt j hj
      rwa [List.filter_cons_of_neg (by simpa using fun h : i = j => e h.symm)] at this

theorem runMerge_nil (m : KV) (ts : List Task) : runMerge m ts [] = (m, []) := rfl

theorem runMerge_sorted {m : KV} (hs : m.sorted) (ts : List Task) (sched : List Nat) :
    (runMerge m ts sched).1.sorted := by
  induction sched generalizing m ts with
  | nil => exact hs
  | cons i rest ih =>
    rw [runMerge]
    split
    · exact ih (Spec.step_sorted m hs _) _
    · exact ih hs _

theorem resultsOf_cons (j i : Nat) (r : StoreRes) (rs : List (Nat × StoreRes)) :
    resultsOf j ((i, r) :: rs) = if i = j then r :: resultsOf j rs else resultsOf j rs := by
  simp only [resultsOf, List.filter_cons, beq_iff_eq]
  split <;> rfl

/-- Task `i` inside a merge against its solo run, on keys `S` private to it.  The solo run has its own store `m'`: the steps
of the other tasks change `m` outside `S`, and the two runs keep agreeing on `S`.  Nothing is asked of the other tasks
among themselves. -/
theorem runMerge_solo {S : Key → Prop} {i : Nat} {sched : List Nat} {m m' : KV} {ts : List Task}
    (hk : ∀ t ∈ ts, Task.keyAddressed t = true) (hm : isMergeOf ts sched = true)
    (hS : PrivateTo ts i S) (hag : AgreeOn S m m') :
    AgreeOn S (runMerge m ts sched).1 (runOps m' (ts.getD i [])).1 ∧
    ((∀ k ∈ Task.keys (ts.getD i []), S k) →
      resultsOf i (runMerge m ts sched).2 = (runOps m' (ts.getD i [])).2) := by
  induction sched generalizing m m' ts with
  | nil =>
    rw [getD_forall (P := (· = [])) (isMergeOf_nil hm) rfl i]
    exact ⟨hag, fun _ => rfl⟩
  | cons i0 rest ih =>
    obtain ⟨op, more, hi?, hm'⟩ := isMergeOf_cons hm
    have hil : i0 < ts.length := (List.getElem?_eq_some_iff.1 hi?).1
    have hti : ts.getD i0 [] = op :: more := getD_of_getElem? hi?
    obtain ⟨⟨ks, hks⟩, hmore⟩ := (Task.keyAddressed_cons op more).1 (hk _ (List.mem_of_getElem? hi?))
    have hkeys : Task.keys (ts.getD i0 []) = ks ++ Task.keys more := by rw [hti, Task.keys_cons, hks]; rfl
    have hk' : ∀ t ∈ ts.set i0 more, Task.keyAddressed t = true := fun t ht =>
      (List.mem_or_eq_of_mem_set ht).elim (hk t) fun e => e ▸ hmore
    have hS' : PrivateTo (ts.set i0 more) i S := fun j hj k hkj => by
      rw [getD_set hil] at hkj
      split at hkj
      next e => exact hS j hj k (e ▸ hkeys ▸ List.mem_append_right _ hkj)
      next => exact hS j hj k hkj
    rw [runMerge]
    simp only [hi?]
    by_cases hi : i = i0
    · subst hi
      have ⟨ihS, ihR⟩ := ih (m := (Spec.step m op).1) (m' := (Spec.step m' op).1) hk' hm' hS' fun k hk =>
        (Spec.step_acts hks).congr (hag k hk)
      rw [getD_set hil, if_pos rfl] at ihS ihR
      rw [hti]
      refine ⟨ihS, fun hSi => ?_⟩
      rw [resultsOf_cons, if_pos rfl, ihR fun k hk => hSi k (hti ▸ hkeys ▸ List.mem_append_right _ hk),
        Spec.step_result_congr hks fun k hk => hag k (hSi k (hti ▸ hkeys ▸ List.mem_append_left _ hk))]
      rfl
    · have ⟨ihS, ihR⟩ := ih (m := (Spec.step m op).1) (m' := m') hk' hm' hS' fun k hk =>
        ((Spec.step_acts hks).frame m fun h => hS i0 (Ne.symm hi) k (hkeys ▸ List.mem_append_left _ h) hk).trans
          (hag k hk)
      rw [getD_set hil, if_neg hi] at ihS ihR
      exact ⟨ihS, fun hSi => by rw [resultsOf_cons, if_neg (Ne.symm hi), ihR hSi]⟩

theorem runOps_flatten_solo {S : Key → Prop} {i : Nat} {ts : List Task}
    (hk : ∀ t ∈ ts, Task.keyAddressed t = true) (hS : PrivateTo ts i S) (m : KV) :
    AgreeOn S (runOps m ts.flatten).1 (runOps m (ts.getD i [])).1 := by
  induction ts generalizing m i with
  | nil => exact fun _ _ => rfl
  | cons t ts ih =>
    intro k hSk
    have hk' : ∀ v ∈ ts, Task.keyAddressed v = true := fun v hv => hk v (List.mem_cons_of_mem _ hv)
    rw [List.flatten_cons, runOps_append_fst]
    cases i with
    | zero =>
      refine runOps_frame _ _ (Task.keyAddressed_flatten ts hk') k fun h => ?_
      obtain ⟨u, hu, hku⟩ := (Task.keys_flatten ts k).1 h
      obtain ⟨j, hj, rfl⟩ := List.getElem_of_mem hu
      exact hS (j + 1) (Nat.succ_ne_zero j) k (getD_of_getElem? (d := []) (List.getElem?_eq_getElem hj) ▸ hku) hSk
    | succ i =>
      rw [ih hk' (fun j hj => hS (j + 1) fun e => hj (Nat.succ.inj e)) _ k hSk]
      exact (runOps_acts _ (getD_forall (P := (Task.keyAddressed · = true)) (d := []) hk' rfl i)).congr
        (runOps_frame m t (hk t List.mem_cons_self) k fun h => hS 0 (Nat.succ_ne_zero i).symm k h hSk)

theorem runMerge_eq {sched : List Nat} {m : KV} {ts : List Task} (hs : m.sorted)
    (hk : ∀ t ∈ ts, Task.keyAddressed t = true) (hd : pairwiseDisjoint ts = true) (hm : isMergeOf ts sched = true) :
    (runMerge m ts sched).1 = (runOps m ts.flatten).1 ∧
    ∀ i, i < ts.length → resultsOf i (runMerge m ts sched).2 = (runOps m (ts.getD i [])).2 := by
  have hpd := pairwisePrivate_of_pairwiseDisjoint hd
  refine ⟨KV.ext_sorted _ _ (runMerge_sorted hs ts sched) (runOps_sorted hs _) fun k => ?_, fun i _ =>
    (runMerge_solo hk hm (hpd i) (AgreeOn.refl _ m)).2 fun _ h => h⟩
  -- both runs leave at `k` what the task that touches `k` leaves there (any task, if none does)
  have ⟨i, hS⟩ : ∃ i, PrivateTo ts i (· = k) := by
    by_cases h : ∃ i, k ∈ Task.keys (ts.getD i [])
    · exact h.elim fun i hi => ⟨i, fun j hj k' hkj e => hpd i j hj k' hkj (e ▸ hi)⟩
    · exact ⟨0, fun j _ k' hkj e => h ⟨j, e ▸ hkj⟩⟩
  exact ((runMerge_solo hk hm hS (AgreeOn.refl _ m)).1 k rfl).trans (runOps_flatten_solo hk hS m k rfl).symm

end Zarrs
