import ZarrsModel.Model.Array
import ZarrsModel.Lemmas.Store
/-
A chunk lives in ONE cell of the store, the value under its key.  Each single-chunk operation of `Model/Array.lean` is
a function of that cell: a read decodes it (`retrieveChunkV`), a write computes an outcome from it — fail, erase, or set
(`storeChunkW`, `storeChunkSubsetW`) — and applies the outcome to the store (`KV.applyW`).  These equations are the one
place where the case trees of `storeChunk`, `retrieveChunk` and `storeChunkSubset` are walked; frame and locality
(C16), the refinement (C01), the caches (C06) and the fault analysis (C20) read them.
-/
namespace Zarrs

namespace KV

def applyW (s : KV) (k : Key) : Option Bytes → KV
  | none => s.erase k
  | some v => s.put k v

theorem get_applyW (s : KV) (k : Key) (w : Option Bytes) (k' : Key) :
    (s.applyW k w).get k' = if k' = k then w else s.get k' := by
  cases w with
  | none => exact get_erase s k k'
  | some v =>
    by_cases h : k' = k
    · rw [if_pos h, h]; exact get_put_same s k v
    · rw [if_neg h]; exact get_put_other s k k' v h

theorem applyW_sorted (s : KV) (hs : s.sorted) (k : Key) (w : Option Bytes) : (s.applyW k w).sorted := by
  cases w with
  | none => exact erase_sorted s hs k
  | some v => exact put_sorted s hs k v

end KV

namespace ArrCfg
variable {α : Type} {cfg : ArrCfg α}

def retrieveChunkV (cfg : ArrCfg α) (c : Idx) (old : Option Bytes) : Option (List α) :=
  match cfg.chunkShape c with
  | none => none
  | some s =>
    match old with
    | none => some (List.replicate (prod s) cfg.fill)
    | some b => match cfg.dec b with
      | some xs => if xs.length = prod s then some xs else none
      | none => none

theorem retrieveChunk_eqV (st : KV) (c : Idx) :
    cfg.retrieveChunk st c = cfg.retrieveChunkV c (st.get (cfg.keyOf c)) := by
  simp only [retrieveChunk, retrieveChunkIfExists, retrieveChunkV]
  cases cfg.chunkShape c with
  | none => rfl
  | some s =>
    cases st.get (cfg.keyOf c) with
    | none => rfl
    | some b =>
      simp only
      cases cfg.dec b with
      | none => rfl
      | some xs => by_cases hl : xs.length = prod s <;> simp [hl]

variable [BEq α]

/-- outcome of `store_chunk`: `none` = error, `some none` = erase the key, `some (some v)` = set it to `v` -/
def storeChunkW (cfg : ArrCfg α) (c : Idx) (data : List α) : Option (Option Bytes) :=
  match cfg.chunkShape c with
  | none => none
  | some s =>
    if data.length != prod s then none
    else if !cfg.storeEmpty && cfg.isFill data then some none
    else some (some (cfg.enc data))

theorem storeChunk_eq (st : KV) (c : Idx) (d : List α) :
    cfg.storeChunk st c d = (cfg.storeChunkW c d).map (st.applyW (cfg.keyOf c)) := by
  simp only [storeChunk, storeChunkW]
  cases cfg.chunkShape c with
  | none => rfl
  | some s =>
    simp only [apply_ite (Option.map _), Option.map_none, Option.map_some]
    rfl

theorem storeChunkW_eq_some {c : Idx} {d : List α} {w : Option Bytes} :
    cfg.storeChunkW c d = some w ↔ ∃ s, cfg.chunkShape c = some s ∧ d.length = prod s ∧
      w = if (!cfg.storeEmpty && cfg.isFill d) = true then none else some (cfg.enc d) := by
  simp only [storeChunkW]
  cases cfg.chunkShape c with
  | none => simp
  | some s =>
    by_cases hl : d.length = prod s
    · by_cases hf : (!cfg.storeEmpty && cfg.isFill d) = true <;> simp [hl, hf, eq_comm]
    · simp [hl]

def storeChunkSubsetW (cfg : ArrCfg α) (c : Idx) (r : Subset) (data : List α) (old : Option Bytes) :
    Option (Option Bytes) :=
  match cfg.chunkShape c with
  | none => none
  | some s =>
    if !(r.rank == s.length && Subset.allLe r.endExc s) then none
    else if r.shape == s && r.start.all (· == 0) then cfg.storeChunkW c data
    else if data.length != r.numElements then none
    else match cfg.retrieveChunkV c old with
      | none => none
      | some oldxs => cfg.storeChunkW c (updateRuns s r oldxs data)

theorem storeChunkSubset_eq (st : KV) (c : Idx) (r : Subset) (d : List α) :
    cfg.storeChunkSubset st c r d =
      (cfg.storeChunkSubsetW c r d (st.get (cfg.keyOf c))).map (st.applyW (cfg.keyOf c)) := by
  simp only [storeChunkSubset, storeChunkSubsetW, retrieveChunk_eqV, storeChunk_eq]
  cases cfg.chunkShape c with
  | none => rfl
  | some s =>
    simp only [apply_ite (Option.map _), Option.map_none]
    cases cfg.retrieveChunkV c (st.get (cfg.keyOf c)) <;> rfl

def kvStep (keyOf : Idx → Key) (W : Idx → Option Bytes → Option (Option Bytes)) (s : KV) (c : Idx) : Option KV :=
  (W c (s.get (keyOf c))).map (s.applyW (keyOf c))

theorem kvStep_frame {keyOf : Idx → Key} {W : Idx → Option Bytes → Option (Option Bytes)} {s s' : KV} {c : Idx}
    (h : kvStep keyOf W s c = some s') {k : Key} (hk : k ≠ keyOf c) : s'.get k = s.get k := by
  obtain ⟨w, _, rfl⟩ := Option.map_eq_some_iff.1 h
  rw [KV.get_applyW, if_neg hk]

end ArrCfg

theorem ArrCfg.keys_nodup {α : Type} {cfg : ArrCfg α} (hK : cfg.KeysInjective) (l : List Idx) (hnd : l.Nodup) :
    (l.map cfg.keyOf).Nodup := by
  rw [List.Nodup, List.pairwise_map]
  exact hnd.imp (fun {a b} hab e => hab (hK a b e))

end Zarrs
