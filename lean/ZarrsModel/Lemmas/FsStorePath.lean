import ZarrsModel.Model.FsStore
import ZarrsModel.Lemmas.Store
/- keys and paths: `splitPath` / `joinPath` are inverse on slash-free names; what prefixes, parents and validity of keys
mean for their paths (`dirKey_prefix_iff` and its corollaries, `parentOf_eq_dirKey`, `validKeyB_joinPath`) -/
namespace Zarrs.Fs
open Zarrs

theorem splitPath_ne_nil (k : Key) : splitPath k ≠ [] := by
  cases k with
  | nil => simp [splitPath]
  | cons c rest =>
    unfold splitPath
    split
    · simp
    · split <;> simp

theorem joinPath_cons_cons (c : Char) (x : Name) (xs : List Name) :
    joinPath ((c :: x) :: xs) = c :: joinPath (x :: xs) := by
  cases xs with
  | nil => rfl
  | cons y ys => rfl

theorem joinPath_nil_cons (y : Name) (ys : List Name) : joinPath ([] :: y :: ys) = '/' :: joinPath (y :: ys) := rfl

theorem join_split (k : Key) : joinPath (splitPath k) = k := by
  induction k with
  | nil => rfl
  | cons c rest ih =>
    unfold splitPath
    split
    · rename_i hc
      subst hc
      cases h : splitPath rest with
      | nil => exact absurd h (splitPath_ne_nil rest)
      | cons y ys => rw [joinPath_nil_cons, ← h, ih]
    · cases h : splitPath rest with
      | nil => exact absurd h (splitPath_ne_nil rest)
      | cons y ys =>
        simp only
        rw [joinPath_cons_cons, ← h, ih]

theorem splitPath_cons_ne (c : Char) (rest : Key) (hc : c ≠ '/') (x : Name) (xs : List Name)
    (h : splitPath rest = x :: xs) : splitPath (c :: rest) = (c :: x) :: xs := by
  rw [splitPath, if_neg hc, h]

theorem splitPath_name_slash (n : Name) (t : Key) (hn : '/' ∉ n) : splitPath (n ++ '/' :: t) = n :: splitPath t := by
  induction n with
  | nil => simp [splitPath]
  | cons c cs ih =>
    simp only [List.mem_cons, not_or] at hn
    have hc : c ≠ '/' := fun e => hn.1 e.symm
    rw [List.cons_append, splitPath_cons_ne _ _ hc _ _ (ih hn.2)]

theorem splitPath_name (n : Name) (hn : '/' ∉ n) : splitPath n = [n] := by
  induction n with
  | nil => rfl
  | cons c cs ih =>
    simp only [List.mem_cons, not_or] at hn
    have hc : c ≠ '/' := fun e => hn.1 e.symm
    rw [splitPath_cons_ne _ _ hc _ _ (ih hn.2)]

theorem split_join (ps : List Name) (hne : ps ≠ []) (hs : ∀ n ∈ ps, '/' ∉ n) : splitPath (joinPath ps) = ps := by
  induction ps with
  | nil => exact absurd rfl hne
  | cons n rest ih =>
    cases rest with
    | nil => simp [joinPath, splitPath_name n (hs n (List.mem_cons_self ..))]
    | cons m ms =>
      have : joinPath (n :: m :: ms) = n ++ '/' :: joinPath (m :: ms) := rfl
      rw [this, splitPath_name_slash n _ (hs n (List.mem_cons_self ..)),
        ih (by simp) (fun x hx => hs x (List.mem_cons_of_mem _ hx))]

theorem joinPath_append (ps qs : List Name) (hp : ps ≠ []) (hq : qs ≠ []) :
    joinPath (ps ++ qs) = joinPath ps ++ '/' :: joinPath qs := by
  induction ps with
  | nil => exact absurd rfl hp
  | cons n rest ih =>
    cases rest with
    | nil =>
      cases qs with
      | nil => exact absurd rfl hq
      | cons q qs' => rfl
    | cons m ms =>
      have h1 : joinPath (n :: m :: ms) = n ++ '/' :: joinPath (m :: ms) := rfl
      have h2 : joinPath ((n :: m :: ms) ++ qs) = n ++ '/' :: joinPath ((m :: ms) ++ qs) := rfl
      rw [h1, h2, ih (by simp)]
      simp

theorem joinPath_inj (ps qs : List Name) (hp : ps ≠ []) (hq : qs ≠ [])
    (hsp : ∀ n ∈ ps, '/' ∉ n) (hsq : ∀ n ∈ qs, '/' ∉ n) (h : joinPath ps = joinPath qs) : ps = qs := by
  rw [← split_join ps hp hsp, ← split_join qs hq hsq, h]

theorem joinPath_cons_of_ne_nil (n : Name) (path : List Name) (h : path ≠ []) :
    joinPath (n :: path) = n ++ '/' :: joinPath path := by
  cases path with
  | nil => exact absurd rfl h
  | cons x xs => rfl

theorem joinPath_eq_joinSep (ps : List Name) : joinPath ps = Keys.joinSep '/' ps := by
  induction ps with
  | nil => rfl
  | cons n rest ih =>
    cases rest with
    | nil => rfl
    | cons m ms => exact congrArg (fun x => n ++ '/' :: x) ih

theorem splitPath_noSlash (k : Key) : ∀ n ∈ splitPath k, '/' ∉ n := by
  induction k with
  | nil => simp [splitPath]
  | cons c rest ih =>
    unfold splitPath
    split
    · intro n hn
      rcases List.mem_cons.1 hn with rfl | hn
      · simp
      · exact ih n hn
    · next hc =>
      cases h : splitPath rest with
      | nil => exact absurd h (splitPath_ne_nil rest)
      | cons x xs =>
        rw [h] at ih
        intro n hn
        rcases List.mem_cons.1 hn with rfl | hn
        · simp only [List.mem_cons, not_or]
          exact ⟨fun e => hc e.symm, ih x (List.mem_cons_self ..)⟩
        · exact ih n (List.mem_cons_of_mem _ hn)

theorem splitPath_join_append (ps : List Name) (t : Key) (hne : ps ≠ []) (hs : ∀ n ∈ ps, '/' ∉ n) :
    splitPath (joinPath ps ++ '/' :: t) = ps ++ splitPath t := by
  conv => lhs; rw [← join_split t, ← joinPath_append ps _ hne (splitPath_ne_nil t)]
  exact split_join _ (by simp [hne]) fun n hn => (List.mem_append.1 hn).elim (hs n) (splitPath_noSlash t n)

theorem splitPath_inj {a b : Key} (h : splitPath a = splitPath b) : a = b := by
  rw [← join_split a, ← join_split b, h]

theorem plainName_spec {n : Name} (h : plainName n = true) : n ≠ [] ∧ '/' ∉ n := by
  unfold plainName at h
  simp only [Bool.and_eq_true, Bool.not_eq_true', List.isEmpty_eq_false_iff,
    List.contains_eq_mem, decide_eq_false_iff_not] at h
  exact ⟨h.1.1.1.1, h.1.1.1.2⟩

theorem plain_noSlash {path : List Name} (h : ∀ n ∈ path, plainName n = true) : ∀ n ∈ path, '/' ∉ n :=
  fun n hn => (plainName_spec (h n hn)).2

theorem noSlash_snoc {path : List Name} {n : Name} (h1 : ∀ x ∈ path, '/' ∉ x) (h2 : '/' ∉ n) :
    ∀ x ∈ path ++ [n], '/' ∉ x :=
  fun x hx => (List.mem_append.1 hx).elim (h1 x) fun h => List.mem_singleton.1 h ▸ h2

def dirKey (pp : List Name) : Key := if pp = [] then [] else joinPath pp ++ ['/']

theorem dirKey_nil : dirKey [] = [] := rfl
theorem dirKey_of_ne_nil (pp : List Name) (h : pp ≠ []) : dirKey pp = joinPath pp ++ ['/'] := by
  unfold dirKey; rw [if_neg h]

theorem joinPath_dirKey (pp rest : List Name) (hr : rest ≠ []) : joinPath (pp ++ rest) = dirKey pp ++ joinPath rest := by
  by_cases hp : pp = []
  · subst hp; rfl
  · rw [dirKey_of_ne_nil _ hp, joinPath_append _ _ hp hr]; simp

theorem splitPath_dirKey_append (pp q : List Name) (hq : q ≠ []) (h1 : ∀ n ∈ pp, '/' ∉ n) (h2 : ∀ n ∈ q, '/' ∉ n) :
    splitPath (dirKey pp ++ joinPath q) = pp ++ q := by
  rw [← joinPath_dirKey pp q hq, split_join _ (by simp [hq])]
  exact fun x hx => (List.mem_append.1 hx).elim (h1 x) (h2 x)

theorem dirKey_snoc (pp : List Name) (n : Name) : dirKey (pp ++ [n]) = dirKey pp ++ n ++ ['/'] := by
  rw [dirKey_of_ne_nil _ (by simp), joinPath_dirKey pp [n] (by simp)]
  rfl

theorem dirKey_dirShaped (pp : List Name) : dirShaped (dirKey pp) := by
  by_cases hp : pp = []
  · left; rw [hp]; rfl
  · right; exact ⟨_, dirKey_of_ne_nil _ hp⟩

theorem dirKey_prefix_append (pp rest : List Name) : (dirKey pp).isPrefixOf (dirKey (pp ++ rest)) = true := by
  rw [List.isPrefixOf_iff_prefix]
  by_cases hr : rest = []
  · subst hr; rw [List.append_nil]; exact List.prefix_refl _
  · rw [dirKey_of_ne_nil (pp ++ rest) (by simp [hr]), joinPath_dirKey pp rest hr, List.append_assoc]
    exact List.prefix_append _ _

theorem dirKey_prefix_iff (pp path : List Name) (hne : path ≠ []) (hsp : ∀ n ∈ pp, '/' ∉ n)
    (hs : ∀ n ∈ path, '/' ∉ n) :
    dirKey pp <+: joinPath path ↔ ∃ rest, rest ≠ [] ∧ path = pp ++ rest := by
  by_cases hp : pp = []
  · subst hp
    exact ⟨fun _ => ⟨path, hne, rfl⟩, fun _ => List.nil_prefix⟩
  · rw [dirKey_of_ne_nil _ hp]
    constructor
    · rintro ⟨t, ht⟩
      have h := congrArg splitPath ht
      rw [List.append_assoc, List.singleton_append, splitPath_join_append pp t hp hsp, split_join path hne hs] at h
      exact ⟨splitPath t, splitPath_ne_nil t, h.symm⟩
    · rintro ⟨rest, hr, rfl⟩
      rw [joinPath_append _ _ hp hr]
      exact ⟨joinPath rest, by simp⟩

theorem dirKey_inj (a b : List Name) (ha : ∀ n ∈ a, '/' ∉ n) (hb : ∀ n ∈ b, '/' ∉ n) (h : dirKey a = dirKey b) :
    a = b := by
  by_cases ea : a = []
  · subst ea
    by_cases eb : b = []
    · exact eb.symm
    · rw [dirKey_nil, dirKey_of_ne_nil _ eb] at h
      simp at h
  · by_cases eb : b = []
    · subst eb
      rw [dirKey_nil, dirKey_of_ne_nil _ ea] at h
      simp at h
    · rw [dirKey_of_ne_nil _ ea, dirKey_of_ne_nil _ eb] at h
      exact joinPath_inj a b ea eb ha hb (List.append_cancel_right h)

theorem hasPrefix_dirKey_iff {pp : List Name} (hsp : ∀ n ∈ pp, '/' ∉ n) (k : Key) :
    hasPrefix k (dirKey pp) = true ↔ ∃ rest, rest ≠ [] ∧ splitPath k = pp ++ rest := by
  unfold hasPrefix
  rw [List.isPrefixOf_iff_prefix]
  conv => lhs; rw [← join_split k]
  exact dirKey_prefix_iff pp _ (splitPath_ne_nil k) hsp (splitPath_noSlash k)

theorem dirKey_splitPath (k : Key) : dirKey (splitPath k) = k ++ ['/'] := by
  rw [dirKey_of_ne_nil _ (splitPath_ne_nil k), join_split]

theorem dirPrefixOf_iff_append (a b : Key) :
    dirPrefixOf a b = true ↔ ∃ rest, rest ≠ [] ∧ splitPath b = splitPath a ++ rest := by
  unfold dirPrefixOf
  rw [← dirKey_splitPath]
  exact hasPrefix_dirKey_iff (splitPath_noSlash a) b

theorem dirPrefixOf_self (k : Key) : dirPrefixOf k k = false := by
  cases h : dirPrefixOf k k with
  | false => rfl
  | true =>
    obtain ⟨rest, hr, e⟩ := (dirPrefixOf_iff_append k k).1 h
    exact absurd (List.self_eq_append_right.1 e) hr

theorem properPrefix_iff {α} (p q : List α) : (∃ rest, rest ≠ [] ∧ q = p ++ rest) ↔ (p <+: q ∧ p ≠ q) := by
  constructor
  · rintro ⟨rest, hr, rfl⟩
    exact ⟨⟨rest, rfl⟩, fun e => hr (List.self_eq_append_right.1 e)⟩
  · rintro ⟨⟨rest, rfl⟩, hne⟩
    exact ⟨rest, by intro e; subst e; simp at hne, rfl⟩

theorem path_snoc (path : List Name) (hp : path ≠ []) :
    ∃ name, path.getLast? = some name ∧ path = path.dropLast ++ [name] := by
  refine ⟨path.getLast hp, List.getLast?_eq_some_getLast hp, (List.dropLast_concat_getLast hp).symm⟩

theorem key_split_last (k : Key) : ∃ last, '/' ∉ last ∧ splitPath k = (splitPath k).dropLast ++ [last] ∧
    k = dirKey (splitPath k).dropLast ++ last := by
  obtain ⟨last, _, hsplit⟩ := path_snoc (splitPath k) (splitPath_ne_nil k)
  refine ⟨last, splitPath_noSlash k last (by rw [hsplit]; simp), hsplit, ?_⟩
  conv => lhs; rw [← join_split k, hsplit, joinPath_dirKey _ [last] (by simp)]
  rfl

theorem parentOf_eq_dirKey (k : Key) : parentOf k = dirKey (splitPath k).dropLast := by
  obtain ⟨last, hl, _, hk⟩ := key_split_last k
  conv => lhs; rw [hk]
  exact parentOf_append_noSlash _ last (dirKey_dirShaped _) hl

theorem keyPath_eq_splitPath {k : Key} {path : List Name} (h : keyPath k = some path) : path = splitPath k := by
  unfold keyPath at h
  split at h
  · exact (Option.some.inj h).symm
  · cases h

theorem keyPath_plain {k : Key} {path : List Name} (h : keyPath k = some path) : ∀ n ∈ path, plainName n = true := by
  have e := keyPath_eq_splitPath h
  unfold keyPath at h
  split at h
  · next hall => exact e ▸ List.all_eq_true.1 hall
  · cases h

theorem keyPath_ne_nil {k : Key} {path : List Name} (h : keyPath k = some path) : path ≠ [] :=
  keyPath_eq_splitPath h ▸ splitPath_ne_nil k

theorem joinPath_keyPath {k : Key} {path : List Name} (h : keyPath k = some path) : joinPath path = k :=
  keyPath_eq_splitPath h ▸ join_split k

theorem keyPath_joinPath (path : List Name) (hne : path ≠ []) (hpl : ∀ n ∈ path, plainName n = true) :
    keyPath (joinPath path) = some path := by
  unfold keyPath
  rw [split_join path hne (plain_noSlash hpl), if_pos (List.all_eq_true.2 hpl)]

theorem prefixPath_spec {p : Key} {path : List Name} (h : prefixPath p = some path) :
    p = dirKey path ∧ (∀ n ∈ path, plainName n = true) := by
  unfold prefixPath at h
  split at h
  · rename_i he
    simp only [Option.some.injEq] at h
    subst h
    have : p = [] := by simpa using he
    exact ⟨by rw [this]; rfl, by simp⟩
  · split at h
    · rename_i hl
      refine ⟨?_, keyPath_plain h⟩
      rw [dirKey_of_ne_nil _ (keyPath_ne_nil h), joinPath_keyPath h]
      have hl' : p.getLast? = some '/' := by simpa using hl
      obtain ⟨q, rfl⟩ := List.getLast?_eq_some_iff.1 hl'
      simp
    · cases h

theorem dirPrefixOf_iff {a b : Key} {pa pb : List Name} (ha : keyPath a = some pa) (hb : keyPath b = some pb) :
    dirPrefixOf a b = true ↔ (pa <+: pb ∧ pa ≠ pb) := by
  rw [dirPrefixOf_iff_append, ← keyPath_eq_splitPath ha, ← keyPath_eq_splitPath hb, properPrefix_iff]

theorem compatKeys_iff (ks : List Key) : compatKeys ks = true ↔ ∀ a ∈ ks, ∀ b ∈ ks, dirPrefixOf a b = false := by
  simp only [compatKeys, List.all_eq_true, Bool.not_eq_true']

theorem validKeyB_joinPath (path : List Name) (hne : path ≠ []) (hpl : ∀ n ∈ path, plainName n = true) :
    validKeyB (joinPath path) = true := by
  rw [validKeyB_iff, joinPath_eq_joinSep]
  exact Keys.joinSep_goodKey '/' path hne fun x hx =>
    Keys.GoodKey.of_noSlash (plainName_spec (hpl x hx)).1 (plainName_spec (hpl x hx)).2

end Zarrs.Fs
