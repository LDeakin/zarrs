import ZarrsModel.Lemmas.FsStoreTree
/- the write primitives of the tree on path resolution: `mkdirAll` followed by `openWrite` (`set_spec`), unlinking an
entry (`unlink_spec`); what they do in the one directory has a name (`writeEntry`, `unlinkIf`: `openWrite_eq`,
`removeFile_eq`, `removeDirAll_eq`) -/
namespace Zarrs.Fs
open Zarrs

namespace Tree

theorem put1_lookup1_self (t : Tree) (hi : t.Inv) (m : Name) (e : Ent) (h : t.lookup1 m = some e) :
    t.put1 m e = t := by
  induction t using consInd with
  | hnil => simp [lookup1] at h
  | hcons n e0 rest ih =>
    rw [inv_cons] at hi
    rw [lookup1_cons] at h
    rw [put1_cons]
    by_cases h1 : m = n
    · subst h1
      simp only [if_true, Option.some.injEq] at h
      rw [if_pos rfl, h]
    · rw [if_neg h1] at h
      have hm : m ∈ rest.names := by
        apply Classical.byContradiction
        intro hn
        rw [(lookup1_eq_none_iff rest m).2 hn] at h
        cases h
      have hlt := hi.2.1 m hm
      have h2 : ¬ keyLt m n = true := by
        intro h2
        have := keyLt_trans _ _ _ h2 hlt
        rw [keyLt_irrefl] at this; cases this
      rw [if_neg h1, if_neg h2, ih hi.2.2.2 h]

theorem mkdirAll_of_dir (t : Tree) (hi : t.Inv) (dirs : List Name) (d : Tree) (h : t.stat dirs = .dir d) :
    t.mkdirAll dirs = .ok t := by
  induction dirs generalizing t with
  | nil => rfl
  | cons n rest ih =>
    obtain ⟨c, hl, hc⟩ := stat_cons_dir h
    unfold mkdirAll
    rw [hl]
    simp only
    rw [ih c (inv_lookup1 t hi n _ hl).1 hc]
    simp only
    rw [put1_lookup1_self t hi n _ hl]

def oldAt (t : Tree) (path : List Name) : Option Bytes := t.fileAt path

theorem statFree_cases (t : Tree) (path : List Name)
    (h : t.stat path = .noent ∨ ∃ b, t.stat path = .file b) :
    (t.stat path = .noent ∧ t.fileAt path = none) ∨ (∃ b, t.stat path = .file b ∧ t.fileAt path = some b) := by
  rcases h with h | ⟨b, h⟩
  · left; exact ⟨h, by unfold fileAt; rw [h]⟩
  · right; exact ⟨b, h, by unfold fileAt; rw [h]⟩

def writeEntry (name : Name) (f : Option Bytes → Bytes) (d : Tree) : Except IoErr Tree :=
  match d.lookup1 name with
  | some (.dir _) => .error .other
  | some (.file b) => .ok (d.put1 name (.file (f (some b))))
  | none => .ok (d.put1 name (.file (f none)))

theorem openWrite_eq (t : Tree) (dirs : List Name) (name : Name) (f : Option Bytes → Bytes) :
    t.openWrite dirs name f = t.atDir dirs (writeEntry name f) := rfl

theorem writeEntry_inv {name : Name} (hn : plainName name = true) (f : Option Bytes → Bytes) (d d' : Tree) (hd : d.Inv)
    (h : writeEntry name f d = .ok d') : d'.Inv := by
  unfold writeEntry at h
  split at h
  · cases h
  · cases h; exact inv_put1 d hd name _ hn trivial
  · cases h; exact inv_put1 d hd name _ hn trivial

theorem openWrite_inv (t : Tree) (hi : t.Inv) (dirs : List Name) (name : Name) (hn : plainName name = true)
    (f : Option Bytes → Bytes) (t' : Tree) (h : t.openWrite dirs name f = .ok t') : t'.Inv :=
  atDir_inv t dirs _ t' hi (writeEntry_inv hn f) (openWrite_eq t dirs name f ▸ h)

/-- nothing is said of the paths above and below `dirs/name`: above a file there are directories and below it ENOTDIR
in any tree (`kindAt_below`) -/
theorem set_spec (t : Tree) (dirs : List Name) (name : Name) (f : Option Bytes → Bytes)
    (h : t.kindAt (dirs ++ [name]) = .noent ∨ ∃ b, t.kindAt (dirs ++ [name]) = .file b) :
    ∃ t1 t', t.mkdirAll dirs = .ok t1 ∧ t1.openWrite dirs name f = .ok t' ∧
      t'.kindAt (dirs ++ [name]) = .file (f (t.fileAt (dirs ++ [name]))) ∧
      ∀ p, ¬ p <+: dirs ++ [name] → ¬ dirs ++ [name] <+: p → t'.kindAt p = t.kindAt p := by
  have hdir : t.stat dirs = .noent ∨ ∃ d, t.stat dirs = .dir d := by
    -- a file or ENOTDIR at the parent would leave ENOTDIR at the path
    by_cases hd : t.kindAt dirs = .dir
    · exact .inr ((kind_dir_iff _).1 hd)
    · rw [kindAt_below t dirs [name] (by simp) hd] at h
      split at h
      · next h0 => left; unfold kindAt at h0; cases hs : t.stat dirs <;> rw [hs] at h0 <;> first | rfl | cases h0
      · rcases h with h | ⟨_, h⟩ <;> cases h
  obtain ⟨t1, d1, h1, h2, h3⟩ := mkdirAll_ok t dirs hdir
  -- `create_dir_all` changes resolution only at `dirs` and above
  have hsame : ∀ p, ¬ p <+: dirs → t1.kindAt p = t.kindAt p := fun p hp => by
    rw [← List.isPrefixOf_iff_prefix, Bool.not_eq_true] at hp
    exact (h3 p).trans (by rw [hp]; rfl)
  have hpath : ¬ dirs ++ [name] <+: dirs := fun hp => Nat.not_succ_le_self _ (by simpa using hp.length_le)
  -- the entry written: missing or a file, with the content `fileAt` sees
  have hw : writeEntry name f d1 = .ok (d1.put1 name (.file (f (t.fileAt (dirs ++ [name]))))) := by
    rw [fileAt_eq_kindAt]
    rw [← hsame _ hpath] at h ⊢
    unfold kindAt at h ⊢
    rw [stat_append_dir t1 dirs [name] d1 h2, stat_cons] at h ⊢
    unfold writeEntry
    cases hl : d1.lookup1 name with
    | none => rfl
    | some e =>
      cases e with
      | file b => rfl
      | dir c => rw [hl] at h; rcases h with h | ⟨b, h⟩ <;> cases h
  obtain ⟨t', ht'⟩ := (atDir_dir t1 dirs _ d1 h2).2 _ hw
  obtain ⟨d, d'', e1, e2, e3, e4⟩ := atDir_ok t1 dirs _ t' ht'
  rw [h2] at e1
  cases e1
  rw [hw] at e2
  cases e2
  refine ⟨t1, t', h1, (openWrite_eq ..).trans ht', ?_, fun p hp1 hp2 => ?_⟩
  · unfold kindAt
    rw [stat_append_dir t' dirs [name] _ e3, stat_cons, lookup1_put1, if_pos rfl]
    rfl
  · rw [← hsame p fun hp => hp1 (hp.trans (List.prefix_append _ _))]
    by_cases hp : dirs <+: p
    · -- in the directory `dirs`, at another entry than `name`
      obtain ⟨q, rfl⟩ := hp
      unfold kindAt
      rw [stat_append_dir t' dirs q _ e3, stat_append_dir t1 dirs q d1 h2]
      cases q with
      | nil => rw [List.append_nil] at hp1; exact absurd (List.prefix_append dirs [name]) hp1
      | cons m ms =>
        have hm : m ≠ name := fun e => hp2 (e ▸ (List.prefix_append_right_inj dirs).2 ⟨ms, rfl⟩)
        rw [stat_cons, lookup1_put1, if_neg hm, ← stat_cons]
    · exact e4 p hp

theorem del_spec (t : Tree) (dirs : List Name) (name : Name) (f : Tree → Except IoErr Tree)
    (hf : ∀ d d', f d = .ok d' → d' = d.del1 name) (t' : Tree) (h : t.atDir dirs f = .ok t') (p : List Name) :
    t'.kindAt p = if dirs ++ [name] <+: p then .noent else t.kindAt p := by
  obtain ⟨d, d', h1, h2, h3, h4⟩ := atDir_ok t dirs f t' h
  by_cases hp : dirs <+: p
  · -- below `dirs` the question is about the one directory `d`
    obtain ⟨q, rfl⟩ := hp
    unfold kindAt
    rw [stat_append_dir t' dirs q d' h3, stat_append_dir t dirs q d h1, hf d d' h2]
    simp only [List.prefix_append_right_inj]
    cases q with
    | nil => simp [stat_nil, Stat.kind]
    | cons m ms =>
      rw [stat_cons, lookup1_del1, stat_cons]
      by_cases hm : m = name
      · subst hm; simp [Stat.kind]
      · simp [hm, Ne.symm hm]
  · rw [h4 p hp, if_neg fun h' => hp ((List.prefix_append dirs [name]).trans h')]

/-- `unlink` of the entry `name` of one directory when it is of the wanted sort (`unlinkFile`: a file,
`unlinkDirAll`: a directory) -/
def unlinkIf (wantDir : Bool) (name : Name) (d : Tree) : Except IoErr Tree :=
  match d.lookup1 name with
  | some (.file _) => if wantDir then .error .other else .ok (d.del1 name)
  | some (.dir _) => if wantDir then .ok (d.del1 name) else .error .other
  | none => .error .notFound

theorem removeFile_eq (t : Tree) (dirs : List Name) (name : Name) :
    t.removeFile dirs name = t.atDir dirs (unlinkIf false name) := by
  unfold removeFile; congr

theorem removeDirAll_eq (t : Tree) (dirs : List Name) (name : Name) :
    t.removeDirAll dirs name = t.atDir dirs (unlinkIf true name) := by
  unfold removeDirAll; congr; funext d; unfold unlinkDirAll unlinkIf; rcases d.lookup1 name with _ | _ | _ <;> rfl

theorem unlinkIf_ok {wantDir : Bool} {name : Name} {d d' : Tree} (h : unlinkIf wantDir name d = .ok d') :
    d' = d.del1 name := by
  unfold unlinkIf at h
  split at h <;> cases wantDir <;> simp at h <;> exact h.symm

theorem unlinkIf_inv (wantDir : Bool) (name : Name) (d d' : Tree) (hd : d.Inv)
    (h : unlinkIf wantDir name d = .ok d') : d'.Inv := by
  rw [unlinkIf_ok h]; exact inv_del1 d hd name

/-- `NotFound` is the error the callers ignore, keeping the tree: hence `t' = t` there -/
theorem unlink_spec (t : Tree) (dirs : List Name) (name : Name) (wantDir : Bool)
    (h : t.kindAt (dirs ++ [name]) = .noent ∨ (wantDir = true ∧ t.kindAt (dirs ++ [name]) = .dir) ∨
      (wantDir = false ∧ ∃ b, t.kindAt (dirs ++ [name]) = .file b)) :
    ∃ t', (t.atDir dirs (unlinkIf wantDir name) = .ok t' ∨
        (t.atDir dirs (unlinkIf wantDir name) = .error .notFound ∧ t' = t)) ∧
      ∀ p, t'.kindAt p = if dirs ++ [name] <+: p then .noent else t.kindAt p := by
  unfold kindAt at h
  have key : (t.stat (dirs ++ [name]) = .noent ∧ t.atDir dirs (unlinkIf wantDir name) = .error .notFound) ∨
      ∃ t', t.atDir dirs (unlinkIf wantDir name) = .ok t' := by
    have hstat := stat_append t dirs [name]
    cases hs : t.stat dirs with
    | noent => exact .inl ⟨by rw [hstat, hs], atDir_noent t _ _ hs⟩
    | notdir => rw [hs] at hstat; rw [hstat] at h; rcases h with h | ⟨_, h⟩ | ⟨_, _, h⟩ <;> cases h
    | file b => rw [hs] at hstat; rw [hstat] at h; rcases h with h | ⟨_, h⟩ | ⟨_, _, h⟩ <;> cases h
    | dir d =>
      rw [hs] at hstat
      simp only [stat_cons] at hstat
      cases hl : d.lookup1 name with
      | none =>
        rw [hl] at hstat
        exact .inl ⟨hstat, (atDir_dir t dirs _ d hs).1 .notFound (by simp only [unlinkIf, hl])⟩
      | some e =>
        rw [hl] at hstat
        simp only [stat_nil] at hstat
        rw [hstat] at h
        refine .inr ((atDir_dir t dirs _ d hs).2 (d.del1 name) ?_)
        unfold unlinkIf
        rw [hl]
        cases e <;> rcases h with h | ⟨rfl, h⟩ | ⟨rfl, _, h⟩ <;> first | rfl | cases h
  rcases key with ⟨hno, hrm⟩ | ⟨t', ht'⟩
  · -- nothing there: the tree stays, and below a missing path everything is missing
    refine ⟨t, .inr ⟨hrm, rfl⟩, fun p => ?_⟩
    split
    · next hpre =>
      obtain ⟨q, rfl⟩ := hpre
      unfold kindAt
      rw [stat_append, hno]; rfl
    · rfl
  · exact ⟨t', .inl ht', del_spec t dirs name _ (fun _ _ => unlinkIf_ok) t' ht'⟩

end Tree

end Zarrs.Fs
