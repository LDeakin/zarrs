import ZarrsModel.Model.MetaV2
import ZarrsModel.Lemmas.MetaV2Conv
import ZarrsModel.Lemmas.MetaV2Wf
import ZarrsModel.Lemmas.MetaWf
import ZarrsModel.Lemmas.MetaOptsAlias
/- helper lemmas for C13 (V2): the V3 document produced by `v2ToV3` from a well-formed V2 document is a well-formed
   V3 document (`Meta.ArrayDoc.good`), so the V3 round-trip theorems apply to it -/
namespace Zarrs.MetaV2
open Zarrs.Json Zarrs.Meta

theorem bloscCnames_ascii : ∀ s ∈ bloscCnames, ∀ b ∈ s, b < 128 := by decide +kernel

theorem strOk_dtypeNameV3 (s : Str) (h : strOk s) : strOk (dtypeNameV3 s) := by
  unfold dtypeNameV3
  split
  · rename_i x hx
    exact strOk_ascii _ (MetaOpts.dtypeV2_ok.aliasAscii _ (MetaOpts.tblGet_some_mem _ _ _ hx))
  · split
    · exact strOk_ascii _ (by decide)
    · exact h

theorem strOk_codecName (id : Str) (h : strOk id) : strOk (codecName (codecIdent id)) :=
  MetaOpts.strOk_getD_tbl _ MetaOpts.codecV3_ok.nameAscii _ (MetaOpts.strOk_getD_tbl _ MetaOpts.codecV2_ok.aliasAscii _ h)

theorem natNum_wf (n : Nat) : (natNum n).wf := (num_wf_iff _).2 (NumTok.tokOk_natTok n)

theorem regularMeta_good (chunks : List (List Char)) (h : ∀ t ∈ chunks, tokOk t) : MetaV3.good (regularMeta chunks) :=
  metaV3_good_single _ _ _ true (strOk_ascii _ (by decide)) (strOk_ascii _ (by decide)) ((numArr_wf_iff _).2 h)

theorem v2KeyMeta_good (s : Sep) : MetaV3.good (v2KeyMeta s) :=
  metaV3_good_single _ _ _ true (strOk_ascii _ (by decide)) (strOk_ascii _ (by decide)) (sep_toJ_wf s)

theorem transposeMeta_good (n : Nat) : MetaV3.good (transposeMeta n) :=
  metaV3_good_single _ _ _ true (strOk_ascii _ (by decide)) (strOk_ascii _ (by decide))
    ((arrMap_wf_iff _ _).2 fun k _ => natNum_wf k)

theorem bytesMeta_good (e : Endian) : MetaV3.good (bytesMeta e) := by
  refine metaV3_good_single _ _ _ true (strOk_ascii _ (by decide)) (strOk_ascii _ (by decide)) ?_
  cases e <;> exact (str_wf_iff _).2 (strOk_ascii _ (by decide))

theorem fillV2ToV3_eq (f : FillV2) (v : J) (h : fillV2ToV3 f = some v) : v = f.toJ := by
  cases f <;> simp only [fillV2ToV3, Option.some.injEq, reduceCtorEq] at h <;> subst h <;> rfl

theorem fillConv_wf (n : Str) (f : FillV2) (hf : f.toJ.wf) (v : J) (h : fillConv n f = some v) : v.wf := by
  unfold fillConv at h
  split at h
  · cases h
  · rename_i v0 hv0
    have hv0w : v0.wf := by
      split at hv0
      · rename_i v1 h1
        cases hv0
        rw [fillV2ToV3_eq _ _ h1]; exact hf
      · split at hv0
        · cases hv0; exact (str_wf_iff _).2 strOk_nil
        · cases hv0
    split at h
    · split at h
      · cases h; exact bool_wf _
      · cases h; exact bool_wf _
      · cases h
      · cases h; exact hv0w
    · split at h
      · split at h
        · cases h; exact (str_wf_iff _).2 strOk_nil
        · cases h; exact hv0w
      · cases h; exact hv0w

theorem filterToV3_good (f : MetaV2) (h : f.wfp) : MetaV3.good (filterToV3 f).1 := by
  unfold filterToV3
  simp only
  split
  · exact good_config _ _ _ (strOk_codecName _ h.1) obj_nil_wf
  · exact good_config _ _ _ (strOk_codecName _ h.1) h.2

theorem compressorA2B_good (c : MetaV2) (h : c.wfp) (m : MetaV3) (hm : compressorA2B c = some m) : MetaV3.good m := by
  unfold compressorA2B at hm
  simp only at hm
  split at hm
  · cases hm
    exact good_config _ _ _ (strOk_codecName _ h.1) h.2
  · cases hm

theorem bloscOfObj_cname (c : Obj) (b : BloscNum) (h : bloscOfObj c = some b) : b.cname ∈ bloscCnames := by
  unfold bloscOfObj at h
  split at h
  · cases h
  · split at h
    · split at h
      · split at h
        · rename_i hc
          cases h
          simp only [Bool.and_eq_true, List.contains_iff_mem] at hc
          exact hc.1.1
        · cases h
      · cases h
    · cases h

theorem ascii_shuffleNames : ∀ s ∈ [ascii "noshuffle", ascii "shuffle", ascii "bitshuffle"], ∀ b ∈ s, b < 128 := by decide +kernel

theorem bloscShuffle_mem (sh : Int) (size : Option (Option Nat)) :
    (bloscShuffle sh size).1 ∈ [ascii "noshuffle", ascii "shuffle", ascii "bitshuffle"] := by
  unfold bloscShuffle
  split
  · simp
  · split
    · simp
    · simp
    · split
      · simp
      · split
        · simp
        · split <;> simp

theorem bloscShuffle_ascii (sh : Int) (size : Option (Option Nat)) : ∀ b ∈ (bloscShuffle sh size).1, b < 128 :=
  ascii_shuffleNames _ (bloscShuffle_mem sh size)

theorem bloscV1Obj_wf (b : BloscNum) (sh : Str × Option Nat) (h1 : strOk b.cname) (h2 : strOk sh.1) :
    (J.obj (bloscV1Obj b sh)).wf := by
  have e : bloscV1Obj b sh = optKVs (["cname", "clevel", "shuffle", "typesize", "blocksize"].map ascii)
      [some (.str b.cname), some (natNum b.clevel), some (.str sh.1), sh.2.map natNum, some (natNum b.blocksize)] := by
    obtain ⟨s, _ | n⟩ := sh <;> rfl
  rw [e]
  refine optKVs_wf _ (by decide +kernel) (by decide +kernel) _ fun x hx => ?_
  simp only [List.mem_cons, List.not_mem_nil, or_false, Option.some.injEq] at hx
  rcases hx with rfl | rfl | rfl | hx | rfl
  · exact (str_wf_iff _).2 h1
  · exact natNum_wf _
  · exact (str_wf_iff _).2 h2
  · obtain ⟨n, _, rfl⟩ := Option.map_eq_some_iff.1 hx.symm
    exact natNum_wf n
  · exact natNum_wf _

theorem zstdObj_wf (lvl : Int) (chk : Bool) :
    (J.obj [(ascii "level", .num (FillMeta.intTok lvl)), (ascii "checksum", .bool chk)]).wf := by
  refine optKVs_wf [ascii "level", ascii "checksum"] (by decide +kernel) (by decide +kernel)
    [some (.num (FillMeta.intTok lvl)), some (.bool chk)] fun x hx => ?_
  simp only [List.mem_cons, List.not_mem_nil, or_false, Option.some.injEq] at hx
  rcases hx with rfl | rfl
  · exact NumTok.tokOk_intTok lvl
  · trivial

theorem compressorB2B_good (dt : Str) (c : MetaV2) (h : c.wfp) (m : MetaV3)
    (hm : compressorB2B dt c = .ok (some m)) : MetaV3.good m := by
  have hn := strOk_codecName _ h.1
  unfold compressorB2B at hm
  simp only at hm
  split at hm
  · cases hm
  · split at hm
    · split at hm
      · cases hm
      · rename_i b hb
        have hcn : strOk b.cname := strOk_ascii _ (bloscCnames_ascii _ (bloscOfObj_cname _ _ hb))
        split at hm
        · cases hm
          exact good_config _ _ _ hn (bloscV1Obj_wf b _ hcn (strOk_ascii _ (bloscShuffle_ascii _ _)))
        · split at hm
          · cases hm
          · cases hm
            exact good_config _ _ _ hn (bloscV1Obj_wf b _ hcn (strOk_ascii _ (bloscShuffle_ascii _ _)))
    · split at hm
      · split at hm
        · cases hm
        · cases hm
          exact good_config _ _ _ hn (zstdObj_wf _ _)
      · cases hm
        exact good_config _ _ _ hn h.2

theorem codecsHead_good (order : Order) (rank : Nat) (endian : Option Endian) (filters : Option (List MetaV2))
    (compressor : Option MetaV2) (hf : ∀ fs, filters = some fs → ∀ f ∈ fs, MetaV2.wfp f)
    (hcomp : ∀ m, compressor = some m → m.wfp) :
    ∀ c ∈ codecsHead order rank endian filters compressor, MetaV3.good c := by
  intro c hc
  rw [codecsHead_eq] at hc
  simp only [List.mem_append] at hc
  rcases hc with ((hc | hc) | hc) | hc
  · split at hc
    · simp only [List.mem_cons, List.not_mem_nil, or_false] at hc
      subst hc; exact transposeMeta_good _
    · cases hc
  · obtain ⟨f, hfm, rfl⟩ := List.mem_map.1 hc
    cases filters with
    | none => simp at hfm
    | some fs => exact filterToV3_good f (hf fs rfl f (by simpa using hfm))
  · cases compressor with
    | none => simp at hc
    | some m =>
      simp only [Option.bind_some, Option.mem_toList] at hc
      exact compressorA2B_good m (hcomp m rfl) c hc
  · split at hc
    · cases hc
    · simp only [List.mem_cons, List.not_mem_nil, or_false] at hc
      subst hc; exact bytesMeta_good _

theorem codecsV2ToV3_good (order : Order) (rank : Nat) (dtName : Str) (endian : Option Endian)
    (filters : Option (List MetaV2)) (compressor : Option MetaV2) (cs : List MetaV3)
    (hf : ∀ fs, filters = some fs → ∀ f ∈ fs, MetaV2.wfp f) (hcomp : ∀ m, compressor = some m → m.wfp)
    (h : codecsV2ToV3 order rank dtName endian filters compressor = .ok cs) : ∀ c ∈ cs, MetaV3.good c := by
  obtain ⟨b2b, rfl, hb⟩ := codecsV2ToV3_inv _ _ _ _ _ _ _ h
  intro c hc
  rcases List.mem_append.1 hc with h1 | h2
  · exact codecsHead_good _ _ _ _ _ hf hcomp c h1
  · clear hc h
    cases compressor with
    | none => simp only at hb; subst hb; cases h2
    | some m =>
      simp only at hb
      obtain ⟨o, ho, rfl⟩ := hb
      cases o with
      | none => cases h2
      | some x =>
        simp only [Option.toList_some, List.mem_cons, List.not_mem_nil, or_false] at h2
        subst h2
        exact compressorB2B_good _ m (hcomp m rfl) _ ho

/-- `hk`: an additional field of the V2 document named like a V3 array field would be written next to the real one -/
theorem v2ToV3_good (d : ArrayDocV2) (hs : d.shapeOk) (hw : d.wfParts) (v3 : ArrayDoc) (hc : v2ToV3 d = .ok v3)
    (hk : ∀ kv ∈ d.extra, kv.1 ∉ arrayKeys) : v3.good := by
  obtain ⟨s, e, f, cs, hv, rfl⟩ := v2ToV3_inv d v3 hc
  have hsOk : strOk s := by
    have := hw.dt
    rw [hv.simple] at this
    exact this
  refine ⟨?_, ?_, ?_, ?_, ?_, ?_, ?_, ?_, ?_, ?_, ?_⟩
  · exact fun t ht => ⟨hs.shape t ht, hw.shape t ht⟩
  · exact ⟨strOk_dtypeNameV3 s hsOk, fun c hc => by cases hc⟩
  · exact regularMeta_good _ hw.chunks
  · exact v2KeyMeta_good _
  · exact fillConv_wf _ _ hw.fill _ hv.fill
  · exact codecsV2ToV3_good _ _ _ _ _ _ _ hw.filters hw.comp hv.codecs
  · exact hw.attrs
  · intro c hc; cases hc
  · intro ns hns; cases hns
  · exact extras_good _ _ hw.extra hs.extraShape hk
  · exact hs.sorted

theorem groupV2ToV3_good (d : GroupDocV2) (hs : d.shapeOk) (hw : d.wfParts) (hk : ∀ kv ∈ d.extra, kv.1 ∉ groupKeys) :
    (groupV2ToV3 d).good :=
  ⟨hw.attrs, extras_good _ _ hw.extra hs.extraShape hk, hs.sorted⟩

end Zarrs.MetaV2
