import ZarrsModel.Model.Array
set_option linter.unusedSectionVars false
/-
Configurations derived from a configuration by changing its codec, and the codec law that real chains satisfy.
A byte-level chain validates what it decodes, so it is lossless on WELL-FORMED chunks only (`LosslessOn`); that is all
the refinement of `Lemmas/ArrayRead.lean` asks (`ArrCfg.ROk`).  `shadow` tags the real encoding of a well-formed chunk
with a leading 0 and serialises any other list behind a leading 1, which makes it lossless on every list; `withDec`
replaces the decoder.
-/
namespace Zarrs
namespace ArrCfg
variable {α : Type} [DecidableEq α]

def LosslessOn (P : List α → Bool) (cfg : ArrCfg α) : Prop := ∀ x, P x = true → cfg.dec (cfg.enc x) = some x

def shadow (cfg : ArrCfg α) (P : List α → Bool) (ser : List α → Bytes) (unser : Bytes → Option (List α)) : ArrCfg α :=
  { cfg with
    enc := fun x => if P x then 0 :: cfg.enc x else 1 :: ser x
    dec := fun b => match b with
      | 0 :: b' => cfg.dec b'
      | 1 :: b' => unser b'
      | _ => none }

def withDec (cfg : ArrCfg α) (d : Bytes → Option (List α)) : ArrCfg α := { cfg with dec := d }

variable {cfg : ArrCfg α} {P : List α → Bool} {ser : List α → Bytes} {unser : Bytes → Option (List α)}

@[simp] theorem shadow_grid : (cfg.shadow P ser unser).grid = cfg.grid := rfl
@[simp] theorem shadow_shape : (cfg.shadow P ser unser).shape = cfg.shape := rfl
@[simp] theorem shadow_fill : (cfg.shadow P ser unser).fill = cfg.fill := rfl
@[simp] theorem shadow_keyOf : (cfg.shadow P ser unser).keyOf = cfg.keyOf := rfl
@[simp] theorem shadow_storeEmpty : (cfg.shadow P ser unser).storeEmpty = cfg.storeEmpty := rfl
@[simp] theorem shadow_chunkShape (c : Idx) : (cfg.shadow P ser unser).chunkShape c = cfg.chunkShape c := rfl
@[simp] theorem shadow_chunkSubset (c : Idx) : (cfg.shadow P ser unser).chunkSubset c = cfg.chunkSubset c := rfl
@[simp] theorem shadow_isFill (xs : List α) : (cfg.shadow P ser unser).isFill xs = cfg.isFill xs := rfl
theorem shadow_dec_tag (b : Bytes) : (cfg.shadow P ser unser).dec (0 :: b) = cfg.dec b := rfl

end ArrCfg
end Zarrs
