import ZarrsModel.Lemmas.Pool
/- invariants of the reachable states of a well-formed pool in which no program holds the mutex across a join -/
namespace Zarrs.ShardAsm

variable {P : Pool} {s : PState}

def onStack (s : PState) (x : Nat) : Prop := ∃ (w : Nat) (st : List (Nat × Nat)) (pc : Nat), s.stacks[w]? = some st ∧ (x, pc) ∈ st
def Live (s : PState) (x : Nat) : Prop := x ∈ s.queue ∨ onStack s x ∨ x ∈ s.finished

def heldFr (P : Pool) (fr : Nat × Nat) : Bool := heldAfter false (prog P fr.1) fr.2

def BelowOk (P : Pool) (st : List (Nat × Nat)) : Prop := ∀ fr ∈ st.tail, ∃ c, instrAt P fr.1 fr.2 = some (.wait c)

def topHeld (P : Pool) : List (Nat × Nat) → Bool
  | fr :: _ => heldFr P fr
  | [] => false

def MutexOk (P : Pool) (holder : Option Nat) (w : Nat) (st : List (Nat × Nat)) : Prop := holder = some w ↔ topHeld P st = true

def ForksLive (P : Pool) (s : PState) (st : List (Nat × Nat)) : Prop :=
  ∀ fr ∈ st, ∀ (k c : Nat), k < fr.2 → instrAt P fr.1 k = some (.fork c) → Live s c

structure PInv (P : Pool) (s : PState) : Prop where
  len : s.stacks.length = P.workers
  below : ∀ w, BelowOk P (s.stacks.getD w [])
  mutex : ∀ w, MutexOk P s.holder w (s.stacks.getD w [])
  liveRoot : ∀ r ∈ P.roots, Live s r
  liveFork : ∀ w, ForksLive P s (s.stacks.getD w [])
  liveFin : ∀ t ∈ s.finished, ∀ (k c : Nat), instrAt P t k = some (.fork c) → Live s c

theorem PInv.below_at {w : Nat} {st : List (Nat × Nat)} (inv : PInv P s)
    (hst : s.stacks[w]? = some st) : BelowOk P st := by rw [← getD_of_getElem? hst]; exact inv.below w

theorem PInv.mutex_at {w : Nat} {st : List (Nat × Nat)} (inv : PInv P s)
    (hst : s.stacks[w]? = some st) : MutexOk P s.holder w st := by rw [← getD_of_getElem? hst]; exact inv.mutex w

theorem PInv.forks_at {w : Nat} {st : List (Nat × Nat)} (inv : PInv P s)
    (hst : s.stacks[w]? = some st) : ForksLive P s st := by rw [← getD_of_getElem? hst]; exact inv.liveFork w

theorem pinv_init (P : Pool) : PInv P (pinit P) := by
  have hst : ∀ w, (pinit P).stacks.getD w [] = [] := fun w => getD_replicate_self _ w []
  refine ⟨by simp [pinit], ?_, ?_, fun r hr => Or.inl hr, ?_, ?_⟩
  · intro w fr hfr; rw [hst] at hfr; cases hfr
  · intro w; rw [hst]; exact ⟨nofun, nofun⟩
  · intro w fr hfr; rw [hst] at hfr; cases hfr
  · intro t ht; cases ht

/-- tasks only move queue → stack → finished -/
theorem live_mono {s s' : PState} {w : Nat} {st st' : List (Nat × Nat)} (hst : s.stacks[w]? = some st)
    (hs' : s'.stacks = s.stacks.set w st')
    (hq : ∀ x ∈ s.queue, x ∈ s'.queue ∨ ∃ pc, (x, pc) ∈ st')
    (hfr : ∀ fr ∈ st, (∃ pc, (fr.1, pc) ∈ st') ∨ fr.1 ∈ s'.finished)
    (hf : ∀ x ∈ s.finished, x ∈ s'.finished) : ∀ x, Live s x → Live s' x := by
  have hw' : s'.stacks[w]? = some st' := by rw [hs']; exact List.getElem?_set_self (lt_of_getElem?_some hst)
  intro x hx
  rcases hx with h | ⟨w2, st2, pc, h2, hm⟩ | h
  · rcases hq x h with h | ⟨pc, h⟩
    · exact Or.inl h
    · exact Or.inr (Or.inl ⟨w, st', pc, hw', h⟩)
  · by_cases hw : w2 = w
    · subst hw
      rw [hst] at h2
      simp only [Option.some.injEq] at h2
      subst h2
      rcases hfr _ hm with ⟨pc', h⟩ | h
      · exact Or.inr (Or.inl ⟨w2, st', pc', hw', h⟩)
      · exact Or.inr (Or.inr h)
    · exact Or.inr (Or.inl ⟨w2, st2, pc, by rw [hs', List.getElem?_set_ne (Ne.symm hw)]; exact h2, hm⟩)
  · exact Or.inr (Or.inr (hf x h))

theorem stack_set {Q : Nat → List (Nat × Nat) → Prop} {l : List (List (Nat × Nat))} {w : Nat} {st st' : List (Nat × Nat)}
    (hst : l[w]? = some st) (hw : Q w st') (ho : ∀ w2, w2 ≠ w → Q w2 (l.getD w2 [])) :
    ∀ w2, Q w2 ((l.set w st').getD w2 []) := by
  intro w2
  by_cases h : w2 = w
  · subst h
    rw [List.getD_eq_getElem?_getD, List.getElem?_set_self (lt_of_getElem?_some hst)]; exact hw
  · rw [List.getD_eq_getElem?_getD, List.getElem?_set_ne (Ne.symm h), ← List.getD_eq_getElem?_getD]; exact ho w2 h

/-- worker `w` replaces its stack `st` by `st'`; the common part of the cases below -/
theorem pinv_set {s s' : PState} {w : Nat} {st st' : List (Nat × Nat)} (inv : PInv P s)
    (hst : s.stacks[w]? = some st) (hs : s'.stacks = s.stacks.set w st')
    (hbelow : BelowOk P st') (hmutex : MutexOk P s'.holder w st')
    (hother : ∀ w2, w2 ≠ w → (s'.holder = some w2 ↔ s.holder = some w2))
    (hq : ∀ x ∈ s.queue, x ∈ s'.queue ∨ ∃ pc, (x, pc) ∈ st')
    (hfr : ∀ fr ∈ st, (∃ pc, (fr.1, pc) ∈ st') ∨ fr.1 ∈ s'.finished)
    (hf : ∀ x ∈ s.finished, x ∈ s'.finished)
    (hfork : (∀ x, Live s x → Live s' x) → ForksLive P s' st')
    (hfin : (∀ x, Live s x → Live s' x) → ∀ t ∈ s'.finished, t ∉ s.finished → ∀ (k c : Nat),
      instrAt P t k = some (.fork c) → Live s' c) : PInv P s' := by
  have hlive := live_mono hst hs hq hfr hf
  refine ⟨by rw [hs, List.length_set]; exact inv.len, ?_, ?_, fun r hr => hlive r (inv.liveRoot r hr), ?_, ?_⟩
  · rw [hs]; exact stack_set (Q := fun _ => BelowOk P) hst hbelow (fun w2 _ => inv.below w2)
  · rw [hs]
    exact stack_set (Q := MutexOk P s'.holder) hst hmutex (fun w2 hne => (hother w2 hne).trans (inv.mutex w2))
  · rw [hs]
    exact stack_set (Q := fun _ => ForksLive P s') hst (hfork hlive)
      (fun w2 _ fr hfr k c hk hi => hlive c (inv.liveFork w2 fr hfr k c hk hi))
  · intro t ht k c hi
    by_cases hold : t ∈ s.finished
    · exact hlive c (inv.liveFin t hold k c hi)
    · exact hfin hlive t ht hold k c hi

theorem heldFr_zero (P : Pool) (c : Nat) : heldFr P (c, 0) = false := by
  simp only [heldFr]
  cases prog P c <;> rfl

theorem heldFr_succ (P : Pool) (t pc : Nat) : heldFr P (t, pc + 1) = (match instrAt P t pc with
    | some .lock => true
    | some .unlock => false
    | _ => heldFr P (t, pc)) := heldAfter_succ _ _ _

theorem wait_not_held (nj : NoJoin P) {fr : Nat × Nat} {c : Nat} (h : instrAt P fr.1 fr.2 = some (.wait c)) :
    heldFr P fr = false := free_at_wait (nj fr.1) h

theorem topHeld_wait (nj : NoJoin P) {st : List (Nat × Nat)}
    (h : ∀ fr ∈ st, ∃ c, instrAt P fr.1 fr.2 = some (.wait c)) : topHeld P st = false := by
  cases st with
  | nil => rfl
  | cons fr rest =>
    obtain ⟨c, hc⟩ := h fr List.mem_cons_self
    exact wait_not_held nj hc

theorem holder_top (inv : PInv P s) {w : Nat} (h : s.holder = some w) :
    ∃ (t pc : Nat) (below : List (Nat × Nat)), s.stacks[w]? = some ((t, pc) :: below) ∧ heldFr P (t, pc) = true := by
  have ht := (inv.mutex w).mp h
  rw [List.getD_eq_getElem?_getD] at ht
  cases hs : s.stacks[w]? with
  | none => rw [hs] at ht; cases ht
  | some st =>
    rw [hs] at ht
    cases st with
    | nil => cases ht
    | cons fr below => exact ⟨fr.1, fr.2, below, rfl, ht⟩

/-- a worker takes a queued task on top of its stack: idle, or waiting for an unfinished child -/
theorem pinv_push (nj : NoJoin P) {w c : Nat} {st : List (Nat × Nat)} (inv : PInv P s)
    (hst : s.stacks[w]? = some st) (hwait : ∀ fr ∈ st, ∃ c', instrAt P fr.1 fr.2 = some (.wait c')) (hc : c ∈ s.queue) :
    PInv P ⟨s.stacks.set w ((c, 0) :: st), s.queue.erase c, s.finished, s.holder⟩ := by
  have hm := inv.mutex_at hst
  rw [MutexOk, topHeld_wait nj hwait] at hm
  refine pinv_set inv hst rfl hwait (hm.trans (by rw [topHeld, heldFr_zero])) (fun _ _ => Iff.rfl) ?_
    (fun fr hfr => Or.inl ⟨fr.2, List.mem_cons_of_mem _ hfr⟩) (fun _ hx => hx) ?_ (fun _ t ht hn => absurd ht hn)
  · intro x hx
    by_cases hxc : x = c
    · subst hxc; exact Or.inr ⟨0, List.mem_cons_self⟩
    · exact Or.inl ((List.mem_erase_of_ne hxc).mpr hx)
  · intro hlive fr hfr k c' hk hi
    rcases List.mem_cons.mp hfr with rfl | hfr
    · exact absurd hk (Nat.not_lt_zero k)
    · exact hlive c' (inv.forks_at hst fr hfr k c' hk hi)

theorem pinv_end (wfp : WfParts P) (nj : NoJoin P) {w t pc : Nat} {below : List (Nat × Nat)} (inv : PInv P s)
    (hst : s.stacks[w]? = some ((t, pc) :: below)) (hi : instrAt P t pc = none) :
    PInv P ⟨s.stacks.set w below, s.queue, t :: s.finished, s.holder⟩ := by
  have hb : ∀ fr ∈ below, ∃ c, instrAt P fr.1 fr.2 = some (.wait c) := inv.below_at hst
  have hfk := inv.forks_at hst
  have hnh : heldFr P (t, pc) = false := free_at_end (wfp.bal t) hi
  have hm := inv.mutex_at hst
  rw [MutexOk, topHeld, hnh] at hm
  refine pinv_set inv hst rfl (fun fr hfr => hb fr (List.mem_of_mem_tail hfr))
    (hm.trans (by rw [topHeld_wait nj hb])) (fun _ _ => Iff.rfl) (fun _ hx => Or.inl hx) ?_
    (fun _ hx => List.mem_cons_of_mem _ hx) (fun hlive fr hfr k c hk hi' => hlive c (hfk fr (List.mem_cons_of_mem _ hfr) k c hk hi')) ?_
  · intro fr hfr
    rcases List.mem_cons.mp hfr with rfl | hfr
    · exact Or.inr List.mem_cons_self
    · exact Or.inl ⟨fr.2, hfr⟩
  · intro hlive t' ht hn k c hi'
    rcases List.mem_cons.mp ht with rfl | ht
    · -- the program ends at `pc`, so its forks lie before `pc`
      have hk : k < pc := Nat.lt_of_lt_of_le (List.getElem?_eq_some_iff.mp hi').1 (List.getElem?_eq_none_iff.mp hi)
      exact hlive c (hfk (t', pc) List.mem_cons_self k c hk hi')
    · exact absurd ht hn

theorem pinv_adv {w t pc : Nat} {below : List (Nat × Nat)} {q' : List Nat} {h' : Option Nat}
    {i : Instr} (inv : PInv P s) (hst : s.stacks[w]? = some ((t, pc) :: below)) (hi : instrAt P t pc = some i)
    (hq : ∀ x ∈ s.queue, x ∈ q') (hfq : ∀ c, i = .fork c → c ∈ q')
    (hmutex : MutexOk P h' w ((t, pc + 1) :: below)) (hother : ∀ w2, w2 ≠ w → (h' = some w2 ↔ s.holder = some w2)) :
    PInv P ⟨s.stacks.set w ((t, pc + 1) :: below), q', s.finished, h'⟩ := by
  have hfk := inv.forks_at hst
  refine pinv_set inv hst rfl (fun fr hfr => inv.below_at hst fr hfr) hmutex hother (fun x hx => Or.inl (hq x hx)) ?_
    (fun _ hx => hx) ?_ (fun _ t ht hn => absurd ht hn)
  · intro fr hfr
    rcases List.mem_cons.mp hfr with rfl | hfr
    · exact Or.inl ⟨pc + 1, List.mem_cons_self⟩
    · exact Or.inl ⟨fr.2, List.mem_cons_of_mem _ hfr⟩
  · intro hlive fr hfr k c hk hi'
    rcases List.mem_cons.mp hfr with rfl | hfr
    · by_cases hkp : k < pc
      · exact hlive c (hfk (t, pc) List.mem_cons_self k c hkp hi')
      · -- the instruction just executed
        have : k = pc := Nat.le_antisymm (Nat.le_of_lt_succ hk) (Nat.le_of_not_lt hkp)
        subst this
        exact Or.inl (hfq c (Option.some.inj (hi.symm.trans hi')))
    · exact hlive c (hfk fr (List.mem_cons_of_mem _ hfr) k c hk hi')

theorem pinv_adv_plain {w t pc : Nat} {below : List (Nat × Nat)} {q' : List Nat}
    {i : Instr} (inv : PInv P s) (hst : s.stacks[w]? = some ((t, pc) :: below)) (hi : instrAt P t pc = some i)
    (hq : ∀ x ∈ s.queue, x ∈ q') (hfq : ∀ c, i = .fork c → c ∈ q') (hl : i ≠ .lock) (hu : i ≠ .unlock) :
    PInv P ⟨s.stacks.set w ((t, pc + 1) :: below), q', s.finished, s.holder⟩ := by
  have hsame : heldFr P (t, pc + 1) = heldFr P (t, pc) := by
    rw [heldFr_succ, hi]
    cases i <;> first | rfl | exact absurd rfl hl | exact absurd rfl hu
  exact pinv_adv inv hst hi hq hfq ((inv.mutex_at hst).trans (by rw [topHeld, topHeld, hsame]))
    (fun _ _ => Iff.rfl)

theorem pinv_step (wfp : WfParts P) (nj : NoJoin P) {s s' : PState} {w c : Nat} (inv : PInv P s) (h : pstep P s w c = some s') :
    PInv P s' := by
  cases pstep_cases h with
  | take hst hc => exact pinv_push nj inv hst nofun hc
  | finish hst hi => exact pinv_end wfp nj inv hst hi
  | work hst hi => exact pinv_adv_plain inv hst hi (fun _ h => h) nofun nofun nofun
  | fork hst hi =>
    exact pinv_adv_plain inv hst hi (fun _ h => List.mem_cons_of_mem _ h)
      (fun c h => by cases h; exact List.mem_cons_self) nofun nofun
  | join hst hi _ =>
    exact pinv_adv_plain inv hst hi (fun _ h => h) nofun nofun nofun
  | lock hst hi hfree =>
    refine pinv_adv inv hst hi (fun _ h => h) nofun
      ⟨fun _ => by rw [topHeld, heldFr_succ, hi], fun _ => rfl⟩ (fun w2 hne => ⟨fun e => ?_, fun e => ?_⟩)
    · exact absurd (Option.some.inj e).symm hne
    · rw [hfree] at e; cases e
  | @unlock t pc _ hst hi =>
    -- the frame was inside its critical section, so `w` was the holder
    have hw : s.holder = some w := (inv.mutex_at hst).mpr (held_at_unlock (wfp.bal t) hi)
    refine pinv_adv inv hst hi (fun _ h => h) nofun
      ⟨nofun, fun e => ?_⟩ (fun w2 hne => ⟨nofun, fun e => ?_⟩)
    · rw [topHeld, heldFr_succ, hi] at e; cases e
    · exact absurd (Option.some.inj (hw.symm.trans e)).symm hne
  | @steal _ _ _ c' hst hi _ hc =>
    refine pinv_push nj inv hst (fun fr hfr => ?_) hc
    rcases List.mem_cons.mp hfr with rfl | hfr
    · exact ⟨c', hi⟩
    · exact inv.below_at hst fr hfr

theorem pinv_reach (wfp : WfParts P) (nj : NoJoin P) (h : PReach P s) : PInv P s := by
  induction h with
  | init => exact pinv_init P
  | step s s' w c _ hstep ih => exact pinv_step wfp nj ih hstep

end Zarrs.ShardAsm
