import ZarrsModel.Model.MetaV2
import ZarrsModel.Lemmas.Meta
/- helper lemmas for C13 (V2): reading back what is written, at the JSON level.  A document is written as a table
   (`Meta.optKVs`) followed by its additional fields, as the V3 documents are; the `node_type` tag of an array
   document is one more key of the table it is WRITTEN with (`arrayKeysW`), not of the one it is read with. -/
namespace Zarrs.MetaV2
open Zarrs.Json Zarrs.Meta

/-- a configuration as parsing leaves it: no `id` key -/
def MetaV2.shapeOk (m : MetaV2) : Prop := lookup m.config kId = none

theorem metaV2_ofJ_toJ (m : MetaV2) (h : m.shapeOk) : MetaV2.ofJ m.toJ = some m := by
  obtain ⟨id, config⟩ := m
  unfold MetaV2.shapeOk at h
  simp only at h
  simp only [MetaV2.toJ, MetaV2.ofJ, lookup_cons_eq, without_cons_self _ _ config h]

theorem metaV2_ofJ_shapeOk (j : J) (m : MetaV2) (h : MetaV2.ofJ j = some m) : m.shapeOk := by
  cases j with
  | obj o =>
    simp only [MetaV2.ofJ] at h
    split at h
    · cases h; exact lookup_without_self _ _
    · cases h
  | _ => simp [MetaV2.ofJ] at h

theorem metaV2List_toJ (l : List MetaV2) (h : ∀ m ∈ l, m.shapeOk) : metaV2List (l.map MetaV2.toJ) = some l := by
  unfold metaV2List
  exact mapM_map_some _ _ _ (fun m hm => metaV2_ofJ_toJ m (h m hm))

theorem u64Tok_eq : u64Tok = tokIf isU64Tok := rfl
theorem nzTok_eq : nzTok = tokIf isNzU64Tok := rfl

theorem numList_iff (p : List Char → Bool) (j : Option J) (l : List (List Char)) :
    numList (tokIf p) j = some l ↔ j = some (.arr (l.map .num)) ∧ ∀ t ∈ l, p t = true := by
  unfold numList
  split
  · rename_i xs
    rw [mapM_tokIf_iff, Option.some.injEq, J.arr.injEq]
  · rename_i hj
    exact ⟨nofun, fun h => absurd h.1 (hj _)⟩

/-- a structured field that reads back: its shape is present (a field without one is written with two elements, which
    the reader rejects) and holds `u64` tokens -/
def DField.shapeOk (f : DField) : Prop := ∃ s, f.shape = some s ∧ ∀ t ∈ s, isU64Tok t = true

theorem dfield_ofJ_toJ (f : DField) (h : f.shapeOk) : DField.ofJ f.toJ = some f := by
  obtain ⟨name, dt, shape⟩ := f
  obtain ⟨s, hs, ht⟩ := h
  simp only at hs
  subst hs
  simp only [DField.toJ, List.cons_append, List.nil_append, DField.ofJ]
  rw [show (s.map J.num).mapM u64Tok = some s from (mapM_tokIf_iff isU64Tok _ s).2 ⟨rfl, ht⟩]
  rfl

def DType.shapeOk : DType → Prop
  | .simple _ => True
  | .structured fs => ∀ f ∈ fs, DField.shapeOk f

theorem dtype_ofJ_toJ (d : DType) (h : d.shapeOk) : DType.ofJ d.toJ = some d := by
  cases d with
  | simple s => rfl
  | structured fs =>
    simp only [DType.toJ, DType.ofJ]
    rw [mapM_map_some DField.ofJ DField.toJ fs (fun f hf => dfield_ofJ_toJ f (h f hf))]
    rfl

def FillV2.shapeOk : FillV2 → Prop
  | .str s => s ≠ ascii "NaN" ∧ s ≠ ascii "Infinity" ∧ s ≠ ascii "-Infinity"
  | _ => True

theorem fillV2_ofJ_toJ (f : FillV2) (h : f.shapeOk) : FillV2.ofJ f.toJ = some f := by
  cases f with
  | str s =>
    obtain ⟨h1, h2, h3⟩ := h
    simp [FillV2.toJ, FillV2.ofJ, h1, h2, h3]
  | null => rfl
  | nan => rfl
  | inf => rfl
  | ninf => rfl
  | num t => rfl

theorem fillV2_toJ_ofJ (j : J) (f : FillV2) (h : FillV2.ofJ j = some f) : f.toJ = j := by
  cases j with
  | str s =>
    simp only [FillV2.ofJ] at h
    split at h
    · cases h; exact congrArg J.str (beq_iff_eq.1 ‹_›).symm
    · split at h
      · cases h; exact congrArg J.str (beq_iff_eq.1 ‹_›).symm
      · split at h
        · cases h; exact congrArg J.str (beq_iff_eq.1 ‹_›).symm
        · cases h; rfl
  | null => cases h; rfl
  | num t => cases h; rfl
  | _ => simp [FillV2.ofJ] at h

theorem fillV2_ofJ_shapeOk (j : J) (f : FillV2) (h : FillV2.ofJ j = some f) : f.shapeOk := by
  cases j with
  | str s =>
    simp only [FillV2.ofJ] at h
    split at h
    · cases h; trivial
    · split at h
      · cases h; trivial
      · split at h
        · cases h; trivial
        · cases h
          refine ⟨?_, ?_, ?_⟩ <;> (intro e; simp_all)
  | null => simp only [FillV2.ofJ] at h; cases h; trivial
  | num t => simp only [FillV2.ofJ] at h; cases h; trivial
  | _ => simp [FillV2.ofJ] at h

theorem order_ofJ_toJ (o : Order) : Order.ofJ o.toJ = some o := by cases o <;> decide
theorem sep_ofJ_toJ (s : Sep) : Sep.ofJ s.toJ = some s := by cases s <;> decide

structure ArrayDocV2Of (o : Obj) (d : ArrayDocV2) : Prop where
  zf : lookup o (ascii "zarr_format") = some (.num ['2'])
  shape : numList u64Tok (lookup o (ascii "shape")) = some d.shape
  chunks : numList nzTok (lookup o (ascii "chunks")) = some d.chunks
  dt : (lookup o (ascii "dtype")).bind DType.ofJ = some d.dtype
  comp : compOfJ (lookup o (ascii "compressor")) = some d.compressor
  fill : (lookup o (ascii "fill_value")).bind FillV2.ofJ = some d.fill
  ord : (lookup o (ascii "order")).bind Order.ofJ = some d.order
  filters : filtersOfJ (lookup o (ascii "filters")) = some d.filters
  sep : sepOfJ (lookup o (ascii "dimension_separator")) = some d.sep
  attrs : attrsOfJ (lookup o (ascii "attributes")) = some d.attrs
  extra : d.extra = dropArrayTag (extrasV2 arrayKeysV2 o)

theorem arrayDocV2_ofJ_inv (o : Obj) (d : ArrayDocV2) (h : ArrayDocV2.ofJ (.obj o) = some d) : ArrayDocV2Of o d := by
  simp only [ArrayDocV2.ofJ] at h
  split at h
  next hzf =>
    split at h
    next shape chunks dt' comp fill ord' filters sep attrs e1 e2 e3 e4 e5 e6 e7 e8 e9 =>
      simp only [Option.some.injEq] at h
      subst h
      exact ⟨hzf, e1, e2, e3, e4, e5, e6, e7, e8, e9, rfl⟩
    · cases h
  · cases h

theorem arrayDocV2_ofJ_intro (o : Obj) (d : ArrayDocV2) (h : ArrayDocV2Of o d) : ArrayDocV2.ofJ (.obj o) = some d := by
  obtain ⟨hzf, h1, h2, h3, h4, h5, h6, h7, h8, h9, hextra⟩ := h
  obtain ⟨shape, chunks, dtype, compressor, fill, order, filters, sep, attrs, extra⟩ := d
  simp only at *
  simp only [ArrayDocV2.ofJ, hzf, h1, h2, h3, h4, h5, h6, h7, h8, h9, hextra]

structure GroupDocV2Of (o : Obj) (d : GroupDocV2) : Prop where
  zf : lookup o (ascii "zarr_format") = some (.num ['2'])
  attrs : attrsOfJ (lookup o (ascii "attributes")) = some d.attrs
  extra : d.extra = extrasV2 groupKeysV2 o

theorem groupDocV2_ofJ_inv (o : Obj) (d : GroupDocV2) (h : GroupDocV2.ofJ (.obj o) = some d) : GroupDocV2Of o d := by
  simp only [GroupDocV2.ofJ] at h
  split at h
  next hzf =>
    split at h
    next attrs e =>
      simp only [Option.some.injEq] at h
      subst h
      exact ⟨hzf, e, rfl⟩
    · cases h
  · cases h

theorem groupDocV2_ofJ_intro (o : Obj) (d : GroupDocV2) (h : GroupDocV2Of o d) : GroupDocV2.ofJ (.obj o) = some d := by
  obtain ⟨hzf, h1, hextra⟩ := h
  obtain ⟨attrs, extra⟩ := d
  simp only at *
  simp only [GroupDocV2.ofJ, hzf, h1, hextra]

theorem extrasV2_eq (known : List Str) (o : Obj) : extrasV2 known o = extrasOf known o := rfl

def arrayKeysW : List Str := kNodeType :: arrayKeysV2

theorem v2Keys_table : (arrayKeysW.Nodup ∧ ∀ k ∈ arrayKeysW, ∀ b ∈ k, b < 128) ∧
    groupKeysV2.Nodup ∧ ∀ k ∈ groupKeysV2, ∀ b ∈ k, b < 128 := by decide +kernel

theorem arrayKeysW_nodup : arrayKeysW.Nodup := v2Keys_table.1.1
theorem groupKeysV2_nodup : groupKeysV2.Nodup := v2Keys_table.2.1

theorem arrayKeysV2_nodup : arrayKeysV2.Nodup := (List.nodup_cons.1 arrayKeysW_nodup).2
theorem kNodeType_notin_arrayKeysV2 : kNodeType ∉ arrayKeysV2 := (List.nodup_cons.1 arrayKeysW_nodup).1

/-- the named fields in the order of `arrayKeysV2`, `none` where the writer skips the field -/
def ArrayDocV2.knownVals (d : ArrayDocV2) : List (Option J) :=
  [some (.num ['2']), some (.arr (d.shape.map .num)), some (.arr (d.chunks.map .num)), some d.dtype.toJ,
   some (compressorToJ d.compressor), some d.fill.toJ, some d.order.toJ, some (filtersToJ d.filters), some d.sep.toJ,
   if d.attrs.isEmpty then none else some (.obj d.attrs)]

def ArrayDocV2.vals (d : ArrayDocV2) : List (Option J) := some (.str (ascii "array")) :: d.knownVals

theorem ArrayDocV2.toJ_eq (d : ArrayDocV2) : d.toJ = .obj (optKVs arrayKeysW d.vals ++ extraKVs d.extra) := by
  obtain ⟨shape, chunks, dtype, compressor, fill, order, filters, sep, attrs, extra⟩ := d
  cases attrs <;> rfl

def noArrayTag (e : List (Str × AField)) : Prop := ∀ kv ∈ e, isArrayTag kv = false

theorem noArrayTag_dropArrayTag (e : List (Str × AField)) : noArrayTag (dropArrayTag e) := by
  intro kv hkv
  unfold dropArrayTag at hkv
  have := (List.mem_filter.1 hkv).2
  simpa using this

/-- reading the written object: the tag is the one entry the sorted map of additional fields starts from; the fields
    follow (one of them may be called `node_type` and replace it); what is not dropped as the tag is the fields.
    Two sorted maps with the same members are equal, so only membership is looked at. -/
theorem arrayDocV2_extras (d : ArrayDocV2) (h : ExtrasOk arrayKeysV2 d.extra) (ht : noArrayTag d.extra) :
    dropArrayTag (extrasV2 arrayKeysV2 (optKVs arrayKeysW d.vals ++ extraKVs d.extra)) = d.extra := by
  have h0 : extrasOf arrayKeysV2 (optKVs arrayKeysW d.vals) = [(kNodeType, AField.ofJ (.str (ascii "array")))] := by
    have hn : (!arrayKeysV2.contains kNodeType) = true := by simpa using kNodeType_notin_arrayKeysV2
    rw [show optKVs arrayKeysW d.vals = (kNodeType, .str (ascii "array")) :: optKVs arrayKeysV2 d.knownVals from rfl,
      extrasOf, List.filter_cons, if_pos hn, optKVs_filter_known]
    rfl
  have hs1 : sortedKeys [(kNodeType, AField.ofJ (.str (ascii "array")))] := List.pairwise_singleton ..
  rw [extrasV2_eq, extrasOf_append_extraKVs _ _ _ h.keys h.shape, h0]
  refine Cons.sorted_ext _ _ (sortedKeys_filter _ _ ?_) h.sorted fun x => ?_
  · exact Cons.sortKVs_sorted ((kNodeType, AField.ofJ (.str (ascii "array"))) :: d.extra)
  · rw [dropArrayTag, List.mem_filter, Cons.mem_foldl_insertKV _ (Cons.functional_of_nodup _ (sortedKeys_nodup _ h.sorted)) _ hs1]
    constructor
    · rintro ⟨h | ⟨h, _⟩, hx⟩
      · exact h
      · rw [List.mem_singleton.1 h] at hx; exact absurd hx (by decide)
    · exact fun h => ⟨Or.inl h, by simp [ht x h]⟩

/-- what the round trip needs of a V2 array document besides well-formed JSON (`ArrayDocV2.wfParts`) -/
structure ArrayDocV2.shapeOk (d : ArrayDocV2) : Prop where
  shape : ∀ t ∈ d.shape, isU64Tok t = true
  chunks : ∀ t ∈ d.chunks, isNzU64Tok t = true
  dt : d.dtype.shapeOk
  comp : ∀ m, d.compressor = some m → m.shapeOk
  fill : d.fill.shapeOk
  filters : d.filters ≠ some [] ∧ ∀ fs, d.filters = some fs → ∀ f ∈ fs, MetaV2.shapeOk f
  extraKeys : ∀ kv ∈ d.extra, kv.1 ∉ arrayKeysV2
  extraShape : ∀ kv ∈ d.extra, AField.shapeOk kv.2
  sorted : sortedKeys d.extra
  noTag : noArrayTag d.extra

theorem ArrayDocV2.shapeOk.extras {d : ArrayDocV2} (h : d.shapeOk) : ExtrasOk arrayKeysV2 d.extra :=
  ⟨h.extraKeys, h.extraShape, h.sorted⟩

theorem compOfJ_toJ (c : Option MetaV2) (h : ∀ m, c = some m → m.shapeOk) :
    compOfJ (some (compressorToJ c)) = some c := by
  cases c with
  | none => rfl
  | some m =>
    have := metaV2_ofJ_toJ m (h m rfl)
    simp only [compressorToJ, MetaV2.toJ] at this ⊢
    simp only [compOfJ, this, Option.map_some]

theorem filtersOfJ_toJ (f : Option (List MetaV2)) (h1 : f ≠ some []) (h2 : ∀ fs, f = some fs → ∀ m ∈ fs, MetaV2.shapeOk m) :
    filtersOfJ (some (filtersToJ f)) = some f := by
  cases f with
  | none => rfl
  | some fs =>
    cases fs with
    | nil => exact absurd rfl h1
    | cons x xs =>
      simp only [filtersToJ, filtersOfJ, metaV2List_toJ (x :: xs) (h2 _ rfl), Option.map_some]

theorem attrsOfJ_none_iff : attrsOfJ none = some ([] : Obj) := rfl

theorem ArrayDocV2.lookup_toJ (d : ArrayDocV2) (he : ∀ kv ∈ d.extra, kv.1 ∉ arrayKeysV2) (i : Nat) (k : Str) (v : Option J)
    (hk : arrayKeysV2[i]? = some k) (hv : d.knownVals[i]? = some v) :
    lookup (optKVs arrayKeysW d.vals ++ extraKVs d.extra) k = v := by
  have hne : (kNodeType == k) = false :=
    beq_eq_false_iff_ne.2 fun e => kNodeType_notin_arrayKeysV2 (e ▸ List.mem_of_getElem? hk)
  exact (lookup_cons_ne _ _ _ _ hne).trans
    (lookup_optKVs_extra arrayKeysV2 arrayKeysV2_nodup d.knownVals d.extra he i k v hk hv)

theorem arrayDocV2_toJ_of (d : ArrayDocV2) (h : d.shapeOk) :
    ArrayDocV2Of (optKVs arrayKeysW d.vals ++ extraKVs d.extra) d := by
  have hx := arrayDocV2_extras d h.extras h.noTag
  have L := d.lookup_toJ h.extraKeys
  refine ⟨L 0 _ _ rfl rfl, ?_, ?_, ?_, ?_, ?_, ?_, ?_, ?_, ?_, hx.symm⟩
  · exact (numList_iff isU64Tok _ _).2 ⟨L 1 _ _ rfl rfl, h.shape⟩
  · exact (numList_iff isNzU64Tok _ _).2 ⟨L 2 _ _ rfl rfl, h.chunks⟩
  · rw [L 3 _ _ rfl rfl]
    exact dtype_ofJ_toJ d.dtype h.dt
  · rw [L 4 _ _ rfl rfl]
    exact compOfJ_toJ d.compressor h.comp
  · rw [L 5 _ _ rfl rfl]
    exact fillV2_ofJ_toJ d.fill h.fill
  · rw [L 6 _ _ rfl rfl]
    exact order_ofJ_toJ d.order
  · rw [L 7 _ _ rfl rfl]
    exact filtersOfJ_toJ d.filters h.filters.1 h.filters.2
  · rw [L 8 _ _ rfl rfl]
    exact sep_ofJ_toJ d.sep
  · rw [L 9 _ _ rfl rfl]
    cases d.attrs <;> rfl

theorem arrayDocV2_ofJ_toJ (d : ArrayDocV2) (h : d.shapeOk) : ArrayDocV2.ofJ d.toJ = some d := by
  rw [ArrayDocV2.toJ_eq]
  exact arrayDocV2_ofJ_intro _ _ (arrayDocV2_toJ_of d h)

def GroupDocV2.knownVals (d : GroupDocV2) : List (Option J) :=
  [some (.num ['2']), if d.attrs.isEmpty then none else some (.obj d.attrs)]

theorem GroupDocV2.toJ_eq (d : GroupDocV2) : d.toJ = .obj (optKVs groupKeysV2 d.knownVals ++ extraKVs d.extra) := by
  obtain ⟨attrs, extra⟩ := d
  cases attrs <;> rfl

structure GroupDocV2.shapeOk (d : GroupDocV2) : Prop where
  extraKeys : ∀ kv ∈ d.extra, kv.1 ∉ groupKeysV2
  extraShape : ∀ kv ∈ d.extra, AField.shapeOk kv.2
  sorted : sortedKeys d.extra

theorem GroupDocV2.shapeOk.extras {d : GroupDocV2} (h : d.shapeOk) : ExtrasOk groupKeysV2 d.extra :=
  ⟨h.extraKeys, h.extraShape, h.sorted⟩

theorem groupDocV2_toJ_of (d : GroupDocV2) (h : d.shapeOk) :
    GroupDocV2Of (optKVs groupKeysV2 d.knownVals ++ extraKVs d.extra) d := by
  have L := lookup_optKVs_extra groupKeysV2 groupKeysV2_nodup d.knownVals d.extra h.extraKeys
  refine ⟨L 0 _ _ rfl rfl, ?_, ?_⟩
  · rw [L 1 _ _ rfl rfl]
    cases d.attrs <;> rfl
  · rw [extrasV2_eq, extrasOf_optKVs_extra _ _ _ h.extras]

theorem groupDocV2_ofJ_toJ (d : GroupDocV2) (h : d.shapeOk) : GroupDocV2.ofJ d.toJ = some d := by
  rw [GroupDocV2.toJ_eq]
  exact groupDocV2_ofJ_intro _ _ (groupDocV2_toJ_of d h)

end Zarrs.MetaV2
