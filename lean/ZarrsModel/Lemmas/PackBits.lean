import ZarrsModel.Lemmas.Bits
import ZarrsModel.Lemmas.CodecBasic
/- the `packbits` codec (C03): components of a buffer, the field `first..=last` put back by `place`, the packed stream
(`encBits`, `encBody`), which on the fast path is the buffer itself -/
namespace Zarrs.PackBits

theorem chunks_eq_chunksOf (k : Nat) (hk : 0 < k) : ∀ (fuel : Nat) (b : Bytes), chunks k fuel b = Codec.chunksOf k fuel b
  | 0, _ => rfl
  | fuel + 1, b => by
    rw [chunks, Codec.chunksOf, chunks_eq_chunksOf k hk fuel, beq_eq_false_iff_ne.mpr (Nat.ne_of_gt hk), Bool.or_false]

theorem ofLE_eq_leVal : ∀ b : Bytes, ofLE b = leVal b
  | [] => rfl
  | x :: xs => congrArg (x + 256 * ·) (ofLE_eq_leVal xs)

theorem toLE_eq_leDigits : ∀ k v : Nat, toLE k v = leDigits k v
  | 0, _ => rfl
  | k + 1, v => congrArg (v % 256 :: ·) (toLE_eq_leDigits k _)

theorem toLE_ofLE (b : Bytes) (h : ∀ x ∈ b, x < 256) : toLE b.length (ofLE b) = b := by
  rw [toLE_eq_leDigits, ofLE_eq_leVal, leDigits_leVal b h]

theorem toLE_length (k v : Nat) : (toLE k v).length = k := by
  rw [toLE_eq_leDigits, leDigits_length]

theorem two_pow_last (c : Cfg) (hfl : c.first ≤ c.last) : 2 ^ c.last = 2 ^ (c.n - 1) * 2 ^ c.first := by
  rw [← Nat.pow_add]
  exact congrArg _ (Nat.sub_add_cancel hfl).symm

theorem two_pow_last_succ (c : Cfg) (hfl : c.first ≤ c.last) : 2 ^ (c.last + 1) = 2 ^ c.n * 2 ^ c.first := by
  rw [← Nat.pow_add, Cfg.n, Nat.add_right_comm, Nat.sub_add_cancel hfl]

theorem two_pow_w (c : Cfg) (hl : c.last < c.w) : 2 ^ c.w = 2 ^ (c.last + 1) * 2 ^ (c.w - (c.last + 1)) := by
  rw [← Nat.pow_add, Nat.add_sub_cancel' hl]

theorem place_extract (c : Cfg) (hfl : c.first ≤ c.last) (hl : c.last < c.w) (v : Nat)
    (h : inRange c v = true) : place c (v / 2 ^ c.first % 2 ^ c.n) = v := by
  have hAB : 2 ^ c.last = 2 ^ c.first * 2 ^ (c.last - c.first) := (two_pow_last c hfl).trans (Nat.mul_comm _ _)
  have hM : 2 ^ (c.last + 1) = 2 ^ c.first * (2 ^ (c.last - c.first) * 2) := by
    rw [Nat.pow_succ, hAB, Nat.mul_assoc]
  have hn : 2 ^ c.n = 2 ^ (c.last - c.first) * 2 := Nat.pow_succ ..
  have hn1 : c.n - 1 = c.last - c.first := rfl
  have hW : 2 ^ c.w = 2 ^ (c.last + 1) * 2 ^ (c.w - c.last - 1) := by
    rw [Nat.sub_sub]; exact two_pow_w c hl
  simp only [inRange, Bool.and_eq_true, decide_eq_true_eq, beq_iff_eq] at h
  obtain ⟨⟨h1, h2⟩, h3⟩ := h
  -- the extracted field, shifted back, is `v` below bit `last + 1`
  have hx : (v / 2 ^ c.first % 2 ^ c.n) * 2 ^ c.first = v % 2 ^ (c.last + 1) := by
    rw [hn, hM, Nat.mod_mul (x := v), h2, Nat.zero_add, Nat.mul_comm]
  -- its top bit is bit `last` of `v`
  have hs : (v / 2 ^ c.first % 2 ^ c.n) / 2 ^ (c.n - 1) % 2 = v / 2 ^ c.last % 2 := by
    rw [hn, hn1, Nat.mod_mul_right_div_self, Nat.mod_mod, Nat.div_div_eq_div_mul, ← hAB]
  have hdm := Nat.div_add_mod v (2 ^ (c.last + 1))
  unfold place
  simp only [hx, hs]
  cases hsign : c.sign with
  | false =>
    simp only [hsign, Bool.false_eq_true, if_false, decide_eq_true_eq] at h3
    simp only [Bool.false_and, Bool.false_eq_true, if_false]
    exact Nat.mod_eq_of_lt h3
  | true =>
    simp only [hsign, if_true] at h3
    simp only [Bool.true_and, beq_iff_eq]
    by_cases hbit : v / 2 ^ c.last % 2 = 1
    · simp only [hbit, if_true, beq_iff_eq] at h3 ⊢
      rw [hW, ← Nat.mul_sub_one, ← h3, Nat.add_comm]
      exact hdm
    · simp only [hbit, if_false, beq_iff_eq] at h3 ⊢
      rw [h3, Nat.mul_zero, Nat.zero_add] at hdm
      exact hdm

theorem cb_pos (c : Cfg) (hw : 0 < c.w) : 0 < c.cb :=
  Nat.div_pos (Nat.add_le_add_right hw 7) (by decide)

theorem fast_n (c : Cfg) (hw : 0 < c.w) (hf : fast c = true) : c.first = 0 ∧ c.n = 8 * c.cb := by
  unfold fast at hf
  simp only [Bool.and_eq_true, beq_iff_eq] at hf
  obtain ⟨⟨h8, h0⟩, hlast⟩ := hf
  obtain ⟨q, hq⟩ := Nat.dvd_of_mod_eq_zero h8
  refine ⟨h0, ?_⟩
  rw [Cfg.n, Cfg.cb, hlast, h0, Nat.sub_zero, Nat.sub_add_cancel hw, hq, Nat.mul_add_div (by decide)]
  rfl

theorem comps_eq (c : Cfg) (hw : 0 < c.w) : comps c = fun data => (Codec.groups c.cb data).map ofLE := by
  funext data
  rw [comps, chunks_eq_chunksOf c.cb (cb_pos c hw)]
  rfl

theorem comps_length (c : Cfg) (hw : 0 < c.w) (data : Bytes) (hlen : data.length % c.cb = 0) :
    (comps c data).length = data.length / c.cb := by
  rw [comps_eq c hw, List.length_map]
  exact Codec.groups_length c.cb (cb_pos c hw) data _ (Nat.div_mul_cancel (Nat.dvd_of_mod_eq_zero hlen)).symm

def encBits (c : Cfg) (data : Bytes) : List Bool :=
  ((comps c data).map (fun v => v / 2 ^ c.first % 2 ^ c.n)).flatMap (bitsOf c.n)

def encBody (c : Cfg) (data : Bytes) : Bytes := bytesOfBits ((encBits c data).length + 1) (encBits c data)

theorem allBits_encBody (c : Cfg) (data : Bytes) :
    allBits (encBody c data) = encBits c data ++ List.replicate (padBits (encBits c data).length) false :=
  allBits_bytesOfBits _ _ (Nat.le_trans (Nat.le_succ _) (Nat.le_mul_of_pos_left _ (by decide)))

theorem encBits_length (c : Cfg) (hw : 0 < c.w) (data : Bytes) (hlen : data.length % c.cb = 0) :
    (encBits c data).length = data.length / c.cb * c.n := by
  unfold encBits
  rw [length_flatMap_of_all c.n _ _ (fun v _ => bitsOf_length c.n v), List.length_map, comps_length c hw data hlen]

theorem encBody_length (c : Cfg) (hw : 0 < c.w) (data : Bytes) (hlen : data.length % c.cb = 0) :
    (encBody c data).length = (data.length / c.cb * c.n + 7) / 8 := by
  unfold encBody
  rw [bytesOfBits_length _ _ (Nat.le_trans (Nat.le_succ _) (Nat.le_mul_of_pos_left _ (by decide))), encBits_length c hw data hlen]

theorem encode_slow (c : Cfg) (data : Bytes) (hf : fast c = false) :
    encode c data = match c.pad with
      | .none => encBody c data
      | .firstByte => padBits (encBits c data).length :: encBody c data
      | .lastByte => encBody c data ++ [padBits (encBits c data).length] := by
  unfold encode
  simp only [hf, Bool.false_eq_true, if_false]
  rfl

theorem encodedSize_slow (c : Cfg) (count : Nat) (hf : fast c = false) :
    encodedSize c count = (count * c.n + 7) / 8 + (if c.pad == .none then 0 else 1) := by
  rw [encodedSize, if_neg (Bool.eq_false_iff.mp hf)]

theorem decode_body (c : Cfg) (hfl : c.first ≤ c.last) (hl : c.last < c.w)
    (data : Bytes) (hb : ∀ x ∈ data, x < 256) (hlen : data.length % c.cb = 0)
    (hr : ∀ v ∈ comps c data, inRange c v = true) :
    ((takeBits (data.length / c.cb) c.n (allBits (encBody c data))).map
      (fun bs => toLE c.cb (place c (natOfBits bs)))).flatten = data := by
  have hw : 0 < c.w := Nat.zero_lt_of_lt hl
  have hk := cb_pos c hw
  have hcount : data.length / c.cb = ((comps c data).map (fun v => v / 2 ^ c.first % 2 ^ c.n)).length := by
    rw [List.length_map, comps_length c hw data hlen]
  rw [allBits_encBody, encBits, hcount, takeBits_flatMap]
  rw [comps_eq c hw] at hr ⊢
  simp only [List.map_map]
  -- element by element: the bits written are the bits read, and an in-range component is put back whole
  conv => rhs; rw [← Codec.groups_flatten_self c.cb hk data, ← List.map_id (Codec.groups c.cb data)]
  refine congrArg List.flatten (List.map_congr_left fun ch hch => ?_)
  have hwf : ∀ x ∈ ch, x < 256 := fun x hx =>
    hb x (by rw [← Codec.groups_flatten_self c.cb hk data]; exact List.mem_flatten.mpr ⟨ch, hch, hx⟩)
  simp only [Function.comp, id]
  rw [natOfBits_bitsOf, Nat.mod_mod, place_extract c hfl hl _ (hr _ (List.mem_map_of_mem hch)),
    ← Codec.groups_all_length c.cb hk data hlen ch hch, toLE_ofLE ch hwf]

theorem encBody_fast (c : Cfg) (hw : 0 < c.w) (data : Bytes) (hb : ∀ x ∈ data, x < 256)
    (hlen : data.length % c.cb = 0) (hf : fast c = true) : encBody c data = data := by
  obtain ⟨h0, hn⟩ := fast_n c hw hf
  have hk := cb_pos c hw
  have hbits : encBits c data = allBits data := by
    rw [encBits, comps_eq c hw, List.map_map, List.flatMap_def, List.map_map]
    conv => rhs; rw [← Codec.groups_flatten_self c.cb hk data, allBits, Codec.flatMap_flatten]
    refine congrArg List.flatten (List.map_congr_left fun ch hch => ?_)
    have hwf : ∀ x ∈ ch, x < 256 := fun x hx =>
      hb x (by rw [← Codec.groups_flatten_self c.cb hk data]; exact List.mem_flatten.mpr ⟨ch, hch, hx⟩)
    simp only [Function.comp, h0, Nat.pow_zero, Nat.div_one]
    rw [bitsOf_mod, hn, ← Codec.groups_all_length c.cb hk data hlen ch hch, bitsOf_ofLE ch hwf]
    rfl
  rw [encBody, hbits]
  exact bytesOfBits_allBits data _ hb (by rw [allBits_length]; omega)

end Zarrs.PackBits
