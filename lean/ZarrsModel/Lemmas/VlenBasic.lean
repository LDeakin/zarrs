import ZarrsModel.Model.Vlen
import ZarrsModel.Lemmas.Slice
/- `ArrayBytes::Variable(bytes, offsets)` (`VArr`): the offsets view (`valid`, `offsetsOk`) against the element view
(`elems`, `ofElems`).  Shared by the vlen codec lemmas (C03) and the variable-length array lemmas (C01). -/
namespace Zarrs.Vlen
open Zarrs Zarrs.Codec

theorem windows_length : ∀ (offs : List Nat), (windows offs).length = offs.length - 1
  | [] => rfl
  | [_] => rfl
  | _ :: b :: rest => congrArg (· + 1) (windows_length (b :: rest))

theorem offsetsFrom_length (s : Nat) (xs : List Bytes) : (offsetsFrom s xs).length = xs.length + 1 := by
  induction xs generalizing s with
  | nil => rfl
  | cons x xs ih => simp [offsetsFrom, ih]

theorem windows_cons_offsetsFrom (a s : Nat) (xs : List Bytes) :
    windows (a :: offsetsFrom s xs) = (a, s) :: windows (offsetsFrom s xs) := by
  cases xs <;> rfl

theorem offsetsFrom_head (s : Nat) (xs : List Bytes) : (offsetsFrom s xs).head? = some s := by
  cases xs <;> rfl

theorem offsetsFrom_getElem? : ∀ (E : List Bytes) (s k : Nat), k ≤ E.length →
    (offsetsFrom s E)[k]? = some (s + (E.take k).flatten.length)
  | [], s, k, hk => by
    obtain rfl : k = 0 := Nat.le_zero.mp hk
    rfl
  | x :: E, s, 0, _ => rfl
  | x :: E, s, k + 1, hk => by
    rw [offsetsFrom, List.getElem?_cons_succ, offsetsFrom_getElem? E _ k (Nat.le_of_succ_le_succ hk), List.take_succ_cons,
      List.flatten_cons, List.length_append, Nat.add_assoc]

theorem offsetsFrom_getLast (s : Nat) (xs : List Bytes) :
    (offsetsFrom s xs).getLast? = some (s + xs.flatten.length) := by
  rw [List.getLast?_eq_getElem?, offsetsFrom_length, Nat.add_sub_cancel, offsetsFrom_getElem? xs s _ (Nat.le_refl _),
    List.take_length]

theorem offsetsOk_cons_cons (len a b : Nat) (os : List Nat) :
    offsetsOk len (a :: b :: os) = true ↔ (a ≤ b ∧ b ≤ len) ∧ offsetsOk len (b :: os) = true := by
  show ((decide (a ≤ b) && decide (b ≤ len)) && offsetsOk len (b :: os)) = true ↔ _
  simp only [Bool.and_eq_true, decide_eq_true_eq]

/-- the loop of `validate_bytes_vlen` (`validLoop`) and the window test at the end of `get_vlen_bytes_and_offsets`
(`offsetsOk`) are one check, once the running `last` is put in front of the offsets -/
theorem validLoop_eq (len : Nat) : ∀ (os : List Nat) (last : Nat),
    validLoop len last os = if offsetsOk len (last :: os) then (last :: os).getLast? else none
  | [], _ => rfl
  | o :: os, last => by
    simp only [validLoop, validLoop_eq len os o, offsetsOk_cons_cons, List.getLast?_cons_cons]
    by_cases h : last ≤ o ∧ o ≤ len
    · have : ¬ (o < last ∨ o > len) := by omega
      simp [h, this]
    · have : o < last ∨ o > len := by omega
      simp [h, this]

theorem offsetsOk_le (len : Nat) : ∀ offs : List Nat, offsetsOk len offs = true → offs.getLast? = some len →
    ∀ o ∈ offs, o ≤ len
  | [], _, _ => by simp
  | [a], _, hl => by simp at hl; simp [hl]
  | a :: b :: os, hok, hl => by
    rw [offsetsOk_cons_cons] at hok
    rw [List.getLast?_cons_cons] at hl
    intro o ho
    rcases List.mem_cons.mp ho with rfl | ho
    · omega
    · exact offsetsOk_le len (b :: os) hok.2 hl o ho

theorem valid_iff (n : Nat) (v : VArr) :
    v.valid n = true ↔
      v.offsets.length = n + 1 ∧ offsetsOk v.data.length v.offsets = true ∧
      v.offsets.getLast? = some v.data.length := by
  unfold VArr.valid
  rw [validLoop_eq]
  cases ho : v.offsets with
  | nil => simp
  | cons o os =>
    simp only [offsetsOk_cons_cons, List.getLast?_cons_cons]
    by_cases hok : offsetsOk v.data.length (o :: os) = true
    · cases hl : (o :: os).getLast? with
      | none => simp
      | some l =>
        by_cases hle : l = v.data.length
        · have := offsetsOk_le _ _ hok (hl.trans (congrArg some hle)) o List.mem_cons_self
          simp [hok, hle, this]
        · by_cases hole : o ≤ v.data.length <;> simp [hle, hole, hok]
    · simp [hok]

theorem valid_offsets_length (n : Nat) (v : VArr) (h : v.valid n = true) : v.offsets.length = n + 1 :=
  ((valid_iff n v).mp h).1

theorem valid_offsetsOk (n : Nat) (v : VArr) (h : v.valid n = true) : offsetsOk v.data.length v.offsets = true :=
  ((valid_iff n v).mp h).2.1

theorem valid_last (n : Nat) (v : VArr) (h : v.valid n = true) : v.offsets.getLast? = some v.data.length :=
  ((valid_iff n v).mp h).2.2

theorem valid_offsets_le (n : Nat) (v : VArr) (h : v.valid n = true) : ∀ o ∈ v.offsets, o ≤ v.data.length :=
  offsetsOk_le _ _ (valid_offsetsOk n v h) (valid_last n v h)

theorem elems_length (n : Nat) (v : VArr) (h : v.valid n = true) : v.elems.length = n := by
  have := valid_offsets_length n v h
  simp only [VArr.elems, List.length_map, windows_length, this]; omega

theorem elems_map_slice_offsetsFrom (xs : List Bytes) : ∀ (p : Bytes),
    (windows (offsetsFrom p.length xs)).map (fun w => slice (p ++ xs.flatten) w.1 w.2) = xs := by
  induction xs with
  | nil => intro p; rfl
  | cons x xs ih =>
    intro p
    simp only [offsetsFrom, windows_cons_offsetsFrom, List.map_cons, List.flatten_cons, slice_mid]
    congr 1
    have := ih (p ++ x)
    simp only [List.length_append, List.append_assoc] at this
    exact this

theorem elems_ofElems (xs : List Bytes) : (VArr.ofElems xs).elems = xs := by
  have := elems_map_slice_offsetsFrom xs []
  simpa [VArr.elems, VArr.ofElems] using this

theorem offsetsOk_offsetsFrom (len : Nat) : ∀ (xs : List Bytes) (s : Nat), s + xs.flatten.length ≤ len →
    offsetsOk len (offsetsFrom s xs) = true
  | [], _, _ => rfl
  | x :: xs, s, h => by
    simp only [List.flatten_cons, List.length_append] at h
    unfold offsetsOk
    rw [offsetsFrom, windows_cons_offsetsFrom, List.all_cons]
    have := offsetsOk_offsetsFrom len xs (s + x.length) (by omega)
    unfold offsetsOk at this
    simp only [this, Bool.and_true, Bool.and_eq_true, decide_eq_true_eq]
    omega

theorem ofElems_valid (xs : List Bytes) : (VArr.ofElems xs).valid xs.length = true :=
  (valid_iff _ _).mpr ⟨offsetsFrom_length 0 xs, offsetsOk_offsetsFrom _ xs 0 (by simp [VArr.ofElems]),
    by simp [VArr.ofElems, offsetsFrom_getLast]⟩

theorem ofElems_valid_of_length (xs : List Bytes) (n : Nat) (h : xs.length = n) : (VArr.ofElems xs).valid n = true := by
  subst h; exact ofElems_valid xs

theorem windows_slice (data : Bytes) : ∀ (os : List Nat) (o last : Nat),
    offsetsOk data.length (o :: os) = true → (o :: os).getLast? = some last →
    offsetsFrom o ((windows (o :: os)).map (fun w => slice data w.1 w.2)) = o :: os ∧
    ((windows (o :: os)).map (fun w => slice data w.1 w.2)).flatten = slice data o last ∧ o ≤ last
  | [], o, last, _, hl => by
    obtain rfl : o = last := by simpa using hl
    exact ⟨rfl, (slice_self data o).symm, Nat.le_refl o⟩
  | o' :: os, o, last, h, hl => by
    rw [offsetsOk_cons_cons] at h
    rw [List.getLast?_cons_cons] at hl
    obtain ⟨ih1, ih2, ih3⟩ := windows_slice data os o' last h.2 hl
    simp only [windows, List.map_cons, offsetsFrom, List.flatten_cons]
    rw [slice_length data o o' h.1.2, Nat.add_sub_of_le h.1.1, ih1, ih2]
    exact ⟨rfl, slice_append_slice data o o' last h.1.1 ih3, Nat.le_trans h.1.1 ih3⟩

theorem elems_flatten (n : Nat) (v : VArr) (h : v.valid n = true) :
    v.elems.flatten = v.data.drop (v.offsets.headD 0) := by
  obtain ⟨hl, hok, hlast⟩ := (valid_iff n v).mp h
  cases ho : v.offsets with
  | nil => rw [ho] at hl; simp at hl
  | cons o os =>
    rw [ho] at hok hlast
    rw [VArr.elems, ho, (windows_slice v.data os o _ hok hlast).2.1]
    exact List.take_of_length_le (by simp)

theorem offsets_eq (n : Nat) (v : VArr) (h : v.valid n = true) : v.offsets = offsetsFrom (v.offsets.headD 0) v.elems := by
  obtain ⟨hl, hok, hlast⟩ := (valid_iff n v).mp h
  cases ho : v.offsets with
  | nil => rw [ho] at hl; cases hl
  | cons o os =>
    rw [ho] at hok hlast
    rw [VArr.elems, ho]
    exact (windows_slice v.data os o _ hok hlast).1.symm

theorem ofElems_elems (n : Nat) (v : VArr) (h : v.valid n = true) (h0 : v.offsets.head? = some 0) :
    VArr.ofElems v.elems = v := by
  have hf := elems_flatten n v h
  have ho := offsets_eq n v h
  rw [List.headD_eq_head?_getD, h0, Option.getD_some] at hf ho
  rw [VArr.ofElems, hf, ← ho]
  rfl

theorem elems_ofElems_elems (v : VArr) : (VArr.ofElems v.elems).elems = v.elems := elems_ofElems _

end Zarrs.Vlen
