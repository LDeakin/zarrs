import ZarrsModel.Model.Array
import ZarrsModel.Lemmas.GridApi
import ZarrsModel.Lemmas.Tiling
set_option linter.unusedSectionVars false
/- What the standing assumptions (`ROk`; `COk` is its instance for a codec that is
lossless outright) say about the chunks of a configuration: they are non-empty well-formed boxes, pairwise disjoint,
and cover the array; those of a box of chunks tile its region (`ROk.box_tiling`), those meeting a region, cut to it, tile
the region (`ROk.region_tiling`). -/
namespace Zarrs
open Subset

namespace ArrCfg
variable {α : Type} [DecidableEq α]

/-- the standing assumptions on a configuration (same fields as `C01.Ok`) -/
structure COk (cfg : ArrCfg α) (G : Shape) : Prop where
  lossless : cfg.Lossless
  keysInj : cfg.KeysInjective
  gridNew : ∃ gcfg, cfg.grid = Grid.new gcfg
  gridWf : cfg.grid.wf = true
  gridShape : cfg.grid.gridShape cfg.shape = some G
  rank : cfg.shape.length = cfg.grid.length

/-- what the refinement proof uses of `COk`: the codec has to return only what is ever stored, chunks (lists of the
length of a chunk) of elements satisfying `Pe`, of which the fill value is one; `COk` is the case `Pe = fun _ => true` -/
structure ROk (Pe : α → Bool) (cfg : ArrCfg α) (G : Shape) : Prop where
  decEnc : ∀ c s x, cfg.chunkShape c = some s → x.length = prod s → (∀ e ∈ x, Pe e = true) → cfg.dec (cfg.enc x) = some x
  fillGood : Pe cfg.fill = true
  keysInj : cfg.KeysInjective
  gridNew : ∃ gcfg, cfg.grid = Grid.new gcfg
  gridWf : cfg.grid.wf = true
  gridShape : cfg.grid.gridShape cfg.shape = some G
  rank : cfg.shape.length = cfg.grid.length

variable {cfg : ArrCfg α} {G : Shape} {Pe : α → Bool}

theorem COk.rok (h : COk cfg G) : ROk (fun _ => true) cfg G :=
  ⟨fun _ _ x _ _ _ => h.lossless x, rfl, h.keysInj, h.gridNew, h.gridWf, h.gridShape, h.rank⟩

theorem ROk.new (h : ROk Pe cfg G) : ∃ gcfg, cfg.grid = Grid.new gcfg ∧ (Grid.new gcfg).wf = true ∧
    (Grid.new gcfg).gridShape cfg.shape = some G ∧ cfg.shape.length = gcfg.length := by
  obtain ⟨gcfg, hg⟩ := h.gridNew
  have h1 := h.gridWf
  have h2 := h.gridShape
  have h3 := h.rank
  rw [hg] at h1 h2 h3
  exact ⟨gcfg, hg, h1, h2, by rw [h3, Grid.new, List.length_map]⟩

theorem ROk.gok (h : ROk Pe cfg G) : GridOK' cfg.grid cfg.shape G := by
  obtain ⟨gcfg, hg, h1, h2, h3⟩ := h.new
  rw [hg]
  exact gridOK'_new gcfg cfg.shape G h1 h2 h3

theorem ROk.G_length (h : ROk Pe cfg G) : G.length = cfg.grid.length := h.gok.length.2

theorem chunkSubset_of_length {c : Idx} (hc : c.length = cfg.grid.length) :
    cfg.chunkSubset c = cfg.grid.subset c := by
  simp [chunkSubset, hc]

theorem ROk.inB_length (h : ROk Pe cfg G) {c : Idx} (hc : inB c G = true) : c.length = cfg.grid.length := by
  rw [Zarrs.inB_length hc, h.G_length]

theorem chunkSubset_some {c : Idx} {cs : Subset} (h : cfg.chunkSubset c = some cs) :
    c.length = cfg.grid.length ∧ cfg.grid.chunkOrigin c = some cs.start ∧ cfg.grid.chunkShape c = some cs.shape := by
  simp only [chunkSubset] at h
  split at h
  · rename_i hl
    obtain ⟨o, s, ho, hs, rfl⟩ := Grid.subset_eq_some.mp h
    exact ⟨by simpa using hl, ho, hs⟩
  · cases h

theorem chunkSubset_shape {c : Idx} {cs : Subset} (h : cfg.chunkSubset c = some cs) :
    cfg.chunkShape c = some cs.shape := by
  obtain ⟨hl, _, hs⟩ := chunkSubset_some h
  rw [chunkShape, hl, beq_self_eq_true, if_pos rfl]
  exact hs

theorem chunkSubset_wf {c : Idx} {cs : Subset} (h : cfg.chunkSubset c = some cs) : cs.wf = true := by
  obtain ⟨_, ho, hs⟩ := chunkSubset_some h
  exact Subset.wf_iff.mpr ((zipOpt_length _ _ _ _ ho).trans (zipOpt_length _ _ _ _ hs).symm)

theorem ROk.chunk_def (h : ROk Pe cfg G) (c : Idx) (hc : inB c G = true) :
    ∃ cs, cfg.chunkSubset c = some cs ∧ cfg.chunkShape c = some cs.shape ∧ cs.wf = true ∧
      cs.rank = cfg.grid.length ∧ cs.isEmpty = false := by
  obtain ⟨o, s, A⟩ := h.gok.chunkAt c hc
  have hcs : cfg.chunkSubset c = some ⟨o, s⟩ := by
    rw [chunkSubset_of_length (h.inB_length hc)]
    exact Grid.subset_eq_some.mpr ⟨o, s, A.origin, A.shape, rfl⟩
  exact ⟨_, hcs, chunkSubset_shape hcs, chunkSubset_wf hcs, A.originLen, A.nonempty⟩

theorem ROk.chunk_disj (h : ROk Pe cfg G) {c c' : Idx} {cs cs' : Subset} {i : Idx}
    (hc : inB c G = true) (hc' : inB c' G = true) (hcs : cfg.chunkSubset c = some cs)
    (hcs' : cfg.chunkSubset c' = some cs') (hi : cs.contains i = true) (hi' : cs'.contains i = true) : c' = c := by
  obtain ⟨_, ho, hs⟩ := chunkSubset_some hcs
  obtain ⟨_, ho', hs'⟩ := chunkSubset_some hcs'
  exact h.gok.disjoint c c' _ _ _ _ i hc hc' ho hs ho' hs' hi hi'

theorem chunksSubset_empty (b : Subset) (he : b.isEmpty = true) :
    cfg.grid.chunksSubset b = some (Subset.newEmpty b.rank) := by
  simp [Grid.chunksSubset, Subset.endInc, he]

theorem chunksSubset_wf {b region : Subset} (hb : b.wf = true) (hr : b.rank = cfg.grid.length)
    (h : cfg.grid.chunksSubset b = some region) : region.wf = true := by
  cases he : b.isEmpty with
  | true =>
    cases (chunksSubset_empty b he).symm.trans h
    simp [Subset.newEmpty, Subset.wf]
  | false => exact (Grid.chunksSubset_wf _ b region hb hr he h).1

theorem chunksIn_empty (r : Subset) (he : r.isEmpty = true) :
    cfg.grid.chunksInArraySubset r cfg.shape = some (Subset.newEmpty cfg.grid.length) := by
  simp [Grid.chunksInArraySubset, Subset.endInc, he]

theorem boxOf_mk {c o s : Idx} (ho : cfg.grid.chunkOrigin c = some o) (hs : cfg.grid.chunkShape c = some s) :
    cfg.grid.boxOf c = ⟨o, s⟩ :=
  Grid.boxOf_eq (Grid.subset_eq_some.mpr ⟨o, s, ho, hs, rfl⟩)

theorem ROk.boxOf_def (h : ROk Pe cfg G) {c : Idx} (hc : inB c G = true) :
    cfg.chunkSubset c = some (cfg.grid.boxOf c) := by
  obtain ⟨cs, hcs, _⟩ := h.chunk_def c hc
  rw [hcs, Grid.boxOf_eq ((chunkSubset_of_length (h.inB_length hc)).symm.trans hcs)]

/-- what a multi-chunk access to the non-empty box `b` of chunks rests on; `single`: the path for one chunk -/
structure BoxTiles (cfg : ArrCfg α) (G : Shape) (b region : Subset) : Prop where
  eq : cfg.grid.chunksSubset b = some region
  wf : region.wf = true
  inGrid : ∀ c ∈ b.indices, inB c G = true
  tiling : Tiling b.indices cfg.grid.boxOf (region.contains · = true)
  single : b.numElements = 1 → inB b.start G = true ∧ cfg.chunkSubset b.start = some region

/-- what a multi-chunk access to the non-empty region `r` rests on (`Grid.Pieces` with the chunks below `G` and
their parts inside them); `single`: the path for one chunk -/
structure RegionTiles (cfg : ArrCfg α) (G : Shape) (r box : Subset) : Prop where
  eq : cfg.grid.chunksInArraySubset r cfg.shape = some box
  ne : box.numElements ≠ 0
  inGrid : ∀ c ∈ box.indices, inB c G = true ∧ ((cfg.grid.boxOf c).overlap r).SubBox (cfg.grid.boxOf c)
  tiling : Tiling box.indices (fun c => (cfg.grid.boxOf c).overlap r) (r.contains · = true)
  single : box.numElements = 1 → inB box.start G = true ∧ r.SubBox (cfg.grid.boxOf box.start)

theorem ROk.box_tiling (h : ROk Pe cfg G) (b : Subset) (hb : b.wf = true) (hbi : b.inboundsShape G = true)
    (hne : b.isEmpty = false) : ∃ region, BoxTiles cfg G b region := by
  have hb' := Subset.wf_iff.mp hb
  have hne' : b.shape.any (· == 0) = false := hne
  have hG : ∀ c ∈ b.indices, b.contains c = true ∧ inB c G = true := fun c hc =>
    have := (b.mem_indices hb c).mp hc
    ⟨this, Subset.inB_of_inboundsShape hbi this⟩
  obtain ⟨gcfg, hg, -, -, hsl⟩ := h.new
  have hbl : b.start.length = gcfg.length :=
    (Subset.inboundsShape_iff_allLe.mp hbi).1.trans (h.G_length.trans (h.rank.symm.trans hsl))
  -- the first and the last chunk of the box lie below `G`, so they exist; `Grid.cover` does the rest
  have hin := Subset.inB_of_inboundsShape hbi (mem_start b.start b.shape hb' hne')
  obtain ⟨o0, s0, A0⟩ := h.gok.chunkAt _ hin
  obtain ⟨o1, s1, A1⟩ := h.gok.chunkAt _ (Subset.inB_of_inboundsShape hbi (mem_last b.start b.shape hb' hne'))
  obtain ⟨-, hiff⟩ := Grid.cover gcfg b.start b.shape o0 o1 s1 hbl (hb'.symm.trans hbl) hne'
    (hg ▸ A0.origin) (hg ▸ A1.origin) (hg ▸ A1.shape)
  rw [← hg] at hiff
  have hreg : cfg.grid.chunksSubset b = some ⟨o0, zipSub (addIdx o1 s1) o0⟩ := by
    simp only [Grid.chunksSubset, Subset.endInc, Subset.isEmpty, hne', Bool.false_eq_true, if_false]
    rw [Grid.subset_eq_some.mpr ⟨o0, s0, A0.origin, A0.shape, rfl⟩,
      Grid.subset_eq_some.mpr ⟨o1, s1, A1.origin, A1.shape, rfl⟩]
    rfl
  refine ⟨_, hreg, ?_, fun c hc => (hG c hc).2, ⟨b.indices_nodup hb, fun c hc => ?_, fun c hc i hi => ?_,
    fun i hi => ?_, fun c hc c' hc' i hi hi' => ?_⟩, fun h1 => ⟨hin, ?_⟩⟩
  · simp only [Subset.wf, zipSub_length, addIdx_length, A0.originLen, A1.originLen, A1.shapeLen, Nat.min_self, beq_iff_eq]
  · obtain ⟨o, s, A⟩ := h.gok.chunkAt c (hG c hc).2
    exact ⟨o, by rw [boxOf_mk A.origin A.shape]; exact mem_start o s (A.originLen.trans A.shapeLen.symm) A.nonempty⟩
  · obtain ⟨o, s, A⟩ := h.gok.chunkAt c (hG c hc).2
    rw [boxOf_mk A.origin A.shape] at hi
    exact (hiff i).mpr ⟨c, o, s, (hG c hc).1, A.origin, A.shape, hi⟩
  · obtain ⟨c, o, s, hbc, ho, hs, hi⟩ := (hiff i).mp hi
    exact ⟨c, (b.mem_indices hb c).mpr hbc, by rwa [boxOf_mk ho hs]⟩
  · exact h.chunk_disj (hG c hc).2 (hG c' hc').2 (h.boxOf_def (hG c hc).2) (h.boxOf_def (hG c' hc').2) hi hi'
  · -- `chunks_subset` runs from the first chunk of the box to its last, here the same chunk
    have ho1 := A1.origin
    have hs1 := A1.shape
    rw [ones_end b.start b.shape (prod_eq_one b.shape h1) hb'] at ho1 hs1
    cases A0.origin.symm.trans ho1
    cases A0.shape.symm.trans hs1
    rw [h.boxOf_def hin, boxOf_mk ho1 hs1]
    exact congrArg some (Subset.ofStartEndExc_self ⟨_, _⟩ (Subset.wf_iff.mpr (A0.originLen.trans A0.shapeLen.symm))).symm

theorem ROk.region_tiling (h : ROk Pe cfg G) (r : Subset) (hr : r.wf = true) (hb : r.inboundsShape cfg.shape = true)
    (hne : r.isEmpty = false) : ∃ box, RegionTiles cfg G r box := by
  obtain ⟨box, P, hG⟩ := h.gok.pieces r hr hb hne
  have hsub : ∀ c ∈ box.indices, ((cfg.grid.boxOf c).overlap r).SubBox (cfg.grid.boxOf c) := by
    intro c hc
    obtain ⟨cs, i0, hcs, hi0c, hi0r⟩ := P.meets c hc
    rw [Grid.boxOf_eq hcs]
    exact Subset.overlap_subBox_left hi0c hi0r
  -- the chunks listed by the box are in it: it holds every chunk meeting the region
  obtain ⟨box', hbox', hiff⟩ := h.gok.chunksInSubset r hr hb hne
  cases hbox'.symm.trans P.chunks
  have hbc : ∀ c ∈ box.indices, box.contains c = true := fun c hc => (hiff c).mpr ⟨hG c hc, P.meets c hc⟩
  obtain ⟨c0, hc0, _⟩ := P.tiling.cover _ (mem_start r.start r.shape (Subset.wf_iff.mp hr) hne)
  refine ⟨box, P.chunks, fun h0 => ?_, fun c hc => ⟨hG c hc, hsub c hc⟩, P.tiling,
    fun h1 => ⟨?_, hr, hne, fun i hi => ?_⟩⟩
  · have := box.nonempty_of_contains c0 (hbc c0 hc0)
    rw [box.isEmpty_of_numElements_zero h0] at this
    cases this
  · exact mem_ones c0 box.start box.shape (prod_eq_one _ h1) (hbc c0 hc0) ▸ hG c0 hc0
  · obtain ⟨c, hc, hci⟩ := P.tiling.cover i hi
    exact mem_ones c box.start box.shape (prod_eq_one _ h1) (hbc c hc) ▸ (hsub c hc).sub i hci

end ArrCfg
end Zarrs
