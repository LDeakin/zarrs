import ZarrsModel.Lemmas.MetaV2Parse
import ZarrsModel.Lemmas.Json
/- helper lemmas for C13 (V2): written documents are well-formed JSON, parsed documents have well-formed parts,
   hence the round trip through the stored text -/
namespace Zarrs.MetaV2
open Zarrs.Json Zarrs.Meta

theorem strOk_kId : strOk kId := strOk_ascii _ (by decide)

def MetaV2.wfp (m : MetaV2) : Prop := strOk m.id ∧ wfKVs m.config ∧ keysDistinct m.config

theorem metaV2_toJ_wf (m : MetaV2) (hs : m.shapeOk) (h : m.wfp) : m.toJ.wf :=
  obj_cons_wf _ _ m.config strOk_kId ((str_wf_iff _).2 h.1) hs h.2

theorem metaV2_ofJ_wfp (j : J) (hj : j.wf) (m : MetaV2) (h : MetaV2.ofJ j = some m) : m.wfp := by
  cases j with
  | obj o =>
    simp only [MetaV2.ofJ] at h
    split at h
    · rename_i s hs
      cases h
      exact ⟨(str_wf_iff _).1 (wf_of_lookup o hj.1 _ _ hs), without_wf o _ hj⟩
    · cases h
  | _ => simp [MetaV2.ofJ] at h

def DField.wfp (f : DField) : Prop := strOk f.name ∧ strOk f.dt ∧ ∀ s, f.shape = some s → ∀ t ∈ s, tokOk t

def DType.wfp : DType → Prop
  | .simple s => strOk s
  | .structured fs => ∀ f ∈ fs, DField.wfp f

theorem dfield_toJ_wf (f : DField) (h : f.wfp) : f.toJ.wf := by
  obtain ⟨h1, h2, h3⟩ := h
  unfold DField.toJ
  rw [arr_wf_iff]
  intro x hx
  simp only [List.mem_append, List.mem_cons, List.not_mem_nil, or_false] at hx
  rcases hx with (rfl | rfl) | hx
  · exact (str_wf_iff _).2 h1
  · exact (str_wf_iff _).2 h2
  · cases hs : f.shape with
    | none => rw [hs] at hx; cases hx
    | some s => rw [hs] at hx; rw [List.mem_singleton.1 hx]; exact (numArr_wf_iff s).2 (h3 s hs)

theorem dtype_toJ_wf (d : DType) (h : d.wfp) : d.toJ.wf := by
  cases d with
  | simple s => exact (str_wf_iff _).2 h
  | structured fs => exact (arrMap_wf_iff _ fs).2 fun f hf => dfield_toJ_wf f (h f hf)

theorem dfield_ofJ_wfp (j : J) (hj : j.wf) (f : DField) (h : DField.ofJ j = some f) : f.wfp := by
  unfold DField.ofJ at h
  split at h
  · cases h
    rw [arr_wf_iff] at hj
    refine ⟨(str_wf_iff _).1 (hj _ (by simp)), (str_wf_iff _).1 (hj _ (by simp)), ?_⟩
    intro s hs; cases hs
  · rename_i a b sh
    rw [arr_wf_iff] at hj
    obtain ⟨s', hm, rfl⟩ := Option.map_eq_some_iff.1 h
    refine ⟨(str_wf_iff _).1 (hj _ (by simp)), (str_wf_iff _).1 (hj _ (by simp)), ?_⟩
    intro s hs
    cases hs
    obtain ⟨rfl, _⟩ := (mapM_tokIf_iff isU64Tok sh _).1 hm
    exact (numArr_wf_iff _).1 (hj _ (by simp))
  · cases h

theorem dtype_ofJ_wfp (j : J) (hj : j.wf) (d : DType) (h : DType.ofJ j = some d) : d.wfp := by
  cases j with
  | str s => simp only [DType.ofJ] at h; cases h; exact (str_wf_iff _).1 hj
  | arr xs =>
    obtain ⟨fs, hm, rfl⟩ := Option.map_eq_some_iff.1 (show (xs.mapM DField.ofJ).map DType.structured = some d from h)
    exact mapM_wf _ _ dfield_ofJ_wfp xs hj fs hm
  | _ => simp [DType.ofJ] at h

theorem fillV2_ofJ_wf (j : J) (hj : j.wf) (f : FillV2) (h : FillV2.ofJ j = some f) : f.toJ.wf :=
  fillV2_toJ_ofJ j f h ▸ hj

theorem order_toJ_wf (o : Order) : o.toJ.wf := by
  cases o <;> exact (str_wf_iff _).2 (strOk_ascii _ (by decide))
theorem sep_toJ_wf (s : Sep) : s.toJ.wf := by
  cases s <;> exact (str_wf_iff _).2 (strOk_ascii _ (by decide))

structure ArrayDocV2.wfParts (d : ArrayDocV2) : Prop where
  shape : ∀ t ∈ d.shape, tokOk t
  chunks : ∀ t ∈ d.chunks, tokOk t
  dt : d.dtype.wfp
  comp : ∀ m, d.compressor = some m → m.wfp
  fill : d.fill.toJ.wf
  filters : ∀ fs, d.filters = some fs → ∀ f ∈ fs, MetaV2.wfp f
  attrs : wfKVs d.attrs ∧ keysDistinct d.attrs
  extra : ∀ kv ∈ d.extra, strOk kv.1 ∧ kv.2.field.wf

theorem compressorToJ_wf (c : Option MetaV2) (hs : ∀ m, c = some m → m.shapeOk) (h : ∀ m, c = some m → m.wfp) :
    (compressorToJ c).wf := by
  cases c with
  | none => exact null_wf
  | some m => exact metaV2_toJ_wf m (hs m rfl) (h m rfl)

theorem filtersToJ_wf (f : Option (List MetaV2)) (hs : ∀ fs, f = some fs → ∀ m ∈ fs, MetaV2.shapeOk m)
    (h : ∀ fs, f = some fs → ∀ m ∈ fs, MetaV2.wfp m) : (filtersToJ f).wf := by
  cases f with
  | none => exact null_wf
  | some fs =>
    cases fs with
    | nil => exact null_wf
    | cons x xs => exact (arrMap_wf_iff _ (x :: xs)).2 fun m hm => metaV2_toJ_wf m (hs _ rfl m hm) (h _ rfl m hm)

theorem arrayDocV2_vals_wf (d : ArrayDocV2) (hs : d.shapeOk) (h : d.wfParts) : ∀ x, some x ∈ d.vals → x.wf := by
  intro x hx
  simp only [ArrayDocV2.vals, ArrayDocV2.knownVals, List.mem_cons, List.not_mem_nil, or_false, Option.some.injEq] at hx
  rcases hx with rfl | rfl | rfl | rfl | rfl | rfl | rfl | rfl | rfl | rfl | hx
  · exact (str_wf_iff _).2 (strOk_ascii _ (by decide +kernel))
  · exact (num_wf_iff _).2 (NumTok.tokOk_natTok 2)
  · exact (numArr_wf_iff _).2 h.shape
  · exact (numArr_wf_iff _).2 h.chunks
  · exact dtype_toJ_wf _ h.dt
  · exact compressorToJ_wf _ hs.comp h.comp
  · exact h.fill
  · exact order_toJ_wf _
  · exact filtersToJ_wf _ hs.filters.2 h.filters
  · exact sep_toJ_wf _
  · exact attrsVal_wf _ h.attrs x hx

/-- `hn`: with an additional field called `node_type` the key is written twice -/
theorem arrayDocV2_toJ_wf (d : ArrayDocV2) (hs : d.shapeOk) (h : d.wfParts) (hn : ∀ kv ∈ d.extra, kv.1 ≠ kNodeType) :
    d.toJ.wf := by
  rw [ArrayDocV2.toJ_eq]
  exact optKVs_extra_wf arrayKeysW arrayKeysW_nodup (fun k hk => strOk_ascii k (v2Keys_table.1.2 k hk)) _
    (arrayDocV2_vals_wf d hs h) _
    (extras_good _ _ h.extra hs.extraShape fun kv hkv hm => (List.mem_cons.1 hm).elim (hn kv hkv) (hs.extraKeys kv hkv))
    hs.sorted

theorem afield_ofJ_field_wf (j : J) (h : j.wf) : (AField.ofJ j).field.wf := (afield_ofJ_good j h).1

theorem bind_wf {α} (o : Obj) (ho : wfKVs o) (k : Str) (f : J → Option α) (a : α) (h : (lookup o k).bind f = some a) :
    ∃ j, j.wf ∧ f j = some a := by
  cases hl : lookup o k with
  | none => rw [hl] at h; cases h
  | some j => rw [hl] at h; exact ⟨j, wf_of_lookup o ho _ _ hl, h⟩

theorem attrsOfJ_inv (j : Option J) (a : Obj) (h : attrsOfJ j = some a) : (j = none ∧ a = []) ∨ j = some (.obj a) := by
  unfold attrsOfJ at h
  split at h
  · simp only [Option.some.injEq] at h; exact Or.inl ⟨rfl, h.symm⟩
  · simp only [Option.some.injEq] at h; subst h; exact Or.inr rfl
  · cases h

theorem arrayDocV2_ofJ_wfParts (j : J) (hj : j.wf) (d : ArrayDocV2) (h : ArrayDocV2.ofJ j = some d) : d.wfParts := by
  cases j with
  | obj o =>
    have hi := arrayDocV2_ofJ_inv o d h
    have hw := fun k v => wf_of_lookup o hj.1 k v
    refine ⟨?_, ?_, ?_, ?_, ?_, ?_, ?_, ?_⟩
    · exact (numArr_wf_iff _).1 (hw _ _ ((numList_iff isU64Tok _ _).1 hi.shape).1)
    · exact (numArr_wf_iff _).1 (hw _ _ ((numList_iff isNzU64Tok _ _).1 hi.chunks).1)
    · obtain ⟨j, hjw, hjd⟩ := bind_wf o hj.1 _ _ _ hi.dt
      exact dtype_ofJ_wfp j hjw _ hjd
    · intro m hm
      have hc := hi.comp
      rw [hm] at hc
      obtain ⟨j', hl, hjm⟩ := compOfJ_inv _ _ hc
      exact metaV2_ofJ_wfp j' (hw _ _ hl) _ hjm
    · obtain ⟨j, hjw, hjd⟩ := bind_wf o hj.1 _ _ _ hi.fill
      exact fillV2_ofJ_wf j hjw _ hjd
    · intro fs hfs
      have hc := hi.filters
      rw [hfs] at hc
      obtain ⟨xs, hl, hm⟩ := filtersOfJ_inv _ _ hc
      exact mapM_wf _ _ metaV2_ofJ_wfp xs (hw _ _ hl) fs hm
    · exact attrs_wf o hj.1 _ _ (attrsOfJ_inv _ _ hi.attrs)
    · intro kv hkv
      have := extrasOf_good arrayKeysV2 o hj.1 kv (List.mem_filter.1 (hi.extra ▸ hkv)).1
      exact ⟨this.1, this.2.1.1⟩
  | _ => simp [ArrayDocV2.ofJ] at h

theorem ArrayDocV2.wfParts_norm (d : ArrayDocV2) (h : d.wfParts) : d.norm.wfParts := by
  refine { h with filters := ?_ }
  intro fs hfs
  unfold ArrayDocV2.norm at hfs
  simp only at hfs
  split at hfs
  · cases hfs
  · exact h.filters fs hfs

theorem arrayDocV2_ofText_toText (d : ArrayDocV2) (hs : d.shapeOk) (h : d.wfParts) (hn : ∀ kv ∈ d.extra, kv.1 ≠ kNodeType) :
    ArrayDocV2.ofText d.toText = some d :=
  (bind_parse_print _ _ (arrayDocV2_toJ_wf d hs h hn)).trans (arrayDocV2_ofJ_toJ d hs)

/-- the text `t` is a variable on purpose: with a printed document in its place the kernel runs the parser on it -/
theorem openTexts_attrs (t : List Nat) (d0 : ArrayDocV2) (h : ArrayDocV2.ofText t = some d0) (a : Obj)
    (ha : (J.obj a).wf) :
    ArrayDocV2.openTexts t ((if a.isEmpty then none else some (J.obj a)).map print) =
      some (if a.isEmpty then d0 else { d0 with attrs := a }) := by
  unfold ArrayDocV2.openTexts
  rw [h]
  cases a with
  | nil => rfl
  | cons x xs =>
    simp only [List.isEmpty_cons, Bool.false_eq_true, if_false, Option.map_some, parse_print _ ha, ArrayDocV2.withZattrs]

theorem arrayDocV2_openTexts_storeTexts (d : ArrayDocV2) (hs : d.shapeOk) (hw : d.wfParts)
    (hn : ∀ kv ∈ d.extra, kv.1 ≠ kNodeType) : ArrayDocV2.openTexts d.storeTexts.1 d.storeTexts.2 = some d := by
  refine (openTexts_attrs _ _ (arrayDocV2_ofText_toText { d with attrs := [] } { hs with } { hw with attrs := obj_nil_wf } hn)
    d.attrs hw.attrs).trans ?_
  obtain ⟨shape, chunks, dtype, compressor, fill, order, filters, sep, attrs, extra⟩ := d
  cases attrs <;> rfl

structure GroupDocV2.wfParts (d : GroupDocV2) : Prop where
  attrs : wfKVs d.attrs ∧ keysDistinct d.attrs
  extra : ∀ kv ∈ d.extra, strOk kv.1 ∧ kv.2.field.wf

theorem groupDocV2_toJ_wf (d : GroupDocV2) (hs : d.shapeOk) (h : d.wfParts) : d.toJ.wf := by
  rw [GroupDocV2.toJ_eq]
  refine optKVs_extra_wf groupKeysV2 groupKeysV2_nodup (fun k hk => strOk_ascii k (v2Keys_table.2.2 k hk)) _ (fun x hx => ?_) _
    (extras_good _ _ h.extra hs.extraShape hs.extraKeys) hs.sorted
  simp only [GroupDocV2.knownVals, List.mem_cons, List.not_mem_nil, or_false, Option.some.injEq] at hx
  rcases hx with rfl | hx
  · exact (num_wf_iff _).2 (NumTok.tokOk_natTok 2)
  · exact attrsVal_wf _ h.attrs x hx

theorem groupDocV2_ofJ_wfParts (j : J) (hj : j.wf) (d : GroupDocV2) (h : GroupDocV2.ofJ j = some d) : d.wfParts := by
  cases j with
  | obj o =>
    have hi := groupDocV2_ofJ_inv o d h
    refine ⟨attrs_wf o hj.1 _ _ (attrsOfJ_inv _ _ hi.attrs), fun kv hkv => ?_⟩
    have := extrasOf_good groupKeysV2 o hj.1 kv ((extrasV2_eq .. ▸ hi.extra) ▸ hkv)
    exact ⟨this.1, this.2.1.1⟩
  | _ => simp [GroupDocV2.ofJ] at h

theorem groupDocV2_ofText_toText (d : GroupDocV2) (hs : d.shapeOk) (h : d.wfParts) :
    GroupDocV2.ofText d.toText = some d :=
  (bind_parse_print _ _ (groupDocV2_toJ_wf d hs h)).trans (groupDocV2_ofJ_toJ d hs)

end Zarrs.MetaV2
