import ZarrsModel.Lemmas.DeflateStream
import ZarrsModel.Lemmas.DeflateRender
/-
gzip members (any combination of the optional header fields) and zlib streams (any window size / level) around a
DEFLATE stream; the rendered data consists of bytes.
-/
namespace Zarrs.DeflateSpec
open Zarrs Zarrs.Inflate

theorem renderBlock_wf (pos : Nat) (final : Bool) (b : Block) (bits : Bits) (out res : Bytes)
    (h : ∀ x ∈ out, x < 256) (he : encodeBlock pos final b = some bits) (hr : renderBlock out b = some res) :
    ∀ x ∈ res, x < 256 := by
  cases b with
  | stored fill data =>
    obtain ⟨⟨_, hd⟩, _⟩ := encodeBlock_stored_eq_some he
    simp only [renderBlock, Option.some.injEq] at hr
    subst hr
    intro y hy
    rcases List.mem_append.1 hy with hy | hy
    · exact h y hy
    · exact hd y hy
  | fixed toks => exact render_wf toks out res h hr
  | dynamic hh toks => exact render_wf toks out res h hr

theorem renderBlocks_wf (bl : List Block) (pos : Nat) (bits : Bits) (out res : Bytes) (h : ∀ x ∈ out, x < 256)
    (he : encodeBlocks pos bl = some bits) (hr : renderBlocks bl out = some res) : ∀ x ∈ res, x < 256 := by
  induction bl generalizing pos bits out with
  | nil => simp [encodeBlocks] at he
  | cons b bs ih =>
    obtain ⟨mid, hrb, hr⟩ := renderBlocks_cons_eq_some hr
    cases bs with
    | nil =>
      simp only [renderBlocks, Option.some.injEq] at hr
      subst hr
      exact renderBlock_wf pos true b bits out mid h he hrb
    | cons b' bs =>
      obtain ⟨x, y, hx, hy, _⟩ := encodeBlocks_cons_cons_eq_some he
      exact ih (pos + x.length) y mid (renderBlock_wf pos false b x out mid h hx hrb) hy hr

theorem encodeStream_data_wf (bl : List Block) (fill : Bits) (bytes out : Bytes)
    (he : encodeStream bl fill = some bytes) (hr : renderBlocks bl [] = some out) : ∀ x ∈ out, x < 256 := by
  obtain ⟨bits, hb, _⟩ := encodeStream_eq_some he
  exact renderBlocks_wf bl 0 bits [] out (by simp) hb hr

theorem encodeStream_wf (bl : List Block) (fill : Bits) (bytes : Bytes) (he : encodeStream bl fill = some bytes) :
    ∀ x ∈ bytes, x < 256 := by
  obtain ⟨bits, _, rfl⟩ := encodeStream_eq_some he
  exact fromBits_wf _

/-- `stream` is a DEFLATE encoding of the bytes `data` as the reader sees it: whatever follows the stream, `inflate`
    returns `data` and exactly what follows.  The containers and the layouts of `Model/Conform.lean` need nothing else
    of a stream, by whomever it was written. -/
structure Deflates (stream data : Bytes) : Prop where
  inflate : ∀ rest, inflate (stream ++ rest) = some (data, rest)
  data_wf : ∀ x ∈ data, x < 256

theorem Deflates.of_encodeStream {bl : List Block} {fill : Bits} {stream data : Bytes}
    (he : encodeStream bl fill = some stream) (hr : renderBlocks bl [] = some data) : Deflates stream data :=
  ⟨fun rest => inflate_encodeStream bl fill stream data rest he hr, encodeStream_data_wf bl fill stream data he hr⟩

/-- the optional header fields as `gunzipMember` skips them -/
def gzSkipExtra (flg : Nat) (rest : Bytes) : Option Bytes :=
  if flg / 4 % 2 == 1 then
    (match rest with | a :: b :: r => let n := a + 256 * b; if r.length < n then none else some (r.drop n) | _ => none)
  else some rest
def gzSkipZ (bit : Nat) (r : Bytes) : Option Bytes := if bit == 1 then dropZ r else some r
def gzSkipHcrc (flg : Nat) (r : Bytes) : Option Bytes :=
  if flg / 2 % 2 == 1 then (if r.length < 2 then none else some (r.drop 2)) else some r
def gzTrailer : Option (Bytes × Bytes) → Option (Bytes × Bytes)
  | none => none
  | some (data, tail) =>
    if tail.length < 8 then none
    else if ofLe (tail.take 4) != crc32 data then none
    else if ofLe ((tail.drop 4).take 4) != data.length % 4294967296 then none
    else some (data, tail.drop 8)

theorem gunzipMember_eq (flg m0 m1 m2 m3 xfl os : Nat) (rest : Bytes) :
    gunzipMember (0x1f :: 0x8b :: 8 :: flg :: m0 :: m1 :: m2 :: m3 :: xfl :: os :: rest) =
      gzTrailer (((((gzSkipExtra flg rest).bind (gzSkipZ (flg / 8 % 2))).bind (gzSkipZ (flg / 16 % 2))).bind (gzSkipHcrc flg)).bind inflate) := rfl

theorem gunzip_eq_map (bs : Bytes) : gunzip bs = (gunzipMember bs).map (·.1) := by
  unfold gunzip gunzipMember
  split
  · simp only
    split
    · rfl
    · split
      · rfl
      · split
        · rfl
        · split <;> rfl
  · rfl

theorem flg_bits (h : GzHeader) :
    h.flg / 4 % 2 = (if h.extra.isSome then 1 else 0) ∧ h.flg / 8 % 2 = (if h.name.isSome then 1 else 0) ∧
    h.flg / 16 % 2 = (if h.comment.isSome then 1 else 0) ∧ h.flg / 2 % 2 = (if h.hcrc.isSome then 1 else 0) ∧
    h.flg < 32 := by
  rcases h with ⟨ftext, mtime, xfl, os, extra, name, comment, hcrc⟩
  cases ftext <;> cases extra <;> cases name <;> cases comment <;> cases hcrc <;> simp [GzHeader.flg]

theorem dropZ_append (n r : Bytes) (hn : ∀ x ∈ n, x ≠ 0) : dropZ (n ++ 0 :: r) = some r := by
  induction n with
  | nil => rfl
  | cons a n ih =>
    have ha : a ≠ 0 := hn a (by simp)
    obtain ⟨a', rfl⟩ : ∃ k, a = k + 1 := ⟨a - 1, by omega⟩
    simp only [List.cons_append, dropZ]
    exact ih (fun x hx => hn x (List.mem_cons_of_mem _ hx))

theorem dropZ_length (r r' : Bytes) (h : dropZ r = some r') : r'.length < r.length := by
  induction r with
  | nil => simp [dropZ] at h
  | cons a r ih =>
    cases a with
    | zero =>
      simp only [dropZ, Option.some.injEq] at h
      subst h
      simp
    | succ a =>
      simp only [dropZ] at h
      have := ih h
      simp only [List.length_cons]
      omega

theorem gzSkipExtra_spec (flg : Nat) (extra : Option Bytes) (r : Bytes)
    (hf : flg / 4 % 2 = if extra.isSome then 1 else 0) (hl : ∀ e, extra = some e → e.length < 65536) :
    gzSkipExtra flg (gzExtraBytes extra ++ r) = some r := by
  unfold gzSkipExtra
  rw [hf]
  cases extra with
  | none => simp [gzExtraBytes]
  | some e =>
    have hl := hl e rfl
    have e1 : e.length % 256 + 256 * (e.length / 256 % 256) = e.length := by omega
    simp only [Option.isSome_some, if_true, beq_self_eq_true, le16, List.cons_append, List.nil_append, e1,
      gzExtraBytes]
    have : ¬ ((e ++ r).length < e.length) := by simp only [List.length_append]; omega
    rw [if_neg this, List.drop_left']
    rfl

theorem gzSkipZ_spec (bit : Nat) (name : Option Bytes) (r : Bytes)
    (hf : bit = if name.isSome then 1 else 0) (hl : ∀ n, name = some n → ∀ x ∈ n, x ≠ 0) :
    gzSkipZ bit (gzZBytes name ++ r) = some r := by
  rw [gzSkipZ, hf]
  cases name with
  | none => simp [gzZBytes]
  | some n =>
    simp only [Option.isSome_some, if_true, beq_self_eq_true, List.append_assoc, List.cons_append, List.nil_append,
      gzZBytes]
    exact dropZ_append n r (hl n rfl)

theorem gzSkipHcrc_spec (flg : Nat) (hcrc : Option (Nat × Nat)) (r : Bytes)
    (hf : flg / 2 % 2 = if hcrc.isSome then 1 else 0) :
    gzSkipHcrc flg (gzCrcBytes hcrc ++ r) = some r := by
  unfold gzSkipHcrc
  rw [hf]
  cases hcrc with
  | none => simp [gzCrcBytes]
  | some ab =>
    obtain ⟨a, b⟩ := ab
    simp [gzCrcBytes]

theorem GzHeader.conds_of_ok (h : GzHeader) (hok : h.ok = true) :
    h.mtime.length = 4 ∧ (∀ e, h.extra = some e → e.length < 65536) ∧
    (∀ n, h.name = some n → ∀ x ∈ n, x ≠ 0) ∧ (∀ n, h.comment = some n → ∀ x ∈ n, x ≠ 0) := by
  unfold GzHeader.ok at hok
  simp only [Bool.and_eq_true, decide_eq_true_eq] at hok
  obtain ⟨⟨⟨a1, a2⟩, a3⟩, a4⟩ := hok
  refine ⟨a1, ?_, ?_, ?_⟩
  · intro e he; rw [he] at a2; simpa using a2
  · intro e he; rw [he] at a3; simpa using a3
  · intro e he; rw [he] at a4; simpa using a4

theorem gunzipMember_header (h : GzHeader) (hok : h.ok = true) (body : Bytes) :
    gunzipMember (h.bytes ++ body) = gzTrailer (inflate body) := by
  obtain ⟨hm, he, hn, hc⟩ := GzHeader.conds_of_ok h hok
  obtain ⟨f1, f2, f3, f4, _⟩ := flg_bits h
  unfold GzHeader.bytes
  obtain ⟨m0, m1, m2, m3, hmt⟩ : ∃ a b c d, h.mtime = [a, b, c, d] := by
    match hmm : h.mtime, hm with
    | [a, b, c, d], _ => exact ⟨a, b, c, d, rfl⟩
  rw [hmt]
  simp only [List.cons_append, List.nil_append, List.append_assoc]
  rw [gunzipMember_eq, gzSkipExtra_spec _ _ _ f1 he]
  simp only [Option.bind_some]
  rw [gzSkipZ_spec _ _ _ f2 hn]
  simp only [Option.bind_some]
  rw [gzSkipZ_spec _ _ _ f3 hc]
  simp only [Option.bind_some]
  rw [gzSkipHcrc_spec _ _ _ f4]
  simp only [Option.bind_some]

theorem gunzipMember_gzipMember (h : GzHeader) (hok : h.ok = true) {stream data : Bytes} (hs : Deflates stream data)
    (rest : Bytes) : gunzipMember (gzipMember h stream data ++ rest) = some (data, rest) := by
  unfold gzipMember
  simp only [List.append_assoc]
  rw [gunzipMember_header h hok, hs.inflate]
  have h1 : ofLe (le32 (crc32 data)) = crc32 data := ofLe_le32 _ (crc32_lt data hs.data_wf)
  have h2 : ofLe (le32 (data.length % 4294967296)) = data.length % 4294967296 :=
    ofLe_le32 _ (Nat.mod_lt _ (by omega))
  have h3 : ∀ (a : Nat) (r : Bytes), List.take 4 (le32 a ++ r) = le32 a := fun _ _ => rfl
  have h4 : ∀ (a : Nat) (r : Bytes), List.drop 4 (le32 a ++ r) = r := fun _ _ => rfl
  have h8 : ∀ (a b : Nat) (r : Bytes), List.drop 8 (le32 a ++ (le32 b ++ r)) = r := fun _ _ _ => rfl
  simp [gzTrailer, le32_length, h1, h2, h3, h4, h8]
  omega

theorem gunzip_gzipMember (h : GzHeader) (hok : h.ok = true) {stream data : Bytes} (hs : Deflates stream data) :
    gunzip (gzipMember h stream data) = some data := by
  have := gunzipMember_gzipMember h hok hs []
  rw [List.append_nil] at this
  rw [gunzip_eq_map, this]
  rfl

theorem gzipMember_wf (h : GzHeader) (stream data : Bytes) (hh : ∀ x ∈ h.bytes, x < 256)
    (hs : ∀ x ∈ stream, x < 256) : ∀ x ∈ gzipMember h stream data, x < 256 :=
  List.forall_mem_append.2 ⟨hh, List.forall_mem_append.2 ⟨hs, List.forall_mem_append.2 ⟨le32_wf _, le32_wf _⟩⟩⟩

theorem unzlib_zlibStream (cinfo level : Nat) {stream data : Bytes} (hs : Deflates stream data) :
    unzlib (zlibStream cinfo level stream data) = some data := by
  have hi := hs.inflate (be32 (adler32 data))
  have h1 : ofLe (le32 (adler32 data)) = adler32 data := ofLe_le32 _ (adler32_lt data)
  have h3 : (List.take 4 (be32 (adler32 data))).reverse = le32 (adler32 data) := rfl
  have h4 : (be32 (adler32 data)).length = 4 := rfl
  have c1 : (8 + 16 * cinfo) % 16 = 8 := by omega
  have c2 : ((8 + 16 * cinfo) * 256 + (64 * level + (31 - ((8 + 16 * cinfo) * 256 + 64 * level) % 31) % 31)) % 31 = 0 := by
    omega
  have key3 : ∀ k : Nat, k < 31 → (64 * level + k) / 32 % 2 = 0 := by
    intro k hk
    omega
  have c3 : (64 * level + (31 - ((8 + 16 * cinfo) * 256 + 64 * level) % 31) % 31) / 32 % 2 = 0 :=
    key3 _ (Nat.mod_lt _ (by omega))
  simp only [zlibStream, List.cons_append, List.nil_append]
  unfold unzlib
  simp [hi, h1, h3, h4, c1, c2, c3]

end Zarrs.DeflateSpec
