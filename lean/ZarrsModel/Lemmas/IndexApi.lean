import ZarrsModel.Model.IterApi
import ZarrsModel.Lemmas.Index
/- Lemmas behind Props/C09Api.lean: ranged iterators (`new_with_start_end`) as slices, `to_ranges` undone by `new_with_ranges`;
the inclusive constructor is `mem_ofStartEndInc` (IndexAlg). -/
namespace Zarrs

theorem Iter.items_slice (s : Subset) (lo hi : Nat) (h : hi ≤ s.numElements) :
    (Iter.mk s lo hi).items = (s.indices.drop lo).take (hi - lo) := by
  rw [← Iter.new_items s]
  simp only [Iter.items, Iter.new, Nat.sub_zero, ← List.map_drop, ← List.map_take, List.drop_range',
    List.take_range'_of_length_ge (Nat.sub_le_sub_right h lo), Nat.mul_one, Nat.zero_add]
  rfl

theorem Bnd.hi_le (len : Nat) (b : Bnd) : b.hi len ≤ len := by
  cases b with
  | incl n => exact Nat.min_le_right ..
  | excl n => exact Nat.min_le_right ..
  | unb => exact Nat.le_refl _

theorem Subset.indicesRange_min (s : Subset) (a b : Nat) :
    s.indicesRange a (min b s.numElements) = (s.indices.take b).drop a := by
  rw [Subset.indicesRange, ← s.indices_length]
  exact take_min_drop s.indices a b

theorem Subset.indicesRange_end (s : Subset) (a : Nat) : s.indicesRange a s.numElements = s.indices.drop a := by
  rw [Subset.indicesRange, ← s.indices_length, ← List.length_drop, List.take_length]

theorem zip_toRanges : ∀ (st sh : List Nat), st.length = sh.length →
    ((st.zip sh).map (fun p => (p.1, p.1 + p.2))).map (·.1) = st ∧
    ((st.zip sh).map (fun p => (p.1, p.1 + p.2))).map (fun p => p.2 - p.1) = sh
  | [], [], _ => ⟨rfl, rfl⟩
  | x :: xs, y :: ys, h => by
    obtain ⟨h1, h2⟩ := zip_toRanges xs ys (Nat.succ.inj h)
    simp only [List.zip_cons_cons, List.map_cons, h1, h2, Nat.add_sub_cancel_left, and_self]

end Zarrs
