import ZarrsModel.Lemmas.MetaV2
import ZarrsModel.Lemmas.MetaWf
/- helper lemmas for C13 (V2): what parsing leaves is (up to the empty filter list) what the round trip needs -/
namespace Zarrs.MetaV2
open Zarrs.Json Zarrs.Meta

theorem compOfJ_inv (j : Option J) (m : MetaV2) (h : compOfJ j = some (some m)) :
    ∃ j', j = some j' ∧ MetaV2.ofJ j' = some m := by
  unfold compOfJ at h
  split at h
  · cases h
  · cases h
  · rename_i j' _
    obtain ⟨m', hjm, e⟩ := Option.map_eq_some_iff.1 h
    cases e
    exact ⟨j', rfl, hjm⟩

theorem filtersOfJ_inv (j : Option J) (fs : List MetaV2) (h : filtersOfJ j = some (some fs)) :
    ∃ xs, j = some (.arr xs) ∧ metaV2List xs = some fs := by
  unfold filtersOfJ at h
  split at h
  · cases h
  · cases h
  · rename_i xs
    obtain ⟨fs', hm, e⟩ := Option.map_eq_some_iff.1 h
    cases e
    exact ⟨xs, rfl, hm⟩
  · cases h

theorem compOfJ_shapeOk (j : Option J) (c : Option MetaV2) (h : compOfJ j = some c) : ∀ m, c = some m → m.shapeOk := by
  intro m hm
  subst hm
  obtain ⟨j', _, hj⟩ := compOfJ_inv _ _ h
  exact metaV2_ofJ_shapeOk _ _ hj

theorem metaV2List_shapeOk (xs : List J) (fs : List MetaV2) (h : metaV2List xs = some fs) : ∀ f ∈ fs, MetaV2.shapeOk f := by
  intro f hf
  obtain ⟨x, _, hx⟩ := mapM_some_mem _ _ _ h f hf
  exact metaV2_ofJ_shapeOk _ _ hx

theorem filtersOfJ_shapeOk (j : Option J) (f : Option (List MetaV2)) (h : filtersOfJ j = some f) :
    ∀ fs, f = some fs → ∀ m ∈ fs, MetaV2.shapeOk m := by
  intro fs hfs
  subst hfs
  obtain ⟨xs, _, hm⟩ := filtersOfJ_inv _ _ h
  exact metaV2List_shapeOk _ _ hm

/-- a data type that can be written and read again: every structured field has a shape -/
def DType.hasShapes : DType → Prop
  | .simple _ => True
  | .structured fs => ∀ f ∈ fs, f.shape ≠ none

theorem dfield_ofJ_toks (j : J) (f : DField) (h : DField.ofJ j = some f) : ∀ s, f.shape = some s → ∀ t ∈ s, isU64Tok t = true := by
  intro s hs
  unfold DField.ofJ at h
  split at h
  · cases h; cases hs
  · rename_i a b sh
    obtain ⟨s', hm, rfl⟩ := Option.map_eq_some_iff.1 h
    cases hs
    exact ((mapM_tokIf_iff isU64Tok sh _).1 hm).2
  · cases h

theorem dtype_ofJ_shapeOk (j : Option J) (d : DType) (h : j.bind DType.ofJ = some d) (hs : d.hasShapes) : d.shapeOk := by
  cases j with
  | none => cases h
  | some j =>
    simp only [Option.bind_some] at h
    cases j with
    | str s => simp only [DType.ofJ] at h; cases h; trivial
    | arr xs =>
      obtain ⟨fs, hm, rfl⟩ := Option.map_eq_some_iff.1 (show (xs.mapM DField.ofJ).map DType.structured = some d from h)
      intro f hf
      obtain ⟨x, _, hx⟩ := mapM_some_mem _ _ _ hm f hf
      cases hsh : f.shape with
      | none => exact absurd hsh (hs f hf)
      | some s => exact ⟨s, hsh, dfield_ofJ_toks x f hx s hsh⟩
    | _ => simp [DType.ofJ] at h

/-- an empty filter list is written as `null` and read back as no filters -/
def ArrayDocV2.norm (d : ArrayDocV2) : ArrayDocV2 :=
  { d with filters := match d.filters with | some [] => none | f => f }

theorem filtersToJ_norm (f : Option (List MetaV2)) :
    filtersToJ (match f with | some [] => none | f => f) = filtersToJ f := by
  cases f with
  | none => rfl
  | some fs => cases fs <;> rfl

theorem ArrayDocV2.toJ_norm (d : ArrayDocV2) : d.norm.toJ = d.toJ := by
  obtain ⟨shape, chunks, dtype, compressor, fill, order, filters, sep, attrs, extra⟩ := d
  cases filters with
  | none => rfl
  | some fs => cases fs <;> rfl

theorem arrayDocV2_ofJ_shapeOk (j : J) (d : ArrayDocV2) (h : ArrayDocV2.ofJ j = some d) (hs : d.dtype.hasShapes) :
    d.norm.shapeOk := by
  cases j with
  | obj o =>
    have hi := arrayDocV2_ofJ_inv o d h
    have he : d.norm.extra = dropArrayTag (extrasV2 arrayKeysV2 o) := hi.extra
    have hx : ∀ kv ∈ d.norm.extra, kv.1 ∉ arrayKeysV2 ∧ AField.shapeOk kv.2 := fun kv hkv =>
      extrasOf_shape arrayKeysV2 o kv (List.mem_filter.1 (he ▸ hkv)).1
    refine ⟨((numList_iff isU64Tok _ _).1 hi.shape).2, ((numList_iff isNzU64Tok _ _).1 hi.chunks).2, dtype_ofJ_shapeOk _ _ hi.dt hs,
      compOfJ_shapeOk _ _ hi.comp, (let ⟨j, _, hj⟩ := Option.bind_eq_some_iff.1 hi.fill; fillV2_ofJ_shapeOk j _ hj), ⟨?_, ?_⟩,
      fun kv hkv => (hx kv hkv).1, fun kv hkv => (hx kv hkv).2, ?_, ?_⟩
    · unfold ArrayDocV2.norm
      simp only
      split
      · intro e; cases e
      · rename_i hne
        intro e
        exact hne e
    · intro fs hfs
      unfold ArrayDocV2.norm at hfs
      simp only at hfs
      split at hfs
      · cases hfs
      · exact filtersOfJ_shapeOk _ _ hi.filters fs hfs
    · rw [he]
      exact sortedKeys_filter _ _ (extrasOf_sorted _ _)
    · rw [he]
      exact noArrayTag_dropArrayTag _
  | _ => simp [ArrayDocV2.ofJ] at h

theorem groupDocV2_ofJ_shapeOk (j : J) (d : GroupDocV2) (h : GroupDocV2.ofJ j = some d) : d.shapeOk := by
  cases j with
  | obj o =>
    have hi := groupDocV2_ofJ_inv o d h
    have he : d.extra = extrasOf groupKeysV2 o := hi.extra
    exact ⟨fun kv hkv => (extrasOf_shape _ o kv (he ▸ hkv)).1, fun kv hkv => (extrasOf_shape _ o kv (he ▸ hkv)).2,
      he ▸ extrasOf_sorted _ o⟩
  | _ => simp [GroupDocV2.ofJ] at h

end Zarrs.MetaV2
