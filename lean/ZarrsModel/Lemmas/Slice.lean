import ZarrsModel.Model.Bytes
/- `slice b a e` is `(b.drop a).take (e - a)`: how it meets `++`, `take`, `drop` and itself; the bounds of a valid `ByteRange`. -/
namespace Zarrs

theorem slice_length (b : Bytes) (a e : Nat) (h : e ≤ b.length) : (slice b a e).length = e - a := by
  rw [slice, List.length_take_of_le (by rw [List.length_drop]; omega)]

theorem slice_self (a : Bytes) (s : Nat) : slice a s s = [] := by simp [slice]

theorem slice_full (b : Bytes) : slice b 0 b.length = b := by
  simp [slice]

theorem slice_to_end (b : Bytes) (o : Nat) : slice b o b.length = b.drop o := by
  unfold slice
  rw [List.take_of_length_le]
  simp

theorem slice_append_left (b t : Bytes) (a e : Nat) (h : e ≤ b.length) : slice (b ++ t) a e = slice b a e := by
  unfold slice
  by_cases ha : a ≤ b.length
  · rw [List.drop_append_of_le_length ha, List.take_append_of_le_length (by simp; omega)]
  · have h0 : e - a = 0 := by omega
    rw [h0]; simp

theorem slice_append_right (a b : Bytes) (s t : Nat) (h : a.length ≤ s) :
    slice (a ++ b) s t = slice b (s - a.length) (t - a.length) := by
  unfold slice
  rw [List.drop_append, List.drop_eq_nil_of_le h, List.nil_append]
  congr 1; omega

theorem slice_append_to_end (b t : Bytes) (o : Nat) (h : o ≤ b.length) :
    slice (b ++ t) o (b.length + t.length) = b.drop o ++ t := by
  unfold slice
  rw [List.drop_append_of_le_length h, List.take_of_length_le]
  simp; omega

theorem slice_take (a : Bytes) (n s t : Nat) (h : t ≤ n) : slice (a.take n) s t = slice a s t := by
  unfold slice
  rw [List.drop_take, List.take_take]
  congr 1; omega

theorem slice_drop (a : Bytes) (n s t : Nat) : slice (a.drop n) s t = slice a (n + s) (n + t) := by
  unfold slice
  rw [List.drop_drop]
  congr 1; omega

theorem slice_slice (v : Bytes) (off len s e : Nat) (he : e ≤ len) :
    slice (slice v off (off + len)) s e = slice v (off + s) (off + e) := by
  unfold slice
  rw [List.drop_take, List.take_take, List.drop_drop, Nat.add_sub_add_left, Nat.add_sub_cancel_left,
    Nat.min_eq_left (Nat.sub_le_sub_right he s)]

theorem slice_mid (p x q : Bytes) : slice (p ++ (x ++ q)) p.length (p.length + x.length) = x := by
  simp [slice]

theorem slice_append_slice (b : Bytes) (a m e : Nat) (h1 : a ≤ m) (h2 : m ≤ e) :
    slice b a m ++ slice b m e = slice b a e := by
  unfold slice
  rw [← Nat.sub_add_sub_cancel h2 h1, Nat.add_comm, List.take_add, List.drop_drop, Nat.add_sub_of_le h1]

theorem ByteRange.valid_bounds (r : ByteRange) (n : Nat) (h : r.valid n = true) :
    r.start n + r.length n = r.stop n ∧ r.stop n ≤ n := by
  cases r with
  | fromStart o l =>
    cases l with
    | none => exact ⟨Nat.add_sub_cancel' (of_decide_eq_true h), Nat.le_refl _⟩
    | some l => exact ⟨rfl, of_decide_eq_true h⟩
  | suffix l => exact ⟨Nat.sub_add_cancel (of_decide_eq_true h), Nat.le_refl _⟩

end Zarrs
