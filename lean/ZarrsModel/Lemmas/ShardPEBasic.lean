import ZarrsModel.Model.ShardPE
import ZarrsModel.Lemmas.CodecShard
import ZarrsModel.Lemmas.ListBasic
import ZarrsModel.Lemmas.Store
/- Lemmas for C05 at inner-chunk level (Model/ShardPE.lean). At the head what the statements of the family speak of: a
value (absent or present) holding a list of chunks (`St`), legal updates (`UpdatesOk`), a history of calls (`runHist`).
The two folds of `partial_encode` over the updates are
resolved into positional assignments (`setAll`) on the index and one concatenation (`dataNew`); from there on the index
is reasoned about position by position (`idxNew_cases`); `liveEnd` as a least upper bound; `currentIndex` and `tight`
of a value read through its `Shard.Table`. -/
namespace Zarrs.ShardPE
open Zarrs Zarrs.Codec Zarrs.Shard

def St (c : Cfg) (vo : Option Bytes) (chunks : List (Option Bytes)) : Prop :=
  match vo with
  | none => chunks = List.replicate c.nChunks none
  | some v => decode c true v = .ok chunks ∧ wellFormed c v = true ∧ tight c v = true

theorem St.of_some {c : Cfg} {v : Bytes} {chunks : List (Option Bytes)} (h : St c (some v) chunks) :
    decode c true v = .ok chunks ∧ wellFormed c v = true ∧ tight c v = true := h

/-- the same as `C05.updatesOk` -/
def UpdatesOk (c : Cfg) (us : List (Nat × Option Bytes)) : Prop :=
  (∀ u ∈ us, u.1 < c.nChunks) ∧ (us.map (·.1)).Nodup

/-- `C05.runUpdates` of `Props/C05.lean` is a copy; `C05.shard_history` identifies the two -/
def runHist (c : Cfg) (v : Option Bytes) : List (List (Nat × Option Bytes)) → Option (Option Bytes)
  | [] => some v
  | u :: rest => (partialEncode c v u).bind (fun v' => runHist c v' rest)

def setAll {α} (l : List α) (ps : List (Nat × α)) : List α := ps.foldl (fun l p => l.set p.1 p.2) l

@[simp] theorem setAll_nil {α} (l : List α) : setAll l [] = l := rfl
@[simp] theorem setAll_cons {α} (l : List α) (p : Nat × α) (ps : List (Nat × α)) :
    setAll l (p :: ps) = setAll (l.set p.1 p.2) ps := rfl

theorem setAll_length {α} (l : List α) (ps : List (Nat × α)) : (setAll l ps).length = l.length :=
  length_foldl_set ps l

theorem setAll_not_mem {α} (l : List α) (ps : List (Nat × α)) (j : Nat) (h : j ∉ ps.map (·.1)) :
    (setAll l ps)[j]? = l[j]? := by
  induction ps generalizing l with
  | nil => rfl
  | cons p ps ih =>
    simp only [List.map_cons, List.mem_cons, not_or] at h
    rw [setAll_cons, ih _ h.2, List.getElem?_set_ne (fun e => h.1 e.symm)]

theorem setAll_mem {α} (l : List α) (ps : List (Nat × α)) (hn : (ps.map (·.1)).Nodup) (i : Nat) (a : α)
    (hm : (i, a) ∈ ps) (hi : i < l.length) : (setAll l ps)[i]? = some a := by
  induction ps generalizing l with
  | nil => simp at hm
  | cons p ps ih =>
    simp only [List.map_cons, List.nodup_cons] at hn
    rw [setAll_cons]
    rcases List.mem_cons.mp hm with rfl | hm'
    · rw [setAll_not_mem _ _ _ hn.1]
      simp [hi]
    · exact ih _ hn.2 hm' (by rw [List.length_set]; exact hi)

theorem setAll_eq_self {α} (l : List α) (ps : List (Nat × α)) (h : ∀ p ∈ ps, ∀ x, l[p.1]? = some x → x = p.2) :
    setAll l ps = l := by
  induction ps with
  | nil => rfl
  | cons p ps ih =>
    have : l.set p.1 p.2 = l := by
      by_cases hi : p.1 < l.length
      · rw [← h p List.mem_cons_self _ (List.getElem?_eq_getElem hi)]; exact List.set_getElem_self hi
      · exact List.set_eq_of_length_le (by omega)
    rw [setAll_cons, this, ih fun q hq => h q (List.mem_cons_of_mem _ hq)]

theorem liveEnd_le_iff (l : List (Nat × Nat)) (M : Nat) :
    liveEnd l ≤ M ↔ ∀ e ∈ l, isLive e = true → e.1 + e.2 ≤ M := by
  have : (fun acc (e : Nat × Nat) => if isLive e then max acc (e.1 + e.2) else acc) =
      fun a e => max a (if isLive e then e.1 + e.2 else 0) := by
    funext a e; split <;> simp
  rw [liveEnd, this, foldl_max_le_iff]
  refine (and_iff_right (Nat.zero_le M)).trans (forall₂_congr fun e _ => ?_)
  split <;> simp [*]

theorem le_liveEnd (l : List (Nat × Nat)) (e : Nat × Nat) (he : e ∈ l) (hl : isLive e = true) :
    e.1 + e.2 ≤ liveEnd l := (liveEnd_le_iff l _).mp (Nat.le_refl _) e he hl

theorem liveEnd_eq (l : List (Nat × Nat)) (M : Nat) (hle : ∀ e ∈ l, isLive e = true → e.1 + e.2 ≤ M)
    (hge : ∃ e ∈ l, isLive e = true ∧ e.1 + e.2 = M) : liveEnd l = M := by
  have h1 := (liveEnd_le_iff l M).mpr hle
  obtain ⟨e, he, hl, hv⟩ := hge
  have := le_liveEnd l e he hl
  omega

theorem liveEnd_of_dead (l : List (Nat × Nat)) (h : ∀ e ∈ l, isLive e = false) : liveEnd l = 0 :=
  Nat.le_zero.mp ((liveEnd_le_iff l 0).mpr fun e he hl => nomatch (h e he).symm.trans hl)

/-! `step1`, `step2`: the steps of the two folds, the same in `partialEncodePinned`, `partialEncode` and
`Partial.shardPlan`. -/

def step1 (ix : List (Nat × Nat)) (u : Nat × Option Bytes) : List (Nat × Nat) := setEntry ix u.1 (sentinel, sentinel)

def step2 (acc : List (Nat × Nat) × Bytes × Nat) (u : Nat × Option Bytes) : List (Nat × Nat) × Bytes × Nat :=
  match u.2 with
  | some b => (setEntry acc.1 u.1 (acc.2.2, b.length), acc.2.1 ++ b, acc.2.2 + b.length)
  | none => (setEntry acc.1 u.1 (sentinel, sentinel), acc.2.1, acc.2.2)

/-- `idx1` of `partialEncode` -/
def idxDead (idx : List (Nat × Nat)) (us : List (Nat × Option Bytes)) : List (Nat × Nat) :=
  setAll idx (us.map (fun u => (u.1, (sentinel, sentinel))))

/-- `idx2` of `partialEncode` (`off` = `offsetNew`) -/
def idxNew (idx : List (Nat × Nat)) (us : List (Nat × Option Bytes)) (off : Nat) : List (Nat × Nat) :=
  setAll (idxDead idx us) ((us.map (·.1)).zip (entriesFrom off (us.map (·.2))))

def dataNew (us : List (Nat × Option Bytes)) : Bytes := dataOf (us.map (·.2))

theorem fold_step1 (us : List (Nat × Option Bytes)) (ix : List (Nat × Nat)) :
    us.foldl step1 ix = idxDead ix us := by
  induction us generalizing ix with
  | nil => rfl
  | cons u us ih => rw [List.foldl_cons, ih]; rfl

theorem fold_step2 (us : List (Nat × Option Bytes)) (ix : List (Nat × Nat)) (d : Bytes) (off : Nat) :
    us.foldl step2 (ix, d, off) =
      (setAll ix ((us.map (·.1)).zip (entriesFrom off (us.map (·.2)))), d ++ dataOf (us.map (·.2)),
        off + (dataOf (us.map (·.2))).length) := by
  induction us generalizing ix d off with
  | nil => simp [entriesFrom]
  | cons u us ih =>
    obtain ⟨i, ch⟩ := u
    cases ch with
    | none =>
      rw [List.foldl_cons]
      simp only [step2, ih, List.map_cons, entriesFrom, List.zip_cons_cons, setAll_cons, dataOf_none, setEntry]
    | some b =>
      rw [List.foldl_cons]
      simp only [step2, ih, List.map_cons, entriesFrom, List.zip_cons_cons, setAll_cons, dataOf_some, setEntry,
        List.append_assoc, List.length_append, Nat.add_assoc]

/-- the lambda of the second fold in the model carries its own copy of the `match` on `u.2`: `hf` by `cases u.2 <;> simp` -/
theorem foldl_congr_step2 (f : List (Nat × Nat) × Bytes × Nat → Nat × Option Bytes → List (Nat × Nat) × Bytes × Nat)
    (us : List (Nat × Option Bytes)) (init : List (Nat × Nat) × Bytes × Nat)
    (hf : ∀ acc u, f acc u = step2 acc u) : us.foldl f init = us.foldl step2 init := by
  rw [show f = step2 from funext fun a => funext fun u => hf a u]

/-- the function AS FOUND with its folds resolved -/
theorem partialEncodePinned_eq (c : Cfg) (v : Option Bytes) (us : List (Nat × Option Bytes)) (idx : List (Nat × Nat))
    (h : currentIndex c v = some idx) :
    partialEncodePinned c v us =
      (let dead := (idxDead idx us).all (fun e => !isLive e)
       let v1 := if dead then none else v
       let maxData := if dead then 0 else liveEnd idx
       let off := if c.indexAtEnd then maxData else max maxData (indexSize c)
       if (idxNew idx us off).all (fun e => !isLive e) then some none
       else if c.indexAtEnd then some (writeAt v1 off (dataNew us ++ encodeIndex c (idxNew idx us off)))
       else some (writeAt (writeAt v1 0 (encodeIndex c (idxNew idx us off))) off (dataNew us))) := by
  unfold partialEncodePinned
  rw [h]
  simp only
  rw [show (fun (ix : List (Nat × Nat)) (u : Nat × Option Bytes) => setEntry ix u.1 (sentinel, sentinel)) = step1 from rfl,
    fold_step1]
  cases hd : (idxDead idx us).all (fun e => !isLive e)
  all_goals
    simp only [Bool.false_eq_true, if_false, if_true]
    rw [foldl_congr_step2 _ _ _ (fun acc u => by cases hu : u.2 <;> simp [step2, hu]), fold_step2]
    simp only [List.nil_append]
    rfl

theorem partialEncode_eq (c : Cfg) (v : Option Bytes) (us : List (Nat × Option Bytes)) (idx : List (Nat × Nat))
    (h : currentIndex c v = some idx) :
    partialEncode c v us =
      (let dead := (idxDead idx us).all (fun e => !isLive e)
       let v1 := if dead then none else v
       let maxData := if dead then 0 else liveEnd idx
       let off := if c.indexAtEnd then maxData else max maxData (indexSize c)
       if (idxNew idx us off).all (fun e => !isLive e) then some none
       else if c.indexAtEnd then
         if (dataNew us).isEmpty && liveEnd (idxNew idx us off) < off then
           some (writeAt none 0 ((v1.getD []).take (liveEnd (idxNew idx us off)) ++ encodeIndex c (idxNew idx us off)))
         else some (writeAt v1 off (dataNew us ++ encodeIndex c (idxNew idx us off)))
       else some (writeAt (writeAt v1 0 (encodeIndex c (idxNew idx us off))) off (dataNew us))) := by
  unfold partialEncode
  rw [h]
  simp only
  rw [show (fun (ix : List (Nat × Nat)) (u : Nat × Option Bytes) => setEntry ix u.1 (sentinel, sentinel)) = step1 from rfl,
    fold_step1]
  cases hd : (idxDead idx us).all (fun e => !isLive e)
  all_goals
    simp only [Bool.false_eq_true, if_false, if_true]
    rw [foldl_congr_step2 _ _ _ (fun acc u => by cases hu : u.2 <;> simp [step2, hu]), fold_step2]
    simp only [List.nil_append]
    rfl

theorem idxDead_keys (us : List (Nat × Option Bytes)) :
    (us.map (fun u => (u.1, ((sentinel, sentinel) : Nat × Nat)))).map (·.1) = us.map (·.1) := by
  rw [List.map_map]; rfl

theorem idxNew_keys (us : List (Nat × Option Bytes)) (off : Nat) :
    ((us.map (·.1)).zip (entriesFrom off (us.map (·.2)))).map (·.1) = us.map (·.1) :=
  List.map_fst_zip (by rw [entriesFrom_length]; simp)

theorem idxDead_length (idx : List (Nat × Nat)) (us : List (Nat × Option Bytes)) :
    (idxDead idx us).length = idx.length := setAll_length _ _

theorem idxNew_length (idx : List (Nat × Nat)) (us : List (Nat × Option Bytes)) (off : Nat) :
    (idxNew idx us off).length = idx.length := by
  unfold idxNew; rw [setAll_length, idxDead_length]

theorem idxDead_untouched (idx : List (Nat × Nat)) (us : List (Nat × Option Bytes)) (j : Nat)
    (h : j ∉ us.map (·.1)) : (idxDead idx us)[j]? = idx[j]? :=
  setAll_not_mem _ _ _ (by rw [idxDead_keys]; exact h)

theorem idxDead_touched (idx : List (Nat × Nat)) (us : List (Nat × Option Bytes)) (j : Nat)
    (h : j ∈ us.map (·.1)) (e : Nat × Nat) (he : (idxDead idx us)[j]? = some e) : e = (sentinel, sentinel) := by
  unfold idxDead at he
  induction us generalizing idx with
  | nil => simp at h
  | cons u us ih =>
    rw [List.map_cons, setAll_cons] at he
    by_cases hj : j ∈ us.map (·.1)
    · exact ih _ hj he
    · have hju : j = u.1 := by simpa [hj] using h
      rw [setAll_not_mem _ _ _ (by rw [idxDead_keys]; exact hj), List.getElem?_set] at he
      simp only [hju, if_true] at he
      split at he
      · exact (Option.some.inj he).symm
      · cases he

theorem idxNew_untouched (idx : List (Nat × Nat)) (us : List (Nat × Option Bytes)) (off j : Nat)
    (h : j ∉ us.map (·.1)) : (idxNew idx us off)[j]? = idx[j]? := by
  unfold idxNew
  rw [setAll_not_mem _ _ _ (by rw [idxNew_keys]; exact h), idxDead_untouched _ _ _ h]

theorem not_isSome_map_snd {us : List (Nat × Option Bytes)} (h : ¬ ∃ u ∈ us, Option.isSome u.2 = true) :
    ¬ ∃ ch ∈ us.map (·.2), Option.isSome ch = true :=
  fun ⟨_, hm, hi⟩ => let ⟨u, hu, e⟩ := List.mem_map.mp hm; h ⟨u, hu, e ▸ hi⟩

theorem dataNew_all_none (us : List (Nat × Option Bytes)) (h : ¬ ∃ u ∈ us, Option.isSome u.2 = true) :
    dataNew us = [] := dataOf_all_none _ (not_isSome_map_snd h)

/-- when no update stores data the second fold writes sentinels where the first has written them -/
theorem idxNew_of_none (idx : List (Nat × Nat)) (us : List (Nat × Option Bytes))
    (h : ¬ ∃ u ∈ us, Option.isSome u.2 = true) (off : Nat) : idxNew idx us off = idxDead idx us := by
  unfold idxNew
  rw [entriesFrom_all_none _ (not_isSome_map_snd h) off]
  refine setAll_eq_self _ _ fun p hp x hx => ?_
  obtain ⟨h1, h2⟩ := List.of_mem_zip hp
  rw [List.eq_of_mem_replicate h2]
  exact idxDead_touched idx us p.1 h1 x hx

theorem idxNew_touched (idx : List (Nat × Nat)) (us : List (Nat × Option Bytes)) (off : Nat)
    (hn : (us.map (·.1)).Nodup) (k i : Nat) (ch : Option Bytes) (hk : us[k]? = some (i, ch)) (hi : i < idx.length) :
    ∃ e, (entriesFrom off (us.map (·.2)))[k]? = some e ∧ (idxNew idx us off)[i]? = some e := by
  have hkl : k < us.length := (List.getElem?_eq_some_iff.mp hk).1
  have hke : k < (entriesFrom off (us.map (·.2))).length := by rw [entriesFrom_length]; simpa using hkl
  refine ⟨_, List.getElem?_eq_getElem hke, ?_⟩
  unfold idxNew
  apply setAll_mem _ _ (by rw [idxNew_keys]; exact hn)
  · rw [List.mem_iff_getElem?]
    exact ⟨k, List.getElem?_zip_eq_some.mpr ⟨by simp [hk], List.getElem?_eq_getElem hke⟩⟩
  · rw [idxDead_length]; exact hi

theorem mem_keys_iff (us : List (Nat × Option Bytes)) (j : Nat) :
    j ∈ us.map (·.1) ↔ ∃ (k : Nat) (ch : Option Bytes), us[k]? = some (j, ch) := by
  rw [List.mem_map]
  constructor
  · rintro ⟨⟨i, ch⟩, hm, rfl⟩
    obtain ⟨k, hk⟩ := List.mem_iff_getElem?.mp hm
    exact ⟨k, ch, hk⟩
  · rintro ⟨k, ch, hk⟩
    exact ⟨(j, ch), List.mem_iff_getElem?.mpr ⟨k, hk⟩, rfl⟩

theorem idxNew_cases (idx : List (Nat × Nat)) (us : List (Nat × Option Bytes)) (off : Nat)
    (hn : (us.map (·.1)).Nodup) (j : Nat) (e : Nat × Nat) (he : (idxNew idx us off)[j]? = some e) :
    (j ∉ us.map (·.1) ∧ idx[j]? = some e) ∨
      ∃ (k : Nat) (ch : Option Bytes), us[k]? = some (j, ch) ∧ (entriesFrom off (us.map (·.2)))[k]? = some e := by
  by_cases hj : j ∈ us.map (·.1)
  · right
    obtain ⟨k, ch, hk⟩ := (mem_keys_iff us j).mp hj
    have hjl : j < idx.length := by
      have := (List.getElem?_eq_some_iff.mp he).1
      rwa [idxNew_length] at this
    obtain ⟨e', h1, h2⟩ := idxNew_touched idx us off hn k j ch hk hjl
    rw [he] at h2
    cases h2
    exact ⟨k, ch, hk, h1⟩
  · left
    exact ⟨hj, by rw [← idxNew_untouched idx us off j hj]; exact he⟩

theorem applyUpdates_eq (chunks : List (Option Bytes)) (us : List (Nat × Option Bytes)) :
    applyUpdates chunks us = setAll chunks us := rfl

theorem applyUpdates_length (chunks : List (Option Bytes)) (us : List (Nat × Option Bytes)) :
    (applyUpdates chunks us).length = chunks.length := setAll_length _ _

theorem applyUpdates_untouched (chunks : List (Option Bytes)) (us : List (Nat × Option Bytes)) (j : Nat)
    (h : j ∉ us.map (·.1)) : (applyUpdates chunks us)[j]? = chunks[j]? := setAll_not_mem _ _ _ h

theorem applyUpdates_touched (chunks : List (Option Bytes)) (us : List (Nat × Option Bytes))
    (hn : (us.map (·.1)).Nodup) (k i : Nat) (ch : Option Bytes) (hk : us[k]? = some (i, ch)) (hi : i < chunks.length) :
    (applyUpdates chunks us)[i]? = some ch :=
  setAll_mem _ _ hn i ch (List.mem_iff_getElem?.mpr ⟨k, hk⟩) hi

theorem currentIndex_of {c : Cfg} {v ib : Bytes} {idx : List (Nat × Nat)} (hib : indexBytes c v = some ib)
    (hdi : decodeIndex c true ib = .ok idx) : currentIndex c (some v) = some idx := by
  unfold currentIndex
  simp only [hib, hdi]
  rfl

theorem currentIndex_of_table {c : Cfg} {v ib : Bytes} {chunks : List (Option Bytes)} {idx : List (Nat × Nat)}
    (T : Table c v chunks ib idx) : currentIndex c (some v) = some idx := currentIndex_of T.hib T.hdi

theorem liveEnd_le_of_table {c : Cfg} {v ib : Bytes} {chunks : List (Option Bytes)} {idx : List (Nat × Nat)}
    (T : Table c v chunks ib idx) : liveEnd idx ≤ v.length :=
  (liveEnd_le_iff idx _).mpr fun _ he hl => T.inside he hl

theorem tight_of {c : Cfg} {v : Bytes} {idx : List (Nat × Nat)} (hcur : currentIndex c (some v) = some idx)
    (h : c.indexAtEnd = true → v.length = liveEnd idx + indexSize c) : tight c v = true := by
  unfold tight
  rw [hcur]
  cases hc : c.indexAtEnd
  · rfl
  · simp [h hc]

theorem tight_length {c : Cfg} {v : Bytes} {idx : List (Nat × Nat)} (ht : tight c v = true)
    (hcur : currentIndex c (some v) = some idx) (hc : c.indexAtEnd = true) : v.length = liveEnd idx + indexSize c := by
  unfold tight at ht
  rw [hcur] at ht
  simpa [hc] using ht

end Zarrs.ShardPE
