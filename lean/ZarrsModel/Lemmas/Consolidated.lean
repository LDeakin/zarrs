import ZarrsModel.Model.Consolidated
import ZarrsModel.Lemmas.ConsSort
import ZarrsModel.Lemmas.Json
import ZarrsModel.Lemmas.Meta
import ZarrsModel.Lemmas.MetaWf
import ZarrsModel.Lemmas.MetaV2
import ZarrsModel.Lemmas.MetaV2Wf
import ZarrsModel.Lemmas.MetaV2Parse
/- C13 (consolidated metadata), reading and writing node documents: what is written for a document that is `NodeDoc.ok`
reads back (`nodeOfJ_toJ`) and is well-formed JSON (`nodeDoc_toJ_wf`); a document is written as its normal form
`NodeDoc.norm` (`norm_toJ`), which is `ok` for a parsed document that is `NodeDoc.stable` (`nodeOfJ_ok`).  Each by mutual
recursion with the members of the consolidated map. -/
namespace Zarrs.Cons
open Zarrs Zarrs.Json Zarrs.Meta Zarrs.MetaV2

theorem scan_eq_lookup {α} (F : Obj → α) (key : Str) (d : α) (g : J → α) (h0 : F [] = d)
    (hc : ∀ k v rest, F ((k, v) :: rest) = if k == key then g v else F rest) (o : Obj) :
    F o = match lookup o key with | none => d | some v => g v := by
  induction o with
  | nil => rw [h0]; rfl
  | cons kv rest ih =>
    rw [hc, lookup_cons, ih]
    split <;> rfl

theorem consOfKVs_eq (o : Obj) :
    consOfKVs o = (match lookup o kCons with | none => some none | some v => consOfJ v) :=
  scan_eq_lookup consOfKVs kCons _ _ (by rw [consOfKVs]) (fun k v rest => by rw [consOfKVs]) o

theorem metaOfKVs_eq (o : Obj) :
    metaOfKVs o = (match lookup o kMetadata with | none => some none | some v => (membersOfJ v).map some) :=
  scan_eq_lookup metaOfKVs kMetadata _ _ (by rw [metaOfKVs]) (fun k v rest => by rw [metaOfKVs]) o

theorem membersOfKVs_nil : membersOfKVs [] = some [] := by rw [membersOfKVs]

theorem membersOfKVs_cons_inv (k : Str) (v : J) (rest : List (Str × J)) (l : List (Str × NodeDoc))
    (h : membersOfKVs ((k, v) :: rest) = some l) :
    ∃ d ds, l = (k, d) :: ds ∧ nodeOfJ v = some d ∧ membersOfKVs rest = some ds := by
  rw [membersOfKVs] at h
  cases h1 : nodeOfJ v with
  | none => simp [h1] at h
  | some d =>
    cases h2 : membersOfKVs rest with
    | none => simp [h1, h2] at h
    | some ds =>
      simp only [h1, h2, Option.some.injEq] at h
      exact ⟨d, ds, h.symm, rfl, rfl⟩

theorem membersOfKVs_keys (kvs : List (Str × J)) (l : List (Str × NodeDoc)) (h : membersOfKVs kvs = some l) :
    l.map (·.1) = kvs.map (·.1) := by
  induction kvs generalizing l with
  | nil => rw [membersOfKVs_nil] at h; cases h; rfl
  | cons kv rest ih =>
    obtain ⟨k, v⟩ := kv
    obtain ⟨d, ds, rfl, _, h2⟩ := membersOfKVs_cons_inv k v rest l h
    simp [ih ds h2]

theorem membersOfKVs_mem (kvs : List (Str × J)) (l : List (Str × NodeDoc)) (h : membersOfKVs kvs = some l)
    (k : Str) (v : J) (hk : (k, v) ∈ kvs) : ∃ d, nodeOfJ v = some d := by
  induction kvs generalizing l with
  | nil => cases hk
  | cons kv rest ih =>
    obtain ⟨k', v'⟩ := kv
    obtain ⟨d, ds, _, h1, h2⟩ := membersOfKVs_cons_inv k' v' rest l h
    rcases List.mem_cons.1 hk with e | hk
    · cases e; exact ⟨d, h1⟩
    · exact ih ds h2 hk

theorem membersToKVs_nil : membersToKVs [] = [] := by rw [membersToKVs]
theorem membersToKVs_cons (k : Str) (d : NodeDoc) (rest : List (Str × NodeDoc)) :
    membersToKVs ((k, d) :: rest) = (k, d.toJ) :: membersToKVs rest := by rw [membersToKVs]

theorem membersToKVs_eq_map (c : List (Str × NodeDoc)) : membersToKVs c = c.map (fun kv => (kv.1, kv.2.toJ)) := by
  induction c with
  | nil => rw [membersToKVs_nil]; rfl
  | cons kv rest ih => obtain ⟨k, d⟩ := kv; rw [membersToKVs_cons, ih]; rfl

theorem membersToKVs_sorted (c : List (Str × NodeDoc)) (h : sortedKeys c) : sortedKeys (membersToKVs c) :=
  membersToKVs_eq_map c ▸ sortedKeys_mapSnd _ c h

theorem membersToKVsU_eq_map (c : List (Str × NodeDoc)) : membersToKVsU c = c.map (fun kv => (kv.1, kv.2.toJUnsorted)) := by
  induction c with
  | nil => rw [membersToKVsU]; rfl
  | cons kv rest ih => obtain ⟨k, d⟩ := kv; rw [membersToKVsU, ih]; rfl

def g3Obj (d : GroupDoc) (ms : List (Str × J)) : Obj :=
  optKVs groupKeys (d.knownVals (some (consJ ms))) ++ extraKVs d.extra

theorem toJ_g3_some (d : GroupDoc) (c : List (Str × NodeDoc)) :
    NodeDoc.toJ (.g3 d (some c)) = .obj (g3Obj d (sortKVs (membersToKVs c))) := by
  rw [NodeDoc.toJ]
  obtain ⟨attrs, extra⟩ := d
  cases attrs <;> rfl

theorem nodeOfJ_inv (j : J) (d : NodeDoc) (h : nodeOfJ j = some d) :
    ∃ o, j = .obj o ∧
      ((∃ a, d = .a3 a ∧ ArrayDoc.ofJ (.obj o) = some a) ∨ (∃ a, d = .a2 a ∧ ArrayDocV2.ofJ (.obj o) = some a) ∨
       (∃ g cm, d = .g3 g cm ∧ consOfKVs o = some cm ∧ GroupDoc.ofJ (.obj (without o kCons)) = some g) ∨
       (∃ g, d = .g2 g ∧ GroupDocV2.ofJ (.obj o) = some g)) := by
  cases j with
  | obj o =>
    refine ⟨o, rfl, ?_⟩
    rw [nodeOfJ] at h
    split at h
    · exact Or.inl ⟨_, (Option.some.inj h).symm, ‹_›⟩
    · split at h
      · exact Or.inr (Or.inl ⟨_, (Option.some.inj h).symm, ‹_›⟩)
      · split at h
        · exact Or.inr (Or.inr (Or.inl ⟨_, _, (Option.some.inj h).symm, ‹_›, ‹_›⟩))
        · obtain ⟨g, hg, e⟩ := Option.map_eq_some_iff.1 h
          exact Or.inr (Or.inr (Or.inr ⟨g, e.symm, hg⟩))
  | null | bool _ | num _ | str _ | arr _ => cases h

theorem ofJ_none_of_lookup {α} {r : Option α} {o : Obj} {key : Str} {w v : J}
    (hinv : ∀ d, r = some d → lookup o key = some w) (h : lookup o key = some v) (hv : v ≠ w) : r = none := by
  cases hr : r with
  | none => rfl
  | some d => exact absurd (Option.some.inj (h.symm.trans (hinv d hr))) hv

theorem num_ne_23 : J.num ['2'] ≠ J.num ['3'] := by intro h; cases h
theorem str_group_ne_array : J.str (ascii "group") ≠ J.str (ascii "array") := by
  intro h; injection h with h; revert h; decide

/-- its `node_type` and `zarr_format` keep both array readers off -/
theorem nodeOfJ_g3 (o : Obj) (d : GroupDoc) (cm : Option CMap) (h1 : consOfKVs o = some cm)
    (h2 : GroupDoc.ofJ (.obj (without o kCons)) = some d) : nodeOfJ (.obj o) = some (.g3 d cm) := by
  have hof := groupDoc_ofJ_inv _ _ h2
  have hzf := (lookup_without_ne o kCons _ (by decide +kernel)).symm.trans hof.zf
  have hnt := (lookup_without_ne o kCons _ (by decide +kernel)).symm.trans hof.nt
  rw [nodeOfJ, ofJ_none_of_lookup (fun a ha => (arrayDoc_ofJ_inv o a ha).nt) hnt str_group_ne_array,
    ofJ_none_of_lookup (fun a ha => (arrayDocV2_ofJ_inv o a ha).zf) hzf num_ne_23.symm, h1, h2]

theorem membersOfJ_obj (ms : List (Str × J)) : membersOfJ (.obj ms) = (membersOfKVs ms).map sortKVs := by
  rw [membersOfJ]

theorem membersOfJ_eq_some (j : J) (c : CMap) :
    membersOfJ j = some c ↔ ∃ ms l, j = .obj ms ∧ membersOfKVs ms = some l ∧ c = sortKVs l := by
  cases j with
  | obj ms =>
    rw [membersOfJ_obj, Option.map_eq_some_iff]
    exact ⟨fun ⟨l, hl, e⟩ => ⟨ms, l, rfl, hl, e.symm⟩, fun ⟨_, l, e, hl, hc⟩ => by cases e; exact ⟨l, hl, hc.symm⟩⟩
  | _ => simp [membersOfJ]

theorem kindOk_iff (j : Option J) : kindOk j = true ↔ ∃ v, j = some v ∧ enumName v = some kInline := by
  cases j <;> simp [kindOk]

theorem muFalse_iff (j : Option J) : muFalse j = true ↔ j = some (.bool false) := by
  unfold muFalse
  split <;> simp_all

def consKeys : List Str := [kMetadata, kKind, kMustUnderstand]

theorem consKeys_table : consKeys.Nodup ∧ ∀ k ∈ kInline :: consKeys, ∀ b ∈ k, b < 128 := by decide +kernel

theorem consJ_eq (ms : List (Str × J)) :
    consJ ms = .obj (optKVs consKeys [some (J.obj ms), some (.str kInline), some (.bool false)]) := rfl

theorem consOfJ_consJ (ms : List (Str × J)) (c : List (Str × NodeDoc)) (h : membersOfKVs ms = some c) :
    consOfJ (consJ ms) = some (some (sortKVs c)) := by
  have L := lookup_optKVs _ consKeys_table.1 [some (J.obj ms), some (.str kInline), some (.bool false)]
  rw [consJ_eq, consOfJ, metaOfKVs_eq, L 0 kMetadata _ rfl rfl, L 1 kKind _ rfl rfl, L 2 kMustUnderstand _ rfl rfl]
  simp only [membersOfJ_obj, h, Option.map_some]
  rfl

mutual
/-- node documents that are written as well-formed JSON and read back as themselves; parsing leaves the normal form of a
    `stable` document in this form (`nodeOfJ_ok`), not every parsed document.  The parts as in `Lemmas/MetaWf.lean` /
    `Lemmas/MetaV2Wf.lean`, a consolidated map in key order with such members; a V2 array without an additional
    field called `node_type` (the written text would repeat the key); a V2 group whose additional fields do not make
    it a V2 array document -/
def NodeDoc.ok : NodeDoc → Prop
  | .a3 d => d.good
  | .a2 d => d.shapeOk ∧ d.wfParts ∧ ∀ kv ∈ d.extra, kv.1 ≠ kNodeType
  | .g2 d => d.shapeOk ∧ d.wfParts ∧ ArrayDocV2.ofJ d.toJ = none
  | .g3 d none => d.good
  | .g3 d (some c) => d.good ∧ sortedKeys c ∧ membersOk c
def membersOk : List (Str × NodeDoc) → Prop
  | [] => True
  | (k, d) :: rest => strOk k ∧ d.ok ∧ membersOk rest
end

theorem membersOk_iff (c : List (Str × NodeDoc)) : membersOk c ↔ ∀ kv ∈ c, strOk kv.1 ∧ kv.2.ok := by
  induction c with
  | nil => simp [membersOk]
  | cons kv rest ih =>
    obtain ⟨k, d⟩ := kv
    rw [membersOk, ih]
    simp only [List.mem_cons, forall_eq_or_imp]
    exact ⟨fun ⟨a, b, c⟩ => ⟨⟨a, b⟩, c⟩, fun ⟨⟨a, b⟩, c⟩ => ⟨a, b, c⟩⟩

theorem without_g3Obj (d : GroupDoc) (ms : List (Str × J)) (he : ∀ kv ∈ d.extra, kv.1 ∉ groupKeys) :
    without (g3Obj d ms) kCons = optKVs groupKeys (d.knownVals none) ++ extraKVs d.extra := by
  have e : optKVs groupKeys (d.knownVals (some (consJ ms))) = optKVs groupKeys (d.knownVals none) ++ [(kCons, consJ ms)] := by
    obtain ⟨attrs, extra⟩ := d
    cases attrs <;> rfl
  have hk : lookup (optKVs groupKeys (d.knownVals none)) kCons = none :=
    lookup_optKVs groupKeys groupKeys_nodup _ 3 kCons none rfl rfl
  have hx : lookup (extraKVs d.extra) kCons = none :=
    lookup_extraKVs_none _ _ (fun kv hkv e => he kv hkv (e ▸ List.mem_of_getElem? (i := 3) rfl))
  have hc : without [(kCons, consJ ms)] kCons = [] := by simp [without]
  rw [g3Obj, e, without_append, without_append, without_of_lookup_none _ _ hk,
    without_of_lookup_none _ _ hx, hc, List.append_nil]

theorem nodeOfJ_toJ_a2 (d : ArrayDocV2) (h : d.shapeOk) : nodeOfJ (NodeDoc.toJ (.a2 d)) = some (.a2 d) := by
  have hof := arrayDocV2_toJ_of d h
  rw [NodeDoc.toJ, ArrayDocV2.toJ_eq, nodeOfJ,
    ofJ_none_of_lookup (fun a ha => (arrayDoc_ofJ_inv _ a ha).zf) hof.zf num_ne_23, arrayDocV2_ofJ_intro _ _ hof]

theorem nodeOfJ_toJ_g2 (d : GroupDocV2) (h : d.shapeOk) (hn : ArrayDocV2.ofJ d.toJ = none) :
    nodeOfJ (NodeDoc.toJ (.g2 d)) = some (.g2 d) := by
  have hof := groupDocV2_toJ_of d h
  have hzf := (lookup_without_ne _ kCons _ (by decide +kernel)).trans hof.zf
  rw [GroupDocV2.toJ_eq] at hn
  rw [NodeDoc.toJ, GroupDocV2.toJ_eq, nodeOfJ, hn,
    ofJ_none_of_lookup (fun a ha => (arrayDoc_ofJ_inv _ a ha).zf) hof.zf num_ne_23,
    ofJ_none_of_lookup (fun a ha => (groupDoc_ofJ_inv _ a ha).zf) hzf num_ne_23, groupDocV2_ofJ_intro _ _ hof]
  cases consOfKVs _ <;> rfl

theorem nodeOfJ_toJ_g3_none (d : GroupDoc) (h : d.good) : nodeOfJ (NodeDoc.toJ (.g3 d none)) = some (.g3 d none) := by
  have hr := groupDoc_ofJ_toJ d h.extras
  rw [NodeDoc.toJ]
  rw [GroupDoc.toJ_eq] at hr ⊢
  have hc : lookup _ kCons = none := (groupDoc_ofJ_inv _ _ hr).cm
  refine nodeOfJ_g3 _ _ _ ?_ ?_
  · rw [consOfKVs_eq, hc]
  · rw [without_of_lookup_none _ _ hc]; exact hr

theorem nodeOfJ_g3Obj (d : GroupDoc) (h : d.good) (ms : List (Str × J)) (c : List (Str × NodeDoc))
    (hm : membersOfKVs ms = some c) : nodeOfJ (.obj (g3Obj d ms)) = some (.g3 d (some (sortKVs c))) := by
  have he := h.extras.keys
  refine nodeOfJ_g3 _ _ _ ?_ ?_
  · rw [consOfKVs_eq, g3Obj, lookup_optKVs_extra groupKeys groupKeys_nodup _ _ he 3 kCons _ rfl rfl]
    exact consOfJ_consJ ms c hm
  · rw [without_g3Obj d ms he, ← GroupDoc.toJ_eq]
    exact groupDoc_ofJ_toJ d h.extras

mutual
theorem nodeOfJ_toJ : ∀ (d : NodeDoc), d.ok → nodeOfJ d.toJ = some d
  | .a3 d, h => by
    rw [NodeDoc.toJ, ArrayDoc.toJ_eq, nodeOfJ, ← ArrayDoc.toJ_eq, arrayDoc_ofJ_toJ d h.shapeOk]
  | .a2 d, h => nodeOfJ_toJ_a2 d h.1
  | .g2 d, h => nodeOfJ_toJ_g2 d h.1 h.2.2
  | .g3 d none, h => nodeOfJ_toJ_g3_none d h
  | .g3 d (some c), h => by
    obtain ⟨hd, hs, hm⟩ := h
    rw [toJ_g3_some, sortKVs_of_sorted _ (membersToKVs_sorted c hs),
      nodeOfJ_g3Obj d hd _ c (membersOfKVs_toKVs c hm), sortKVs_of_sorted c hs]
theorem membersOfKVs_toKVs : ∀ (c : List (Str × NodeDoc)), membersOk c → membersOfKVs (membersToKVs c) = some c
  | [], _ => by rw [membersToKVs_nil, membersOfKVs_nil]
  | (k, d) :: rest, h => by
    obtain ⟨_, hd, hr⟩ := h
    rw [membersToKVs_cons, membersOfKVs, nodeOfJ_toJ d hd, membersOfKVs_toKVs rest hr]
end

theorem consJ_wf (ms : List (Str × J)) (h : (J.obj ms).wf) : (consJ ms).wf := by
  rw [consJ_eq]
  refine optKVs_wf _ consKeys_table.1 (fun k hk => consKeys_table.2 k (List.mem_cons_of_mem _ hk)) _ (fun x hx => ?_)
  simp only [List.mem_cons, List.not_mem_nil, or_false, Option.some.injEq] at hx
  rcases hx with rfl | rfl | rfl
  · exact h
  · exact (str_wf_iff _).2 (strOk_ascii _ (consKeys_table.2 _ (List.mem_cons_self ..)))
  · trivial

theorem g3Obj_wf (d : GroupDoc) (h : d.good) (ms : List (Str × J)) (hm : (J.obj ms).wf) : (J.obj (g3Obj d ms)).wf :=
  optKVs_extra_wf groupKeys groupKeys_nodup groupKeys_strOk _
    (groupDoc_vals_wf d h _ (fun _ e => Option.some.inj e ▸ consJ_wf ms hm)) _ h.extra h.sorted

theorem keysDistinct_of_sorted {β} (l : List (Str × β)) (h : sortedKeys l) : (l.map (·.1)).Nodup :=
  sortedKeys_nodup l h

mutual
theorem nodeDoc_toJ_wf : ∀ (d : NodeDoc), d.ok → d.toJ.wf
  | .a3 d, h => arrayDoc_toJ_wf d h
  | .a2 d, h => by
    obtain ⟨hs, hw, hn⟩ := h
    exact arrayDocV2_toJ_wf d hs hw hn
  | .g2 d, h => by
    obtain ⟨hs, hw, _⟩ := h
    exact groupDocV2_toJ_wf d hs hw
  | .g3 d none, h => groupDoc_toJ_wf d h
  | .g3 d (some c), h => by
    obtain ⟨hd, hs, hm⟩ := h
    rw [toJ_g3_some, sortKVs_of_sorted _ (membersToKVs_sorted c hs)]
    exact g3Obj_wf d hd _ ⟨membersToKVs_wf c hm, sortedKeys_nodup _ (membersToKVs_sorted c hs)⟩
theorem membersToKVs_wf : ∀ (c : List (Str × NodeDoc)), membersOk c → wfKVs (membersToKVs c)
  | [], _ => by rw [membersToKVs_nil]; trivial
  | (k, d) :: rest, h => by
    obtain ⟨hk, hd, hr⟩ := h
    rw [membersToKVs_cons]
    exact ⟨hk, nodeDoc_toJ_wf d hd, membersToKVs_wf rest hr⟩
end

mutual
/-- the documented normalisation of a parsed node document: a V2 array's empty filter list is written as `null`
    (`ArrayDocV2.norm`), recursively through consolidated maps; everything else is written as parsed -/
def NodeDoc.norm : NodeDoc → NodeDoc
  | .a3 d => .a3 d
  | .a2 d => .a2 d.norm
  | .g2 d => .g2 d
  | .g3 d none => .g3 d none
  | .g3 d (some c) => .g3 d (some (normMembers c))
def normMembers : List (Str × NodeDoc) → List (Str × NodeDoc)
  | [] => []
  | (k, d) :: rest => (k, d.norm) :: normMembers rest
end

mutual
/-- parsed documents whose re-serialisation reads back: every structured V2 data type field has a shape (the reader
    accepts a `null` shape, the writer then leaves the shape out, and the two-element form is not read - a known
    defect of the V2 document reader), a V2 array has no additional field called `node_type`, and a V2 group's
    additional fields do not make its written form a V2 array document -/
def NodeDoc.stable : NodeDoc → Prop
  | .a3 _ => True
  | .a2 d => d.dtype.hasShapes ∧ ∀ kv ∈ d.extra, kv.1 ≠ kNodeType
  | .g2 d => ArrayDocV2.ofJ d.toJ = none
  | .g3 _ none => True
  | .g3 _ (some c) => membersStable c
def membersStable : List (Str × NodeDoc) → Prop
  | [] => True
  | (_, d) :: rest => d.stable ∧ membersStable rest
end

theorem normMembers_eq_map (c : List (Str × NodeDoc)) : normMembers c = c.map (fun kv => (kv.1, kv.2.norm)) := by
  induction c with
  | nil => rw [normMembers]; rfl
  | cons kv rest ih => obtain ⟨k, d⟩ := kv; rw [normMembers, ih]; rfl

theorem membersStable_iff (c : List (Str × NodeDoc)) : membersStable c ↔ ∀ kv ∈ c, kv.2.stable := by
  induction c with
  | nil => rw [membersStable]; simp
  | cons kv rest ih =>
    obtain ⟨k, d⟩ := kv
    rw [membersStable, ih]
    simp only [List.mem_cons, forall_eq_or_imp]

mutual
theorem norm_toJ : ∀ (d : NodeDoc), d.norm.toJ = d.toJ
  | .a3 d => by rw [NodeDoc.norm]
  | .a2 d => by rw [NodeDoc.norm, NodeDoc.toJ, NodeDoc.toJ, ArrayDocV2.toJ_norm]
  | .g2 d => by rw [NodeDoc.norm]
  | .g3 d none => by rw [NodeDoc.norm]
  | .g3 d (some c) => by rw [NodeDoc.norm, toJ_g3_some, toJ_g3_some, normMembers_toKVs c]
theorem normMembers_toKVs : ∀ (c : List (Str × NodeDoc)), membersToKVs (normMembers c) = membersToKVs c
  | [] => by rw [normMembers]
  | (k, d) :: rest => by rw [normMembers, membersToKVs_cons, membersToKVs_cons, norm_toJ d, normMembers_toKVs rest]
end

theorem normMembers_sorted (c : List (Str × NodeDoc)) (h : sortedKeys c) : sortedKeys (normMembers c) :=
  normMembers_eq_map c ▸ sortedKeys_mapSnd _ c h

def cmapOk (c : List (Str × NodeDoc)) : Prop := sortedKeys c ∧ ∀ kv ∈ c, strOk kv.1 ∧ kv.2.norm.ok

theorem ok_of_cmapOk (g : GroupDoc) (hg : g.good) (c : List (Str × NodeDoc)) (h : cmapOk c) :
    NodeDoc.ok (.g3 g (some (normMembers c))) := by
  refine ⟨hg, normMembers_sorted c h.1, ?_⟩
  rw [membersOk_iff, normMembers_eq_map]
  intro kv hkv
  obtain ⟨x, hx, rfl⟩ := List.mem_map.1 hkv
  exact h.2 x hx

mutual
theorem nodeOfJ_ok : ∀ (j : J), j.wf → ∀ d, nodeOfJ j = some d → d.stable → d.norm.ok
  | .obj o, hj, d, h, hs => by
    obtain ⟨o', e, hc⟩ := nodeOfJ_inv _ _ h
    cases e
    rcases hc with ⟨a, rfl, ha⟩ | ⟨a, rfl, ha⟩ | ⟨g, cm, rfl, hcm, hg⟩ | ⟨g, rfl, hg⟩
    · rw [NodeDoc.norm]; exact arrayDoc_ofJ_good _ hj a ha
    · rw [NodeDoc.stable] at hs
      rw [NodeDoc.norm]
      refine ⟨arrayDocV2_ofJ_shapeOk _ a ha hs.1, ArrayDocV2.wfParts_norm a (arrayDocV2_ofJ_wfParts _ hj a ha), hs.2⟩
    · have hgood := groupDoc_ofJ_good _ (without_wf o kCons hj) g hg
      cases cm with
      | none => rw [NodeDoc.norm]; exact hgood
      | some c =>
        rw [NodeDoc.stable] at hs
        rw [NodeDoc.norm]
        exact ok_of_cmapOk g hgood c (consOfKVs_ok o hj.1 c hcm ((membersStable_iff c).1 hs))
    · rw [NodeDoc.stable] at hs
      rw [NodeDoc.norm]
      exact ⟨groupDocV2_ofJ_shapeOk _ g hg, groupDocV2_ofJ_wfParts _ hj g hg, hs⟩
  | .null, _, d, h, _ => nomatch h
  | .bool _, _, d, h, _ => nomatch h
  | .num _, _, d, h, _ => nomatch h
  | .str _, _, d, h, _ => nomatch h
  | .arr _, _, d, h, _ => nomatch h
theorem consOfKVs_ok : ∀ (kvs : List (Str × J)), wfKVs kvs → ∀ c, consOfKVs kvs = some (some c) →
    (∀ kv ∈ c, kv.2.stable) → cmapOk c
  | [], _, c, h, _ => by rw [consOfKVs] at h; cases h
  | (k, v) :: rest, hw, c, h, hs => by
    rw [consOfKVs] at h
    rw [wfKVs] at hw
    by_cases hk : (k == kCons) = true
    · rw [if_pos hk] at h; exact consOfJ_ok v hw.2.1 c h hs
    · rw [if_neg hk] at h; exact consOfKVs_ok rest hw.2.2 c h hs
theorem consOfJ_ok : ∀ (j : J), j.wf → ∀ c, consOfJ j = some (some c) → (∀ kv ∈ c, kv.2.stable) → cmapOk c
  | .null, _, c, h, _ => by rw [consOfJ] at h; cases h
  | .obj o, hj, c, h, hs => by
    rw [consOfJ] at h
    cases hm : metaOfKVs o with
    | none => rw [hm] at h; cases h
    | some r =>
      cases r with
      | none => rw [hm] at h; cases h
      | some c' =>
        rw [hm] at h
        simp only at h
        split at h
        · cases h; exact metaOfKVs_ok o hj.1 c hm hs
        · cases h
  | .arr [m, k, mu], hj, c, h, hs => by
    rw [consOfJ] at h
    cases hm : membersOfJ m with
    | none => rw [hm] at h; cases h
    | some c' =>
      rw [hm] at h
      simp only at h
      split at h
      · cases h
        have hmw : m.wf := (arr_wf_iff _).1 hj m (.head _)
        exact membersOfJ_ok m hmw c hm hs
      · cases h
  | .bool _, _, c, h, _ => nomatch h
  | .num _, _, c, h, _ => nomatch h
  | .str _, _, c, h, _ => nomatch h
  | .arr [], _, c, h, _ => nomatch h
  | .arr [_], _, c, h, _ => nomatch h
  | .arr [_, _], _, c, h, _ => nomatch h
  | .arr (_ :: _ :: _ :: _ :: _), _, c, h, _ => nomatch h
theorem metaOfKVs_ok : ∀ (kvs : List (Str × J)), wfKVs kvs → ∀ c, metaOfKVs kvs = some (some c) →
    (∀ kv ∈ c, kv.2.stable) → cmapOk c
  | [], _, c, h, _ => by rw [metaOfKVs] at h; cases h
  | (k, v) :: rest, hw, c, h, hs => by
    rw [metaOfKVs] at h
    rw [wfKVs] at hw
    by_cases hk : (k == kMetadata) = true
    · rw [if_pos hk] at h
      simp only [Option.map_eq_some_iff] at h
      obtain ⟨c', hc', e⟩ := h
      cases e
      exact membersOfJ_ok v hw.2.1 c hc' hs
    · rw [if_neg hk] at h; exact metaOfKVs_ok rest hw.2.2 c h hs
theorem membersOfJ_ok : ∀ (j : J), j.wf → ∀ c, membersOfJ j = some c → (∀ kv ∈ c, kv.2.stable) → cmapOk c
  | .obj kvs, hj, c, h, hs => by
    rw [membersOfJ] at h
    simp only [Option.map_eq_some_iff] at h
    obtain ⟨l, hl, rfl⟩ := h
    refine ⟨sortKVs_sorted l, ?_⟩
    intro kv hkv
    exact membersOfKVs_ok kvs hj.1 l hl kv (mem_sortKVs_sub l kv hkv) (hs kv hkv)
  | .null, _, c, h, _ => nomatch h
  | .bool _, _, c, h, _ => nomatch h
  | .num _, _, c, h, _ => nomatch h
  | .str _, _, c, h, _ => nomatch h
  | .arr _, _, c, h, _ => nomatch h
theorem membersOfKVs_ok : ∀ (kvs : List (Str × J)), wfKVs kvs → ∀ l, membersOfKVs kvs = some l →
    ∀ kv ∈ l, kv.2.stable → strOk kv.1 ∧ kv.2.norm.ok
  | [], _, l, h, kv, hkv, _ => by rw [membersOfKVs_nil] at h; cases h; cases hkv
  | (k, v) :: rest, hw, l, h, kv, hkv, hs => by
    rw [wfKVs] at hw
    obtain ⟨d, ds, rfl, h1, h2⟩ := membersOfKVs_cons_inv k v rest l h
    rcases List.mem_cons.1 hkv with rfl | hkv
    · exact ⟨hw.1, nodeOfJ_ok v hw.2.1 d h1 hs⟩
    · exact membersOfKVs_ok rest hw.2.2 ds h2 kv hkv hs
end

theorem groupDocC_ofJ_obj (o : Obj) (g : GroupDocC) :
    GroupDocC.ofJ (.obj o) = some g ↔
      (consOfKVs o = some g.cons ∧ GroupDoc.ofJ (.obj (without o kCons)) = some g.base) := by
  obtain ⟨d, cm⟩ := g
  cases h1 : consOfKVs o <;> cases h2 : GroupDoc.ofJ (.obj (without o kCons)) <;>
    simp [GroupDocC.ofJ, h1, h2, and_comm]

theorem groupDocC_ofJ_inv (j : J) (g : GroupDocC) (h : GroupDocC.ofJ j = some g) :
    ∃ o, j = .obj o ∧ consOfKVs o = some g.cons ∧ GroupDoc.ofJ (.obj (without o kCons)) = some g.base := by
  cases j with
  | obj o => exact ⟨o, rfl, (groupDocC_ofJ_obj o g).1 h⟩
  | null | bool _ | num _ | str _ | arr _ => cases h

/-- reading a group document directly (`Group::open`) and as a node document (`Node::open`, a member of a consolidated
    map) agree: `GroupMetadataV3` is the only variant of `NodeMetadata` a V3 group document can be read as -/
theorem groupDocC_ofJ_iff_node (j : J) (g : GroupDocC) :
    GroupDocC.ofJ j = some g ↔ nodeOfJ j = some (.g3 g.base g.cons) := by
  constructor
  · intro h
    obtain ⟨o, rfl, h1, h2⟩ := groupDocC_ofJ_inv j g h
    exact nodeOfJ_g3 o _ _ h1 h2
  · intro h
    obtain ⟨o, rfl, hc⟩ := nodeOfJ_inv _ _ h
    rcases hc with ⟨a, e, _⟩ | ⟨a, e, _⟩ | ⟨d, cm, e, h1, h2⟩ | ⟨d, e, _⟩
    · cases e
    · cases e
    · cases e; exact (groupDocC_ofJ_obj o g).2 ⟨h1, h2⟩
    · cases e

def GroupDocC.ok (g : GroupDocC) : Prop := NodeDoc.ok (.g3 g.base g.cons)
def GroupDocC.stable (g : GroupDocC) : Prop := NodeDoc.stable (.g3 g.base g.cons)
def GroupDocC.norm (g : GroupDocC) : GroupDocC := ⟨g.base, g.cons.map normMembers⟩

theorem GroupDocC.norm_node (g : GroupDocC) : NodeDoc.norm (.g3 g.base g.cons) = .g3 g.norm.base g.norm.cons := by
  obtain ⟨d, cm⟩ := g
  cases cm <;> rw [NodeDoc.norm] <;> rfl

theorem groupDocC_ofJ_toJ (g : GroupDocC) (h : g.ok) : GroupDocC.ofJ g.toJ = some g :=
  (groupDocC_ofJ_iff_node _ g).2 (nodeOfJ_toJ _ h)

theorem groupDocC_toJ_wf (g : GroupDocC) (h : g.ok) : g.toJ.wf := nodeDoc_toJ_wf _ h

theorem groupDocC_ofText_toText (g : GroupDocC) (h : g.ok) : GroupDocC.ofText g.toText = some g := by
  unfold GroupDocC.ofText GroupDocC.toText
  rw [parse_print _ (groupDocC_toJ_wf g h)]
  exact groupDocC_ofJ_toJ g h

theorem groupDocC_ofJ_ok (j : J) (hj : j.wf) (g : GroupDocC) (h : GroupDocC.ofJ j = some g) (hs : g.stable) :
    g.norm.ok := by
  have := nodeOfJ_ok j hj _ ((groupDocC_ofJ_iff_node j g).1 h) hs
  rw [GroupDocC.norm_node] at this
  exact this

theorem groupDocC_norm_toJ (g : GroupDocC) : g.norm.toJ = g.toJ := by
  have := Zarrs.Cons.norm_toJ (NodeDoc.g3 g.base g.cons)
  rw [GroupDocC.norm_node] at this
  exact this

end Zarrs.Cons
