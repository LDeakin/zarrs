import ZarrsModel.Model.ShardAsm
import ZarrsModel.Lemmas.ListBasic
/- The worker pool with one mutex (the second machine of `Model/ShardAsm.lean`, told apart by the prefix `p`): the lock
discipline of programs, `Pool.wf` by parts (`WfParts`), the shapes of a step (`PStep`, the relation that `pstep` computes) -/
namespace Zarrs.ShardAsm

theorem heldAfter_succ : ∀ (prog : List Instr) (h : Bool) (pc : Nat),
    heldAfter h prog (pc + 1) = (match prog[pc]? with
      | some .lock => true
      | some .unlock => false
      | _ => heldAfter h prog pc) := by
  intro prog
  induction prog with
  | nil => intro h pc; cases pc <;> rfl
  | cons i rest ih =>
    intro h pc
    cases pc with
    | zero => cases i <;> cases rest <;> rfl
    | succ pc => cases i <;> exact ih _ pc

theorem balanced_drop {prog : List Instr} {h : Bool} (pc : Nat) (hb : balanced h prog = true) :
    balanced (heldAfter h prog pc) (prog.drop pc) = true := by
  induction prog generalizing h pc with
  | nil => cases pc <;> exact hb
  | cons i rest ih =>
    cases pc with
    | zero => exact hb
    | succ pc =>
      cases i with
      | lock | unlock => simp only [balanced, Bool.and_eq_true] at hb; exact ih pc hb.2
      | _ => exact ih pc hb

theorem nojoin_drop {prog : List Instr} {h : Bool} (pc : Nat) (hb : lockAcrossJoin h prog = false) :
    lockAcrossJoin (heldAfter h prog pc) (prog.drop pc) = false := by
  induction prog generalizing h pc with
  | nil => cases pc <;> rfl
  | cons i rest ih =>
    cases pc with
    | zero => exact hb
    | succ pc =>
      cases i with
      | fork c | wait c => simp only [lockAcrossJoin, Bool.or_eq_false_iff] at hb; exact ih pc hb.2
      | _ => exact ih pc hb

section
variable {prog : List Instr} {h : Bool} {pc : Nat}

/-- `balanced`: an `unlock` is inside a critical section; a `lock` and the end of the program are outside -/
theorem held_at_unlock (hb : balanced h prog = true) (hi : prog[pc]? = some .unlock) : heldAfter h prog pc = true := by
  have hd := balanced_drop pc hb
  rw [drop_of_getElem? hi] at hd
  simp only [balanced, Bool.and_eq_true] at hd
  exact hd.1

theorem free_at_lock (hb : balanced h prog = true) (hi : prog[pc]? = some .lock) : heldAfter h prog pc = false := by
  have hd := balanced_drop pc hb
  rw [drop_of_getElem? hi] at hd
  simp only [balanced, Bool.and_eq_true, Bool.not_eq_true'] at hd
  exact hd.1

theorem free_at_end (hb : balanced h prog = true) (hi : prog[pc]? = none) : heldAfter h prog pc = false := by
  have hd := balanced_drop pc hb
  rw [List.drop_eq_nil_of_le (List.getElem?_eq_none_iff.mp hi)] at hd
  simpa only [balanced, Bool.not_eq_true'] using hd

/-- no lock across a join: a `wait` and a `fork` are outside every critical section -/
theorem free_at_wait {c : Nat} (hn : lockAcrossJoin h prog = false) (hi : prog[pc]? = some (.wait c)) :
    heldAfter h prog pc = false := by
  have hd := nojoin_drop pc hn
  rw [drop_of_getElem? hi] at hd
  simp only [lockAcrossJoin, Bool.or_eq_false_iff] at hd
  exact hd.1

theorem free_at_fork {c : Nat} (hn : lockAcrossJoin h prog = false) (hi : prog[pc]? = some (.fork c)) :
    heldAfter h prog pc = false := by
  have hd := nojoin_drop pc hn
  rw [drop_of_getElem? hi] at hd
  simp only [lockAcrossJoin, Bool.or_eq_false_iff] at hd
  exact hd.1

end

/-- neither can block: the holder of the mutex can always step (the first case of `pool_progress`) -/
theorem crit_next {prog : List Instr} {pc : Nat} (hb : balanced false prog = true) (hn : lockAcrossJoin false prog = false)
    (hh : heldAfter false prog pc = true) : prog[pc]? = some .work ∨ prog[pc]? = some .unlock := by
  cases hi : prog[pc]? with
  | none => rw [free_at_end hb hi] at hh; cases hh
  | some i =>
    cases i with
    | lock => rw [free_at_lock hb hi] at hh; cases hh
    | unlock => exact Or.inr rfl
    | work => exact Or.inl rfl
    | fork c => rw [free_at_fork hn hi] at hh; cases hh
    | wait c => rw [free_at_wait hn hi] at hh; cases hh

theorem waitsOk_fork {prog : List Instr} {f : List Nat} {pc c : Nat} (hw : waitsOk f prog = true)
    (h : prog[pc]? = some (.wait c)) : c ∈ f ∨ ∃ k, k < pc ∧ prog[k]? = some (.fork c) := by
  induction prog generalizing f pc with
  | nil => cases h
  | cons i rest ih =>
    cases pc with
    | zero =>
      cases h
      simp only [waitsOk, Bool.and_eq_true, List.contains_iff_mem] at hw
      exact Or.inl hw.1
    | succ pc =>
      have lift : (∃ k, k < pc ∧ rest[k]? = some (.fork c)) → ∃ k, k < pc + 1 ∧ (i :: rest)[k]? = some (.fork c) := by
        rintro ⟨k, hk, hf⟩; exact ⟨k + 1, Nat.succ_lt_succ hk, hf⟩
      cases i with
      | fork c' =>
        rcases ih hw h with hm | hk
        · rcases List.mem_cons.mp hm with rfl | hm
          · exact Or.inr ⟨0, Nat.succ_pos _, rfl⟩
          · exact Or.inl hm
        · exact Or.inr (lift hk)
      | wait c' =>
        simp only [waitsOk, Bool.and_eq_true] at hw
        exact (ih hw.2 h).imp_right lift
      | _ => exact (ih hw h).imp_right lift

theorem leaf_no_join {prog : List Instr} (hl : isLeaf prog = true) (pc : Nat) :
    (∀ c, prog[pc]? ≠ some (.wait c)) ∧ (∀ c, prog[pc]? ≠ some (.fork c)) := by
  simp only [isLeaf, List.all_eq_true] at hl
  constructor <;> intro c h <;> have := hl _ (List.mem_of_getElem? h) <;> simp at this

theorem fork_mem_forksOf {prog : List Instr} {k c : Nat} (h : prog[k]? = some (.fork c)) : c ∈ forksOf prog := by
  simp only [forksOf, List.mem_filterMap]
  exact ⟨_, List.mem_of_getElem? h, rfl⟩

theorem forksOf_mem {prog : List Instr} {c : Nat} (h : c ∈ forksOf prog) : ∃ k : Nat, prog[k]? = some (Instr.fork c) := by
  simp only [forksOf, List.mem_filterMap] at h
  obtain ⟨i, hi, hc⟩ := h
  obtain ⟨k, hk⟩ := List.getElem?_of_mem hi
  refine ⟨k, ?_⟩
  cases i <;> simp at hc
  subst hc; exact hk

def prog (P : Pool) (t : Nat) : List Instr := P.progs.getD t []

theorem instrAt_eq (P : Pool) (t pc : Nat) : instrAt P t pc = (prog P t)[pc]? := rfl

theorem prog_mem_or_nil (P : Pool) (t : Nat) : prog P t ∈ P.progs ∨ prog P t = [] := by
  unfold prog
  by_cases h : t < P.progs.length
  · left; rw [List.getD_eq_getElem?_getD, List.getElem?_eq_getElem h]; exact List.getElem_mem h
  · right; rw [List.getD_eq_getElem?_getD, List.getElem?_eq_none (Nat.le_of_not_lt h)]; rfl

theorem progs_all (P : Pool) {Q : List Instr → Prop} (h : ∀ pr ∈ P.progs, Q pr) (hnil : Q []) (t : Nat) : Q (prog P t) := by
  rcases prog_mem_or_nil P t with hm | hn
  · exact h _ hm
  · rw [hn]; exact hnil

/-- `Pool.wf`, clause by clause and by task number -/
structure WfParts (P : Pool) : Prop where
  workers : 0 < P.workers
  leaf : ∀ t, t < P.progs.length → t ∈ P.roots ∨ isLeaf (prog P t) = true
  forks : ∀ c ∈ P.allForks, c < P.progs.length ∧ c ∉ P.roots
  covered : ∀ t, t < P.progs.length → t ∈ P.roots ∨ t ∈ P.allForks
  waits : ∀ t, waitsOk [] (prog P t) = true
  bal : ∀ t, balanced false (prog P t) = true

theorem wf_parts {P : Pool} (h : P.wf = true) : WfParts P := by
  simp only [Pool.wf, Bool.and_eq_true, decide_eq_true_eq, List.all_eq_true, List.mem_range, Bool.or_eq_true,
    List.contains_iff_mem, Bool.not_eq_true'] at h
  obtain ⟨⟨⟨⟨⟨⟨h1, _⟩, h3⟩, h4⟩, h5⟩, h6⟩, h7⟩ := h
  refine ⟨h1, fun t ht => h3 t ht, ?_, fun t ht => h5 t ht, progs_all P h6 rfl, progs_all P h7 rfl⟩
  intro c hc
  have := h4 c hc
  refine ⟨this.1, ?_⟩
  intro hr
  have h2 := this.2
  rw [← List.contains_iff_mem] at hr
  rw [hr] at h2; cases h2

/-- `Pool.noLockAcrossJoin` by task number: no program holds the mutex at a `fork` or a `wait` -/
def NoJoin (P : Pool) : Prop := ∀ t, lockAcrossJoin false (prog P t) = false

theorem noJoin_of {P : Pool} (hnj : P.noLockAcrossJoin = true) : NoJoin P := by
  simp only [Pool.noLockAcrossJoin, List.all_eq_true, Bool.not_eq_true'] at hnj
  exact progs_all P hnj rfl

/-- one constructor per branch of `pstep` that returns a state, so that the invariant proof is a `cases` and does not
unfold `pstep` again -/
inductive PStep (P : Pool) (s : PState) (w c : Nat) : PState → Prop
  | take : s.stacks[w]? = some [] → c ∈ s.queue →
      PStep P s w c ⟨s.stacks.set w [(c, 0)], s.queue.erase c, s.finished, s.holder⟩
  | finish {t pc below} : s.stacks[w]? = some ((t, pc) :: below) → instrAt P t pc = none →
      PStep P s w c ⟨s.stacks.set w below, s.queue, t :: s.finished, s.holder⟩
  | work {t pc below} : s.stacks[w]? = some ((t, pc) :: below) → instrAt P t pc = some .work →
      PStep P s w c ⟨s.stacks.set w ((t, pc + 1) :: below), s.queue, s.finished, s.holder⟩
  | lock {t pc below} : s.stacks[w]? = some ((t, pc) :: below) → instrAt P t pc = some .lock → s.holder = none →
      PStep P s w c ⟨s.stacks.set w ((t, pc + 1) :: below), s.queue, s.finished, some w⟩
  | unlock {t pc below} : s.stacks[w]? = some ((t, pc) :: below) → instrAt P t pc = some .unlock →
      PStep P s w c ⟨s.stacks.set w ((t, pc + 1) :: below), s.queue, s.finished, none⟩
  | fork {t pc below c'} : s.stacks[w]? = some ((t, pc) :: below) → instrAt P t pc = some (.fork c') →
      PStep P s w c ⟨s.stacks.set w ((t, pc + 1) :: below), c' :: s.queue, s.finished, s.holder⟩
  | join {t pc below c'} : s.stacks[w]? = some ((t, pc) :: below) → instrAt P t pc = some (.wait c') → c' ∈ s.finished →
      PStep P s w c ⟨s.stacks.set w ((t, pc + 1) :: below), s.queue, s.finished, s.holder⟩
  | steal {t pc below c'} : s.stacks[w]? = some ((t, pc) :: below) → instrAt P t pc = some (.wait c') → c' ∉ s.finished →
      c ∈ s.queue → PStep P s w c ⟨s.stacks.set w ((c, 0) :: (t, pc) :: below), s.queue.erase c, s.finished, s.holder⟩

theorem pstep_cases {P : Pool} {s s' : PState} {w c : Nat} (h : pstep P s w c = some s') : PStep P s w c s' := by
  unfold pstep at h
  split at h
  · cases h
  · rename_i hst
    split at h
    · rename_i hq; cases h; exact .take hst (by simpa using hq)
    · cases h
  · rename_i t pc below hst
    split at h
    · rename_i hi; cases h; exact .finish hst hi
    · rename_i hi; cases h; exact .work hst hi
    · rename_i hi
      split at h
      · rename_i hh; cases h; exact .lock hst hi (by simpa using hh)
      · cases h
    · rename_i hi; cases h; exact .unlock hst hi
    · rename_i c' hi; cases h; exact .fork hst hi
    · rename_i c' hi
      split at h
      · rename_i hf; cases h; exact .join hst hi (by simpa using hf)
      · rename_i hf
        split at h
        · rename_i hq; cases h; exact .steal hst hi (by simpa using hf) (by simpa using hq)
        · cases h

end Zarrs.ShardAsm
