import ZarrsModel.Model.FillMeta
/-
`Fmt.round` is exact on representable rationals; a format that `Widens` another holds all its finite values, so
converting there and back (also through a third format in between) is the identity: `narrow_convertBits` on the
finite patterns of the four formats (`Fmt.std`).
-/
namespace Zarrs.Float

theorem Fmt.bias_pos (f : Fmt) (he : 2 ≤ f.eb) : 1 ≤ f.bias := by
  unfold Fmt.bias
  have : 2 ^ 1 ≤ 2 ^ (f.eb - 1) := Nat.pow_le_pow_right (by decide) (by omega)
  omega

/-- every magnitude is `k * 2^mb + q` for one such pair: `q` the significand with its hidden bit, which is set unless the
    exponent field `k` is 0 (subnormal); its value is `q * 2^(k+1) / 2^(bias+mb)` (`Fmt.value_mk`) -/
structure Fmt.IsMk (f : Fmt) (k q : Nat) : Prop where
  sig : q < 2 ^ (f.mb + 1)
  hidden : k = 0 ∨ 2 ^ f.mb ≤ q

theorem Fmt.sigExp_mk (f : Fmt) (k q : Nat) (h : f.IsMk k q) : f.sigExp (k * 2 ^ f.mb + q) = (q, k + 1) := by
  obtain ⟨hq, hk⟩ := h
  have hp : 0 < 2 ^ f.mb := Nat.two_pow_pos _
  rw [Nat.pow_succ] at hq
  unfold Fmt.sigExp
  by_cases hq' : q < 2 ^ f.mb
  · obtain rfl : k = 0 := by omega
    simp [Nat.div_eq_of_lt hq', Nat.mod_eq_of_lt hq']
  · obtain ⟨r, rfl⟩ := Nat.le.dest (Nat.le_of_not_lt hq')
    have hr : r < 2 ^ f.mb := by omega
    have e1 : k * 2 ^ f.mb + (2 ^ f.mb + r) = r + 2 ^ f.mb * (k + 1) := by
      rw [Nat.mul_add, Nat.mul_one, Nat.mul_comm k]; omega
    simp [e1, Nat.add_mul_div_left _ _ hp, Nat.div_eq_of_lt hr, Nat.mod_eq_of_lt hr]

theorem Fmt.exists_mk (f : Fmt) (m : Nat) : ∃ k q, m = k * 2 ^ f.mb + q ∧ f.IsMk k q := by
  have hlt : m % 2 ^ f.mb < 2 ^ f.mb := Nat.mod_lt _ (Nat.two_pow_pos _)
  have hdm : 2 ^ f.mb * (m / 2 ^ f.mb) + m % 2 ^ f.mb = m := Nat.div_add_mod m _
  rw [Nat.mul_comm] at hdm
  have hs : 2 ^ (f.mb + 1) = 2 ^ f.mb * 2 := Nat.pow_succ ..
  generalize m / 2 ^ f.mb = E at hdm
  cases E with
  | zero => exact ⟨0, m % 2 ^ f.mb, by omega, by omega, Or.inl rfl⟩
  | succ E =>
    rw [Nat.add_mul, Nat.one_mul] at hdm
    exact ⟨E, 2 ^ f.mb + m % 2 ^ f.mb, by omega, by omega, Or.inr (Nat.le_add_right _ _)⟩

theorem Fmt.value_eq (f : Fmt) (m : Nat) :
    f.value m = if (f.sigExp m).2 ≥ f.bias + f.mb
      then ((f.sigExp m).1 * 2 ^ ((f.sigExp m).2 - (f.bias + f.mb)), 1)
      else ((f.sigExp m).1, 2 ^ (f.bias + f.mb - (f.sigExp m).2)) := by
  unfold Fmt.value
  rcases f.sigExp m with ⟨a, b⟩
  rfl

theorem Fmt.value_den_pos (f : Fmt) (m : Nat) : 0 < (f.value m).2 := by
  rw [Fmt.value_eq]
  split
  · exact Nat.one_pos
  · exact Nat.two_pow_pos _

theorem Fmt.value_mk (f : Fmt) (k q : Nat) (h : f.IsMk k q) :
    (f.value (k * 2 ^ f.mb + q)).1 * 2 ^ (f.bias + f.mb) = q * 2 ^ (k + 1) * (f.value (k * 2 ^ f.mb + q)).2 := by
  rw [Fmt.value_eq, f.sigExp_mk k q h]
  split
  · next h =>
    show q * 2 ^ (k + 1 - (f.bias + f.mb)) * 2 ^ (f.bias + f.mb) = q * 2 ^ (k + 1) * 1
    rw [Nat.mul_one, Nat.mul_assoc, ← Nat.pow_add, Nat.sub_add_cancel h]
  · next h =>
    show q * 2 ^ (f.bias + f.mb) = q * 2 ^ (k + 1) * 2 ^ (f.bias + f.mb - (k + 1))
    rw [Nat.mul_assoc, ← Nat.pow_add, Nat.add_sub_cancel' (Nat.le_of_lt (Nat.lt_of_not_le h))]

theorem Fmt.value_zero (f : Fmt) : (f.value 0).1 = 0 := by
  have h := f.value_mk 0 0 ⟨Nat.two_pow_pos _, Or.inl rfl⟩
  rw [Nat.zero_mul, Nat.zero_mul] at h
  exact (Nat.mul_eq_zero.1 h).resolve_right (Nat.ne_of_gt (Nat.two_pow_pos _))

theorem Fmt.inf_pos (f : Fmt) (he : 2 ≤ f.eb) : 0 < f.inf := by
  unfold Fmt.inf Fmt.expMax
  have : 2 ^ 2 ≤ 2 ^ f.eb := Nat.pow_le_pow_right (by decide) he
  exact Nat.mul_pos (by omega) (Nat.two_pow_pos _)

theorem Fmt.lt_inf_of_exp_le (f : Fmt) (k q : Nat) (hq : q < 2 ^ (f.mb + 1)) (hk : k + 3 ≤ 2 ^ f.eb) :
    k * 2 ^ f.mb + q < f.inf := by
  have : (k + 2) * 2 ^ f.mb ≤ (2 ^ f.eb - 1) * 2 ^ f.mb := Nat.mul_le_mul_right _ (by omega)
  rw [Nat.add_mul] at this
  rw [Nat.pow_succ] at hq
  exact Nat.lt_of_lt_of_le (by omega) this

theorem Fmt.exp_le_of_lt_inf (f : Fmt) (he : 2 ≤ f.eb) (k q : Nat) (hk : k = 0 ∨ 2 ^ f.mb ≤ q)
    (hm : k * 2 ^ f.mb + q < f.inf) : k + 3 ≤ 2 ^ f.eb := by
  have h22 : 2 ^ 2 ≤ 2 ^ f.eb := Nat.pow_le_pow_right (by decide) he
  rcases hk with rfl | h
  · omega
  · have : (k + 1) * 2 ^ f.mb < (2 ^ f.eb - 1) * 2 ^ f.mb := by
      rw [Nat.add_mul, Nat.one_mul]; exact Nat.lt_of_le_of_lt (by omega) hm
    have := Nat.lt_of_mul_lt_mul_right this
    omega

theorem frac_trans {a b c d e f : Nat} (hd : 0 < d) (h1 : a * d = c * b) (h2 : c * f = e * d) : a * f = e * b := by
  apply Nat.eq_of_mul_eq_mul_right hd
  calc a * f * d = a * d * f := by ac_rfl
    _ = c * f * b := by rw [h1]; ac_rfl
    _ = e * b * d := by rw [h2]; ac_rfl

/-- the exponent field `Fmt.round` computes for the integer `q * 2^k`, `q` a significand of `M + 1` bits -/
theorem round_exp (M q k : Nat) (hq0 : 0 < q) (hq : q < 2 ^ (M + 1)) (hk : k = 0 ∨ 2 ^ M ≤ q) :
    (if q * 2 ^ k < 2 ^ (M + 1) then 0 else Nat.log2 (q * 2 ^ k) - M) = k := by
  rcases hk with rfl | hk
  · simp [hq]
  · have hlo : 2 ^ (M + k) ≤ q * 2 ^ k := by
      rw [Nat.pow_add]; exact Nat.mul_le_mul_right _ hk
    have hhi : q * 2 ^ k < 2 ^ (M + k + 1) := by
      rw [show M + k + 1 = M + 1 + k by omega, Nat.pow_add]
      exact Nat.mul_lt_mul_of_pos_right hq (Nat.two_pow_pos _)
    have hne : q * 2 ^ k ≠ 0 := Nat.ne_of_gt (Nat.mul_pos hq0 (Nat.two_pow_pos _))
    have hlog : Nat.log2 (q * 2 ^ k) = M + k := (Nat.log2_eq_iff hne).2 ⟨hlo, hhi⟩
    split
    · next hlt =>
      have : 2 ^ (M + k) < 2 ^ (M + 1) := Nat.lt_of_le_of_lt hlo hlt
      have := (Nat.pow_lt_pow_iff_right (by decide : 1 < 2)).1 this
      omega
    · rw [hlog]; omega

/-- rounding a rational that is exactly `q * 2^k` units of the smallest subnormal -/
theorem Fmt.round_exact (f : Fmt) (he : 2 ≤ f.eb) (num den q k : Nat) (hden : 0 < den) (hq0 : 0 < q) (hm : f.IsMk k q)
    (h : num * 2 ^ (f.bias + f.mb) = q * 2 ^ (k + 1) * den) :
    f.round num den = k * 2 ^ f.mb + q := by
  -- `Fmt.round` scales by `2^(bias - 1 + mb)`: halve both sides
  have h : num * 2 ^ (f.bias - 1 + f.mb) = q * 2 ^ k * den := by
    apply Nat.eq_of_mul_eq_mul_right Nat.two_pos
    rw [show f.bias + f.mb = f.bias - 1 + f.mb + 1 by have := f.bias_pos he; omega, Nat.pow_succ, Nat.pow_succ] at h
    calc _ = num * (2 ^ (f.bias - 1 + f.mb) * 2) := Nat.mul_assoc _ _ _
      _ = q * (2 ^ k * 2) * den := h
      _ = _ := by ac_rfl
  have hnum : num ≠ 0 := by
    rintro rfl
    rw [Nat.zero_mul] at h
    have := Nat.mul_pos (Nat.mul_pos hq0 (Nat.two_pow_pos k)) hden
    omega
  unfold Fmt.round
  have hb : (num == 0) = false := by simp [hnum]
  simp only [hb, Bool.false_eq_true, if_false]
  rw [h, Nat.mul_div_cancel _ hden, round_exp f.mb q k hq0 hm.sig hm.hidden]
  have hd : 0 < den * 2 ^ k := Nat.mul_pos hden (Nat.two_pow_pos _)
  have e1 : q * 2 ^ k * den = q * (den * 2 ^ k) := by
    rw [Nat.mul_assoc, Nat.mul_comm (2 ^ k)]
  rw [e1, Nat.mul_div_cancel _ hd, Nat.mul_mod_left]
  have : ¬ (2 * 0 > den * 2 ^ k) := by omega
  have h2 : ¬ (2 * 0 = den * 2 ^ k) := by omega
  simp [this, h2]

theorem Fmt.round_zero (f : Fmt) (den : Nat) : f.round 0 den = 0 := by
  simp [Fmt.round]

theorem Fmt.round_of_eq (f : Fmt) (he : 2 ≤ f.eb) (m : Nat) (num den : Nat) (hden : 0 < den)
    (heq : num * (f.value m).2 = (f.value m).1 * den) : f.round num den = m := by
  obtain ⟨k, q, rfl, hm⟩ := f.exists_mk m
  have hs := frac_trans (f.value_den_pos _) heq (f.value_mk k q hm)
  rcases Nat.eq_zero_or_pos q with rfl | hq0
  · obtain rfl : k = 0 := hm.hidden.resolve_right (Nat.not_le.2 (Nat.two_pow_pos _))
    rw [Nat.zero_mul] at hs
    rw [(Nat.mul_eq_zero.1 hs).resolve_right (Nat.ne_of_gt (Nat.two_pow_pos _)), Fmt.round_zero, Nat.zero_mul]
  · exact f.round_exact he num den q k hden hq0 hm hs

/-- `x/y = sig * 2^K / 2^S` with the significand shifted by `a` and the scale by `c` -/
theorem rescale (x y S c sig K a k : Nat) (h : x * 2 ^ S = sig * 2 ^ K * y) (hk : K + c = k + a) :
    x * 2 ^ (S + c) = sig * 2 ^ a * 2 ^ k * y := by
  calc x * 2 ^ (S + c) = x * 2 ^ S * 2 ^ c := by rw [Nat.pow_add, Nat.mul_assoc]
    _ = sig * 2 ^ K * y * 2 ^ c := by rw [h]
    _ = sig * (2 ^ K * 2 ^ c) * y := by ac_rfl
    _ = sig * (2 ^ a * 2 ^ k) * y := by rw [← Nat.pow_add, hk, Nat.add_comm k a, Nat.pow_add]
    _ = _ := by ac_rfl

theorem normalise (sig M M' : Nat) (h0 : 0 < sig) (h : sig < 2 ^ (M + 1)) (hM : M ≤ M') :
    ∃ a, M' ≤ M + a ∧ a ≤ M' ∧ 2 ^ M' ≤ sig * 2 ^ a ∧ sig * 2 ^ a < 2 ^ (M' + 1) := by
  have h0 := Nat.ne_of_gt h0
  have hL : sig.log2 < M + 1 := (Nat.log2_lt h0).2 h
  refine ⟨M' - sig.log2, by omega, by omega, ?_, ?_⟩
  · rw [show M' = sig.log2 + (M' - sig.log2) by omega, Nat.pow_add, Nat.add_sub_cancel_left]
    exact Nat.mul_le_mul_right _ (Nat.log2_self_le h0)
  · rw [show M' + 1 = sig.log2 + 1 + (M' - sig.log2) by omega, Nat.pow_add]
    exact Nat.mul_lt_mul_of_pos_right Nat.lt_log2_self (Nat.two_pow_pos _)

/-- `g` holds every finite value of `f`: at least as many significand bits (`mb`), the smallest subnormal of `f` is a
    normal number of `g` (`subnormal`), and the largest exponent of `f` is one of `g` (`range`) -/
structure Widens (f g : Fmt) : Prop where
  eb : 2 ≤ f.eb
  ebTo : 2 ≤ g.eb
  mb : f.mb ≤ g.mb
  subnormal : f.bias + f.mb ≤ g.bias
  range : 2 ^ f.eb + g.bias ≤ 2 ^ g.eb + f.bias

instance (f g : Fmt) : Decidable (Widens f g) :=
  decidable_of_iff (_ ∧ _ ∧ _ ∧ _ ∧ _)
    ⟨fun ⟨a, b, c, d, e⟩ => ⟨a, b, c, d, e⟩, fun h => ⟨h.eb, h.ebTo, h.mb, h.subnormal, h.range⟩⟩

theorem widen_value (f g : Fmt) (hw : Widens f g) (m : Nat) (hm : m < f.inf) :
    ∃ m', m' < g.inf ∧ (g.value m').1 * (f.value m).2 = (f.value m).1 * (g.value m').2 := by
  obtain ⟨k, q, rfl, hkq⟩ := f.exists_mk m
  have hfv := f.value_mk k q hkq
  rcases Nat.eq_zero_or_pos q with rfl | hq0
  · refine ⟨0, g.inf_pos hw.ebTo, ?_⟩
    rw [Nat.zero_mul, Nat.zero_mul] at hfv
    rw [g.value_zero, (Nat.mul_eq_zero.1 hfv).resolve_right (Nat.ne_of_gt (Nat.two_pow_pos _)),
      Nat.zero_mul, Nat.zero_mul]
  · -- significand `q * 2^a`, exponent field `k'`
    have hk3 := f.exp_le_of_lt_inf hw.eb k q hkq.hidden hm
    have hmb := hw.mb
    have hoff := hw.subnormal
    have hrange := hw.range
    obtain ⟨a, ha1, ha2, hq1, hq2⟩ := normalise q _ _ hq0 hkq.sig hmb
    obtain ⟨c, hc⟩ := Nat.le.dest (Nat.add_le_add (Nat.le_trans (Nat.le_add_right _ _) hoff) hmb)
    obtain ⟨k', hk'⟩ := Nat.le.dest (show a + 1 ≤ k + 1 + c by omega)
    refine ⟨k' * 2 ^ g.mb + q * 2 ^ a, g.lt_inf_of_exp_le k' _ hq2 (by omega), ?_⟩
    have hgv := g.value_mk k' _ ⟨hq2, Or.inr hq1⟩
    rw [← hc] at hgv
    exact (frac_trans (Nat.two_pow_pos _) (rescale _ _ _ _ _ _ _ _ hfv (by omega)) hgv.symm).symm

theorem Fmt.inf_lt_signBit (f : Fmt) : f.inf < f.signBit := by
  unfold Fmt.inf Fmt.expMax Fmt.signBit
  rw [Nat.pow_add]
  have := Nat.two_pow_pos f.eb
  exact Nat.mul_lt_mul_of_pos_right (by omega) (Nat.two_pow_pos _)

theorem Fmt.neg_mag_sign_add (f : Fmt) (s : Bool) (m : Nat) (hm : m < f.signBit) :
    f.neg ((if s then f.signBit else 0) + m) = s ∧ f.mag ((if s then f.signBit else 0) + m) = m := by
  have hp : 0 < f.signBit := Nat.two_pow_pos _
  unfold Fmt.neg Fmt.mag
  cases s
  · simp [Nat.div_eq_of_lt hm, Nat.mod_eq_of_lt hm]
  · simp only [if_true]
    rw [Nat.add_div_left _ hp, Nat.div_eq_of_lt hm, Nat.add_mod_left, Nat.mod_eq_of_lt hm]
    exact ⟨rfl, rfl⟩

theorem Fmt.two_pow_bits (f : Fmt) : 2 ^ f.bits = 2 * f.signBit := by
  unfold Fmt.bits Fmt.signBit
  rw [Nat.add_assoc, Nat.add_comm 1, Nat.pow_succ, Nat.mul_comm]

theorem Fmt.sign_add_mag (f : Fmt) (b : Nat) (hb : b < 2 ^ f.bits) :
    (if f.neg b then f.signBit else 0) + f.mag b = b := by
  unfold Fmt.neg Fmt.mag
  rw [f.two_pow_bits] at hb
  have hd : b / f.signBit < 2 := (Nat.div_lt_iff_lt_mul (Nat.two_pow_pos _)).2 hb
  have hdm := Nat.div_add_mod b f.signBit
  generalize b / f.signBit = d at *
  have : d = 0 ∨ d = 1 := by omega
  rcases this with rfl | rfl
  · simp at hdm ⊢; exact hdm
  · simp at hdm ⊢; exact hdm

theorem Fmt.exists_sign_mag (f : Fmt) (b : Nat) (hb : b < 2 ^ f.bits) (hfin : f.isFinite b = true) :
    ∃ (s : Bool) (m : Nat), m < f.inf ∧ b = (if s then f.signBit else 0) + m :=
  ⟨f.neg b, f.mag b, of_decide_eq_true hfin, (f.sign_add_mag b hb).symm⟩

theorem Fmt.sign_add_finite (f : Fmt) (s : Bool) (m : Nat) (hm : m < f.inf) :
    (if s then f.signBit else 0) + m < 2 ^ f.bits ∧ f.isFinite ((if s then f.signBit else 0) + m) = true := by
  have h2 := Nat.lt_trans hm f.inf_lt_signBit
  constructor
  · rw [f.two_pow_bits]
    split <;> omega
  · unfold Fmt.isFinite
    rw [(f.neg_mag_sign_add s m h2).2]
    exact decide_eq_true hm

theorem convertBits_sign_add (f g : Fmt) (s : Bool) (m : Nat) (hm : m < f.inf) :
    convertBits f g ((if s then f.signBit else 0) + m) = (if s then g.signBit else 0) + convert f g m := by
  have h2 := Nat.lt_trans hm f.inf_lt_signBit
  rw [convertBits, (f.neg_mag_sign_add s m h2).1, (f.neg_mag_sign_add s m h2).2]

theorem convert_of_eq (g f : Fmt) (he : 2 ≤ f.eb) (m m' : Nat) (hm : m < f.inf)
    (heq : (g.value m').1 * (f.value m).2 = (f.value m).1 * (g.value m').2) :
    convert g f m' = m := by
  show min (f.round (g.value m').1 (g.value m').2) f.inf = m
  rw [f.round_of_eq he m _ _ (g.value_den_pos m') heq, Nat.min_eq_left (Nat.le_of_lt hm)]

theorem convert_self (f : Fmt) (he : 2 ≤ f.eb) (m : Nat) (hm : m < f.inf) : convert f f m = m :=
  convert_of_eq f f he m m hm rfl

theorem convert_widen (f g : Fmt) (hw : Widens f g) (m : Nat) (hm : m < f.inf) :
    convert f g m < g.inf ∧
    (g.value (convert f g m)).1 * (f.value m).2 = (f.value m).1 * (g.value (convert f g m)).2 := by
  obtain ⟨m', hm', hv⟩ := widen_value f g hw m hm
  rw [convert_of_eq f g hw.ebTo m' m hm' hv.symm]
  exact ⟨hm', hv⟩

theorem convert_widen_narrow (f g : Fmt) (hw : Widens f g) (m : Nat) (hm : m < f.inf) :
    convert g f (convert f g m) = m :=
  convert_of_eq g f hw.eb m _ hm (convert_widen f g hw m hm).2

/-- widening `f → g`, then narrowing `g → h → f` through an intermediate format `h` wider than `f`: the middle step
    is again an exact rounding of the same value -/
theorem convert_widen_narrow_via (f h g : Fmt) (hg : Widens f g) (hh : Widens f h) (m : Nat) (hm : m < f.inf) :
    convert g h (convert f g m) < h.inf ∧ convert h f (convert g h (convert f g m)) = m := by
  obtain ⟨-, hv⟩ := convert_widen f g hg m hm
  obtain ⟨m', hm', hv'⟩ := widen_value f h hh m hm
  rw [convert_of_eq g h hh.ebTo m' _ hm' (frac_trans (f.value_den_pos m) hv hv'.symm)]
  exact ⟨hm', convert_of_eq h f hh.eb m m' hm hv'⟩

/-- the four formats of `Props/C14`, which spells the disjunction out -/
def Fmt.std (f : Fmt) : Prop := f = f16 ∨ f = bf16 ∨ f = f32 ∨ f = f64

theorem Fmt.std.facts {f : Fmt} (hf : f.std) : 256 ^ (f.bits / 8) = 2 ^ f.bits ∧ f.qnan < f.signBit ∧ f.inf < f.qnan := by
  rcases hf with rfl | rfl | rfl | rfl <;> decide +kernel

theorem Fmt.std.pow_bytes {f : Fmt} (hf : f.std) : 256 ^ (f.bits / 8) = 2 ^ f.bits := hf.facts.1

end Zarrs.Float

namespace Zarrs.FillMeta
open Zarrs.Float

theorem widens_f16_f32 : Widens f16 f32 := by decide +kernel

theorem widens_f64 (f : Fmt) (hf : f.std) (hne : f ≠ f64) : Widens f f64 := by
  rcases hf with rfl | rfl | rfl | rfl
  · decide +kernel
  · decide +kernel
  · decide +kernel
  · exact absurd rfl hne

theorem convertBits_f64_finite (f : Fmt) (hf : f.std) (b : Nat) (hb : b < 2 ^ f.bits) (hfin : f.isFinite b = true) :
    convertBits f f64 b < 2 ^ 64 ∧ f64.isFinite (convertBits f f64 b) = true := by
  obtain ⟨s, m, hm, rfl⟩ := f.exists_sign_mag b hb hfin
  rw [convertBits_sign_add _ _ _ _ hm]
  refine f64.sign_add_finite s _ ?_
  by_cases h64 : f = f64
  · subst h64
    rw [convert_self f64 (by decide) m hm]
    exact hm
  · exact (convert_widen f f64 (widens_f64 f hf h64) m hm).1

theorem narrow_convertBits (how : Narrow) (f : Fmt) (hf : f.std) (b : Nat) (hb : b < 2 ^ f.bits)
    (hfin : f.isFinite b = true) : narrow how f (convertBits f f64 b) = b := by
  obtain ⟨s, m, hm, rfl⟩ := f.exists_sign_mag b hb hfin
  rw [convertBits_sign_add _ _ _ _ hm]
  by_cases h64 : f = f64
  · subst h64
    rw [convert_self f64 (by decide) m hm]
    rfl
  · have hw := widens_f64 f hf h64
    obtain ⟨hfin', -⟩ := convert_widen f f64 hw m hm
    unfold narrow
    rw [if_neg (by simpa using h64)]
    split
    · next h16 =>
      obtain ⟨rfl, -⟩ : f = f16 ∧ how = .viaF32 := by simpa using h16
      obtain ⟨h1, h2⟩ := convert_widen_narrow_via f16 f32 f64 hw widens_f16_f32 m hm
      rw [convertBits_sign_add _ _ _ _ hfin', convertBits_sign_add _ _ _ _ h1, h2]
    · rw [convertBits_sign_add _ _ _ _ hfin', convert_widen_narrow f f64 hw m hm]

end Zarrs.FillMeta
