import ZarrsModel.Lemmas.DeflateHeader
/-
Blocks and streams: `blocks` / `inflate` of the reader on any sequence of stored, fixed and dynamic blocks.
-/
namespace Zarrs.DeflateSpec
open Zarrs Zarrs.Inflate

theorem fixedLit_valid : validLens fixedLitLens = true := by decide +kernel
theorem fixedDist_valid : validLens fixedDistLens = true := by decide +kernel

theorem padBits_length (fill : Bits) (k : Nat) : (padBits fill k).length = k := by simp [padBits]

theorem alignBits_drop (total : Nat) (pad x : Bits) (ht : total % 8 = 0) (hk : pad.length < 8)
    (hx : x.length % 8 = 0) : alignBits total (pad ++ x) = x := by
  unfold alignBits
  have : ((pad ++ x).length + 8 - total % 8) % 8 = pad.length := by
    simp only [List.length_append]; omega
  rw [this]
  simp

theorem encodeBlock_stored_eq_some {pos : Nat} {final : Bool} {fill bits : Bits} {data : Bytes}
    (h : encodeBlock pos final (.stored fill data) = some bits) :
    (data.length ≤ 65535 ∧ ∀ x ∈ data, x < 256) ∧ bits = [final, false, false] ++
      (padBits fill ((8 - (pos + 3) % 8) % 8) ++ toBits (le16 data.length ++ le16 (65535 - data.length) ++ data)) := by
  simp only [encodeBlock] at h
  split at h
  · rename_i hd
    exact ⟨⟨hd.1, by simpa using hd.2⟩, (Option.some.inj h).symm⟩
  · cases h

theorem encodeBlock_fixed_eq_some {pos : Nat} {final : Bool} {toks : List Token} {bits : Bits}
    (h : encodeBlock pos final (.fixed toks) = some bits) :
    ∃ t, encTokens fixedLitLens fixedDistLens toks = some t ∧ bits = [final, true, false] ++ t := by
  simp only [encodeBlock] at h
  split at h
  · rename_i t ht
    exact ⟨t, ht, (Option.some.inj h).symm⟩
  · cases h

theorem encodeBlock_dynamic_eq_some {pos : Nat} {final : Bool} {hd : DynHeader} {toks : List Token} {bits : Bits}
    (h : encodeBlock pos final (.dynamic hd toks) = some bits) :
    hd.ok = true ∧ ∃ hb t, encHeader hd = some hb ∧ encTokens hd.litLens hd.distLens toks = some t ∧
      bits = [final, false, true] ++ (hb ++ t) := by
  simp only [encodeBlock] at h
  split at h
  · rename_i hok
    split at h
    · rename_i hb t hh ht
      exact ⟨hok, hb, t, hh, ht, (Option.some.inj h).symm⟩
    · cases h
  · cases h

theorem encodeBlock_length (pos : Nat) (final : Bool) (b : Block) (bits : Bits)
    (he : encodeBlock pos final b = some bits) : 3 ≤ bits.length := by
  cases b with
  | stored fill data => obtain ⟨_, rfl⟩ := encodeBlock_stored_eq_some he; simp
  | fixed toks => obtain ⟨t, _, rfl⟩ := encodeBlock_fixed_eq_some he; simp
  | dynamic h toks => obtain ⟨_, hb, t, _, _, rfl⟩ := encodeBlock_dynamic_eq_some he; simp

/-- what `blocks` does with the outcome of a block's body -/
def blocksNext (total fuel : Nat) (final : Bool) : Option (Bits × Array Nat) → Option (Bits × Array Nat)
  | none => none
  | some (bs, out) => if final then some (bs, out) else blocks total fuel bs out

theorem blocks_stored (total fuel : Nat) (final : Bool) (bs : Bits) (out : Array Nat) :
    blocks total (fuel + 1) (final :: false :: false :: bs) out =
      blocksNext total fuel final (match takeBits 16 (alignBits total bs) with
        | none => none
        | some (len, bs) =>
          match takeBits 16 bs with
          | none => none
          | some (nlen, bs) => if len + nlen != 65535 then none else takeBytes len bs out) := by
  cases final <;> rfl

theorem blocks_fixed (total fuel : Nat) (final : Bool) (bs : Bits) (out : Array Nat) :
    blocks total (fuel + 1) (final :: true :: false :: bs) out =
      blocksNext total fuel final (blockLoop (mkHuff fixedLitLens) (mkHuff fixedDistLens) (bs.length + 1) bs out) := by
  cases final <;> rfl

theorem blocks_dynamic (total fuel : Nat) (final : Bool) (bs : Bits) (out : Array Nat) :
    blocks total (fuel + 1) (final :: false :: true :: bs) out =
      blocksNext total fuel final (match dynamicTables bs with
        | none => none
        | some (lit, dist, bs) => blockLoop lit dist (bs.length + 1) bs out) := by
  cases final <;> rfl

theorem blocks_block (total fuel pos : Nat) (final : Bool) (b : Block) (bits tail : Bits) (out : Array Nat)
    (res : Bytes) (he : encodeBlock pos final b = some bits) (hr : renderBlock out.toList b = some res)
    (ht : total % 8 = 0) (hal : (pos + (bits ++ tail).length) % 8 = 0) :
    blocks total (fuel + 1) (bits ++ tail) out =
      if final then some (tail, res.toArray) else blocks total fuel tail res.toArray := by
  show _ = blocksNext total fuel final (some (tail, res.toArray))
  cases b with
  | stored fill data =>
    obtain ⟨⟨hl, hd⟩, rfl⟩ := encodeBlock_stored_eq_some he
    cases hr
    have hlen : (toBits (le16 data.length) ++ (toBits (le16 (65535 - data.length)) ++
        (toBits data ++ tail))).length % 8 = 0 := by
      simp only [List.length_append, List.length_cons, List.length_nil, padBits_length, toBits_length] at hal ⊢
      omega
    simp only [List.cons_append, List.nil_append, List.append_assoc, toBits_append]
    rw [blocks_stored, alignBits_drop _ _ _ ht (by rw [padBits_length]; omega) hlen,
      takeBits16_le16 _ _ (by omega)]
    simp only
    rw [takeBits16_le16 _ _ (by omega)]
    simp only [show data.length + (65535 - data.length) = 65535 by omega, bne_self_eq_false, Bool.false_eq_true,
      if_false]
    rw [takeBytes_toBits _ _ _ hd]
    cases out
    simp
  | fixed toks =>
    obtain ⟨t, ht', rfl⟩ := encodeBlock_fixed_eq_some he
    show blocks total (fuel + 1) (final :: true :: false :: (t ++ tail)) out = _
    rw [blocks_fixed, blockLoop_tokens _ _ fixedLit_valid fixedDist_valid toks t tail out res _ ht' hr
      (by simp only [List.length_append]; omega)]
  | dynamic h toks =>
    obtain ⟨hok, hb, t, hh, ht', rfl⟩ := encodeBlock_dynamic_eq_some he
    have hc := DynHeader.conds_of_ok h hok
    show blocks total (fuel + 1) (final :: false :: true :: (hb ++ t ++ tail)) out = _
    rw [blocks_dynamic, List.append_assoc, dynamicTables_header h hok hb (t ++ tail) hh]
    simp only
    rw [blockLoop_tokens _ _ hc.litValid hc.distValid toks t tail out res _ ht' hr
      (by simp only [List.length_append]; omega)]

theorem encodeBlocks_cons_cons_eq_some {pos : Nat} {b b' : Block} {bs : List Block} {bits : Bits}
    (h : encodeBlocks pos (b :: b' :: bs) = some bits) :
    ∃ x y, encodeBlock pos false b = some x ∧ encodeBlocks (pos + x.length) (b' :: bs) = some y ∧
      bits = x ++ y := by
  simp only [encodeBlocks] at h
  split at h
  · rename_i x hx
    split at h
    · rename_i y hy
      exact ⟨x, y, hx, hy, (Option.some.inj h).symm⟩
    · cases h
  · cases h

theorem blocks_stream (total : Nat) (bl : List Block) (pos fuel : Nat) (bits tail : Bits) (out : Array Nat)
    (res : Bytes) (he : encodeBlocks pos bl = some bits) (hr : renderBlocks bl out.toList = some res)
    (ht : total % 8 = 0) (hal : (pos + (bits ++ tail).length) % 8 = 0) (hf : bits.length ≤ fuel) :
    blocks total fuel (bits ++ tail) out = some (tail, res.toArray) := by
  fun_induction encodeBlocks pos bl generalizing bits out fuel with
  | case1 | case4 | case5 => cases he
  | case2 pos b =>
    obtain ⟨fuel, rfl⟩ : ∃ f, fuel = f + 1 := ⟨fuel - 1, by have := encodeBlock_length _ _ _ _ he; omega⟩
    obtain ⟨mid, hrb, hr⟩ := renderBlocks_cons_eq_some hr
    cases hr
    exact blocks_block total fuel pos true b bits tail out _ he hrb ht hal
  | case3 pos b b' bs x hx y hy ih =>
    cases he
    have hx3 := encodeBlock_length _ _ _ _ hx
    rw [List.length_append] at hf
    obtain ⟨fuel, rfl⟩ : ∃ f, fuel = f + 1 := ⟨fuel - 1, by omega⟩
    obtain ⟨mid, hrb, hr⟩ := renderBlocks_cons_eq_some hr
    rw [List.append_assoc] at hal ⊢
    rw [blocks_block total fuel pos false b x (y ++ tail) out mid hx hrb ht hal]
    exact ih fuel y mid.toArray hy hr (by simp only [List.length_append] at hal ⊢; omega) (by omega)

theorem inflate_of_bits (bl : List Block) (bits pad : Bits) (bytes out rest : Bytes)
    (hb : encodeBlocks 0 bl = some bits) (hr : renderBlocks bl [] = some out)
    (htb : toBits bytes = bits ++ pad) (hp : pad.length < 8) : inflate (bytes ++ rest) = some (out, rest) := by
  have htb' : toBits (bytes ++ rest) = bits ++ (pad ++ toBits rest) := by
    rw [toBits_append, htb, List.append_assoc]
  have htot : (toBits (bytes ++ rest)).length % 8 = 0 := by rw [toBits_length]; omega
  have hblk := blocks_stream (toBits (bytes ++ rest)).length bl 0 ((toBits (bytes ++ rest)).length + 1) bits
    (pad ++ toBits rest) #[] out hb hr htot (by rw [Nat.zero_add, ← htb']; exact htot)
    (by rw [htb']; simp only [List.length_append]; omega)
  rw [← htb'] at hblk
  unfold inflate
  simp only
  rw [hblk]
  simp only
  rw [alignBits_drop _ pad (toBits rest) htot hp (by rw [toBits_length]; omega), toBits_length]
  have : 8 * rest.length / 8 = rest.length := by omega
  rw [this]
  simp

theorem encodeStream_eq_some {bl : List Block} {fill : Bits} {bytes : Bytes} (h : encodeStream bl fill = some bytes) :
    ∃ bits, encodeBlocks 0 bl = some bits ∧
      bytes = fromBits (bits ++ padBits fill ((8 - bits.length % 8) % 8)) := by
  unfold encodeStream at h
  split at h
  · rename_i bits hb
    exact ⟨bits, hb, (Option.some.inj h).symm⟩
  · cases h

theorem inflate_encodeStream (bl : List Block) (fill : Bits) (bytes out rest : Bytes)
    (he : encodeStream bl fill = some bytes) (hr : renderBlocks bl [] = some out) :
    inflate (bytes ++ rest) = some (out, rest) := by
  obtain ⟨bits, hb, rfl⟩ := encodeStream_eq_some he
  exact inflate_of_bits bl bits _ _ out rest hb hr
    (toBits_fromBits_aligned _ (by simp only [List.length_append, padBits_length]; omega))
    (by rw [padBits_length]; omega)

end Zarrs.DeflateSpec
