import ZarrsModel.Lemmas.ArrayInv
set_option linter.unusedSectionVars false
/- Multi-chunk writes and erases.  The data of a write is the read of a target array `t` (`AArr.read_write`); the chunks
concerned tile the region written (`ROk.box_tiling`, `ROk.region_tiling`), the piece of the data that goes to a tile is the
read of `t` there (`Tiling.read_tile`), and the single-chunk steps, one per tile, leave `t` on the whole region
(`Tiling.write`). -/
namespace Zarrs
open Subset

namespace ArrCfg
variable {α : Type} [DecidableEq α]
variable {cfg : ArrCfg α} {G : Shape}

variable {Pe : α → Bool}

theorem storeChunks_overlay (h : ROk Pe cfg G) {st : KV} {a : AArr α} (hinv : InvG Pe cfg G st a)
    (b : Subset) (hb : b.wf = true) (hbi : b.inboundsShape G = true) (region : Subset)
    (hreg : cfg.grid.chunksSubset b = some region) (t : AArr α) (ht : ∀ i, Pe (t i) = true) :
    ∃ st', cfg.storeChunks st b (t.read region) = some st' ∧ InvG Pe cfg G st' (a.overlay region.contains t) := by
  cases he : b.isEmpty with
  | true =>
    have hpos := b.rank_pos_of_empty hb he
    rw [chunksSubset_empty b he] at hreg
    cases hreg
    have hn0 : b.numElements = 0 := (prod_eq_zero_iff _).mpr he
    simp only [storeChunks, hn0, AArr.read, newEmpty_indices _ hpos]
    exact ⟨st, rfl, by rwa [AArr.overlay_of_not _ _ (newEmpty_contains _ hpos)]⟩
  | false =>
    obtain ⟨region', B⟩ := h.box_tiling b hb hbi he
    cases hreg.symm.trans B.eq
    simp only [storeChunks]
    split
    · rename_i h0
      rw [b.isEmpty_of_numElements_zero h0] at he
      cases he
    · rename_i h1
      exact storeChunk_overlay h hinv (B.single h1).1 (B.single h1).2 t ht
    · simp only [hreg]
      rw [ite_bne_of_eq (t.read_length region)]
      refine B.tiling.write (InvG Pe cfg G) _ t (fun c hc st1 a1 hinv1 => ?_) hinv
      simp only [h.boxOf_def (B.inGrid c hc), B.tiling.read_tile t hc]
      exact storeChunk_overlay h hinv1 (B.inGrid c hc) (h.boxOf_def (B.inGrid c hc)) t ht

theorem eraseChunks_step (h : ROk Pe cfg G) {st : KV} {a : AArr α} (hinv : InvG Pe cfg G st a)
    (b : Subset) (hb : b.wf = true) (hbi : b.inboundsShape G = true) :
    ∃ region, cfg.grid.chunksSubset b = some region ∧
      InvG Pe cfg G (cfg.eraseChunks st b) (a.fillRegion region cfg.fill) := by
  cases he : b.isEmpty with
  | true =>
    refine ⟨_, chunksSubset_empty b he, ?_⟩
    rw [AArr.fillRegion_eq_overlay, AArr.overlay_of_not _ _ (newEmpty_contains _ (b.rank_pos_of_empty hb he))]
    simp only [eraseChunks, List.eq_nil_of_length_eq_zero (b.indices_length.trans ((prod_eq_zero_iff _).mpr he)),
      List.foldl_nil]
    exact hinv
  | false =>
    obtain ⟨region, B⟩ := h.box_tiling b hb hbi he
    refine ⟨region, B.eq, ?_⟩
    obtain ⟨st', hfold, hinv'⟩ := B.tiling.write (InvG Pe cfg G) (fun st c => some (cfg.eraseChunk st c))
      (fun _ => cfg.fill)
      (fun c hc st1 a1 hinv1 => ⟨_, rfl, eraseChunk_step h hinv1 (B.inGrid c hc) (h.boxOf_def (B.inGrid c hc))⟩) hinv
    rw [foldOpt_some_foldl] at hfold
    cases hfold
    exact hinv'

theorem storeArraySubset_overlay (h : ROk Pe cfg G) {st : KV} {a : AArr α} (hinv : InvG Pe cfg G st a)
    (r : Subset) (hr : r.wf = true) (hb : r.inboundsShape cfg.shape = true) (t : AArr α) (ht : ∀ i, Pe (t i) = true) :
    ∃ st', cfg.storeArraySubset st r (t.read r) = some st' ∧ InvG Pe cfg G st' (a.overlay r.contains t) := by
  have hb' := Subset.inboundsShape_iff_allLe.mp hb
  simp only [storeArraySubset]
  rw [ite_bne_of_eq (a := r.rank) hb'.1]
  cases he : r.isEmpty with
  | true =>
    have hgl : 0 < cfg.grid.length := by rw [← h.rank, ← hb'.1]; exact r.rank_pos_of_empty hr he
    simp only [chunksIn_empty r he]
    rw [if_neg (by rw [newEmpty_numElements _ hgl]; simp), ite_bne_of_eq (t.read_length r), newEmpty_indices _ hgl]
    exact ⟨st, rfl, by rwa [AArr.overlay_of_not (P := r.contains) _ _ fun i => mem_of_any_zero i r.start r.shape he]⟩
  | false =>
    obtain ⟨box, B⟩ := h.region_tiling r hr hb he
    simp only [B.eq]
    by_cases h1 : box.numElements = 1
    · rw [if_pos (by simp [h1])]
      obtain ⟨hc0G, hsub⟩ := B.single h1
      have hcs0 := h.boxOf_def hc0G
      simp only [hcs0]
      by_cases heq : (r == cfg.grid.boxOf box.start) = true
      · rw [if_pos heq, (Subset.beq_iff _ _).mp heq]
        exact storeChunk_overlay h hinv hc0G hcs0 t ht
      · rw [if_neg heq]
        exact storeChunkSubset_overlay h hinv hc0G hcs0 hsub t ht
    · rw [if_neg (by simp [h1]), ite_bne_of_eq (t.read_length r)]
      refine B.tiling.write (InvG Pe cfg G) _ t (fun c hc st1 a1 hinv1 => ?_) hinv
      obtain ⟨hcG, hsub⟩ := B.inGrid c hc
      simp only [h.boxOf_def hcG, overlap_comm r, B.tiling.read_tile t hc]
      exact storeChunkSubset_overlay h hinv1 hcG (h.boxOf_def hcG) hsub t ht

end ArrCfg
end Zarrs
