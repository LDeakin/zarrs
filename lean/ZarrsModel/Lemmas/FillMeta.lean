import ZarrsModel.Model.FillMeta
import ZarrsModel.Lemmas.NumTok
import ZarrsModel.Lemmas.Float
import ZarrsModel.Lemmas.ListBasic
import ZarrsModel.Lemmas.JsonStr
/- Fill values through metadata, one data type at a time: what `toMeta` writes, `fromMeta` reads back; and what
   metadata `fromMeta` accepts (C14). -/
namespace Zarrs.FillMeta
open Zarrs.Json Zarrs.Float Zarrs.NumTok

theorem leNat_eq_leVal : ∀ bs : List Nat, leNat bs = leVal bs
  | [] => rfl
  | b :: bs => congrArg (b + 256 * ·) (leNat_eq_leVal bs)

theorem natLE_eq_leDigits : ∀ n v : Nat, natLE n v = leDigits n v
  | 0, _ => rfl
  | n + 1, v => congrArg (v % 256 :: ·) (natLE_eq_leDigits n _)

theorem length_natLE (n v : Nat) : (natLE n v).length = n := by
  rw [natLE_eq_leDigits, leDigits_length]

theorem natLE_byte (n v : Nat) : ∀ b ∈ natLE n v, b < 256 := by
  rw [natLE_eq_leDigits, leDigits_eq_map]
  intro b hb
  obtain ⟨i, -, rfl⟩ := List.mem_map.mp hb
  exact Nat.mod_lt _ (by decide)

theorem leNat_natLE (n v : Nat) : leNat (natLE n v) = v % 256 ^ n := by
  rw [leNat_eq_leVal, natLE_eq_leDigits, leVal_leDigits]

theorem natLE_leNat (bs : List Nat) (h : ∀ b ∈ bs, b < 256) : natLE bs.length (leNat bs) = bs := by
  rw [natLE_eq_leDigits, leNat_eq_leVal, leDigits_leVal bs h]

theorem leNat_lt (bs : List Nat) (h : ∀ b ∈ bs, b < 256) : leNat bs < 256 ^ bs.length := by
  -- the number is spelled by its own `bs.length` lowest digits, so it is its remainder
  have := leNat_natLE bs.length (leNat bs)
  rw [natLE_leNat bs h] at this
  rw [this]
  exact Nat.mod_lt _ (Nat.pow_pos (by decide))

theorem hexVal_hexDigit : ∀ d, d < 16 → hexVal (hexDigit d).toNat = some d := by decide +kernel

theorem unhexPairs_hex (bs : List Nat) (h : ∀ b ∈ bs, b < 256) :
    unhexPairs (bs.flatMap (fun b => [(hexDigit (b / 16)).toNat, (hexDigit (b % 16)).toNat])) = some bs := by
  induction bs with
  | nil => rfl
  | cons b bs ih =>
    have hb := h b (by simp)
    have := ih (fun x hx => h x (by simp [hx]))
    simp only [List.flatMap_cons, List.cons_append, List.nil_append, unhexPairs, this,
      hexVal_hexDigit (b / 16) (by omega), hexVal_hexDigit (b % 16) (by omega)]
    congr 2; omega

theorem unhexStr_hexStr (bs : List Nat) (h : ∀ b ∈ bs, b < 256) : unhexStr (hexStr bs) = some bs := by
  simp only [hexStr, List.cons_append, List.nil_append, unhexStr]
  exact unhexPairs_hex bs h

theorem hexStr_ne (bs : List Nat) : hexStr bs ≠ sInfinity ∧ hexStr bs ≠ sNegInfinity ∧ hexStr bs ≠ sNaN := by
  refine ⟨?_, ?_, ?_⟩ <;> intro h <;>
    · have := congrArg List.head? h
      revert this
      simp only [hexStr, List.cons_append, List.head?_cons]
      decide +kernel

theorem floatNames_ne : (sNegInfinity == sInfinity) = false ∧ (sNaN == sInfinity) = false ∧ (sNaN == sNegInfinity) = false := by
  decide +kernel

theorem metaToFloat_hex (nc : NumCodec) (how : Narrow) (f : Fmt) (hf : f.std)
    (b : Nat) (hb : b < 2 ^ f.bits) :
    metaToFloat nc how f (.str (hexStr (natLE (f.bits / 8) b).reverse)) = some b := by
  obtain ⟨h1, h2, h3⟩ := hexStr_ne (natLE (f.bits / 8) b).reverse
  have hun := unhexStr_hexStr (natLE (f.bits / 8) b).reverse
    (fun x hx => natLE_byte _ _ x (List.mem_reverse.mp hx))
  simp only [metaToFloat, beq_iff_eq, h1, h2, h3, if_false, hun, List.length_reverse, length_natLE,
    if_true, List.reverse_reverse, leNat_natLE, hf.pow_bytes, Nat.mod_eq_of_lt hb]

theorem hexDigit_lt : ∀ d, d < 16 → (hexDigit d).toNat < 128 := by decide +kernel

theorem strOk_hexStr (bs : List Nat) (h : ∀ b ∈ bs, b < 256) : strOk (hexStr bs) := by
  apply strOk_ascii
  intro x hx
  simp only [hexStr, List.cons_append, List.nil_append, List.mem_cons, List.mem_flatMap, List.not_mem_nil,
    or_false] at hx
  rcases hx with rfl | rfl | ⟨b, hb, rfl | rfl⟩
  · decide
  · decide
  · exact hexDigit_lt _ (by have := h b hb; omega)
  · exact hexDigit_lt _ (by omega)

theorem strOk_floatNames : strOk sInfinity ∧ strOk sNegInfinity ∧ strOk sNaN := by
  refine ⟨strOk_ascii _ ?_, strOk_ascii _ ?_, strOk_ascii _ ?_⟩ <;> decide +kernel

theorem metaToFloat_floatToMeta_nonfinite (nc : NumCodec) (how : Narrow) (f : Fmt) (hf : f.std) (b : Nat)
    (hb : b < 2 ^ f.bits) (hnf : f.isFinite b = false) :
    metaToFloat nc how f (floatToMeta nc f b) = some b ∧ (floatToMeta nc f b).wf ∧
      ∃ s, floatToMeta nc f b = .str s := by
  have hsm := f.sign_add_mag b hb
  unfold floatToMeta
  split
  · next hi =>
    rw [show f.mag b = f.inf from beq_iff_eq.mp hi] at hsm
    split
    · next hn =>
      rw [if_pos hn] at hsm
      refine ⟨?_, (str_wf_iff _).2 strOk_floatNames.2.1, _, rfl⟩
      simp only [metaToFloat, floatNames_ne.1, Bool.false_eq_true, if_false, BEq.rfl, if_true, hsm]
    · next hn =>
      rw [if_neg hn, Nat.zero_add] at hsm
      refine ⟨?_, (str_wf_iff _).2 strOk_floatNames.1, _, rfl⟩
      simp only [metaToFloat, BEq.rfl, if_true, hsm]
  · split
    · next hq =>
      refine ⟨?_, (str_wf_iff _).2 strOk_floatNames.2.2, _, rfl⟩
      simp only [metaToFloat, floatNames_ne.2.1, floatNames_ne.2.2, Bool.false_eq_true, if_false, BEq.rfl, if_true,
        beq_iff_eq.mp hq]
    · split
      · exact ⟨metaToFloat_hex nc how f hf b hb,
          (str_wf_iff _).2 (strOk_hexStr _ (fun x hx => natLE_byte _ _ x (List.mem_reverse.mp hx))), _, rfl⟩
      · next h1 _ h3 =>
        -- neither infinite, nor NaN, nor finite
        simp only [Fmt.isFinite, Fmt.isInf, Fmt.isNan, decide_eq_false_iff_not, beq_iff_eq, decide_eq_true_eq] at hnf h1 h3
        omega

theorem floatToMeta_finite (nc : NumCodec) (f : Fmt) (hf : f.std) (b : Nat) (hfin : f.isFinite b = true) : floatToMeta nc f b = .num (nc.fmt (convertBits f f64 b)) := by
  obtain ⟨-, hq, hiq⟩ := hf.facts
  have hm : b % f.signBit < f.inf := of_decide_eq_true hfin
  have h1 : f.isInf b = false := by simp [Fmt.isInf, Fmt.mag]; omega
  have h2 : (b == f.qnan) = false := by
    simp only [beq_eq_false_iff_ne]; intro h; subst h
    rw [Nat.mod_eq_of_lt hq] at hm; omega
  have h3 : f.isNan b = false := by simp [Fmt.isNan, Fmt.mag]; omega
  simp [floatToMeta, h1, h2, h3]

/-- `hrt`, `htk`: the two facts used of the number codec, on finite binary64 patterns (the fields of `C14.NumCodec.Good`) -/
theorem metaToFloat_floatToMeta (nc : NumCodec) (how : Narrow) (f : Fmt) (hf : f.std)
    (hrt : ∀ b, b < 2 ^ 64 → f64.isFinite b = true → nc.rd (nc.fmt b) = some b)
    (htk : ∀ b, b < 2 ^ 64 → f64.isFinite b = true → tokOk (nc.fmt b))
    (b : Nat) (hb : b < 2 ^ f.bits) :
    metaToFloat nc how f (floatToMeta nc f b) = some b ∧ (floatToMeta nc f b).wf := by
  cases hfin : f.isFinite b
  · exact ⟨(metaToFloat_floatToMeta_nonfinite nc how f hf b hb hfin).1,
      (metaToFloat_floatToMeta_nonfinite nc how f hf b hb hfin).2.1⟩
  · obtain ⟨h64, hfin64⟩ := convertBits_f64_finite f hf b hb hfin
    have hnarrow := narrow_convertBits how f hf b hb hfin
    have hrd := hrt _ h64 hfin64
    rw [floatToMeta_finite nc f hf _ hfin]
    refine ⟨?_, (num_wf_iff _).2 (htk _ h64 hfin64)⟩
    simp only [metaToFloat, hrd, Option.bind_some, hnarrow, hfin, if_true]

theorem wfList_natToks (bs : List Nat) : wfList (bs.map (fun b => J.num (natTok b))) :=
  (wfList_iff _).2 (List.forall_mem_map.2 fun b _ => (num_wf_iff _).2 (tokOk_natTok b))

theorem pow256 (n : Nat) : 256 ^ n = 2 ^ (8 * n) := by
  rw [Nat.pow_mul]

theorem twos_complement (v p : Nat) (hv : v < 2 * p) (i : Int) (hi : i = if v ≥ p then (v : Int) - 2 * p else v) :
    -(p : Int) ≤ i ∧ i < p ∧ (i % (2 * p)).toNat = v := by
  subst hi
  split
  · refine ⟨by omega, by omega, ?_⟩
    rw [Int.sub_emod_right, Int.emod_eq_of_lt (by omega) (by omega), Int.toNat_natCast]
  · refine ⟨by omega, by omega, ?_⟩
    rw [Int.emod_eq_of_lt (by omega) (by omega), Int.toNat_natCast]

theorem leInt_spec (bs : List Nat) (hbytes : ∀ b ∈ bs, b < 256) (h0 : 0 < bs.length) :
    -(2 ^ (8 * bs.length - 1) : Int) ≤ leInt bs ∧ leInt bs < 2 ^ (8 * bs.length - 1) ∧
      (leInt bs % 2 ^ (8 * bs.length)).toNat = leNat bs := by
  have hv := leNat_lt bs hbytes
  obtain ⟨N, hN⟩ : ∃ N, 8 * bs.length = N + 1 := ⟨8 * bs.length - 1, by omega⟩
  rw [pow256, hN, Nat.pow_succ, Nat.mul_comm] at hv
  have h := twos_complement _ _ hv (leInt bs) (by simp only [leInt, hN, Nat.add_sub_cancel, Int.pow_succ]; simp [Int.mul_comm])
  rw [hN, Nat.add_sub_cancel, Int.pow_succ, Int.mul_comm]
  simpa using h

theorem int_inverse (nc : NumCodec) (how : Narrow) (n : Nat) (h0 : 0 < n) (h8 : n ≤ 8)
    (bs : List Nat) (hlen : bs.length = n) (hbytes : ∀ b ∈ bs, b < 256) :
    (J.num (intTok (leInt bs))).wf ∧ fromMeta nc how (.int n) (.num (intTok (leInt bs))) = some bs := by
  refine ⟨tokOk_intTok _, ?_⟩
  subst hlen
  obtain ⟨h1, h2, h3⟩ := leInt_spec bs hbytes h0
  have h63 := int_two_pow_le (show 8 * bs.length - 1 ≤ 63 by omega)
  simp only [fromMeta, asI64_intTok]
  rw [if_pos ⟨by omega, by omega⟩, Option.bind_some, if_pos ⟨h1, h2⟩, h3, natLE_leNat bs hbytes]

theorem uint_inverse (nc : NumCodec) (how : Narrow) (n : Nat) (h8 : n ≤ 8)
    (bs : List Nat) (hlen : bs.length = n) (hbytes : ∀ b ∈ bs, b < 256) :
    (J.num (natTok (leNat bs))).wf ∧ fromMeta nc how (.uint n) (.num (natTok (leNat bs))) = some bs := by
  refine ⟨tokOk_natTok _, ?_⟩
  have hv := leNat_lt bs hbytes
  have hinv := natLE_leNat bs hbytes
  rw [hlen] at hv hinv
  rw [pow256] at hv
  have h64 : leNat bs < 2 ^ 64 := by
    refine Nat.lt_of_lt_of_le hv (Nat.pow_le_pow_right (by decide) ?_)
    omega
  simp only [fromMeta, asU64_natTok, h64, if_true, Option.bind_some, hv, hinv]

theorem metaToBytes_natToks (bs : List Nat) (hbytes : ∀ b ∈ bs, b < 256) :
    metaToBytes (.arr (bs.map (fun b => J.num (natTok b)))) = some bs := by
  simp only [metaToBytes]
  rw [mapM_eq_some_iff, List.map_map]
  apply List.map_congr_left
  intro b hb
  have h1 := hbytes b hb
  have h64 : b < 2 ^ 64 := by omega
  simp only [Function.comp, asU64_natTok, h64, if_true, Option.bind_some, h1]

theorem float_inverse (nc : NumCodec) (how : Narrow) (f : Fmt) (hf : f.std)
    (hrt : ∀ b, b < 2 ^ 64 → f64.isFinite b = true → nc.rd (nc.fmt b) = some b)
    (htk : ∀ b, b < 2 ^ 64 → f64.isFinite b = true → tokOk (nc.fmt b))
    (bs : List Nat) (hlen : bs.length = f.bits / 8) (hbytes : ∀ b ∈ bs, b < 256) :
    (floatToMeta nc f (leNat bs)).wf ∧ fromMeta nc how (.float f) (floatToMeta nc f (leNat bs)) = some bs := by
  have hinv := natLE_leNat bs hbytes
  have hlt := leNat_lt bs hbytes
  rw [hlen] at hinv hlt
  rw [hf.pow_bytes] at hlt
  obtain ⟨h1, h2⟩ := metaToFloat_floatToMeta nc how f hf hrt htk _ hlt
  exact ⟨h2, by simp only [fromMeta, h1, Option.map_some, hinv]⟩

theorem complex_inverse (nc : NumCodec) (how : Narrow) (f : Fmt) (hf : f.std)
    (hrt : ∀ b, b < 2 ^ 64 → f64.isFinite b = true → nc.rd (nc.fmt b) = some b)
    (htk : ∀ b, b < 2 ^ 64 → f64.isFinite b = true → tokOk (nc.fmt b))
    (bs : List Nat) (hlen : bs.length = 2 * (f.bits / 8)) (hbytes : ∀ b ∈ bs, b < 256) :
    (J.arr [floatToMeta nc f (leNat (bs.take (f.bits / 8))), floatToMeta nc f (leNat (bs.drop (f.bits / 8)))]).wf ∧
    fromMeta nc how (.complex f)
      (.arr [floatToMeta nc f (leNat (bs.take (f.bits / 8))), floatToMeta nc f (leNat (bs.drop (f.bits / 8)))])
      = some bs := by
  have ht : (bs.take (f.bits / 8)).length = f.bits / 8 := by rw [List.length_take]; omega
  have hd : (bs.drop (f.bits / 8)).length = f.bits / 8 := by rw [List.length_drop]; omega
  obtain ⟨w1, r1⟩ := float_inverse nc how f hf hrt htk _ ht (fun b hb => hbytes b (List.mem_of_mem_take hb))
  obtain ⟨w2, r2⟩ := float_inverse nc how f hf hrt htk _ hd (fun b hb => hbytes b (List.mem_of_mem_drop hb))
  simp only [fromMeta, Option.map_eq_some_iff] at r1 r2
  obtain ⟨a, ha, ea⟩ := r1
  obtain ⟨b, hb, eb⟩ := r2
  refine ⟨(arr_wf_iff _).2 (List.forall_mem_cons.2 ⟨w1, List.forall_mem_cons.2 ⟨w2, nofun⟩⟩), ?_⟩
  simp only [fromMeta, ha, hb, ea, eb, List.take_append_drop]

theorem metaToBytes_some (j : J) (bs : List Nat) (h : metaToBytes j = some bs) :
    ∃ xs, j = .arr xs ∧ (∀ x ∈ xs, ∃ t, x = .num t) ∧ (∀ b ∈ bs, b < 256) := by
  cases j with
  | arr xs =>
    simp only [metaToBytes] at h
    have hm := (mapM_eq_some_iff _ xs bs).1 h
    refine ⟨xs, rfl, ?_, ?_⟩
    · intro x hx
      obtain ⟨b, -, hb⟩ := List.mem_map.1 (hm ▸ List.mem_map_of_mem hx)
      cases x <;> simp at hb
      exact ⟨_, rfl⟩
    · intro b hb
      obtain ⟨x, -, hx⟩ := List.mem_map.1 (hm ▸ List.mem_map_of_mem (f := some) hb)
      cases x with
      | num t =>
        simp only [Option.bind_eq_some_iff, Option.ite_none_right_eq_some, Option.some.injEq] at hx
        obtain ⟨v, -, hv, rfl⟩ := hx
        exact hv
      | _ => simp at hx
  | _ => simp [metaToBytes] at h

theorem unhexPairs_some (ds bs : List Nat) (h : unhexPairs ds = some bs) :
    ds.length = 2 * bs.length ∧ ∀ d ∈ ds, (hexVal d).isSome = true := by
  fun_induction unhexPairs ds generalizing bs with
  | case1 => simp at h; subst h; simp
  | case2 a b rest x y r hr hy hx ih =>
    simp only [Option.some.injEq] at h
    subst h
    obtain ⟨i1, i2⟩ := ih r hr
    refine ⟨by simp [i1]; omega, ?_⟩
    intro d hd
    simp only [List.mem_cons] at hd
    rcases hd with rfl | rfl | hd
    · simp [hx]
    · simp [hy]
    · exact i2 d hd
  | case3 => simp at h
  | case4 => simp at h

theorem toMeta_bool (nc : NumCodec) (bs : List Nat) (j : J) (hj : toMeta nc .bool bs = some j) :
    (bs = [0] ∧ j = .bool false) ∨ (bs = [1] ∧ j = .bool true) := by
  unfold toMeta at hj
  split at hj <;> simp_all

theorem toMeta_eq_some_iff (nc : NumCodec) (dt : DT) (bs : List Nat) (j : J) :
    toMeta nc dt bs = some j ↔
      match dt with
      | .bool => (bs = [0] ∧ j = .bool false) ∨ (bs = [1] ∧ j = .bool true)
      | .int n => bs.length = n ∧ .num (intTok (leInt bs)) = j
      | .uint n => bs.length = n ∧ .num (natTok (leNat bs)) = j
      | .float f => bs.length = f.bits / 8 ∧ floatToMeta nc f (leNat bs) = j
      | .complex f => bs.length = 2 * (f.bits / 8) ∧
          .arr [floatToMeta nc f (leNat (bs.take (f.bits / 8))), floatToMeta nc f (leNat (bs.drop (f.bits / 8)))] = j
      | .raw n => bs.length = n ∧ .arr (bs.map (fun b => .num (natTok b))) = j
      | .bytes => .arr (bs.map (fun b => .num (natTok b))) = j
      | .string => validUtf8 bs = true ∧ .str bs = j := by
  cases dt with
  | bool => exact ⟨toMeta_bool nc bs j, by rintro (⟨rfl, rfl⟩ | ⟨rfl, rfl⟩) <;> rfl⟩
  | bytes => simp only [toMeta, Option.some.injEq]
  | _ => simp only [toMeta, Option.ite_none_right_eq_some, beq_iff_eq, Option.some.injEq]

theorem metaToFloat_kind (nc : NumCodec) (how : Narrow) (f : Fmt) (j : J) (a : Nat)
    (h : metaToFloat nc how f j = some a) : (∃ t, j = .num t) ∨ (∃ s, j = .str s) := by
  cases j <;> simp [metaToFloat] at h ⊢

theorem fromMeta_complex_some (nc : NumCodec) (how : Narrow) (f : Fmt) (j : J) (bs : List Nat)
    (h : fromMeta nc how (.complex f) j = some bs) :
    ∃ re im a b, j = .arr [re, im] ∧ metaToFloat nc how f re = some a ∧ metaToFloat nc how f im = some b ∧
      bs = natLE (f.bits / 8) a ++ natLE (f.bits / 8) b := by
  cases j with
  | arr xs =>
    match xs, h with
    | [re, im], h =>
      simp only [fromMeta] at h
      split at h
      · next a b h1 h2 => exact ⟨re, im, a, b, rfl, h1, h2, (Option.some.inj h).symm⟩
      · simp at h
    | [], h => simp [fromMeta] at h
    | [_], h => simp [fromMeta] at h
    | _ :: _ :: _ :: _, h => simp [fromMeta] at h
  | _ => simp [fromMeta] at h

end Zarrs.FillMeta
