import ZarrsModel.Lemmas.Interleave
import ZarrsModel.Lemmas.Array
set_option linter.unusedSectionVars false
/- helper lemmas for C16 (array level): array operations write only the keys of the chunks they name (`*_frame`) and read
only those (`*_congr`) -/
namespace Zarrs
open Subset

namespace ArrCfg
variable {α : Type} [DecidableEq α]
variable {cfg : ArrCfg α}

theorem storeChunk_frame (st st' : KV) (c : Idx) (d : List α) (h : cfg.storeChunk st c d = some st')
    (k : Key) (hk : k ≠ cfg.keyOf c) : st'.get k = st.get k :=
  kvStep_frame (W := fun c _ => cfg.storeChunkW c d) ((storeChunk_eq st c d).symm.trans h) hk

theorem storeChunkSubset_frame (st st' : KV) (c : Idx) (r : Subset) (d : List α)
    (h : cfg.storeChunkSubset st c r d = some st') (k : Key) (hk : k ≠ cfg.keyOf c) :
    st'.get k = st.get k :=
  kvStep_frame (W := fun c => cfg.storeChunkSubsetW c r d) ((storeChunkSubset_eq st c r d).symm.trans h) hk

theorem retrieveChunkSubset_congr {st1 st2 : KV} (c : Idx) (r : Subset)
    (h : st1.get (cfg.keyOf c) = st2.get (cfg.keyOf c)) :
    cfg.retrieveChunkSubset st1 c r = cfg.retrieveChunkSubset st2 c r := by
  simp only [retrieveChunkSubset, retrieveChunk_congr st2 st1 c h]

theorem storeArraySubset_frame (st st' : KV) (region : Subset) (d : List α) (hw : region.wf = true)
    (h : cfg.storeArraySubset st region d = some st') (k : Key)
    (hk : ∀ chunks, cfg.grid.chunksInArraySubset region cfg.shape = some chunks →
      k ∉ chunks.indices.map cfg.keyOf) : st'.get k = st.get k := by
  unfold storeArraySubset at h
  rw [Option.ite_none_left_eq_some] at h
  obtain ⟨hrank, h⟩ := h
  simp only [bne_iff_ne, ne_eq, Decidable.not_not] at hrank
  split at h
  · cases h
  rename_i chunks hc
  replace hk := hk chunks hc
  have hcw := Grid.chunksInArraySubset_wf hw hrank hc
  split at h
  · rename_i h1
    rw [beq_iff_eq] at h1
    have hks : k ≠ cfg.keyOf chunks.start := fun e =>
      hk (e ▸ List.mem_map_of_mem (Subset.start_mem_indices chunks hcw h1))
    split at h
    · cases h
    · split at h
      · exact storeChunk_frame st st' _ d h k hks
      · exact storeChunkSubset_frame st st' _ _ d h k hks
  · rw [Option.ite_none_left_eq_some] at h
    refine foldOpt_invariant _ (fun s => s.get k = st.get k) chunks.indices ?_ st st' rfl h.2
    intro s s' c hcm hs hf
    split at hf
    · cases hf
    · exact (storeChunkSubset_frame s s' c _ _ hf k fun e => hk (e ▸ List.mem_map_of_mem hcm)).trans hs

theorem retrieveArraySubset_congr {st1 st2 : KV} (region : Subset) (hw : region.wf = true)
    (h : ∀ chunks, cfg.grid.chunksInArraySubset region cfg.shape = some chunks →
      ∀ k ∈ chunks.indices.map cfg.keyOf, st1.get k = st2.get k) :
    cfg.retrieveArraySubset st1 region = cfg.retrieveArraySubset st2 region := by
  unfold retrieveArraySubset
  -- `split` on this test is slow to check
  by_cases hrank : (region.rank != cfg.shape.length) = true
  · rw [if_pos hrank, if_pos hrank]
  · rw [if_neg hrank, if_neg hrank]
    simp only [bne_iff_ne, ne_eq, Decidable.not_not] at hrank
    cases hc : cfg.grid.chunksInArraySubset region cfg.shape with
    | none => rfl
    | some chunks =>
      simp only
      have hcw := Grid.chunksInArraySubset_wf hw hrank hc
      have hag := h chunks hc
      split
      · rfl
      · rename_i h1
        have hs := hag _ (List.mem_map_of_mem (Subset.start_mem_indices chunks hcw h1))
        simp only [retrieveChunk_congr st2 st1 _ hs, fun r => retrieveChunkSubset_congr _ r hs]
      · apply foldOpt_congr
        intro out c hcm
        simp only [fun r => retrieveChunkSubset_congr c r (hag _ (List.mem_map_of_mem hcm))]

theorem disjoint_boxes_disjoint_keys (hK : cfg.KeysInjective) (c1 c2 : Subset)
    (hd : ∀ i, ¬ (c1.contains i = true ∧ c2.contains i = true)) (hw1 : c1.wf = true) (hw2 : c2.wf = true) :
    disjointKeys (c1.indices.map cfg.keyOf) (c2.indices.map cfg.keyOf) = true := by
  rw [disjointKeys_iff]
  intro k hk1 hk2
  obtain ⟨i, hi, rfl⟩ := List.mem_map.1 hk1
  obtain ⟨j, hj, hij⟩ := List.mem_map.1 hk2
  have := hK _ _ hij
  subst this
  exact hd j ⟨(Subset.mem_indices c1 hw1 j).1 hi, (Subset.mem_indices c2 hw2 j).1 hj⟩

end ArrCfg
end Zarrs
