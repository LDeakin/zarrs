import ZarrsModel.Lemmas.FsStoreList
import ZarrsModel.Lemmas.FsStoreRefine
/- operations over several keys, one step of the filesystem store against one step of the ordered map, and the
invariant under every operation (also a failing one) -/
namespace Zarrs.Fs
open Zarrs

theorem eraseValues_abs (s : FsState) (hi : FsInv s) (ks : List Key) (hok : ∀ k ∈ ks, keyOk s k = true) :
    ∃ s', eraseValues s ks = (s', .res .unit) ∧ WriteOk [] s s' (ks.foldl KV.erase (absFs s)) := by
  induction ks generalizing s with
  | nil => exact ⟨s, rfl, hi, rfl, Keeps.refl _ _⟩
  | cons k rest ih =>
    obtain ⟨path, hk, hfree⟩ := keyOk_spec (hok k (List.mem_cons_self ..))
    obtain ⟨s1, h1, w1⟩ := erase_abs s hi k path hk hfree
    obtain ⟨s', e1, w⟩ := ih s1 w1.inv fun k' hk' =>
      w1.keeps k' (hok k' (List.mem_cons_of_mem _ hk')) (fun _ h => nomatch h)
    refine ⟨s', ?_, w.inv, ?_, w1.keeps.trans w.keeps⟩
    · simp only [eraseValues, hk, h1]
      exact e1
    · rw [w.abs, w1.abs]; rfl

theorem groupConsecutive_keys (kovs : List (Key × Nat × Bytes)) :
    ∀ g ∈ groupConsecutive kovs, g.1 ∈ kovs.map (·.1) := by
  induction kovs with
  | nil => simp [groupConsecutive]
  | cons x rest ih =>
    obtain ⟨k, o, v⟩ := x
    intro g hg
    rw [groupConsecutive] at hg
    rw [List.map_cons, List.mem_cons]
    split at hg
    · next k' g' gs hgr =>
      rw [hgr] at ih
      split at hg
      · rcases List.mem_cons.1 hg with rfl | hg
        · exact .inl rfl
        · exact .inr (ih g (List.mem_cons_of_mem _ hg))
      · rcases List.mem_cons.1 hg with rfl | hg
        · exact .inl rfl
        · exact .inr (ih g hg)
    · exact .inl (by simpa using congrArg Prod.fst (List.mem_singleton.1 hg))
theorem setPartialGroups_abs (s : FsState) (hi : FsInv s) (gs : List (Key × List (Nat × Bytes)))
    (hok : ∀ g ∈ gs, keyOk s g.1 = true)
    (hcompat : ∀ a ∈ gs, ∀ b ∈ gs, dirPrefixOf a.1 b.1 = false) :
    ∃ s', setPartialGroups s gs = (s', .res .unit) ∧ WriteOk (gs.map (·.1)) s s' (gs.foldl specGroup (absFs s)) := by
  induction gs generalizing s with
  | nil => exact ⟨s, rfl, hi, rfl, Keeps.refl _ _⟩
  | cons x rest ih =>
    obtain ⟨k, g⟩ := x
    have hx : (k, g) ∈ (k, g) :: rest := List.mem_cons_self ..
    obtain ⟨path, hk, hfree⟩ := keyOk_spec (hok (k, g) hx)
    have hget := getKey_abs s hi k path hk hfree
    obtain ⟨s1, h1, w1⟩ := set_abs s hi k (rmwGroup (((absFs s).get k).getD []) g) path hk hfree
    obtain ⟨s', e1, w⟩ := ih s1 w1.inv
      (fun g' hg' => w1.keeps g'.1 (hok g' (List.mem_cons_of_mem _ hg')) fun k0 hk0 => by
        cases List.mem_singleton.1 hk0
        exact ⟨hcompat _ hx g' (List.mem_cons_of_mem _ hg'), hcompat g' (List.mem_cons_of_mem _ hg') _ hx⟩)
      (fun a ha b hb => hcompat a (List.mem_cons_of_mem _ ha) b (List.mem_cons_of_mem _ hb))
    refine ⟨s', ?_, w.inv, ?_,
      (w1.keeps.mono (by simp)).trans (w.keeps.mono fun k' hk' => List.mem_cons_of_mem _ hk')⟩
    · simp only [setPartialGroups, hk, hget, h1]
      exact e1
    · rw [w.abs, w1.abs, rmwGroup_eq]; rfl

structure StepOk (s : FsState) (op : StoreOp) : Prop where
  abs : absFs (fsStep s op).1 = (Spec.step (absFs s) op).1
  accepted : acceptable (absFs s) op (Spec.step (absFs s) op).2 (fsStep s op).2 = true
  keeps : Keeps (opKeys op) s (fsStep s op).1

theorem StepOk.of_write {s s' : FsState} {op : StoreOp} (e : fsStep s op = (s', .res .unit))
    (hres : (Spec.step (absFs s) op).2 = .unit) (w : WriteOk (opKeys op) s s' (Spec.step (absFs s) op).1) :
    StepOk s op := by
  refine ⟨?_, ?_, ?_⟩ <;> rw [e]
  · exact w.abs
  · rw [hres]; cases op <;> rfl
  · exact w.keeps

theorem StepOk.of_read {s : FsState} {op : StoreOp} (h1 : (fsStep s op).1 = s)
    (h2 : (Spec.step (absFs s) op).1 = absFs s)
    (h3 : acceptable (absFs s) op (Spec.step (absFs s) op).2 (fsStep s op).2 = true) : StepOk s op :=
  ⟨by rw [h1, h2], h3, by rw [h1]; exact Keeps.refl _ _⟩

theorem beq_self_storeRes (r : StoreRes) : (r == r) = true := by simp

theorem step_set (s : FsState) (hi : FsInv s) (k : Key) (v : Bytes) (hok : keyOk s k = true) :
    StepOk s (.set k v) := by
  obtain ⟨path, hk, hfree⟩ := keyOk_spec hok
  obtain ⟨s', h1, w⟩ := set_abs s hi k v path hk hfree
  exact .of_write (by simp only [fsStep, hk, h1]) rfl w

theorem step_erase (s : FsState) (hi : FsInv s) (k : Key) (hok : keyOk s k = true) : StepOk s (.erase k) := by
  obtain ⟨path, hk, hfree⟩ := keyOk_spec hok
  obtain ⟨s', h1, w⟩ := erase_abs s hi k path hk hfree
  exact .of_write (by simp only [fsStep, hk, h1]) rfl (w.mono fun _ h => nomatch h)

theorem step_erasePrefix (s : FsState) (hi : FsInv s) (p : Key) (hok : opOk s (.erasePrefix p) = true) :
    StepOk s (.erasePrefix p) := by
  obtain ⟨path, hp⟩ := Option.isSome_iff_exists.1 hok
  obtain ⟨s', h1, w⟩ := erasePrefix_abs s hi p path hp
  exact .of_write (by simp only [fsStep, hp, h1]) rfl w

theorem step_eraseValues (s : FsState) (hi : FsInv s) (ks : List Key) (hok : opOk s (.eraseValues ks) = true) :
    StepOk s (.eraseValues ks) := by
  simp only [opOk, List.all_eq_true] at hok
  obtain ⟨s', h1, w⟩ := eraseValues_abs s hi ks hok
  have hg : ks.all (fun k => (keyPath k).isSome) = true := by
    rw [List.all_eq_true]
    intro k hk
    obtain ⟨path, hkp, _⟩ := keyOk_spec (hok k hk)
    rw [hkp]; rfl
  exact .of_write (by simp only [fsStep, hg, if_true, h1]) rfl (w.mono (by simp))

theorem step_setPartial (s : FsState) (hi : FsInv s) (kovs : List (Key × Nat × Bytes))
    (hok : opOk s (.setPartial kovs) = true) : StepOk s (.setPartial kovs) := by
  simp only [opOk, Bool.and_eq_true, List.all_eq_true] at hok
  obtain ⟨hk, hc⟩ := hok
  have hkeys := groupConsecutive_keys kovs
  have hok' : ∀ g ∈ groupConsecutive kovs, keyOk s g.1 = true := by
    intro g hg
    obtain ⟨x, hx, hxe⟩ := List.mem_map.1 (hkeys g hg)
    rw [← hxe]; exact hk x hx
  have hcompat : ∀ a ∈ groupConsecutive kovs, ∀ b ∈ groupConsecutive kovs, dirPrefixOf a.1 b.1 = false :=
    fun a ha b hb => (compatKeys_iff _).1 hc a.1 (hkeys a ha) b.1 (hkeys b hb)
  obtain ⟨s', h1, w⟩ := setPartialGroups_abs s hi _ hok' hcompat
  have hg : kovs.all (fun x => (keyPath x.1).isSome) = true := by
    rw [List.all_eq_true]
    intro x hx
    obtain ⟨path, hkp, _⟩ := keyOk_spec (hk x hx)
    rw [hkp]; rfl
  refine .of_write (by simp only [fsStep, hg, if_true, h1]) rfl ⟨w.inv, ?_, w.keeps.mono fun k hk' => ?_⟩
  · rw [w.abs, ← foldl_specKov_eq_groups, Spec.step_setPartial]
  · obtain ⟨g, hg', rfl⟩ := List.mem_map.1 hk'
    exact hkeys g hg'

theorem fsStep_get (s : FsState) (hi : FsInv s) (k : Key) (hok : keyOk s k = true) :
    fsStep s (.get k) = (s, .res (.bytes ((absFs s).get k))) := by
  obtain ⟨path, hk, hfree⟩ := keyOk_spec hok
  simp only [fsStep, hk, getKey_abs s hi k path hk hfree]

theorem step_get (s : FsState) (hi : FsInv s) (k : Key) (hok : keyOk s k = true) : StepOk s (.get k) := by
  have e := fsStep_get s hi k hok
  exact .of_read (by rw [e]) rfl (by rw [e]; simp [acceptable, Spec.step])

theorem step_sizeKey (s : FsState) (hi : FsInv s) (k : Key) (hok : keyOk s k = true) : StepOk s (.sizeKey k) := by
  obtain ⟨path, hk, hfree⟩ := keyOk_spec hok
  have e : fsStep s (.sizeKey k) = (s, .res (.size (((absFs s).get k).map List.length))) := by
    rcases stat_abs s hi k path hk hfree with ⟨h1, h2⟩ | ⟨b, h1, h2⟩
    · simp only [fsStep, hk, h1, h2]; rfl
    · simp only [fsStep, hk, h1, h2]; rfl
  exact .of_read (by rw [e]) rfl (by rw [e]; simp [acceptable, Spec.step])

/-- the ranged read (as repaired, F-C08-10) answers exactly what the ordered map answers: the truncated alternative
that `acceptable` allows is not taken by this store -/
theorem getPartial_exact (s : FsState) (hi : FsInv s) (k : Key) (rs : List ByteRange) (hok : keyOk s k = true) :
    (fsStep s (.getPartial k rs)).2 = .res (Spec.step (absFs s) (.getPartial k rs)).2 := by
  obtain ⟨path, hk, hfree⟩ := keyOk_spec hok
  have e2 : (fsStep s (.getPartial k rs)).2 = getPartial s path rs := by simp only [fsStep, hk]
  rw [e2]
  rcases stat_abs s hi k path hk hfree with ⟨h1, h2⟩ | ⟨b, h1, h2⟩
  · simp [Spec.step, getPartial, h1, h2]
  · simp only [Spec.step, getPartial, h1, h2]
    unfold extractByteRanges
    by_cases hv : (rs.all (·.valid b.length)) = true
    · rw [if_pos hv, if_pos hv, readRanges_valid b rs (List.all_eq_true.1 hv)]
    · rw [if_neg hv, if_neg hv]

theorem step_getPartial (s : FsState) (hi : FsInv s) (k : Key) (rs : List ByteRange) (hok : keyOk s k = true) :
    StepOk s (.getPartial k rs) := by
  obtain ⟨path, hk, _⟩ := keyOk_spec hok
  refine .of_read (by simp only [fsStep, hk]) rfl ?_
  rw [getPartial_exact s hi k rs hok]
  generalize (Spec.step (absFs s) (.getPartial k rs)).2 = sp
  cases sp <;> simp [acceptable]

theorem step_list (s : FsState) : StepOk s .list := by
  refine .of_read rfl rfl ?_
  simp only [fsStep, Spec.step, acceptable, list_keys_abs]
  simp

theorem step_listPrefix (s : FsState) (hi : FsInv s) (p : Key) (hok : opOk s (.listPrefix p) = true) :
    StepOk s (.listPrefix p) := by
  obtain ⟨path, hp⟩ := Option.isSome_iff_exists.1 hok
  refine .of_read (by simp only [fsStep, hp]) rfl ?_
  simp only [fsStep, hp, Spec.step, acceptable]
  rw [listPrefix_keys_abs s hi p path hp]
  simp

theorem step_sizePrefix (s : FsState) (hi : FsInv s) (p : Key) (hok : opOk s (.sizePrefix p) = true) :
    StepOk s (.sizePrefix p) := by
  obtain ⟨path, hp⟩ := Option.isSome_iff_exists.1 hok
  refine .of_read (by simp only [fsStep, hp]) rfl ?_
  simp only [fsStep, hp, Spec.step, acceptable]
  rw [sizePrefix_abs s hi p path hp]
  simp

theorem step_listDir (s : FsState) (hi : FsInv s) (p : Key) (hok : opOk s (.listDir p) = true) :
    StepOk s (.listDir p) := by
  obtain ⟨path, hp⟩ := Option.isSome_iff_exists.1 hok
  refine .of_read (by simp only [fsStep, hp]) rfl ?_
  simp only [fsStep, hp, Spec.step, acceptable, listDir_abs s hi p path hp]
  simp

theorem fsStep_refines (s : FsState) (hi : FsInv s) (op : StoreOp) (hok : opOk s op = true) : StepOk s op := by
  cases op with
  | set k v => exact step_set s hi k v hok
  | setPartial kovs => exact step_setPartial s hi kovs hok
  | erase k => exact step_erase s hi k hok
  | eraseValues ks => exact step_eraseValues s hi ks hok
  | erasePrefix p => exact step_erasePrefix s hi p hok
  | get k => exact step_get s hi k hok
  | getPartial k rs => exact step_getPartial s hi k rs hok
  | sizeKey k => exact step_sizeKey s hi k hok
  | sizePrefix p => exact step_sizePrefix s hi p hok
  | list => exact step_list s
  | listPrefix p => exact step_listPrefix s hi p hok
  | listDir p => exact step_listDir s hi p hok

theorem eraseValues_inv (s : FsState) (hi : FsInv s) (ks : List Key) : FsInv (eraseValues s ks).1 := by
  induction ks generalizing s with
  | nil => exact hi
  | cons k rest ih =>
    unfold eraseValues
    cases hk : keyPath k with
    | none => exact hi
    | some path =>
      simp only
      cases he : s.eraseKey path with
      | error e => exact hi
      | ok s' => exact ih s' (eraseKey_inv s hi path s' he)

theorem setPartialGroups_inv (s : FsState) (hi : FsInv s) (gs : List (Key × List (Nat × Bytes))) :
    FsInv (setPartialGroups s gs).1 := by
  induction gs generalizing s with
  | nil => exact hi
  | cons x rest ih =>
    obtain ⟨k, g⟩ := x
    unfold setPartialGroups
    cases hk : keyPath k with
    | none => exact hi
    | some path =>
      simp only
      cases hg : getKey s path with
      | error e => exact hi
      | ok old =>
        simp only
        cases hs : s.setImpl path (rmwGroup (old.getD []) g) 0 true with
        | error e => exact hi
        | ok s' => exact ih s' (setImpl_inv s hi path (keyPath_plain hk) _ _ _ s' hs)

theorem fsStep_inv (s : FsState) (hi : FsInv s) (op : StoreOp) : FsInv (fsStep s op).1 := by
  cases op with
  | set k v =>
    simp only [fsStep]
    cases hk : keyPath k with
    | none => exact hi
    | some path =>
      simp only
      cases hs : s.setImpl path v 0 true with
      | error e => exact hi
      | ok s' => exact setImpl_inv s hi path (keyPath_plain hk) _ _ _ s' hs
  | setPartial kovs =>
    simp only [fsStep]
    split
    · exact setPartialGroups_inv s hi _
    · exact hi
  | erase k =>
    simp only [fsStep]
    cases hk : keyPath k with
    | none => exact hi
    | some path =>
      simp only
      cases hs : s.eraseKey path with
      | error e => exact hi
      | ok s' => exact eraseKey_inv s hi path s' hs
  | eraseValues ks =>
    simp only [fsStep]
    split
    · exact eraseValues_inv s hi _
    · exact hi
  | erasePrefix p =>
    simp only [fsStep]
    cases hk : prefixPath p with
    | none => exact hi
    | some path =>
      simp only
      cases hs : s.erasePrefix path with
      | error e => exact hi
      | ok s' => exact erasePrefix_inv s hi path s' hs
  | list => exact hi
  | get _ | getPartial _ _ | sizeKey _ | sizePrefix _ | listPrefix _ | listDir _ =>
    simp only [fsStep]
    repeat' split
    all_goals exact hi

theorem fsRun_inv (s : FsState) (hi : FsInv s) (ops : List StoreOp) : FsInv (fsRun s ops) :=
  List.foldlRecOn (motive := FsInv) ops _ hi (fun s hi op _ => fsStep_inv s hi op)

end Zarrs.Fs
