import ZarrsModel.Lemmas.DeflateContainers
/-
gzip files of several members (RFC 1952 §2.2): `gunzipMember` (one member and what follows it), `gunzipAll` (the whole
file) against the writer `gzipFile` of `Model/DeflateSpec.lean`.
-/
namespace Zarrs.DeflateSpec
open Zarrs Zarrs.Inflate

/-! ### every accepted member uses up input: the fuel of `gunzipAll` is never the reason for a rejection -/

theorem gzSkipExtra_length (flg : Nat) (r r' : Bytes) (h : gzSkipExtra flg r = some r') : r'.length ≤ r.length := by
  unfold gzSkipExtra at h
  split at h
  · split at h
    · simp only at h
      split at h
      · cases h
      · simp only [Option.some.injEq] at h
        subst h
        simp only [List.length_drop, List.length_cons]
        omega
    · cases h
  · simp only [Option.some.injEq] at h
    subst h
    exact Nat.le_refl _

theorem gzSkipZ_length (bit : Nat) (r r' : Bytes) (h : gzSkipZ bit r = some r') : r'.length ≤ r.length := by
  unfold gzSkipZ at h
  split at h
  · exact Nat.le_of_lt (dropZ_length r r' h)
  · simp only [Option.some.injEq] at h
    subst h
    exact Nat.le_refl _

theorem gzSkipHcrc_length (flg : Nat) (r r' : Bytes) (h : gzSkipHcrc flg r = some r') : r'.length ≤ r.length := by
  unfold gzSkipHcrc at h
  split at h
  · split at h
    · cases h
    · simp only [Option.some.injEq] at h
      subst h
      simp only [List.length_drop]
      omega
  · simp only [Option.some.injEq] at h
    subst h
    exact Nat.le_refl _

theorem inflate_length (bs data tail : Bytes) (h : inflate bs = some (data, tail)) : tail.length ≤ bs.length := by
  unfold inflate at h
  simp only at h
  split at h
  · cases h
  · simp only [Option.some.injEq, Prod.mk.injEq] at h
    rw [← h.2]
    simp only [List.length_drop]
    omega

theorem gzTrailer_length (x : Option (Bytes × Bytes)) (data rest : Bytes) (h : gzTrailer x = some (data, rest)) :
    ∃ tail, x = some (data, tail) ∧ rest.length + 8 ≤ tail.length := by
  cases x with
  | none => simp [gzTrailer] at h
  | some p =>
    obtain ⟨d, tail⟩ := p
    simp only [gzTrailer] at h
    split at h
    · cases h
    · split at h
      · cases h
      · split at h
        · cases h
        · simp only [Option.some.injEq, Prod.mk.injEq] at h
          refine ⟨tail, by rw [h.1], ?_⟩
          rw [← h.2]
          simp only [List.length_drop]
          omega

/-- an accepted member is at least 18 bytes long (10 of header, 8 of trailer) -/
theorem gunzipMember_length (bs data rest : Bytes) (h : gunzipMember bs = some (data, rest)) :
    rest.length + 18 ≤ bs.length := by
  unfold gunzipMember at h
  split at h
  · rename_i flg m0 m1 m2 m3 xfl os r0
    change gzTrailer (((((gzSkipExtra flg r0).bind (gzSkipZ (flg / 8 % 2))).bind (gzSkipZ (flg / 16 % 2))).bind (gzSkipHcrc flg)).bind inflate) =
      some (data, rest) at h
    obtain ⟨tail, hx, hl⟩ := gzTrailer_length _ _ _ h
    obtain ⟨r4, hx, e5⟩ := Option.bind_eq_some_iff.1 hx
    obtain ⟨r3, hx, e4⟩ := Option.bind_eq_some_iff.1 hx
    obtain ⟨r2, hx, e3⟩ := Option.bind_eq_some_iff.1 hx
    obtain ⟨r1, e1, e2⟩ := Option.bind_eq_some_iff.1 hx
    have l1 := gzSkipExtra_length _ _ _ e1
    have l2 := gzSkipZ_length _ _ _ e2
    have l3 := gzSkipZ_length _ _ _ e3
    have l4 := gzSkipHcrc_length _ _ _ e4
    have l5 := inflate_length _ _ _ e5
    simp only [List.length_cons]
    omega
  · cases h

theorem gunzipAllAux_fuel (f1 f2 : Nat) (bs : Bytes) (h1 : bs.length < f1) (h2 : bs.length < f2) :
    gunzipAllAux f1 bs = gunzipAllAux f2 bs := by
  induction f1 generalizing f2 bs with
  | zero => omega
  | succ f1 ih =>
    cases f2 with
    | zero => omega
    | succ f2 =>
      simp only [gunzipAllAux]
      cases hm : gunzipMember bs with
      | none => rfl
      | some p =>
        obtain ⟨data, rest⟩ := p
        have hl := gunzipMember_length bs data rest hm
        simp only
        rw [ih f2 rest (by omega) (by omega)]

theorem gunzipAllAux_succ (f : Nat) (bs data rest : Bytes) (hm : gunzipMember bs = some (data, rest)) :
    gunzipAllAux (f + 1) bs = if rest.isEmpty then some data else (gunzipAllAux f rest).map (data ++ ·) := by
  simp only [gunzipAllAux, hm]
  cases gunzipAllAux f rest <;> rfl

theorem gunzipAll_step (bs data rest : Bytes) (hm : gunzipMember bs = some (data, rest)) :
    gunzipAll bs = if rest.isEmpty then some data else (gunzipAll rest).map (data ++ ·) := by
  have hl := gunzipMember_length bs data rest hm
  unfold gunzipAll
  rw [gunzipAllAux_succ _ _ _ _ hm, gunzipAllAux_fuel bs.length (rest.length + 1) rest (by omega) (by omega)]

theorem gunzipAll_none (bs : Bytes) (hm : gunzipMember bs = none) : gunzipAll bs = none := by
  unfold gunzipAll
  simp only [gunzipAllAux, hm]

/-- a member a conformant writer can emit: header fields the format can carry, a conformant DEFLATE stream of
    its data -/
def conformantMember : GzHeader × Bytes × Bytes → Prop
  | (h, stream, data) =>
    h.ok = true ∧ ∃ bl fill, encodeStream bl fill = some stream ∧ renderBlocks bl [] = some data

def fileData (ms : List (GzHeader × Bytes × Bytes)) : Bytes := (ms.map (fun m => m.2.2)).flatten

theorem gunzipMember_conformant (h : GzHeader) (stream data : Bytes) (hm : conformantMember (h, stream, data))
    (rest : Bytes) : gunzipMember (gzipMember h stream data ++ rest) = some (data, rest) := by
  obtain ⟨hh, bl, fill, he, hr⟩ := hm
  exact gunzipMember_gzipMember h hh (.of_encodeStream he hr) rest

theorem gzipMember_ne_nil (h : GzHeader) (stream data : Bytes) : gzipMember h stream data ≠ [] := by
  simp [gzipMember, GzHeader.bytes]

theorem gzipFile_isEmpty (ms : List (GzHeader × Bytes × Bytes)) : (gzipFile ms).isEmpty = ms.isEmpty := by
  cases ms with
  | nil => rfl
  | cons m ms =>
    obtain ⟨h, stream, data⟩ := m
    have := gzipMember_ne_nil h stream data
    simp only [gzipFile, List.isEmpty_cons]
    simp [this]

theorem gunzipAll_gzipFile_append (ms : List (GzHeader × Bytes × Bytes)) (hms : ∀ m ∈ ms, conformantMember m)
    (g : Bytes) (hg : g ≠ []) : gunzipAll (gzipFile ms ++ g) = (gunzipAll g).map (fileData ms ++ ·) := by
  induction ms with
  | nil =>
    simp only [gzipFile, fileData, List.map_nil, List.flatten_nil, List.nil_append]
    cases gunzipAll g <;> rfl
  | cons m ms ih =>
    obtain ⟨h, stream, data⟩ := m
    have hm := gunzipMember_conformant h stream data (hms _ (List.mem_cons_self ..)) (gzipFile ms ++ g)
    simp only [gzipFile, List.append_assoc]
    rw [gunzipAll_step _ _ _ hm, ih (fun m hm' => hms m (List.mem_cons_of_mem _ hm'))]
    have hne : (gzipFile ms ++ g).isEmpty = false := by
      cases hx : gzipFile ms ++ g with
      | nil => exact absurd (List.append_eq_nil_iff.1 hx).2 hg
      | cons _ _ => rfl
    simp only [hne, Bool.false_eq_true, if_false, fileData, List.map_cons, List.flatten_cons]
    cases gunzipAll g <;> simp

theorem gunzipAll_gzipFile (ms : List (GzHeader × Bytes × Bytes)) (hne : ms ≠ [])
    (hms : ∀ m ∈ ms, conformantMember m) : gunzipAll (gzipFile ms) = some (fileData ms) := by
  induction ms with
  | nil => exact absurd rfl hne
  | cons m ms ih =>
    obtain ⟨h, stream, data⟩ := m
    have hm := gunzipMember_conformant h stream data (hms _ (List.mem_cons_self ..)) (gzipFile ms)
    simp only [gzipFile]
    rw [gunzipAll_step _ _ _ hm, gzipFile_isEmpty]
    cases ms with
    | nil => simp [fileData]
    | cons m' ms' =>
      rw [ih (by simp) (fun m hm' => hms m (List.mem_cons_of_mem _ hm'))]
      simp [fileData]

end Zarrs.DeflateSpec
