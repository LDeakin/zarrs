import ZarrsModel.Model.ChainSPE
import ZarrsModel.Lemmas.ShardPE
import ZarrsModel.Lemmas.ChainSStores
import ZarrsModel.Lemmas.Store
import ZarrsModel.Lemmas.Partial
/- C05 on chains: the plan of `ShardingPartialEncoder::partial_encode` (`shardPlan`) run on the output handles: on the
storage handle it is `ShardPE.partialEncode`; through lawful bytes-to-bytes codecs (their default partial encoders) it is
the encoding of what `ShardPE.partialEncode` makes of a stored shard of the same inner chunks. -/
namespace Zarrs.Partial
open Zarrs Zarrs.Codec Zarrs.Shard Zarrs.ShardPE

theorem encB_filter (b2b : List BStage) : ∀ b, encB (b2b.filter (fun st => !st.isCache)) b = encB b2b b := by
  induction b2b with
  | nil => intro b; rfl
  | cons st rest ih =>
    intro b
    rw [List.filter_cons]
    cases st with
    | cache =>
      rw [if_neg (by simp [BStage.isCache])]
      exact ih _
    | _ =>
      rw [if_pos (by simp [BStage.isCache])]
      exact ih _

theorem shardPlan_eq (c : Cfg) (idx : List (Nat × Nat)) (us : List (Nat × Option Bytes)) :
    shardPlan c idx us =
      (let dead := (idxDead idx us).all (fun e => !isLive e)
       let maxData := if dead then 0 else liveEnd idx
       let off := if c.indexAtEnd then maxData else max maxData (indexSize c)
       (dead,
        if (idxNew idx us off).all (fun e => !isLive e) then POp.erase
        else if c.indexAtEnd then
          if (dataNew us).isEmpty && liveEnd (idxNew idx us off) < off then
            POp.rewrite (liveEnd (idxNew idx us off)) (encodeIndex c (idxNew idx us off))
          else POp.write [(off, dataNew us ++ encodeIndex c (idxNew idx us off))]
        else POp.write [(0, encodeIndex c (idxNew idx us off)), (off, dataNew us)])) := by
  unfold shardPlan
  simp only
  rw [show (fun (ix : List (Nat × Nat)) (u : Nat × Option Bytes) => setEntry ix u.1 (sentinel, sentinel)) = step1 from rfl,
    fold_step1]
  rw [foldl_congr_step2 _ _ _ (fun acc u => by cases hu : u.2 <;> simp [step2, hu]), fold_step2]
  simp only [List.nil_append]
  rfl

def runOp (b2b : List BStage) (v1 : Option Bytes) : POp → Option (Option Bytes)
  | .erase => some none
  | .write ws => bWrite b2b v1 ws
  | .rewrite le ib =>
    match bStack b2b v1 [ByteRange.fromStart 0 (some le)] with
    | none => none
    | some none => bWrite b2b none [(0, ib)]
    | some (some (s :: _)) => bWrite b2b none [(0, s ++ ib)]
    | some (some []) => none

theorem runPlan_eq (b2b : List BStage) (v : Option Bytes) (p : Bool × POp) :
    runPlan b2b v p = runOp b2b (if p.1 then none else v) p.2 := by
  unfold runPlan runOp
  cases p.2 <;> rfl

theorem prefix_valid (v : Bytes) (le : Nat) (h : le ≤ v.length) :
    ∀ r ∈ [ByteRange.fromStart 0 (some le)], r.valid v.length = true := by
  intro r hr
  rw [List.mem_singleton.mp hr]
  simp only [ByteRange.valid, Option.getD_some, Nat.zero_add, decide_eq_true_eq]; exact h

theorem prefix_extract (v : Bytes) (le : Nat) : [ByteRange.fromStart 0 (some le)].map (·.extract v) = [v.take le] := by
  simp [ByteRange.extract, ByteRange.start, ByteRange.stop, slice]

/-- `hle` holds of every well-formed shard -/
theorem runPlan_nil (c : Cfg) (v : Option Bytes) (idx : List (Nat × Nat)) (us : List (Nat × Option Bytes))
    (hcur : currentIndex c v = some idx) (hle : ∀ b, v = some b → liveEnd idx ≤ b.length) :
    runPlan [] v (shardPlan c idx us) = partialEncode c v us := by
  rw [partialEncode_eq c v us idx hcur, shardPlan_eq, runPlan_eq]
  simp only
  have hw1 : ∀ (v1 : Option Bytes) (o : Nat) (y : Bytes), runOp [] v1 (POp.write [(o, y)]) = some (writeAt v1 o y) := by
    intro v1 o y; simp only [runOp, bWrite, List.foldl_cons, List.foldl_nil]
  have hw2 : ∀ (v1 : Option Bytes) (o : Nat) (x y : Bytes),
      runOp [] v1 (POp.write [(0, x), (o, y)]) = some (writeAt (writeAt v1 0 x) o y) := by
    intro v1 o x y; simp only [runOp, bWrite, List.foldl_cons, List.foldl_nil]
  have he : ∀ (v1 : Option Bytes), runOp [] v1 POp.erase = some none := fun _ => rfl
  cases hd : (idxDead idx us).all (fun e => !isLive e) <;> cases hc : c.indexAtEnd <;>
    simp only [Bool.false_eq_true, if_false, if_true, apply_ite (runOp [] none), apply_ite (runOp [] v), hw1, hw2, he]
  · split
    · rfl
    · split
      · rename_i hrw
        simp only [Bool.and_eq_true, decide_eq_true_eq] at hrw
        cases v with
        | none =>
          simp only [runOp, bStack, List.foldr_nil, storeHandle, bWrite, List.foldl_cons, List.foldl_nil,
            Option.getD_none, List.take_nil, List.nil_append]
        | some b =>
          have hl := hle b rfl
          simp only [runOp, bStack, List.foldr_nil]
          rw [storeHandle_some_ok b _ (prefix_valid b _ (by omega)), prefix_extract]
          simp only [bWrite, List.foldl_cons, List.foldl_nil, Option.getD_some]
      · rfl
  · split
    · rfl
    · split
      · rename_i hrw
        simp only [Bool.and_eq_true, decide_eq_true_eq] at hrw
        omega
      · rfl

/-- a stage as `CodecChain::partial_encoder` stacks them: it inserts no cache -/
structure BOk (st : BStage) : Prop extends BLawful st where
  noCache : st.isCache = false

theorem readWhole_ok (h : BHandle) (v : Bytes) (hh : BHandleOk h v) : readWhole h = some (some v) := by
  unfold readWhole
  rw [hh.whole]

theorem readWhole_absent (h : BHandle) (hh : BHandleAbsent h) : readWhole h = some none := by
  unfold readWhole
  rw [hh _]

theorem bStack_ok (b2b : List BStage) (hb : ∀ st ∈ b2b, BOk st) (d : Bytes) :
    BHandleOk (bStack b2b (some (encB b2b d))) d :=
  bChain_ok b2b (fun st hst => (hb st hst).law) d _ (storeHandle_some_ok _)

theorem bStack_absent (b2b : List BStage) : BHandleAbsent (bStack b2b none) :=
  bChain_absent b2b _ storeHandle_none_absent

theorem resizeWrites_eq (d : Bytes) (ws : List (Nat × Bytes)) :
    resizeWrites d ws = specFold (d.take (endMax ws 0)) ws := by
  refine Eq.trans ?_ (specFold_zeroExtend_endMax _ ws)
  show specFold (d.take (endMax ws 0) ++ List.replicate (endMax ws 0 - d.length) 0) ws = _
  unfold zeroExtend
  congr 3
  rw [List.length_take]
  omega

theorem resizeWrites_nil_one (y : Bytes) : resizeWrites [] [(0, y)] = y := by
  rw [resizeWrites_eq]
  simp only [List.take_nil, specFold, List.foldl_cons, List.foldl_nil]
  exact specSetPartial_nil y

/-- `hone` is the induction hypothesis of `bWrite_none_one`; once that is proved this is `bWrite_cons` -/
private theorem bWrite_step (st : BStage) (rest : List BStage) (hb : ∀ s ∈ st :: rest, BOk s)
    (hone : ∀ y : Bytes, bWrite rest none [(0, y)] = some (some (encB rest y))) (v0 : Option Bytes)
    (ws : List (Nat × Bytes)) (hws : ws ≠ []) :
    bWrite (st :: rest) (v0.map (encB (st :: rest))) ws =
      some (some (encB (st :: rest) (resizeWrites (v0.getD []) ws))) := by
  have hdec := (hb st (by simp)).dec
  have hnc := (hb st (by simp)).noCache
  have hrest : ∀ s ∈ rest, BOk s := fun s hs => hb s (by simp [hs])
  have hne : ws.isEmpty = false := by cases ws with
    | nil => exact absurd rfl hws
    | cons _ _ => rfl
  have hbody : bWrite (st :: rest) (v0.map (encB (st :: rest))) ws =
      bWrite rest none [(0, st.enc (resizeWrites (v0.getD []) ws))] := by
    have hread : readWhole (bStack rest (v0.map (encB (st :: rest)))) = some (v0.map st.enc) := by
      cases v0 with
      | none => exact readWhole_absent _ (bStack_absent rest)
      | some d => exact readWhole_ok _ _ (bStack_ok rest hrest (st.enc d))
    cases st with
    | cache => simp [BStage.isCache] at hnc
    | _ =>
      simp only [bWrite, hread, hne, Bool.false_eq_true, if_false]
      cases v0 with
      | none => rfl
      | some d => simp only [Option.map_some, hdec d, Option.getD_some]
  rw [hbody, hone]
  rfl

theorem bWrite_none_one (b2b : List BStage) (hb : ∀ st ∈ b2b, BOk st) :
    ∀ y : Bytes, bWrite b2b none [(0, y)] = some (some (encB b2b y)) := by
  induction b2b with
  | nil =>
    intro y
    simp only [bWrite, List.foldl_cons, List.foldl_nil, writeAt, Option.getD_none, specSetPartial_nil]
    rfl
  | cons st rest ih =>
    intro y
    have := bWrite_step st rest hb (ih (fun s hs => hb s (by simp [hs]))) none [(0, y)] (by simp)
    rwa [Option.getD_none, resizeWrites_nil_one] at this

theorem bWrite_cons (st : BStage) (rest : List BStage) (hb : ∀ s ∈ st :: rest, BOk s) (v0 : Option Bytes)
    (ws : List (Nat × Bytes)) (hws : ws ≠ []) :
    bWrite (st :: rest) (v0.map (encB (st :: rest))) ws =
      some (some (encB (st :: rest) (resizeWrites (v0.getD []) ws))) :=
  bWrite_step st rest hb (bWrite_none_one rest (fun s hs => hb s (by simp [hs]))) v0 ws hws

/-- trap: the `resize` of the default partial encoder CUTS the old value at the end of the writes, where the storage
handle would keep its tail -/
theorem runOp_cons_write (st : BStage) (rest : List BStage) (hb : ∀ s ∈ st :: rest, BOk s) (v1 : Option Bytes)
    (ws : List (Nat × Bytes)) (hws : ws ≠ []) :
    runOp (st :: rest) (v1.map (encB (st :: rest))) (POp.write ws) =
      some (some (encB (st :: rest) (specFold ((v1.getD []).take (endMax ws 0)) ws))) := by
  simp only [runOp]
  rw [bWrite_cons st rest hb v1 ws hws, resizeWrites_eq]

theorem runOp_cons_rewrite (st : BStage) (rest : List BStage) (hb : ∀ s ∈ st :: rest, BOk s) (v1 : Option Bytes)
    (le : Nat) (ib : Bytes) (hle : le ≤ (v1.getD []).length) :
    runOp (st :: rest) (v1.map (encB (st :: rest))) (POp.rewrite le ib) =
      some (some (encB (st :: rest) ((v1.getD []).take le ++ ib))) := by
  simp only [runOp]
  cases v1 with
  | none =>
    simp only [Option.map_none, bStack_absent (st :: rest) _, bWrite_none_one (st :: rest) hb, Option.getD_none,
      List.take_nil, List.nil_append]
  | some d =>
    simp only [Option.map_some, bStack_ok (st :: rest) hb d _ (prefix_valid d le hle), prefix_extract,
      bWrite_none_one (st :: rest) hb, Option.getD_some]

theorem writeAt_eq (v : Option Bytes) (off : Nat) (y : Bytes) :
    writeAt v off y = some (specFold (v.getD []) [(off, y)]) := rfl

theorem writeAt_writeAt_eq (v : Option Bytes) (off : Nat) (x y : Bytes) :
    writeAt (writeAt v 0 x) off y = some (specFold (v.getD []) [(0, x), (off, y)]) := rfl

/-- `v0pre`: `v0` itself or, index at the start, `v0` cut behind its live data by `resize` (`St.take`) -/
theorem runPlan_lawful (c : Cfg) (b2b : List BStage) (hb : ∀ st ∈ b2b, BOk st) (v0 : Option Bytes)
    (chunks : List (Option Bytes)) (hst : St c v0 chunks)
    (idx : List (Nat × Nat)) (us : List (Nat × Option Bytes)) (hcur : currentIndex c v0 = some idx) :
    ∃ v0pre, St c v0pre chunks ∧ (v0pre.getD []).length ≤ (v0.getD []).length ∧
      runPlan b2b (v0.map (encB b2b)) (shardPlan c idx us) =
        (partialEncode c v0pre us).map (fun r => r.map (encB b2b)) := by
  obtain ⟨idx', B⟩ := hst.base
  have hcur' := B.cur
  rw [hcur] at hcur'
  cases hcur'
  have hlen := B.ok.len
  have hlive := B.live
  cases b2b with
  | nil =>
    refine ⟨v0, hst, Nat.le_refl _, ?_⟩
    have e1 : v0.map (encB []) = v0 := by cases v0 <;> rfl
    rw [e1, runPlan_nil c v0 idx us hcur (fun b hb' => by rw [hb'] at hlive; exact hlive)]
    cases partialEncode c v0 us with
    | none => rfl
    | some r => cases r <;> rfl
  | cons st rest =>
    have hib := fun off => encodeIndex_idxNew_length c idx us off hlen
    cases hd : (idxDead idx us).all (fun e => !isLive e)
    · cases hc : c.indexAtEnd
      · cases v0 with
        | none =>
          exfalso
          have := absent_dead c us
          unfold currentIndex at hcur
          cases hcur
          rw [this] at hd
          cases hd
        | some d =>
          simp only [Option.getD_some] at hlive
          obtain ⟨hst2, hcur2⟩ := hst.take hc idx hcur
            (max (liveEnd idx) (indexSize c) + (dataNew us).length) (by omega) (by omega)
          refine ⟨some (d.take (max (liveEnd idx) (indexSize c) + (dataNew us).length)), hst2,
            by simp only [Option.getD_some, List.length_take]; omega, ?_⟩
          rw [partialEncode_eq c _ us idx hcur2, shardPlan_eq, runPlan_eq]
          simp only [hd, hc, Bool.false_eq_true, if_false]
          split
          · rfl
          · rw [runOp_cons_write st rest hb (some d) _ (by simp), writeAt_writeAt_eq]
            simp only [Option.map_some, Option.getD_some]
            congr 4
            have : endMax [(0, encodeIndex c (idxNew idx us (max (liveEnd idx) (indexSize c)))),
                (max (liveEnd idx) (indexSize c), dataNew us)] 0 =
                max (liveEnd idx) (indexSize c) + (dataNew us).length := by
              simp only [endMax, List.foldl_cons, List.foldl_nil, hib]
              omega
            rw [this]
      · -- the value is tight, `resize` never cuts it
        refine ⟨v0, hst, Nat.le_refl _, ?_⟩
        rw [partialEncode_eq c v0 us idx hcur, shardPlan_eq, runPlan_eq]
        simp only [hd, hc, Bool.false_eq_true, if_false, if_true]
        split
        · rfl
        · split
          · rename_i hrw
            simp only [Bool.and_eq_true, decide_eq_true_eq] at hrw
            rw [runOp_cons_rewrite st rest hb v0 _ _ (by omega)]
            simp only [writeAt, Option.getD_none, specSetPartial_nil, Option.map_some]
          · rw [runOp_cons_write st rest hb v0 _ (by simp), writeAt_eq]
            simp only [Option.map_some]
            congr 4
            cases v0 with
            | none => simp
            | some d =>
              have := B.tight hc
              simp only [Option.getD_some] at this ⊢
              apply List.take_of_length_le
              simp only [endMax, List.foldl_cons, List.foldl_nil, List.length_append, hib]
              omega
    · refine ⟨v0, hst, Nat.le_refl _, ?_⟩
      rw [partialEncode_eq c v0 us idx hcur, shardPlan_eq, runPlan_eq]
      have hnone : (none : Option Bytes) = (none : Option Bytes).map (encB (st :: rest)) := rfl
      cases hc : c.indexAtEnd
      · simp only [hd, if_true, Bool.false_eq_true, if_false]
        split
        · rfl
        · rw [hnone, runOp_cons_write st rest hb none _ (by simp), writeAt_writeAt_eq]
          simp only [Option.map_some, Option.map_none, Option.getD_none, List.take_nil]
      · simp only [hd, if_true]
        split
        · rfl
        · split
          · rename_i hrw
            simp only [Bool.and_eq_true, decide_eq_true_eq] at hrw
            omega
          · rw [hnone, runOp_cons_write st rest hb none _ (by simp), writeAt_eq]
            simp only [Option.map_some, Option.map_none, Option.getD_none, List.take_nil]

end Zarrs.Partial
