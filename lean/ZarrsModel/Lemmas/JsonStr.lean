import ZarrsModel.Model.Json
/- the string parser reads back what the string printer escapes; ASCII strings are well formed; what `J.wf` says of
   each constructor -/
namespace Zarrs.Json

theorem psb_quote (f : Nat) (rest acc) : parseStrBody (f+1) (34 :: rest) acc = some (acc, rest) := by
  rw [parseStrBody]

theorem psb_plain (f : Nat) (b : Nat) (rest acc) (h1 : 32 ≤ b) (h2 : b ≠ 34) (h3 : b ≠ 92) :
    parseStrBody (f+1) (b :: rest) acc = parseStrBody f rest (acc ++ [b]) := by
  rw [parseStrBody]
  · rw [if_neg (by omega)]
  · simpa using h2
  · intros; omega

theorem psb_esc (f : Nat) (e c : Nat) (rest acc)
    (h : (e, c) ∈ [(34, 34), (92, 92), (98, 8), (102, 12), (110, 10), (114, 13), (116, 9)]) :
    parseStrBody (f+1) (92 :: e :: rest) acc = parseStrBody f rest (acc ++ [c]) := by
  simp only [List.mem_cons, Prod.mk.injEq, List.not_mem_nil, or_false] at h
  rcases h with ⟨rfl, rfl⟩ | ⟨rfl, rfl⟩ | ⟨rfl, rfl⟩ | ⟨rfl, rfl⟩ | ⟨rfl, rfl⟩ | ⟨rfl, rfl⟩ | ⟨rfl, rfl⟩
  all_goals rw [parseStrBody]; rfl

theorem hex_small : ∀ b, b < 32 → hexVal (hexDigit (b / 16)).toNat = some (b / 16) ∧
    hexVal (hexDigit (b % 16)).toNat = some (b % 16) := by
  decide +kernel

theorem hex4_u00 (b : Nat) (hb : b < 32) (rest : List Nat) :
    hex4 (48 :: 48 :: (hexDigit (b / 16)).toNat :: (hexDigit (b % 16)).toNat :: rest) = some (b, rest) := by
  have h := hex_small b hb
  have h0 : hexVal 48 = some 0 := by decide
  simp only [hex4, h.1, h.2, h0]
  congr; omega

theorem psb_u00 (f : Nat) (b : Nat) (hb : b < 32) (rest acc) :
    parseStrBody (f+1) (92 :: 117 :: 48 :: 48 :: (hexDigit (b / 16)).toNat :: (hexDigit (b % 16)).toNat :: rest) acc
      = parseStrBody f rest (acc ++ [b]) := by
  have e1 : ¬ 0xDC00 ≤ b := by omega
  have e2 : ¬ 0xD800 ≤ b := by omega
  have e3 : utf8 b = [b] := by rw [utf8, if_pos (by omega)]
  rw [parseStrBody]
  simp [hex4_u00 b hb, e1, e2, e3]

theorem escapeByte_cases (b : Nat) :
    (∃ e, (e, b) ∈ [(34, 34), (92, 92), (98, 8), (102, 12), (110, 10), (114, 13), (116, 9)] ∧ escapeByte b = [92, e]) ∨
    (b < 32 ∧ escapeByte b = [92, 117, 48, 48, (hexDigit (b / 16)).toNat, (hexDigit (b % 16)).toNat]) ∨
    (32 ≤ b ∧ b ≠ 34 ∧ b ≠ 92 ∧ escapeByte b = [b]) := by
  by_cases hb : b ∈ [34, 92, 8, 12, 10, 13, 9]
  · simp only [List.mem_cons, List.not_mem_nil, or_false] at hb
    rcases hb with rfl | rfl | rfl | rfl | rfl | rfl | rfl <;> exact Or.inl ⟨_, by decide, rfl⟩
  · simp only [List.mem_cons, List.not_mem_nil, or_false, not_or] at hb
    have he : escapeByte b = if b < 32 then [92, 117, 48, 48, (hexDigit (b / 16)).toNat, (hexDigit (b % 16)).toNat]
        else [b] := by
      simp [escapeByte, hb]
    by_cases h32 : b < 32
    · exact Or.inr (Or.inl ⟨h32, by rw [he, if_pos h32]⟩)
    · exact Or.inr (Or.inr ⟨by omega, hb.1, hb.2.1, by rw [he, if_neg h32]⟩)

theorem psb_byte (f : Nat) (b : Nat) (rest acc) :
    parseStrBody (f+1) (escapeByte b ++ rest) acc = parseStrBody f rest (acc ++ [b]) := by
  rcases escapeByte_cases b with ⟨e, he, h⟩ | ⟨hb, h⟩ | ⟨h1, h2, h3, h⟩ <;> rw [h]
  · exact psb_esc f e b rest acc he
  · exact psb_u00 f b hb rest acc
  · exact psb_plain f b rest acc h1 h2 h3

theorem psb_print (s : Str) : ∀ (f : Nat) (rest acc : List Nat), s.length < f →
    parseStrBody f (s.flatMap escapeByte ++ 34 :: rest) acc = some (acc ++ s, rest) := by
  induction s with
  | nil =>
    intro f rest acc hf
    obtain ⟨f, rfl⟩ := Nat.exists_eq_add_one.2 (Nat.zero_lt_of_lt hf)
    simp [psb_quote]
  | cons b s ih =>
    intro f rest acc hf
    obtain ⟨f, rfl⟩ := Nat.exists_eq_add_one.2 (Nat.zero_lt_of_lt hf)
    simp only [List.flatMap_cons, List.append_assoc]
    rw [psb_byte, ih]
    · simp
    · simp at hf; omega

theorem escapeByte_length (b : Nat) : 1 ≤ (escapeByte b).length := by
  rcases escapeByte_cases b with ⟨e, _, h⟩ | ⟨_, h⟩ | ⟨_, _, _, h⟩ <;> rw [h] <;> simp

theorem flatMap_escape_length (s : Str) : s.length ≤ (s.flatMap escapeByte).length := by
  induction s with
  | nil => simp
  | cons b s ih =>
    have := escapeByte_length b
    simp only [List.flatMap_cons, List.length_append, List.length_cons]; omega

theorem parseStr_print (s : Str) (rest : List Nat) (h : validUtf8 s = true) :
    parseStr (s.flatMap escapeByte ++ 34 :: rest) = some (s, rest) := by
  unfold parseStr
  rw [psb_print]
  · simp [h]
  · have := flatMap_escape_length s
    simp only [List.length_append, List.length_cons]; omega

theorem validUtf8_ascii (s : Str) (h : ∀ b ∈ s, b < 128) : validUtf8 s = true := by
  induction s with
  | nil => rfl
  | cons b r ih =>
    have hb : b < 128 := h b (List.mem_cons_self ..)
    unfold validUtf8
    simp only [show b < 128 from hb, if_true]
    exact ih (fun x hx => h x (List.mem_cons_of_mem _ hx))

/-- NB: `decide` on `validUtf8` of a literal blows up beyond a few bytes -/
theorem strOk_ascii (s : Str) (h : ∀ b ∈ s, b < 128) : strOk s :=
  ⟨fun b hb => Nat.lt_trans (h b hb) (by decide), validUtf8_ascii s h⟩

theorem strOk_nil : strOk [] := strOk_ascii _ (by simp)

theorem null_wf : J.null.wf := trivial
theorem bool_wf (b : Bool) : (J.bool b).wf := trivial
theorem num_wf_iff (t : List Char) : (J.num t).wf ↔ tokOk t := Iff.rfl
theorem str_wf_iff (s : Str) : (J.str s).wf ↔ strOk s := Iff.rfl

theorem wfList_iff (xs : List J) : wfList xs ↔ ∀ x ∈ xs, x.wf := by
  induction xs with
  | nil => simp [wfList]
  | cons x r ih => simp only [wfList, ih, List.mem_cons, forall_eq_or_imp]

theorem wfKVs_iff (o : List (Str × J)) : wfKVs o ↔ ∀ kv ∈ o, strOk kv.1 ∧ kv.2.wf := by
  induction o with
  | nil => simp [wfKVs]
  | cons kv r ih =>
    obtain ⟨k, v⟩ := kv
    simp only [wfKVs, ih, List.mem_cons, forall_eq_or_imp, and_assoc]

theorem arr_wf_iff (xs : List J) : (J.arr xs).wf ↔ ∀ x ∈ xs, x.wf := wfList_iff xs
theorem obj_wf_iff (o : List (Str × J)) : (J.obj o).wf ↔ wfKVs o ∧ keysDistinct o := Iff.rfl

theorem arrMap_wf_iff {α} (f : α → J) (l : List α) : (J.arr (l.map f)).wf ↔ ∀ a ∈ l, (f a).wf := by
  rw [arr_wf_iff, List.forall_mem_map]

theorem numArr_wf_iff (l : List (List Char)) : (J.arr (l.map J.num)).wf ↔ ∀ t ∈ l, tokOk t := arrMap_wf_iff J.num l

end Zarrs.Json
