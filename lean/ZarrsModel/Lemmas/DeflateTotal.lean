import ZarrsModel.Lemmas.DeflateTokens
/-
The writer side is total on its domain: blocks satisfying `Block.ok` (encodable tokens, every used symbol has a
code) are encoded by `encodeBlock` / `encodeStream`.
-/
namespace Zarrs.DeflateSpec
open Zarrs Zarrs.Inflate

theorem codeOf_exists (lens : List Nat) (s : Nat) (h : hasCode lens s = true) : ∃ c, codeOf lens s = some c := by
  unfold hasCode at h
  exact ⟨_, codeOf_eq_some.2 ⟨by simpa using h, rfl⟩⟩

/-- RFC 1951 §3.2.5: literal/length symbols 0..285, distance symbols 0..29 -/
theorem litSymsOf_lt (toks : List Token) (hok : ∀ t ∈ toks, t.ok = true) : ∀ s ∈ litSymsOf toks, s < 286 := by
  intro s hs
  simp only [litSymsOf, List.mem_cons, List.mem_map] at hs
  obtain rfl | ⟨t, ht, rfl⟩ := hs
  · decide
  · cases t with
    | lit x => exact Nat.lt_trans (of_decide_eq_true (hok _ ht)) (by decide)
    | copy len dist =>
      obtain ⟨hlen3, hlen258, _⟩ := Token.ok_copy.1 (hok _ ht)
      have := (lenSym_spec len hlen3 hlen258).1
      simp only; omega

theorem distSymsOf_lt (toks : List Token) (hok : ∀ t ∈ toks, t.ok = true) : ∀ s ∈ distSymsOf toks, s < 30 := by
  intro s hs
  simp only [distSymsOf, List.mem_filterMap] at hs
  obtain ⟨t, ht, hs⟩ := hs
  cases t with
  | lit x => cases hs
  | copy len dist =>
    obtain ⟨_, _, hdist1, hdist32k⟩ := Token.ok_copy.1 (hok _ ht)
    cases hs
    exact (distSym_spec dist hdist1 hdist32k).1

theorem encTokens_exists (litLens distLens : List Nat) (toks : List Token) (hok : ∀ t ∈ toks, t.ok = true)
    (h1 : ∀ s ∈ litSymsOf toks, hasCode litLens s = true) (h2 : ∀ s ∈ distSymsOf toks, hasCode distLens s = true) :
    ∃ bits, encTokens litLens distLens toks = some bits := by
  induction toks with
  | nil => exact codeOf_exists _ _ (h1 256 (by simp [litSymsOf]))
  | cons t ts ih =>
    obtain ⟨b, hb⟩ := ih (fun t' ht' => hok t' (List.mem_cons_of_mem _ ht'))
      (fun s hs => h1 s (by
        simp only [litSymsOf, List.map_cons, List.mem_cons] at hs ⊢
        exact hs.imp_right Or.inr))
      (fun s hs => h2 s (by
        simp only [distSymsOf, List.filterMap_cons] at hs ⊢
        cases t with
        | lit x => exact hs
        | copy len dist => exact List.mem_cons_of_mem _ hs))
    have hto := hok t (by simp)
    cases t with
    | lit x =>
      have hx : x < 256 := of_decide_eq_true hto
      obtain ⟨c, hc⟩ := codeOf_exists _ _ (h1 x (by simp [litSymsOf]))
      exact ⟨c ++ b, by simp only [encTokens, encToken, if_pos hx, hc, hb]⟩
    | copy len dist =>
      obtain ⟨c1, hc1⟩ := codeOf_exists _ _ (h1 (257 + lenSym len) (by simp [litSymsOf]))
      obtain ⟨c2, hc2⟩ := codeOf_exists _ _ (h2 (distSym dist) (by simp [distSymsOf]))
      simp only [encTokens, encToken, if_pos (Token.ok_copy.1 hto), hc1, hc2, hb]
      exact ⟨_, rfl⟩

theorem hasCode_of_all (lens : List Nat) (h : lens.all (· != 0) = true) (s : Nat) (hs : s < lens.length) :
    hasCode lens s = true :=
  List.all_eq_true.1 h _ (getD_mem lens s hs)

theorem fixedLit_hasCode (s : Nat) (hs : s < 288) : hasCode fixedLitLens s = true :=
  hasCode_of_all _ (by decide +kernel) s (Nat.lt_of_lt_of_eq hs (by decide +kernel))
theorem fixedDist_hasCode (s : Nat) (hs : s < 30) : hasCode fixedDistLens s = true :=
  hasCode_of_all _ (by decide +kernel) s (Nat.lt_of_lt_of_eq hs (by decide +kernel))

theorem encClSym_exists (cl : List Nat) (c : ClSym) (h : hasCode cl (clSymOf c) = true) :
    ∃ a, encClSym cl c = some a := by
  obtain ⟨a, ha⟩ := codeOf_exists _ _ h
  cases c with
  | len l => exact ⟨a, ha⟩
  | c16 n | c17 n | c18 n => exact ⟨_, congrArg (Option.map _) ha⟩

theorem encCl_exists (cl : List Nat) (rle : List ClSym) (h : ∀ c ∈ rle, hasCode cl (clSymOf c) = true) :
    ∃ bits, encCl cl rle = some bits := by
  induction rle with
  | nil => exact ⟨[], rfl⟩
  | cons c r ih =>
    obtain ⟨b, hb⟩ := ih (fun c' hc' => h c' (List.mem_cons_of_mem _ hc'))
    obtain ⟨a, ha⟩ := encClSym_exists cl c (h c (by simp))
    exact ⟨a ++ b, by simp only [encCl, ha, hb]⟩

theorem Block.ok_fixed (toks : List Token) : (Block.fixed toks).ok = true ↔ ∀ t ∈ toks, t.ok = true := by
  simp only [Block.ok, List.all_eq_true]

/-- the five conditions of a dynamic block, in the order in which `inflate_dynamic_tokens` takes them -/
theorem Block.ok_dynamic (h : DynHeader) (toks : List Token) :
    (Block.dynamic h toks).ok = true ↔
      h.ok = true ∧ (∀ c ∈ h.rle, hasCode h.clLens (clSymOf c) = true) ∧ (∀ t ∈ toks, t.ok = true) ∧
        (∀ s ∈ litSymsOf toks, hasCode h.litLens s = true) ∧ ∀ s ∈ distSymsOf toks, hasCode h.distLens s = true := by
  simp only [Block.ok, Bool.and_eq_true, List.all_eq_true, and_assoc]

theorem encodeBlock_exists (pos : Nat) (final : Bool) (b : Block) (hok : b.ok = true) :
    ∃ bits, encodeBlock pos final b = some bits := by
  cases b with
  | stored fill data =>
    simp only [Block.ok, Bool.and_eq_true, decide_eq_true_eq] at hok
    exact ⟨_, by simp only [encodeBlock]; rw [if_pos hok]⟩
  | fixed toks =>
    rw [Block.ok_fixed] at hok
    obtain ⟨t, ht⟩ := encTokens_exists fixedLitLens fixedDistLens toks hok
      (fun s hs => fixedLit_hasCode s (Nat.lt_trans (litSymsOf_lt toks hok s hs) (by decide)))
      (fun s hs => fixedDist_hasCode s (distSymsOf_lt toks hok s hs))
    simp only [encodeBlock, ht]
    exact ⟨_, rfl⟩
  | dynamic h toks =>
    obtain ⟨h1, h2, h3, h4, h5⟩ := (Block.ok_dynamic h toks).1 hok
    obtain ⟨r, hr⟩ := encCl_exists h.clLens h.rle h2
    obtain ⟨t, ht⟩ := encTokens_exists h.litLens h.distLens toks h3 h4 h5
    simp only [encodeBlock, if_pos h1, encHeader, hr, ht]
    exact ⟨_, rfl⟩
theorem encodeBlocks_exists (pos : Nat) (bl : List Block) (hne : bl ≠ []) (hok : ∀ b ∈ bl, b.ok = true) :
    ∃ bits, encodeBlocks pos bl = some bits := by
  induction bl generalizing pos with
  | nil => exact absurd rfl hne
  | cons b bs ih =>
    cases bs with
    | nil => exact encodeBlock_exists pos true b (hok b (by simp))
    | cons b' bs =>
      obtain ⟨x, hx⟩ := encodeBlock_exists pos false b (hok b (by simp))
      obtain ⟨y, hy⟩ := ih (pos + x.length) (by simp) (fun c hc => hok c (List.mem_cons_of_mem _ hc))
      exact ⟨x ++ y, by simp only [encodeBlocks, hx, hy]⟩

theorem encodeStream_exists (bl : List Block) (fill : Bits) (hne : bl ≠ []) (hok : ∀ b ∈ bl, b.ok = true) :
    ∃ bytes, encodeStream bl fill = some bytes := by
  obtain ⟨bits, hb⟩ := encodeBlocks_exists 0 bl hne hok
  simp only [encodeStream, hb]
  exact ⟨_, rfl⟩

end Zarrs.DeflateSpec
