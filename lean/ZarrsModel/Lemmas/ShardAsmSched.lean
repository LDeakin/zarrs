import ZarrsModel.Lemmas.ShardAsmInv
/- schedules of the assembly machine: progress (fair schedules are complete), sequential schedules of the racy machine -/
namespace Zarrs.ShardAsm
open Zarrs Zarrs.Codec

variable {p : Params} {s : State}

theorem run_append (racy : Bool) (p : Params) (a b : List Nat) : ∀ (s : State), run racy p s (a ++ b) = run racy p (run racy p s a) b := by
  induction a with
  | nil => intro s; rfl
  | cons i rest ih => intro s; exact ih _

/-- how far a task has got.  Every program counter other than `start`, `loaded`, `reserved`, `indexed` is at stage 3,
`failed` and `panicked` included: stage 3 alone does not say `isFinal`, the invariant excludes those two. -/
def stage : Option Pc → Nat
  | some .start => 0
  | some (.loaded _) => 0
  | some (.reserved _) => 1
  | some (.indexed _) => 2
  | _ => 3

theorem step_pc (racy : Bool) (p : Params) (s : State) (i : Nat) :
    (step racy p s i).pc = s.pc ∨ ∃ x, (step racy p s i).pc = s.pc.set i x ∧ x ≠ .start := by
  unfold step
  split
  · split
    · exact Or.inr ⟨_, rfl, nofun⟩
    · split <;> exact Or.inr ⟨_, rfl, nofun⟩
  · split <;> exact Or.inr ⟨_, rfl, nofun⟩
  · exact Or.inr ⟨_, rfl, nofun⟩
  · split <;> exact Or.inr ⟨_, rfl, nofun⟩
  · exact Or.inl rfl

theorem step_pc_other {racy : Bool} {i j : Nat} (h : i ≠ j) : (step racy p s i).pc[j]? = s.pc[j]? := by
  rcases step_pc racy p s i with h1 | ⟨x, h1, _⟩
  · rw [h1]
  · rw [h1, List.getElem?_set_ne h]

/-- the atomic machine only: the racy one needs two steps to leave stage 0 -/
theorem step_stage_self (inv : Inv p s) (i : Nat) :
    min 3 (stage s.pc[i]? + 1) ≤ stage (step false p s i).pc[i]? := by
  by_cases hi : i < p.chunks.length
  case neg =>
    have hp : s.pc[i]? = none := List.getElem?_eq_none (by rw [inv.pcLen]; exact Nat.le_of_not_lt hi)
    rw [step_no_chunk (Or.inr (List.getElem?_eq_none (Nat.le_of_not_lt hi))), hp]; decide
  have hip : i < s.pc.length := by rw [inv.pcLen]; exact hi
  cases pc_cases inv i hi with
  | elided hc hp => rw [step_no_chunk (Or.inl hc), hp]; decide
  | start b hc hp =>
    rw [step_start_atomic hc hp, hp]
    split <;> simp only [List.getElem?_set_self hip, stage] <;> decide
  | reserved b off hc hp =>
    rw [step_reserved hc hp, hp]
    simp only [List.getElem?_set_self hip, stage]; decide
  | indexed b off hc hp =>
    rw [step_indexed hc hp, hp]
    split <;> simp only [List.getElem?_set_self hip, stage] <;> decide
  | done b off hc hp =>
    rw [step_done hc hp, hp]
    simp only [stage]; decide

theorem run_stage (hfit : p.fits = true) (sched : List Nat) (inv : Inv p s) (j : Nat) :
    min 3 (stage s.pc[j]? + sched.count j) ≤ stage (run false p s sched).pc[j]? := by
  induction sched generalizing s with
  | nil => exact Nat.min_le_right _ _
  | cons i rest ih =>
    have := ih (inv_step hfit i inv)
    simp only [run]
    by_cases hij : i = j
    · subst hij
      have h1 := step_stage_self inv i
      simp only [List.count_cons_self]
      omega
    · rw [step_pc_other hij] at this
      rw [List.count_cons_of_ne hij]
      exact this

/-- three steps per task: reserve, index entry, copy -/
def fair (p : Params) (sched : List Nat) : Bool := (List.range p.chunks.length).all (fun i => decide (3 ≤ sched.count i))

theorem fair_complete (hfit : p.fits = true) {sched : List Nat} (hfair : fair p sched = true) :
    complete (run false p (init p) sched) = true := by
  have inv := inv_run hfit sched (inv_init p)
  unfold complete
  rw [List.all_eq_true]
  intro x hx
  obtain ⟨j, hj, rfl⟩ := List.getElem_of_mem hx
  have hj' : j < p.chunks.length := by rw [← inv.pcLen]; exact hj
  have h3 : 3 ≤ sched.count j := by
    simp only [fair, List.all_eq_true, List.mem_range, decide_eq_true_eq] at hfair
    exact hfair j hj'
  have hr : 3 ≤ stage (run false p (init p) sched).pc[j]? :=
    Nat.le_trans (Nat.le_min.mpr ⟨Nat.le_refl 3, Nat.le_trans h3 (Nat.le_add_left _ _)⟩)
      (run_stage hfit sched (inv_init p) j)
  cases pc_cases inv j hj' with
  | elided _ hp | done _ _ _ hp =>
    rw [List.getElem?_eq_getElem hj] at hp
    simp only [Option.some.injEq] at hp; rw [hp]; rfl
  | start _ _ hp => rw [hp] at hr; exact absurd hr (by decide)
  | reserved _ _ _ hp | indexed _ _ _ hp => rw [hp] at hr; exact absurd hr (by simp only [stage]; decide)

theorem step_not_start {racy : Bool} {i j : Nat} (h : (step racy p s i).pc[j]? = some .start) :
    s.pc[j]? = some .start := by
  rcases step_pc racy p s i with h1 | ⟨x, h1, hx⟩
  · rw [h1] at h; exact h
  · rw [h1, List.getElem?_set] at h
    split at h
    · split at h
      · cases h; exact absurd rfl hx
      · cases h
    · exact h

theorem step_racy_eq {i : Nat} (h : s.pc[i]? ≠ some .start) : step true p s i = step false p s i := by
  unfold step
  split <;> first | rfl | exact absurd ‹_› h

theorem run_racy_eq {i : Nat} (n : Nat) (h : s.pc[i]? ≠ some .start) :
    run true p s (List.replicate n i) = run false p s (List.replicate n i) := by
  induction n generalizing s with
  | zero => rfl
  | succ n ih =>
    simp only [List.replicate_succ, run]
    rw [step_racy_eq h]
    exact ih (fun hs => h (step_not_start hs))

/-- `load` immediately followed by `store` is `fetch_add` -/
theorem racy_two_eq_atomic (hfit : p.fits = true) (inv : Inv p s) {i : Nat}
    (hp : s.pc[i]? = some .start) : run true p s [i, i] = step false p s i := by
  have hip := lt_of_getElem?_some hp
  have hi : i < p.chunks.length := by rw [← inv.pcLen]; exact hip
  obtain ⟨b, hc⟩ : ∃ b, p.chunks[i]? = some (some b) := by
    cases pc_cases inv i hi with
    | elided _ hp' => rw [hp] at hp'; cases hp'
    | start b hc _ | reserved b _ hc _ | indexed b _ hc _ | done b _ hc _ => exact ⟨b, hc⟩
  have hck := check_passes (inv_room hfit inv hc hp)
  have h2 : ({ s with pc := s.pc.set i (.loaded s.offset) } : State).pc[i]? = some (.loaded s.offset) :=
    List.getElem?_set_self hip
  simp only [run]
  rw [step_start_racy hc hp, step_loaded hc h2, step_start_atomic hc hp, hck]
  simp only [Bool.false_eq_true, if_false, List.set_set]

theorem stage_le (o : Option Pc) : stage o ≤ 3 := by
  cases o with
  | none => simp [stage]
  | some x => cases x <;> simp [stage]

theorem step_final_noop (racy : Bool) (p : Params) (s : State) (i : Nat) (h : stage s.pc[i]? = 3) : step racy p s i = s := by
  unfold step
  split <;> first | rfl | (rename_i h1 h2; rw [h2] at h; simp [stage] at h)

theorem racy_task_eq (hfit : p.fits = true) (inv : Inv p s) (i : Nat) :
    run true p s [i, i, i, i] = run false p s [i, i, i] := by
  by_cases hp : s.pc[i]? = some .start
  · -- load and store are the atomic reservation
    show run true p (run true p s [i, i]) (List.replicate 2 i) = run false p (step false p s i) (List.replicate 2 i)
    rw [racy_two_eq_atomic hfit inv hp]
    refine run_racy_eq 2 (fun hs => ?_)
    have := step_stage_self inv i
    rw [hs, hp] at this; simp [stage] at this
  · -- the machines agree on all four steps
    show run true p s (List.replicate 4 i) = run false p s [i, i, i]
    rw [run_racy_eq 4 hp]
    show step false p (run false p s [i, i, i]) i = run false p s [i, i, i]
    apply step_final_noop
    have hr := run_stage hfit [i, i, i] inv i
    have h3 : List.count i [i, i, i] = 3 := by simp
    rw [h3] at hr
    have hle := stage_le (run false p s [i, i, i]).pc[i]?
    omega

theorem racy_seq_eq (hfit : p.fits = true) (order : List Nat) (inv : Inv p s) :
    run true p s (seqSched 4 order) = run false p s (seqSched 3 order) := by
  induction order generalizing s with
  | nil => rfl
  | cons i rest ih =>
    have h4 : seqSched 4 (i :: rest) = [i, i, i, i] ++ seqSched 4 rest := rfl
    have h3 : seqSched 3 (i :: rest) = [i, i, i] ++ seqSched 3 rest := rfl
    rw [h4, h3, run_append, run_append, racy_task_eq hfit inv i]
    exact ih (inv_run hfit [i, i, i] inv)

theorem seq_fair (p : Params) (order : List Nat) (h : ∀ i, i < p.chunks.length → i ∈ order) : fair p (seqSched 3 order) = true := by
  simp only [fair, List.all_eq_true, List.mem_range, decide_eq_true_eq]
  intro i hi
  have hm := h i hi
  clear h
  induction order with
  | nil => cases hm
  | cons j rest ih =>
    have h3 : seqSched 3 (j :: rest) = [j, j, j] ++ seqSched 3 rest := rfl
    rw [h3, List.count_append]
    by_cases hji : j = i
    · subst hji; simp
    · simp only [List.mem_cons] at hm
      rcases hm with rfl | hm
      · exact absurd rfl hji
      · have := ih hm; omega

end Zarrs.ShardAsm
