import ZarrsModel.Model.FaultOps
import ZarrsModel.Lemmas.Store
/-
The theory of operation-level programs (`Model/FaultOps.lean`): ONE description of `Prog.run` for every program,
store, counter value and failing set (`run_eq`), from which "a fault inside the run is an error", "the count does
not depend on the counter", "the state after a fault is a prefix of the fault-free run" all follow at once.
-/
namespace Zarrs

theorem firstFail_some (F : List Nat) : ∀ (n N j : Nat), firstFail F n N = some j → j < N ∧ (n + j + 1) ∈ F
  | n, 0, j, h => by cases h
  | n, N + 1, j, h => by
    rw [firstFail] at h
    split at h
    · rename_i hc
      cases h
      exact ⟨by omega, by simpa using hc⟩
    · cases h2 : firstFail F (n + 1) N with
      | none => rw [h2] at h; cases h
      | some j' =>
        rw [h2, Option.map_some, Option.some.injEq] at h
        subst h
        obtain ⟨h3, h4⟩ := firstFail_some F (n + 1) N j' h2
        exact ⟨by omega, by rwa [show n + (j' + 1) + 1 = n + 1 + j' + 1 by omega]⟩

theorem firstFail_none (F : List Nat) : ∀ (n N : Nat), firstFail F n N = none → ∀ k ∈ F, k ≤ n ∨ n + N < k
  | n, 0, _, k, _ => by omega
  | n, N + 1, h, k, hk => by
    rw [firstFail] at h
    split at h
    · cases h
    · rename_i hc
      cases h2 : firstFail F (n + 1) N with
      | some j' => rw [h2] at h; cases h
      | none =>
        have := firstFail_none F (n + 1) N h2 k hk
        by_cases hkn : k = n + 1
        · subst hkn
          exact absurd (by simpa using hk) hc
        · omega

theorem firstFail_isSome (F : List Nat) (n N k : Nat) (hk : k ∈ F) (h1 : n < k) (h2 : k ≤ n + N) :
    ∃ j, firstFail F n N = some j := by
  cases h : firstFail F n N with
  | some j => exact ⟨j, rfl⟩
  | none =>
    have := firstFail_none F n N h k hk
    omega

theorem firstFail_nil : ∀ (n N : Nat), firstFail [] n N = none
  | _, 0 => rfl
  | n, N + 1 => by simp [firstFail, firstFail_nil (n + 1) N]

theorem firstFail_single (k n N : Nat) (h1 : n < k) (h2 : k ≤ n + N) : firstFail [k] n N = some (k - n - 1) := by
  obtain ⟨j, hj⟩ := firstFail_isSome [k] n N k (List.mem_singleton.2 rfl) h1 h2
  have := List.mem_singleton.1 (firstFail_some [k] n N j hj).2
  rw [hj]
  congr 1
  omega

theorem firstFail_mono (F : List Nat) : ∀ (N N' n j : Nat), firstFail F n N = some j → N ≤ N' →
    firstFail F n N' = some j
  | 0, _, n, j, h, _ => by cases h
  | N + 1, 0, n, j, h, hle => by omega
  | N + 1, N' + 1, n, j, h, hle => by
    rw [firstFail] at h ⊢
    split
    · rename_i hc
      rwa [if_pos hc] at h
    · rename_i hc
      rw [if_neg hc] at h
      cases h2 : firstFail F (n + 1) N with
      | none => rw [h2] at h; cases h
      | some j' => rwa [firstFail_mono F N N' (n + 1) j' h2 (by omega), ← h2]

theorem firstFail_split (F : List Nat) : ∀ (N M n : Nat), firstFail F n N = none →
    firstFail F n (N + M) = (firstFail F (n + N) M).map (· + N)
  | 0, M, n, _ => by
    simp only [Nat.zero_add, Nat.add_zero]
    cases firstFail F n M <;> rfl
  | N + 1, M, n, h => by
    rw [firstFail] at h
    rw [show N + 1 + M = (N + M) + 1 by omega, firstFail]
    split at h
    · cases h
    · rename_i hc
      rw [if_neg hc]
      cases h2 : firstFail F (n + 1) N with
      | some j' => rw [h2] at h; cases h
      | none =>
        rw [firstFail_split F N M (n + 1) h2, show n + 1 + N = n + (N + 1) by omega]
        cases firstFail F (n + (N + 1)) M <;> rfl

namespace Prog
variable {β γ : Type}

/-- the result of a run in which no operation fails (`run_eq`): `none` of the pure run is the program's own error, after
all its operations -/
def outcome (p : Prog β) (m : KV) (n : Nat) (F : List Nat) : FR β :=
  match p.pure m with
  | some (v, m') => .ok v ⟨m', n + p.ops m, F⟩
  | none => .err ⟨p.mAfter m (p.ops m), n + p.ops m, F⟩

/-- no read: the operations, their keys and values are fixed in advance (storing and erasing metadata) -/
def blind : Prog β → Prop
  | .ret _ | .fail => True
  | .set _ _ c | .erase _ c => c.blind
  | .get _ _ | .listDir _ _ => False

def leaf : Option β → Prog β
  | some v => .ret v
  | none => .fail

theorem trace_length (p : Prog β) : ∀ m, (p.trace m).length = p.ops m := by
  induction p with
  | ret v | fail => intro m; rfl
  | get k cont ih | set k v cont ih | erase k cont ih | listDir q cont ih =>
    intro m; simp only [trace, ops, List.length_cons, ih]

@[simp] theorem mAfter_zero (p : Prog β) (m : KV) : p.mAfter m 0 = m := by
  cases p <;> rfl

theorem fget_eq (m : KV) (n : Nat) (F : List Nat) (k : Key) :
    fget ⟨m, n, F⟩ k = if F.contains (n + 1) then .err ⟨m, n + 1, F⟩ else .ok (m.get k) ⟨m, n + 1, F⟩ := rfl
theorem fset_eq (m : KV) (n : Nat) (F : List Nat) (k : Key) (v : Bytes) :
    fset ⟨m, n, F⟩ k v = if F.contains (n + 1) then .err ⟨m, n + 1, F⟩ else .ok () ⟨m.put k v, n + 1, F⟩ := rfl
theorem ferase_eq (m : KV) (n : Nat) (F : List Nat) (k : Key) :
    ferase ⟨m, n, F⟩ k = if F.contains (n + 1) then .err ⟨m, n + 1, F⟩ else .ok () ⟨m.erase k, n + 1, F⟩ := rfl
theorem flistDir_eq (m : KV) (n : Nat) (F : List Nat) (q : Key) :
    flistDir ⟨m, n, F⟩ q = if F.contains (n + 1) then .err ⟨m, n + 1, F⟩ else .ok (Spec.listDir m q) ⟨m, n + 1, F⟩ := rfl

private theorem run_eq_step (p q : Prog β) (m m' : KV) (n : Nat) (F : List Nat)
    (hrun : p.run ⟨m, n, F⟩ = if F.contains (n + 1) then .err ⟨m, n + 1, F⟩ else q.run ⟨m', n + 1, F⟩)
    (hpure : p.pure m = q.pure m') (hops : p.ops m = q.ops m' + 1) (hm : ∀ j, p.mAfter m (j + 1) = q.mAfter m' j)
    (ih : q.run ⟨m', n + 1, F⟩ = match firstFail F (n + 1) (q.ops m') with
      | some j => .err ⟨q.mAfter m' j, n + 1 + j + 1, F⟩
      | none => q.outcome m' (n + 1) F) :
    p.run ⟨m, n, F⟩ = match firstFail F n (p.ops m) with
      | some j => .err ⟨p.mAfter m j, n + j + 1, F⟩
      | none => p.outcome m n F := by
  rw [hrun, hops, firstFail]
  split
  · simp only [mAfter_zero, Nat.add_zero]
  · rw [ih]
    cases firstFail F (n + 1) (q.ops m') with
    | some j => simp only [Option.map_some, hm, show n + 1 + j + 1 = n + (j + 1) + 1 by omega]
    | none => simp only [Option.map_none, outcome, hpure, hops, hm, show n + 1 + q.ops m' = n + (q.ops m' + 1) by omega]

theorem run_eq (p : Prog β) : ∀ (m : KV) (n : Nat) (F : List Nat),
    p.run ⟨m, n, F⟩ = match firstFail F n (p.ops m) with
      | some j => .err ⟨p.mAfter m j, n + j + 1, F⟩
      | none => p.outcome m n F := by
  induction p with
  | ret v | fail => intro m n F; rfl
  | get k cont ih =>
    intro m n F
    exact run_eq_step _ (cont (m.get k)) m m n F (by rw [run, fget_eq]; cases F.contains (n + 1) <;> rfl) rfl rfl (fun _ => rfl) (ih ..)
  | set k v cont ih =>
    intro m n F
    exact run_eq_step _ cont m (m.put k v) n F (by rw [run, fset_eq]; cases F.contains (n + 1) <;> rfl) rfl rfl (fun _ => rfl) (ih ..)
  | erase k cont ih =>
    intro m n F
    exact run_eq_step _ cont m (m.erase k) n F (by rw [run, ferase_eq]; cases F.contains (n + 1) <;> rfl) rfl rfl (fun _ => rfl) (ih ..)
  | listDir q cont ih =>
    intro m n F
    exact run_eq_step _ (cont (Spec.listDir m q)) m m n F (by rw [run, flistDir_eq]; cases F.contains (n + 1) <;> rfl) rfl rfl
      (fun _ => rfl) (ih ..)

theorem run_nofault (p : Prog β) (m : KV) (n : Nat) : p.run ⟨m, n, []⟩ = p.outcome m n [] := by
  rw [run_eq, firstFail_nil]

theorem run_nofault_val (p : Prog β) (m : KV) (n : Nat) (res : Option β) (h : p.pure m = res.map (fun v => (v, m))) :
    (p.run ⟨m, n, []⟩).val? = res := by
  rw [run_nofault, outcome, h]
  cases res <;> rfl

theorem fault_is_err (p : Prog β) (m : KV) (n : Nat) (F : List Nat) (k : Nat) (hk : k ∈ F) (h1 : n < k)
    (h2 : k ≤ n + p.ops m) : ∃ s', p.run ⟨m, n, F⟩ = .err s' := by
  obtain ⟨j, hj⟩ := firstFail_isSome F n (p.ops m) k hk h1 h2
  rw [run_eq, hj]
  exact ⟨_, rfl⟩

theorem run_single (p : Prog β) (m : KV) (n k : Nat) (h1 : n < k) (h2 : k ≤ n + p.ops m) :
    p.run ⟨m, n, [k]⟩ = .err ⟨p.mAfter m (k - n - 1), k, [k]⟩ := by
  rw [run_eq, firstFail_single k n _ h1 h2]
  simp only [show n + (k - n - 1) + 1 = k by omega]

structure RunOk (p : Prog β) (m : KV) (n : Nat) (F : List Nat) (v : β) (s' : FStore) : Prop where
  pure : p.pure m = some (v, s'.m)
  count : s'.n = n + p.ops m
  fails : s'.fails = F
  noFault : firstFail F n (p.ops m) = none

theorem run_ok (p : Prog β) (m : KV) (n : Nat) (F : List Nat) (v : β) (s' : FStore) (h : p.run ⟨m, n, F⟩ = .ok v s') :
    RunOk p m n F v s' := by
  rw [run_eq] at h
  cases hf : firstFail F n (p.ops m) with
  | some j => rw [hf] at h; cases h
  | none =>
    rw [hf, outcome] at h
    cases hp : p.pure m with
    | none => rw [hp] at h; cases h
    | some r =>
      rw [hp] at h
      cases h
      exact ⟨hp, rfl, rfl, hf⟩

theorem run_nofault_ok (p : Prog β) (m m' : KV) (v : β) (N : Nat) (h : p.run ⟨m, 0, []⟩ = .ok v ⟨m', N, []⟩) :
    p.pure m = some (v, m') ∧ p.ops m = N :=
  have r := run_ok p m 0 [] v _ h
  ⟨r.pure, by simpa using r.count.symm⟩

theorem run_ok_val (p : Prog β) (m : KV) (res : Option β) (hres : p.pure m = res.map (fun v => (v, m))) (n : Nat)
    (F : List Nat) (v : β) (s' : FStore) (h : p.run ⟨m, n, F⟩ = .ok v s') : res = some v := by
  rw [(run_ok p m n F v s' h).pure] at hres
  cases res with
  | none => cases hres
  | some v' => cases hres; rfl

theorem run_count_bounds (p : Prog β) (m : KV) (n : Nat) (F : List Nat) :
    n ≤ (p.run ⟨m, n, F⟩).st.n ∧ (p.run ⟨m, n, F⟩).st.n ≤ n + p.ops m := by
  rw [run_eq]
  cases hf : firstFail F n (p.ops m) with
  | some j =>
    have := (firstFail_some F n _ j hf).1
    exact ⟨by simp only [FR.st]; omega, by simp only [FR.st]; omega⟩
  | none =>
    rw [outcome]
    cases p.pure m <;> exact ⟨by simp only [FR.st]; omega, by simp only [FR.st]; omega⟩

theorem pure_mAfter (p : Prog β) : ∀ (m : KV) (v : β) (m' : KV), p.pure m = some (v, m') → ∀ j, p.ops m ≤ j → p.mAfter m j = m' := by
  induction p with
  | ret v => intro m v' m' h j _; cases h; rfl
  | fail => intro m v' m' h; cases h
  | get k cont ih | set k v cont ih | erase k cont ih | listDir q cont ih =>
    intro m v' m' h j hj
    cases j with
    | zero => simp only [ops] at hj; omega
    | succ j =>
      simp only [ops] at hj
      simp only [mAfter]
      apply ih
      · exact h
      · omega

theorem outcome_st (p : Prog β) (m : KV) (n : Nat) (F : List Nat) : (p.outcome m n F).st.m = p.mAfter m (p.ops m) := by
  rw [outcome]
  cases hp : p.pure m with
  | none => rfl
  | some r => exact (pure_mAfter p m r.1 r.2 hp _ (Nat.le_refl _)).symm

theorem run_st_mAfter (p : Prog β) (m : KV) (n : Nat) (F : List Nat) : ∃ j, (p.run ⟨m, n, F⟩).st.m = p.mAfter m j := by
  rw [run_eq]
  cases firstFail F n (p.ops m) with
  | some j => exact ⟨j, rfl⟩
  | none => exact ⟨_, outcome_st p m n F⟩

theorem pure_bind (p : Prog β) (f : β → Prog γ) : ∀ m, (p.bind f).pure m =
    match p.pure m with
    | some (v, m') => (f v).pure m'
    | none => none := by
  induction p with
  | ret v | fail => intro m; rfl
  | get k cont ih | set k v cont ih | erase k cont ih | listDir q cont ih => intro m; simp only [bind, pure, ih]

theorem ops_bind (p : Prog β) (f : β → Prog γ) : ∀ m, (p.bind f).ops m =
    p.ops m + match p.pure m with
      | some (v, m') => (f v).ops m'
      | none => 0 := by
  induction p with
  | ret v | fail => intro m; simp only [bind, ops, pure, Nat.zero_add]
  | get k cont ih | set k v cont ih | erase k cont ih | listDir q cont ih =>
    intro m; simp only [bind, ops, pure, ih]; omega

theorem pure_bind_some (p : Prog β) (f : β → Prog γ) (m m' : KV) (v : β) (hp : p.pure m = some (v, m')) :
    (p.bind f).pure m = (f v).pure m' := by
  rw [pure_bind, hp]

/-- the count of the first part is the hypothesis `hN`, not `p.ops m` in the conclusion: on a closed program the kernel
would evaluate that sum, program and all -/
theorem ops_bind_some (p : Prog β) (f : β → Prog γ) (m m' : KV) (v : β) (N : Nat) (hp : p.pure m = some (v, m'))
    (hN : p.ops m = N) : (p.bind f).ops m = N + (f v).ops m' := by
  rw [ops_bind, hp, hN]

theorem run_bind (p : Prog β) (f : β → Prog γ) : ∀ s, (p.bind f).run s =
    match p.run s with
    | .ok v s' => (f v).run s'
    | .err s' => .err s' := by
  induction p with
  | ret v | fail => intro s; rfl
  | get k cont ih | set k v cont ih | erase k cont ih | listDir q cont ih =>
    intro s
    simp only [bind, run]
    split
    · exact ih ..
    · rfl

theorem pure_bind_ret (p : Prog β) (g : β → γ) (m : KV) :
    (p.bind (fun v => .ret (g v))).pure m = (p.pure m).map (fun r => (g r.1, r.2)) := by
  rw [pure_bind]
  cases p.pure m <;> rfl

theorem readOnly_mAfter (p : Prog β) (h : p.readOnly) : ∀ m j, p.mAfter m j = m := by
  induction p with
  | ret v | fail => intro m j; rfl
  | set k v cont ih | erase k cont ih => exact h.elim
  | get k cont ih | listDir q cont ih =>
    intro m j
    cases j with
    | zero => rfl
    | succ j => exact ih _ (h _) m j

theorem readOnly_run (p : Prog β) (h : p.readOnly) (m : KV) (n : Nat) (F : List Nat) :
    (p.run ⟨m, n, F⟩).st.m = m := by
  obtain ⟨j, hj⟩ := run_st_mAfter p m n F
  rw [hj, readOnly_mAfter p h]

theorem readOnly_run_eq (p : Prog β) (h : p.readOnly) (m : KV) (res : Option β) (N : Nat)
    (hres : p.pure m = res.map (fun v => (v, m))) (hN : p.ops m = N) (n : Nat) (F : List Nat) :
    p.run ⟨m, n, F⟩ = match firstFail F n N with
      | some j => .err ⟨m, n + j + 1, F⟩
      | none => match res with
        | some v => .ok v ⟨m, n + N, F⟩
        | none => .err ⟨m, n + N, F⟩ := by
  subst hN
  rw [run_eq]
  cases firstFail F n (p.ops m) with
  | some j => simp only [readOnly_mAfter p h]
  | none =>
    cases res with
    | some v => simp only [outcome, hres, Option.map_some]
    | none => simp only [outcome, hres, Option.map_none, readOnly_mAfter p h]

theorem readOnly_writeLast (p : Prog β) (h : p.readOnly) : p.writeLast := by
  induction p with
  | ret v | fail => trivial
  | set k v cont ih | erase k cont ih => exact h.elim
  | get k cont ih | listDir q cont ih => exact fun v => ih v (h v)

theorem readOnly_bind (p : Prog β) (f : β → Prog γ) (hp : p.readOnly) (hf : ∀ v, (f v).readOnly) :
    (p.bind f).readOnly := by
  induction p with
  | ret v => exact hf v
  | fail => trivial
  | set k v cont ih | erase k cont ih => exact hp.elim
  | get k cont ih | listDir q cont ih => exact fun v => ih v (hp v)

theorem writeLast_mAfter (p : Prog β) (h : p.writeLast) : ∀ m j, j < p.ops m ∨ p.pure m = none → p.mAfter m j = m := by
  induction p with
  | ret v | fail => intro m j _; rfl
  | set k v cont ih | erase k cont ih =>
    intro m j hj
    obtain ⟨v', rfl⟩ := h
    rcases hj with hj | hj
    · simp only [ops] at hj
      rw [show j = 0 by omega]
      rfl
    · cases hj
  | get k cont ih | listDir q cont ih =>
    intro m j hj
    cases j with
    | zero => rfl
    | succ j => exact ih _ (h _) m j (hj.imp (fun hj => by simp only [ops] at hj; omega) id)

/-- atomic: the error may be a fault on any of its reads, a fault on the write itself, or an error of its own -/
theorem writeLast_err (p : Prog β) (h : p.writeLast) (m : KV) (n : Nat) (F : List Nat) (s' : FStore)
    (he : p.run ⟨m, n, F⟩ = .err s') : s'.m = m := by
  rw [run_eq] at he
  cases hf : firstFail F n (p.ops m) with
  | some j =>
    rw [hf] at he
    cases he
    exact writeLast_mAfter p h m j (Or.inl (firstFail_some F n _ j hf).1)
  | none =>
    rw [hf, outcome] at he
    cases hp : p.pure m with
    | some r => rw [hp] at he; cases he
    | none =>
      rw [hp] at he
      cases he
      exact writeLast_mAfter p h m _ (Or.inr hp)

theorem blind_key (p : Prog β) (h : p.blind) (k : Key) :
    (∃ w, ∀ m, (p.mAfter m (p.ops m)).get k = w) ∨ ∀ m j, (p.mAfter m j).get k = m.get k := by
  induction p with
  | ret v | fail => exact Or.inr fun _ _ => rfl
  | get _ _ | listDir _ _ => exact h.elim
  | set k0 v c ih =>
    rcases ih h with ⟨w, hw⟩ | hr
    · exact Or.inl ⟨w, fun m => hw _⟩
    · by_cases hk : k = k0
      · exact Or.inl ⟨some v, fun m => (hr _ _).trans (hk ▸ KV.get_put_same m k0 v)⟩
      · exact Or.inr fun m j => by
          cases j with
          | zero => rfl
          | succ j => exact (hr _ j).trans (KV.get_put_other m k0 k v hk)
  | erase k0 c ih =>
    rcases ih h with ⟨w, hw⟩ | hr
    · exact Or.inl ⟨w, fun m => hw _⟩
    · by_cases hk : k = k0
      · exact Or.inl ⟨none, fun m => (hr _ _).trans ((KV.get_erase m k0 k).trans (if_pos hk))⟩
      · exact Or.inr fun m j => by
          cases j with
          | zero => rfl
          | succ j => exact (hr _ j).trans ((KV.get_erase m k0 k).trans (if_neg hk))

/-- the retry writes again every key the program writes, and the faulted run touched no other -/
theorem blind_retry (p : Prog β) (h : p.blind) (m : KV) (n n' : Nat) (F : List Nat) (k : Key) :
    (p.run ⟨(p.run ⟨m, n, F⟩).st.m, n', []⟩).st.m.get k = (p.run ⟨m, n', []⟩).st.m.get k := by
  obtain ⟨j, hj⟩ := run_st_mAfter p m n F
  rw [hj, run_nofault, run_nofault, outcome_st, outcome_st]
  rcases blind_key p h k with ⟨w, hw⟩ | hr
  · rw [hw, hw]
  · rw [hr, hr, hr]

theorem leaf_pure (o : Option β) (m : KV) : (leaf o).pure m = o.map (fun v => (v, m)) := by
  cases o <;> rfl

theorem leaf_readOnly (o : Option β) : (leaf o).readOnly := by
  cases o <;> trivial

theorem pure_seq_cons (p : Prog Unit) (ps : List (Prog Unit)) (m : KV) :
    (seq (p :: ps)).pure m = match p.pure m with
      | some (_, m') => (seq ps).pure m'
      | none => none := by
  rw [seq, pure_bind]
  cases p.pure m <;> rfl

theorem ops_seq_cons (p : Prog Unit) (ps : List (Prog Unit)) (m : KV) :
    (seq (p :: ps)).ops m = p.ops m + match p.pure m with
      | some (_, m') => (seq ps).ops m'
      | none => 0 := by
  rw [seq, ops_bind]
  cases p.pure m <;> rfl

/-- the window is that of the fault-free SEQUENTIAL run, though `runAll` starts every closure -/
theorem runAll_fault_is_err : ∀ (ps : List (Prog Unit)) (m : KV) (n : Nat) (F : List Nat) (k : Nat), k ∈ F → n < k →
    k ≤ n + (seq ps).ops m → ∃ s', runAll ps ⟨m, n, F⟩ = .err s'
  | [], m, n, F, k, _, h1, h2 => by simp only [seq, ops] at h2; omega
  | p :: ps, m, n, F, k, hk, h1, h2 => by
    rw [runAll]
    cases hr : p.run ⟨m, n, F⟩ with
    | err s' => exact ⟨_, rfl⟩
    | ok v s' =>
      obtain ⟨hp, hn, hF, hff⟩ := run_ok p m n F v s' hr
      rw [ops_seq_cons, hp] at h2
      have hk2 : n + p.ops m < k := (firstFail_none F n _ hff k hk).resolve_left (by omega)
      obtain ⟨m', n', F'⟩ := s'
      subst hn hF
      exact runAll_fault_is_err ps m' _ _ k hk hk2 (by simp only at h2; omega)

theorem runAll_ok : ∀ (ps : List (Prog Unit)) (s s' : FStore), runAll ps s = .ok () s' → (seq ps).run s = .ok () s'
  | [], s, s', h => h
  | p :: ps, s, s', h => by
    rw [runAll] at h
    rw [seq, run_bind]
    cases hr : p.run s with
    | err s1 => rw [hr] at h; cases h
    | ok v s1 =>
      rw [hr] at h
      exact runAll_ok ps s1 s' h

theorem runAll_of_seq_ok : ∀ (ps : List (Prog Unit)) (s s' : FStore), (seq ps).run s = .ok () s' → runAll ps s = .ok () s'
  | [], s, s', h => h
  | p :: ps, s, s', h => by
    rw [seq, run_bind] at h
    rw [runAll]
    cases hr : p.run s with
    | err s1 => rw [hr] at h; cases h
    | ok v s1 =>
      rw [hr] at h
      exact runAll_of_seq_ok ps s1 s' h

end Prog
end Zarrs
