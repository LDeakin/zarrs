import ZarrsModel.Model.Shard
import ZarrsModel.Lemmas.CodecBasic
import ZarrsModel.Lemmas.ListBasic
import ZarrsModel.Lemmas.Slice
/- C03 for `sharding_indexed`.  How a shard value is read: entry by entry (`decEntry`), through its table (`Table`: what
`decode` and `wellFormed` accept, and `Legal` up to strictness: `table_of`, `legal_iff`).  How one is written: a data
region with an index table that names the place of every stored chunk is such a value (`table_of_entries`); the layout of
`encode` is an instance (`encode_table`), with the encoded length. -/
namespace Zarrs.Shard
open Zarrs Zarrs.Codec

theorem w64_length (big : Bool) (n : Nat) : (w64 big n).length = 8 := by
  cases big
  · rfl
  · exact List.length_reverse

theorem r64_w64 (big : Bool) (n : Nat) (h : n < 2 ^ 64) : r64 big (w64 big n) = n := by
  cases big
  · exact ofLe_le64 n h
  · exact (congrArg ofLe (List.reverse_reverse _)).trans (ofLe_le64 n h)

def rawIndex (big : Bool) (entries : List (Nat × Nat)) : Bytes :=
  entries.flatMap (fun e => w64 big e.1 ++ w64 big e.2)

theorem rawIndex_length (big : Bool) (entries : List (Nat × Nat)) :
    (rawIndex big entries).length = 16 * entries.length := by
  induction entries with
  | nil => rfl
  | cons e es ih =>
    simp only [rawIndex, List.flatMap_cons, List.length_append, w64_length, List.length_cons] at ih ⊢
    omega

theorem readEntries_raw (big : Bool) (entries : List (Nat × Nat))
    (h : ∀ e ∈ entries, e.1 < 2 ^ 64 ∧ e.2 < 2 ^ 64) :
    readEntries big entries.length (rawIndex big entries) = entries := by
  induction entries with
  | nil => rfl
  | cons e es ih =>
    have he := h e List.mem_cons_self
    have hr : rawIndex big (e :: es) = w64 big e.1 ++ (w64 big e.2 ++ rawIndex big es) := by
      rw [rawIndex, List.flatMap_cons, List.append_assoc]; rfl
    have hd : (rawIndex big (e :: es)).drop 16 = rawIndex big es := by
      rw [hr, ← List.append_assoc]
      exact List.drop_left' (by rw [List.length_append, w64_length, w64_length])
    rw [List.length_cons, readEntries, hd, hr, List.take_left' (w64_length _ _), List.drop_left' (w64_length _ _),
      List.take_left' (w64_length _ _), r64_w64 _ _ he.1, r64_w64 _ _ he.2,
      ih fun e' he' => h e' (List.mem_cons_of_mem _ he')]

theorem encodeIndex_def (c : Cfg) (entries : List (Nat × Nat)) :
    encodeIndex c entries = if c.indexCrc then checksumEnc crc32c (rawIndex c.indexBig entries)
      else rawIndex c.indexBig entries := rfl

theorem encodeIndex_length (c : Cfg) (entries : List (Nat × Nat)) (hn : entries.length = c.nChunks) :
    (encodeIndex c entries).length = indexSize c := by
  have := rawIndex_length c.indexBig entries
  rw [hn] at this
  rw [encodeIndex_def]
  unfold indexSize
  cases c.indexCrc
  · simpa using this
  · simp only [if_true]
    rw [checksumEnc_length, this]

theorem decodeIndex_encodeIndex (c : Cfg) (validate : Bool) (entries : List (Nat × Nat))
    (hn : entries.length = c.nChunks) (h : ∀ e ∈ entries, e.1 < 2 ^ 64 ∧ e.2 < 2 ^ 64) :
    decodeIndex c validate (encodeIndex c entries) = .ok entries := by
  unfold decodeIndex
  rw [encodeIndex_length c entries hn]
  simp only [bne_self_eq_false, Bool.false_eq_true, if_false]
  have hre := readEntries_raw c.indexBig entries h
  rw [hn] at hre
  rw [encodeIndex_def]
  cases c.indexCrc
  · simpa using hre
  · simp only [if_true]
    rw [show crc32cDec = checksumDec crc32c from rfl, checksumDec_enc]
    exact congrArg Except.ok hre

theorem readEntries_length (big : Bool) (n : Nat) (b : Bytes) : (readEntries big n b).length = n := by
  induction n generalizing b with
  | zero => rfl
  | succ n ih => simp [readEntries, ih]

theorem decodeIndex_length (c : Cfg) (validate : Bool) (ib : Bytes) (es : List (Nat × Nat))
    (h : decodeIndex c validate ib = .ok es) : es.length = c.nChunks := by
  unfold decodeIndex at h
  split at h
  · cases h
  · split at h
    · split at h
      · cases h; exact readEntries_length _ _ _
      · cases h
    · cases h; exact readEntries_length _ _ _

def decEntry (v : Bytes) (e : Nat × Nat) : Except DecErr (Option Bytes) :=
  if e.1 == sentinel && e.2 == sentinel then .ok none
  else if e.1 + e.2 > v.length then .error .other
  else .ok (some (slice v e.1 (e.1 + e.2)))

theorem decode_def (c : Cfg) (validate : Bool) (v : Bytes) :
    decode c validate v = match indexBytes c v with
      | none => .error .tooShort
      | some ib => match decodeIndex c validate ib with
        | .error e => .error e
        | .ok entries => entries.mapM (decEntry v) := rfl

/-- `isLive` against the test as `Shard.decode`, `shardPart` and `chunkInfo` write it -/
theorem isLive_eq_true (e : Nat × Nat) : isLive e = true ↔ (e.1 == sentinel && e.2 == sentinel) = false := by
  simp only [isLive, Bool.not_eq_true']

theorem isLive_eq_false (e : Nat × Nat) : isLive e = false ↔ (e.1 == sentinel && e.2 == sentinel) = true := by
  simp only [isLive, Bool.not_eq_false']

theorem not_isLive_iff (e : Nat × Nat) : isLive e = false ↔ e = (sentinel, sentinel) := by
  obtain ⟨a, b⟩ := e
  simp [isLive]

theorem decEntry_dead (v : Bytes) (e : Nat × Nat) (h : isLive e = false) : decEntry v e = .ok none := by
  rw [(not_isLive_iff e).mp h]; simp [decEntry]

theorem decEntry_live (v : Bytes) (e : Nat × Nat) (h : isLive e = true) :
    decEntry v e = if e.1 + e.2 > v.length then .error .other else .ok (some (slice v e.1 (e.1 + e.2))) := by
  simp [decEntry, (isLive_eq_true e).mp h]

theorem decEntry_ok_iff (v : Bytes) (e : Nat × Nat) (ch : Option Bytes) :
    decEntry v e = .ok ch ↔
      (isLive e = false ∧ ch = none) ∨
        (isLive e = true ∧ e.1 + e.2 ≤ v.length ∧ ch = some (slice v e.1 (e.1 + e.2))) := by
  cases hl : isLive e with
  | false =>
    rw [decEntry_dead v e hl]
    constructor
    · intro h
      exact Or.inl ⟨rfl, (Except.ok.inj h).symm⟩
    · rintro (⟨_, rfl⟩ | ⟨h, _⟩)
      · rfl
      · cases h
  | true =>
    rw [decEntry_live v e hl]
    constructor
    · intro h
      split at h
      · cases h
      · exact Or.inr ⟨rfl, by omega, (Except.ok.inj h).symm⟩
    · rintro (⟨h, _⟩ | ⟨_, hle, rfl⟩)
      · cases h
      · rw [if_neg (by omega)]

theorem sentinel_lt : sentinel < 2 ^ 64 := by decide

theorem isLive_of_lt (e : Nat × Nat) (h : e.1 < sentinel) : isLive e = true := by
  have : (e.1 == sentinel) = false := beq_eq_false_iff_ne.mpr (Nat.ne_of_lt h)
  simp [isLive, this]

theorem decEntry_placed (pre data post p b q : Bytes) (hd : data = p ++ b ++ q) (hs : pre.length + data.length < sentinel) :
    decEntry (pre ++ data ++ post) (pre.length + p.length, b.length) = .ok (some b) := by
  subst hd
  simp only [List.length_append] at hs
  rw [decEntry_live _ _ (isLive_of_lt _ (by simp only; omega)), if_neg (by simp only [List.length_append]; omega),
    show pre ++ (p ++ b ++ q) ++ post = (pre ++ p) ++ (b ++ (q ++ post)) by simp only [List.append_assoc],
    ← List.length_append]
  exact congrArg (fun x => Except.ok (some x)) (slice_mid _ _ _)

theorem decEntry_lt {v : Bytes} {e : Nat × Nat} {ch : Option Bytes} (h : decEntry v e = .ok ch)
    (hs : v.length < sentinel) : e.1 < 2 ^ 64 ∧ e.2 < 2 ^ 64 := by
  have := sentinel_lt
  rcases (decEntry_ok_iff v e ch).mp h with ⟨hl, _⟩ | ⟨_, hle, _⟩
  · rw [(not_isLive_iff e).mp hl]; exact ⟨this, this⟩
  · constructor <;> omega

theorem decEntries_all_none_iff {v : Bytes} {idx : List (Nat × Nat)} {chunks : List (Option Bytes)}
    (h : idx.mapM (decEntry v) = .ok chunks) :
    idx.all (fun e => !isLive e) = true ↔ ∀ ch ∈ chunks, ch = none := by
  obtain ⟨hl, hpt⟩ := mapM_except_ok _ _ _ h
  have key : ∀ i (h1 : i < idx.length) (h2 : i < chunks.length), isLive idx[i] = false ↔ chunks[i] = none := by
    intro i h1 h2
    rcases (decEntry_ok_iff ..).mp (hpt i h1 h2) with ⟨a, b⟩ | ⟨a, _, b⟩ <;> simp [a, b]
  rw [List.all_eq_true]
  constructor
  · intro h ch hch
    obtain ⟨i, hi, rfl⟩ := List.getElem_of_mem hch
    exact (key i (hl ▸ hi) hi).mp (by simpa using h _ (List.getElem_mem (hl ▸ hi)))
  · intro h e he
    obtain ⟨i, hi, rfl⟩ := List.getElem_of_mem he
    simp [(key i hi (hl ▸ hi)).mpr (h _ (List.getElem_mem _))]

theorem decode_ok_iff (c : Cfg) (validate : Bool) (v : Bytes) (chunks : List (Option Bytes)) :
    decode c validate v = .ok chunks ↔ ∃ ib entries, indexBytes c v = some ib ∧
      decodeIndex c validate ib = .ok entries ∧ entries.mapM (decEntry v) = .ok chunks := by
  rw [decode_def]
  constructor
  · intro h
    split at h
    · cases h
    · rename_i ib hib
      split at h
      · cases h
      · rename_i entries hdi
        exact ⟨ib, entries, hib, hdi, h⟩
  · rintro ⟨ib, entries, hib, hdi, hm⟩
    simp only [hib, hdi, hm]

/-- what `wellFormed` asks of two live entries -/
def Apart (a b : Nat × Nat) : Prop := a.1 + a.2 ≤ b.1 ∨ b.1 + b.2 ≤ a.1 ∨ a.2 = 0 ∨ b.2 = 0

theorem Apart.symm {a b : Nat × Nat} (h : Apart a b) : Apart b a := by
  unfold Apart at *; omega

def WF (c : Cfg) (len : Nat) (entries : List (Nat × Nat)) : Prop :=
  (∀ e ∈ entries, isLive e = true →
    e.1 + e.2 ≤ len ∧ (e.1 + e.2 ≤ (indexRegion c len).1 ∨ (indexRegion c len).2 ≤ e.1)) ∧
  (∀ (i j : Nat) (a b : Nat × Nat), i ≠ j → entries[i]? = some a → entries[j]? = some b →
    isLive a = true → isLive b = true → Apart a b)

theorem wfPairs_iff (live : List (Nat × Nat)) :
    (List.range live.length).all (fun i => (List.range live.length).all (fun j =>
        i == j || (let a := live.getD i (0, 0); let b := live.getD j (0, 0);
          decide (a.1 + a.2 ≤ b.1) || decide (b.1 + b.2 ≤ a.1) || a.2 == 0 || b.2 == 0))) = true ↔
      live.Pairwise Apart := by
  rw [pairwise_sym_iff Apart (fun _ _ => Apart.symm)]
  simp only [List.all_eq_true, List.mem_range, Bool.or_eq_true, beq_iff_eq, decide_eq_true_eq]
  constructor
  · intro h i j a b hij hi hj
    obtain ⟨hi', rfl⟩ := List.getElem?_eq_some_iff.mp hi
    obtain ⟨hj', rfl⟩ := List.getElem?_eq_some_iff.mp hj
    have := h i hi' j hj'
    rw [List.getD_eq_getElem?_getD, List.getD_eq_getElem?_getD, List.getElem?_eq_getElem hi',
      List.getElem?_eq_getElem hj'] at this
    simp only [Option.getD_some] at this
    unfold Apart
    omega
  · intro h i hi j hj
    by_cases hij : i = j
    · exact Or.inl hij
    · right
      have := h i j _ _ hij (List.getElem?_eq_getElem hi) (List.getElem?_eq_getElem hj)
      rw [List.getD_eq_getElem?_getD, List.getD_eq_getElem?_getD, List.getElem?_eq_getElem hi,
        List.getElem?_eq_getElem hj]
      simp only [Option.getD_some]
      unfold Apart at this
      omega

theorem wellFormed_iff (c : Cfg) (v : Bytes) :
    wellFormed c v = true ↔
      ∃ ib entries, indexBytes c v = some ib ∧ decodeIndex c true ib = .ok entries ∧ WF c v.length entries := by
  unfold wellFormed
  cases hib : indexBytes c v with
  | none => simp
  | some ib =>
    cases hd : decodeIndex c true ib with
    | error e => simp [hd]
    | ok entries =>
      simp only [Option.some.injEq, exists_and_left, exists_eq_left', hd, Except.ok.injEq]
      rw [Bool.and_eq_true, wfPairs_iff, List.pairwise_filter,
        pairwise_sym_iff _ (fun a b h hb ha => (h ha hb).symm)]
      unfold WF
      simp only [List.all_eq_true, List.mem_filter, Bool.and_eq_true, Bool.or_eq_true, decide_eq_true_eq, and_imp]

/-- the live entries pairwise disjoint as `Legal` asks; `Apart` moreover lets an entry of size 0 lie anywhere -/
def StrictlyApart (idx : List (Nat × Nat)) : Prop :=
  ∀ i j (hi : i < idx.length) (hj : j < idx.length), i ≠ j → isLive idx[i] = true → isLive idx[j] = true →
    idx[i].1 + idx[i].2 ≤ idx[j].1 ∨ idx[j].1 + idx[j].2 ≤ idx[i].1

theorem WF.of_strict {c : Cfg} {len : Nat} {idx : List (Nat × Nat)}
    (h1 : ∀ e ∈ idx, isLive e = true → e.1 + e.2 ≤ len ∧ (e.1 + e.2 ≤ (indexRegion c len).1 ∨ (indexRegion c len).2 ≤ e.1))
    (h2 : StrictlyApart idx) : WF c len idx := by
  refine ⟨h1, fun i j a b hij hi hj hla hlb => ?_⟩
  obtain ⟨hi', rfl⟩ := List.getElem?_eq_some_iff.mp hi
  obtain ⟨hj', rfl⟩ := List.getElem?_eq_some_iff.mp hj
  rcases h2 i j hi' hj' hij hla hlb with h | h
  · exact Or.inl h
  · exact Or.inr (Or.inl h)

/-- what `decode` and `wellFormed` accept (`table_of`), what `Legal` says up to strictness (`legal_iff`), and what every
writer establishes of its value -/
structure Table (c : Cfg) (v : Bytes) (chunks : List (Option Bytes)) (ib : Bytes) (idx : List (Nat × Nat)) : Prop where
  hib : indexBytes c v = some ib
  hdi : decodeIndex c true ib = .ok idx
  dec : idx.mapM (decEntry v) = .ok chunks
  wf : WF c v.length idx

namespace Table
variable {c : Cfg} {v ib : Bytes} {chunks : List (Option Bytes)} {idx : List (Nat × Nat)} (T : Table c v chunks ib idx)
include T

theorem decode : Shard.decode c true v = .ok chunks := (decode_ok_iff ..).mpr ⟨ib, idx, T.hib, T.hdi, T.dec⟩

theorem wellFormed : Shard.wellFormed c v = true := (wellFormed_iff c v).mpr ⟨ib, idx, T.hib, T.hdi, T.wf⟩

theorem len : idx.length = c.nChunks := decodeIndex_length c true ib idx T.hdi

theorem inside {e : Nat × Nat} (he : e ∈ idx) (hl : isLive e = true) : e.1 + e.2 ≤ v.length := (T.wf.1 e he hl).1

theorem clearOfIndex {e : Nat × Nat} (he : e ∈ idx) (hl : isLive e = true) :
    e.1 + e.2 ≤ (indexRegion c v.length).1 ∨ (indexRegion c v.length).2 ≤ e.1 :=
  (T.wf.1 e he hl).2

theorem apart {i j : Nat} {a b : Nat × Nat} (hij : i ≠ j) (hi : idx[i]? = some a) (hj : idx[j]? = some b)
    (hla : isLive a = true) (hlb : isLive b = true) : Apart a b :=
  T.wf.2 i j a b hij hi hj hla hlb

theorem chunks_len : chunks.length = c.nChunks := (mapM_except_ok _ _ _ T.dec).1.trans T.len

theorem isz : indexSize c ≤ v.length := by
  have := T.hib
  unfold indexBytes at this
  split at this
  · cases this
  · omega

end Table

theorem table_of {c : Cfg} {v : Bytes} {chunks : List (Option Bytes)} (hdec : decode c true v = .ok chunks)
    (hwf : wellFormed c v = true) : ∃ ib idx, Table c v chunks ib idx := by
  obtain ⟨ib, idx, hib, hdi, hWF⟩ := (wellFormed_iff c v).mp hwf
  obtain ⟨_, _, hib', hdi', hm⟩ := (decode_ok_iff ..).mp hdec
  cases hib.symm.trans hib'
  cases hdi.symm.trans hdi'
  exact ⟨ib, idx, hib, hdi, hm, hWF⟩

/-- `Legal` through the table: `wellFormed` lets an entry of size 0 lie inside another, `Legal` wants the live entries
strictly apart -/
theorem legal_iff (c : Cfg) (v : Bytes) (chunks : List (Option Bytes)) :
    Legal c v chunks ↔ ∃ ib idx, Table c v chunks ib idx ∧ StrictlyApart idx := by
  constructor
  · rintro ⟨hn, ib, idx, hib, hdi, hlen, hpt, hdisj⟩
    refine ⟨ib, idx, ⟨hib, hdi, mapM_ok_of_pointwise _ _ _ (hlen.trans hn.symm) fun i h1 h2 => ?_,
      WF.of_strict (fun e he hl => ?_) hdisj⟩, hdisj⟩
    · have := hpt i h1 h2
      rw [decEntry_ok_iff]
      split at this
      · rename_i heq; exact Or.inl ⟨this, heq⟩
      · rename_i b heq; exact Or.inr ⟨this.1, this.2.2.1, by rw [this.2.2.2.1, heq]⟩
    · obtain ⟨i, hi, rfl⟩ := List.getElem_of_mem he
      have := hpt i hi (by omega)
      split at this
      · rw [this] at hl; cases hl
      · exact ⟨this.2.2.1, this.2.2.2.2⟩
  · rintro ⟨ib, idx, T, hdisj⟩
    obtain ⟨hlc, hpt⟩ := mapM_except_ok _ _ _ T.dec
    refine ⟨T.chunks_len, ib, idx, T.hib, T.hdi, T.len, fun i h hc => ?_, hdisj⟩
    rcases (decEntry_ok_iff ..).mp (hpt i h hc) with ⟨hl, hch⟩ | ⟨hl, hle, hch⟩
    · rw [hch]; exact hl
    · rw [hch]
      exact ⟨hl, by rw [slice_length v _ _ hle]; omega, hle, rfl, T.clearOfIndex (List.getElem_mem h) hl⟩

theorem legal_decodes (c : Cfg) (v : Bytes) (chunks : List (Option Bytes)) (h : Legal c v chunks) :
    decode c true v = .ok chunks :=
  let ⟨_, _, T, _⟩ := (legal_iff c v chunks).mp h
  T.decode

/-- the converse needs non-empty stored chunks: `legal_of_wf` -/
theorem legal_wellFormed (c : Cfg) (v : Bytes) (chunks : List (Option Bytes)) (h : Legal c v chunks) :
    wellFormed c v = true :=
  let ⟨_, _, T, _⟩ := (legal_iff c v chunks).mp h
  T.wellFormed

/-- the hypothesis `hpos` of `legal_of_wf` as a check -/
theorem pos_of_all {chunks : List (Option Bytes)}
    (h : chunks.all (fun ch => ch.all (fun b => decide (0 < b.length))) = true) : ∀ b, some b ∈ chunks → 0 < b.length :=
  fun b hb => by simpa using List.all_eq_true.mp h _ hb

/-- `hpos`: `wellFormed` lets an entry of size 0 lie inside another entry, `Shard.Legal` does not -/
theorem legal_of_wf (c : Cfg) (v : Bytes) (chunks : List (Option Bytes))
    (hdec : decode c true v = .ok chunks) (hwf : wellFormed c v = true)
    (hpos : ∀ b, some b ∈ chunks → 0 < b.length) : Legal c v chunks := by
  obtain ⟨ib, idx, T⟩ := table_of hdec hwf
  obtain ⟨hlc, hpt⟩ := mapM_except_ok _ _ _ T.dec
  refine (legal_iff ..).mpr ⟨ib, idx, T, fun i j hi hj hij hli hlj => ?_⟩
  have hlen2 : ∀ k (hk : k < idx.length), isLive idx[k] = true → 0 < idx[k].2 := by
    intro k hk hlk
    rcases (decEntry_ok_iff ..).mp (hpt k hk (hlc ▸ hk)) with ⟨hl, _⟩ | ⟨_, hle, hch⟩
    · rw [hlk] at hl; cases hl
    · have := hpos _ (hch ▸ List.getElem_mem (hlc ▸ hk))
      rw [slice_length v _ _ hle] at this
      omega
  have hR := T.apart hij (List.getElem?_eq_getElem hi) (List.getElem?_eq_getElem hj) hli hlj
  have hpi := hlen2 i hi hli
  have hpj := hlen2 j hj hlj
  unfold Apart at hR
  omega

def dataOf (chunks : List (Option Bytes)) : Bytes := (chunks.filterMap id).flatten

def entriesFrom : Nat → List (Option Bytes) → List (Nat × Nat)
  | _, [] => []
  | off, none :: cs => (sentinel, sentinel) :: entriesFrom off cs
  | off, some b :: cs => (off, b.length) :: entriesFrom (off + b.length) cs

@[simp] theorem dataOf_nil : dataOf [] = [] := rfl
@[simp] theorem dataOf_none (cs : List (Option Bytes)) : dataOf (none :: cs) = dataOf cs := rfl
@[simp] theorem dataOf_some (b : Bytes) (cs : List (Option Bytes)) : dataOf (some b :: cs) = b ++ dataOf cs := rfl

theorem entriesFrom_length (off : Nat) (chunks : List (Option Bytes)) :
    (entriesFrom off chunks).length = chunks.length := by
  induction chunks generalizing off with
  | nil => rfl
  | cons ch cs ih => cases ch <;> simp [entriesFrom, ih]

theorem dataOf_length (chunks : List (Option Bytes)) :
    (dataOf chunks).length = ((chunks.filterMap id).map List.length).sum := by
  simp [dataOf, List.length_flatten]

def layoutStep (acc : Bytes × List (Nat × Nat) × Nat) (ch : Option Bytes) : Bytes × List (Nat × Nat) × Nat :=
  match ch with
  | none => (acc.1, acc.2.1 ++ [(sentinel, sentinel)], acc.2.2)
  | some b => (acc.1 ++ b, acc.2.1 ++ [(acc.2.2, b.length)], acc.2.2 + b.length)

theorem layout_foldl (chunks : List (Option Bytes)) (d : Bytes) (es : List (Nat × Nat)) (off : Nat) :
    chunks.foldl layoutStep (d, es, off) =
      (d ++ dataOf chunks, es ++ entriesFrom off chunks, off + (dataOf chunks).length) := by
  induction chunks generalizing d es off with
  | nil => simp [entriesFrom]
  | cons ch cs ih =>
    cases ch with
    | none => simp [layoutStep, ih, entriesFrom]
    | some b => simp [layoutStep, ih, entriesFrom, Nat.add_assoc]

def base (c : Cfg) : Nat := if c.indexAtEnd then 0 else indexSize c

theorem layout_eq (c : Cfg) (chunks : List (Option Bytes)) :
    layout c chunks = (dataOf chunks, entriesFrom (base c) chunks) := by
  show (match chunks.foldl layoutStep ([], [], base c) with | (data, entries, _) => (data, entries)) = _
  rw [layout_foldl]
  simp

theorem encode_eq (c : Cfg) (chunks : List (Option Bytes)) :
    encode c chunks = if c.indexAtEnd then dataOf chunks ++ encodeIndex c (entriesFrom (base c) chunks)
      else encodeIndex c (entriesFrom (base c) chunks) ++ dataOf chunks := by
  unfold encode
  rw [layout_eq]

theorem entriesFrom_mem (chunks : List (Option Bytes)) : ∀ (off : Nat), ∀ e ∈ entriesFrom off chunks,
    e = (sentinel, sentinel) ∨ (off ≤ e.1 ∧ e.1 + e.2 ≤ off + (dataOf chunks).length) := by
  induction chunks with
  | nil => intro off e he; simp [entriesFrom] at he
  | cons ch cs ih =>
    intro off e he
    cases ch with
    | none =>
      simp only [entriesFrom, List.mem_cons] at he
      rcases he with rfl | he
      · exact Or.inl rfl
      · exact ih off e he
    | some b =>
      simp only [entriesFrom, List.mem_cons] at he
      simp only [dataOf_some, List.length_append]
      rcases he with rfl | he
      · right; simp
      · rcases ih _ e he with h | h
        · exact Or.inl h
        · right; omega

theorem entriesFrom_pairwise (chunks : List (Option Bytes)) : ∀ (off : Nat),
    (entriesFrom off chunks).Pairwise (fun a b => isLive a = true → isLive b = true → a.1 + a.2 ≤ b.1) := by
  induction chunks with
  | nil => intro off; simp [entriesFrom]
  | cons ch cs ih =>
    intro off
    cases ch with
    | none =>
      simp only [entriesFrom, List.pairwise_cons]
      refine ⟨?_, ih off⟩
      intro e _ h; simp [isLive] at h
    | some b =>
      simp only [entriesFrom, List.pairwise_cons]
      refine ⟨?_, ih _⟩
      intro e he _ hl
      rcases entriesFrom_mem cs _ e he with rfl | h
      · simp [isLive] at hl
      · exact h.1

theorem dataOf_all_none (vals : List (Option Bytes)) (h : ¬ ∃ ch ∈ vals, Option.isSome ch = true) : dataOf vals = [] := by
  induction vals with
  | nil => rfl
  | cons ch cs ih =>
    cases ch with
    | some b => exact absurd ⟨some b, by simp, rfl⟩ h
    | none =>
      rw [dataOf_none]
      exact ih (fun ⟨ch, hm, hs⟩ => h ⟨ch, by simp [hm], hs⟩)

theorem entriesFrom_last (vals : List (Option Bytes)) : ∀ (off : Nat), (∃ ch ∈ vals, Option.isSome ch = true) →
    off + (dataOf vals).length < sentinel →
    ∃ (k : Nat) (e : Nat × Nat), (entriesFrom off vals)[k]? = some e ∧ isLive e = true ∧
      e.1 + e.2 = off + (dataOf vals).length := by
  induction vals with
  | nil => intro off h; simp at h
  | cons ch cs ih =>
    intro off h hs
    cases ch with
    | none =>
      have h' : ∃ ch ∈ cs, Option.isSome ch = true := by
        obtain ⟨ch, hm, hi⟩ := h
        rcases List.mem_cons.mp hm with rfl | hm
        · cases hi
        · exact ⟨ch, hm, hi⟩
      obtain ⟨k, e, h1, h2, h3⟩ := ih off h' hs
      exact ⟨k + 1, e, by simpa [entriesFrom] using h1, h2, h3⟩
    | some b =>
      simp only [dataOf_some, List.length_append] at hs ⊢
      by_cases h' : ∃ ch ∈ cs, Option.isSome ch = true
      · obtain ⟨k, e, h1, h2, h3⟩ := ih (off + b.length) h' (by omega)
        exact ⟨k + 1, e, by simpa [entriesFrom] using h1, h2, by omega⟩
      · rw [dataOf_all_none cs h']
        exact ⟨0, (off, b.length), by simp [entriesFrom], isLive_of_lt _ (by simp only; omega), by simp⟩

theorem entriesFrom_all_none (vals : List (Option Bytes)) (h : ¬ ∃ ch ∈ vals, Option.isSome ch = true) (off : Nat) :
    entriesFrom off vals = List.replicate vals.length (sentinel, sentinel) := by
  induction vals with
  | nil => rfl
  | cons ch cs ih =>
    cases ch with
    | some b => exact absurd ⟨some b, by simp, rfl⟩ h
    | none =>
      simp only [entriesFrom, List.length_cons, List.replicate_succ]
      rw [ih fun ⟨ch, hm, hs⟩ => h ⟨ch, by simp [hm], hs⟩]

theorem entriesFrom_split (chunks : List (Option Bytes)) : ∀ (off i : Nat),
    (chunks[i]? = some none → (entriesFrom off chunks)[i]? = some (sentinel, sentinel)) ∧
      ∀ b, chunks[i]? = some (some b) → ∃ pre post, dataOf chunks = pre ++ b ++ post ∧
        (entriesFrom off chunks)[i]? = some (off + pre.length, b.length) := by
  induction chunks with
  | nil => intro off i; simp
  | cons ch cs ih =>
    intro off i
    cases ch with
    | none =>
      cases i with
      | zero => simp [entriesFrom]
      | succ i => simpa only [List.getElem?_cons_succ, entriesFrom, dataOf_none] using ih off i
    | some a =>
      cases i with
      | zero =>
        refine ⟨fun h => by simp at h, fun b hb => ?_⟩
        simp only [List.getElem?_cons_zero, Option.some.injEq] at hb
        subst hb
        exact ⟨[], dataOf cs, by simp, by simp [entriesFrom]⟩
      | succ i =>
        simp only [List.getElem?_cons_succ, entriesFrom, dataOf_some]
        refine ⟨(ih _ i).1, fun b hb => ?_⟩
        obtain ⟨pre, post, h1, h2⟩ := (ih (off + a.length) i).2 b hb
        exact ⟨a ++ pre, post, by rw [h1]; simp only [List.append_assoc],
          by rw [h2, List.length_append, Nat.add_assoc]⟩

theorem entriesFrom_reads (vals : List (Option Bytes)) (pre post : Bytes)
    (hs : pre.length + (dataOf vals).length < sentinel) (k : Nat) (ch : Option Bytes) (e : Nat × Nat)
    (hch : vals[k]? = some ch) (he : (entriesFrom pre.length vals)[k]? = some e) :
    decEntry (pre ++ dataOf vals ++ post) e = .ok ch ∧
      (isLive e = true → pre.length ≤ e.1 ∧ e.1 + e.2 ≤ pre.length + (dataOf vals).length) := by
  have hsp := entriesFrom_split vals pre.length k
  cases ch with
  | none =>
    cases (hsp.1 hch).symm.trans he
    exact ⟨decEntry_dead _ _ rfl, fun h => nomatch h⟩
  | some b =>
    obtain ⟨p, q, hd, h2⟩ := hsp.2 b hch
    cases h2.symm.trans he
    have hdl := congrArg List.length hd
    simp only [List.length_append] at hdl
    exact ⟨decEntry_placed pre _ post p b q hd hs, fun _ => by simp only; omega⟩

/-- the value is `pre ++ data ++ post` with the index being `pre` or `post`; the last conjunct (an interval inside the
data region is clear of `indexRegion`) is what `Legal` and `wellFormed` ask of every live entry -/
theorem encodeLayout_split (c : Cfg) (data idx : Bytes) (hlen : idx.length = indexSize c) :
    ∃ pre post, (if c.indexAtEnd then data ++ idx else idx ++ data) = pre ++ data ++ post ∧
      pre.length = base c ∧ pre.length + post.length = indexSize c ∧
      indexBytes c (if c.indexAtEnd then data ++ idx else idx ++ data) = some idx ∧
      (∀ off len, pre.length ≤ off → off + len ≤ pre.length + data.length →
        off + len ≤ (indexRegion c (if c.indexAtEnd then data ++ idx else idx ++ data).length).1 ∨
          (indexRegion c (if c.indexAtEnd then data ++ idx else idx ++ data).length).2 ≤ off) := by
  unfold indexBytes indexRegion base
  cases c.indexAtEnd
  · refine ⟨idx, [], by simp, by simp [hlen], by simp [hlen], ?_, ?_⟩
    · have : ¬ ((idx ++ data).length < indexSize c) := by simp [hlen]
      simp only [this, if_false, Bool.false_eq_true]
      rw [List.take_left' hlen]
    · intro off len h1 _
      right; simp only [Bool.false_eq_true, if_false]; omega
  · refine ⟨[], idx, by simp, by simp, by simp [hlen], ?_, ?_⟩
    · have : ¬ ((data ++ idx).length < indexSize c) := by simp [hlen]
      simp only [this, if_false, if_true]
      rw [List.drop_left' (by simp [hlen])]
    · intro off len _ h2
      left; simp only [if_true, List.length_append, hlen, Nat.add_sub_cancel]
      simpa using h2

theorem encode_length (c : Cfg) (chunks : List (Option Bytes)) (hn : chunks.length = c.nChunks) :
    (encode c chunks).length = (dataOf chunks).length + indexSize c := by
  rw [encode_eq]
  split <;> rw [List.length_append, encodeIndex_length c _ (by rw [entriesFrom_length, hn])]
  exact Nat.add_comm _ _

theorem dataOf_length_le (chunks : List (Option Bytes)) (m : Nat)
    (hm : ∀ ch ∈ chunks, ∀ b, ch = some b → b.length ≤ m) : (dataOf chunks).length ≤ chunks.length * m := by
  induction chunks with
  | nil => simp
  | cons ch cs ih =>
    have ih' := ih (fun ch' h' => hm ch' (List.mem_cons_of_mem _ h'))
    rw [List.length_cons, Nat.succ_mul]
    cases ch with
    | none => simp only [dataOf_none]; omega
    | some b =>
      have := hm (some b) (by simp) b rfl
      simp only [dataOf_some, List.length_append]; omega

/-- the entries place the stored chunks in the data region `data`; a missing chunk has the dead entry -/
def Places (c : Cfg) (data : Bytes) (entries : List (Nat × Nat)) (chunks : List (Option Bytes)) : Prop :=
  ∀ i (hc : i < chunks.length) (h : i < entries.length), match chunks[i] with
    | none => entries[i] = (sentinel, sentinel)
    | some b => ∃ pre post, data = pre ++ b ++ post ∧ entries[i] = (base c + pre.length, b.length)

/-- stated over the entries, not over a layout function: the encoder's own layout (`encode_table`), the
specification-level writer's placement (`Conform.legal_of_placed`) and the end of a parallel assembly
(`ShardAsm.final_legal`) are instances (the last two through `legal_of_entries`) -/
theorem table_of_entries (c : Cfg) (chunks : List (Option Bytes)) (hn : chunks.length = c.nChunks)
    (data : Bytes) (entries : List (Nat × Nat)) (hel : entries.length = chunks.length)
    (hent : Places c data entries chunks) (hdisj : StrictlyApart entries)
    (hsmall : data.length + indexSize c < sentinel) :
    Table c (if c.indexAtEnd then data ++ encodeIndex c entries else encodeIndex c entries ++ data) chunks
      (encodeIndex c entries) entries := by
  have hel' : entries.length = c.nChunks := hel.trans hn
  obtain ⟨pre0, post0, hv, hb, hpp, hib, hreg⟩ := encodeLayout_split c data _ (encodeIndex_length c _ hel')
  generalize (if c.indexAtEnd then data ++ encodeIndex c entries else encodeIndex c entries ++ data) = V at hv hib hreg ⊢
  have hbase : base c ≤ indexSize c := by unfold base; split <;> omega
  have hvl : V.length = pre0.length + data.length + post0.length := by rw [hv]; simp [Nat.add_assoc]
  have hpt : ∀ i (h : i < entries.length) (hc : i < chunks.length), decEntry V entries[i] = .ok chunks[i] ∧
      (isLive entries[i] = true →
        pre0.length ≤ entries[i].1 ∧ entries[i].1 + entries[i].2 ≤ pre0.length + data.length) := by
    intro i h hc
    have := hent i hc h
    split at this <;> rename_i heq <;> rw [heq]
    · rw [this]; exact ⟨decEntry_dead _ _ rfl, fun h => nomatch h⟩
    · rename_i b
      obtain ⟨p, q, hd, he⟩ := this
      have hdl := congrArg List.length hd
      simp only [List.length_append] at hdl
      rw [he, ← hb, hv]
      exact ⟨decEntry_placed pre0 data post0 p b q hd (by omega), fun _ => by simp only; omega⟩
  refine ⟨hib, decodeIndex_encodeIndex c true _ hel' fun e he => ?_,
    mapM_ok_of_pointwise _ _ _ hel fun i h hc => (hpt i h hc).1, WF.of_strict (fun e he hl => ?_) hdisj⟩
  · obtain ⟨i, hi, rfl⟩ := List.getElem_of_mem he
    exact decEntry_lt (hpt i hi (hel ▸ hi)).1 (by omega)
  · obtain ⟨i, hi, rfl⟩ := List.getElem_of_mem he
    obtain ⟨h1, h2⟩ := (hpt i hi (hel ▸ hi)).2 hl
    exact ⟨by omega, hreg _ _ h1 h2⟩

theorem legal_of_entries (c : Cfg) (chunks : List (Option Bytes)) (hn : chunks.length = c.nChunks)
    (data : Bytes) (entries : List (Nat × Nat)) (hel : entries.length = chunks.length)
    (hent : Places c data entries chunks) (hdisj : StrictlyApart entries)
    (hsmall : data.length + indexSize c < sentinel) :
    Legal c (if c.indexAtEnd then data ++ encodeIndex c entries else encodeIndex c entries ++ data)
      chunks :=
  (legal_iff ..).mpr ⟨_, _, table_of_entries c chunks hn data entries hel hent hdisj hsmall, hdisj⟩

theorem entriesFrom_apart (chunks : List (Option Bytes)) (off : Nat) : StrictlyApart (entriesFrom off chunks) := by
  intro i j hi hj hij hli hlj
  have hp := List.pairwise_iff_getElem.mp (entriesFrom_pairwise chunks off)
  rcases Nat.lt_or_gt_of_ne hij with hlt | hgt
  · exact Or.inl (hp i j hi hj hlt hli hlj)
  · exact Or.inr (hp j i hj hi hgt hlj hli)

theorem encode_table (c : Cfg) (chunks : List (Option Bytes)) (hn : chunks.length = c.nChunks)
    (hsmall : (dataOf chunks).length + indexSize c < sentinel) :
    Table c (encode c chunks) chunks (encodeIndex c (entriesFrom (base c) chunks)) (entriesFrom (base c) chunks) := by
  rw [encode_eq]
  refine table_of_entries c chunks hn _ _ (entriesFrom_length _ _) (fun i hc h => ?_) (entriesFrom_apart chunks _) hsmall
  have hsp := entriesFrom_split chunks (base c) i
  split
  · rename_i heq
    have := hsp.1 (by rw [List.getElem?_eq_getElem hc, heq])
    rwa [List.getElem?_eq_getElem h, Option.some.injEq] at this
  · rename_i b heq
    obtain ⟨pre, post, h1, h2⟩ := hsp.2 b (by rw [List.getElem?_eq_getElem hc, heq])
    rw [List.getElem?_eq_getElem h, Option.some.injEq] at h2
    exact ⟨pre, post, h1, h2⟩

theorem encode_legal (c : Cfg) (chunks : List (Option Bytes)) (hn : chunks.length = c.nChunks)
    (hsmall : (dataOf chunks).length + indexSize c < sentinel) :
    Legal c (encode c chunks) chunks :=
  (legal_iff ..).mpr ⟨_, _, encode_table c chunks hn hsmall, entriesFrom_apart chunks _⟩

theorem decode_encode (c : Cfg) (chunks : List (Option Bytes)) (hn : chunks.length = c.nChunks)
    (hsmall : (dataOf chunks).length + indexSize c < sentinel) : decode c true (encode c chunks) = .ok chunks :=
  (encode_table c chunks hn hsmall).decode

theorem encode_wellFormed (c : Cfg) (chunks : List (Option Bytes)) (hn : chunks.length = c.nChunks)
    (hsmall : (dataOf chunks).length + indexSize c < sentinel) : wellFormed c (encode c chunks) = true :=
  (encode_table c chunks hn hsmall).wellFormed

theorem w64_wf (big : Bool) (n : Nat) : ∀ x ∈ w64 big n, x < 256 := by
  intro x hx
  unfold w64 at hx
  cases big with
  | false => exact le64_wf n x (by simpa using hx)
  | true => exact le64_wf n x (by simpa [be64] using hx)

theorem encodeIndex_wf (c : Cfg) (entries : List (Nat × Nat)) : ∀ x ∈ encodeIndex c entries, x < 256 := by
  have hraw : ∀ x ∈ entries.flatMap (fun e => w64 c.indexBig e.1 ++ w64 c.indexBig e.2), x < 256 :=
    List.forall_mem_flatMap.2 fun _ _ => List.forall_mem_append.2 ⟨w64_wf _ _, w64_wf _ _⟩
  unfold encodeIndex
  split
  · exact List.forall_mem_append.2 ⟨hraw, le32_wf _⟩
  · exact hraw

end Zarrs.Shard
