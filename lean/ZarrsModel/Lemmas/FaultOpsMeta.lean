import ZarrsModel.Lemmas.FaultOps
import ZarrsModel.Lemmas.Store
import ZarrsModel.Lemmas.Hier
/-
Metadata / node methods as operation-level programs: refinement of `Model/Hier.lean` and of the fault-free open,
operation counts of the Zarr V2 opens; one level of the list recursion for any sub-listing (`childTreesWith_pure`), from
which `Lemmas/FaultList.lean` gets the recursive listings and `Hier.openNodeP`.
-/
namespace Zarrs.Hier
open Zarrs

theorem openMetaP_pure (m : KV) (pre k2 : Key) (ok3 ok2 okAttrs : Bytes → Bool) :
    (openMetaP pre k2 ok3 ok2 okAttrs).pure m = (openMeta m pre k2 ok3 ok2 okAttrs).map (fun o => (o, m)) := by
  unfold openMetaP openMeta
  simp only [Prog.pure]
  cases m.get (pre ++ kZarrJson) with
  | some d => simp only; split <;> rfl
  | none =>
    simp only [Prog.pure]
    cases m.get (pre ++ k2) with
    | none => rfl
    | some d =>
      simp only
      split
      · simp only [Prog.pure]
        cases m.get (pre ++ kZattrs) with
        | none => rfl
        | some a => simp only; split <;> rfl
      · rfl

theorem openMetaP_readOnly (pre k2 : Key) (ok3 ok2 okAttrs : Bytes → Bool) :
    (openMetaP pre k2 ok3 ok2 okAttrs).readOnly := by
  unfold openMetaP
  intro v
  cases v with
  | some d => simp only; split <;> trivial
  | none =>
    intro v
    cases v with
    | none => trivial
    | some d =>
      simp only
      split
      · intro v
        cases v with
        | none => trivial
        | some a => simp only; split <;> trivial
      · trivial

/-- **a Zarr V2 open is three reads**: `zarr.json` (absent), the V2 document, `.zattrs` -/
theorem openMetaP_ops_v2 (m : KV) (pre k2 : Key) (ok3 ok2 okAttrs : Bytes → Bool) (d : Bytes)
    (h3 : m.get (pre ++ kZarrJson) = none) (h2 : m.get (pre ++ k2) = some d) (hok : ok2 d = true) :
    (openMetaP pre k2 ok3 ok2 okAttrs).ops m = 3 := by
  unfold openMetaP
  simp only [Prog.ops, h3, h2, hok, ↓reduceIte]
  cases m.get (pre ++ kZattrs) with
  | none => rfl
  | some a => simp only; split <;> rfl

theorem openMetaP_ops_v3 (m : KV) (pre k2 : Key) (ok3 ok2 okAttrs : Bytes → Bool) (d : Bytes)
    (h3 : m.get (pre ++ kZarrJson) = some d) : (openMetaP pre k2 ok3 ok2 okAttrs).ops m = 1 := by
  unfold openMetaP
  simp only [Prog.ops, h3]
  split <;> rfl

theorem attrsThenP_pure (r : Reader) (m : KV) (pre : Key) (k : Kind) :
    (attrsThenP r pre k).pure m =
      some (if (match m.get (pre ++ kZattrs) with | some a => r.okAttrs a | none => true) then .node k else .invalid, m) := by
  unfold attrsThenP
  simp only [Prog.pure]
  cases m.get (pre ++ kZattrs) with
  | none => rfl
  | some a => simp only; split <;> rfl

theorem getMetaP_pure (r : Reader) (m : KV) (pre : Key) : (getMetaP r pre).pure m = some (getMeta r m pre, m) := by
  unfold getMetaP getMeta
  simp only [Prog.pure]
  cases m.get (pre ++ kZarrJson) with
  | some v =>
    simp only
    cases r.cls v with
    | none => rfl
    | some b => cases b <;> rfl
  | none =>
    simp only [Prog.pure]
    cases m.get (pre ++ kZarray) with
    | some v =>
      simp only
      cases hA : r.okA v with
      | false => simp [Prog.pure]
      | true =>
        simp only [↓reduceIte, Bool.true_and]
        rw [attrsThenP_pure]
        rfl
    | none =>
      simp only [Prog.pure]
      cases m.get (pre ++ kZgroup) with
      | none => rfl
      | some v =>
        simp only
        cases hG : r.okG v with
        | false => simp [Prog.pure]
        | true =>
          simp only [↓reduceIte, Bool.true_and]
          rw [attrsThenP_pure]
          rfl

theorem attrsThenP_readOnly (r : Reader) (pre : Key) (k : Kind) : (attrsThenP r pre k).readOnly := by
  unfold attrsThenP
  intro v
  cases v with
  | none => trivial
  | some a => simp only; split <;> trivial

theorem getMetaP_readOnly (r : Reader) (pre : Key) : (getMetaP r pre).readOnly := by
  unfold getMetaP
  intro v
  cases v with
  | some v =>
    simp only
    cases r.cls v with
    | none => trivial
    | some b => cases b <;> trivial
  | none =>
    intro v
    cases v with
    | some v => simp only; split; exact attrsThenP_readOnly r pre _; trivial
    | none =>
      intro v
      cases v with
      | none => trivial
      | some v => simp only; split; exact attrsThenP_readOnly r pre _; trivial

/-- **`Node::get_metadata` of a Zarr V2 group is four reads**: `zarr.json`, `.zarray` (both absent), `.zgroup`, `.zattrs` -/
theorem getMetaP_ops_group2 (r : Reader) (m : KV) (pre : Key) (d : Bytes)
    (h3 : m.get (pre ++ kZarrJson) = none) (hA : m.get (pre ++ kZarray) = none)
    (hG : m.get (pre ++ kZgroup) = some d) (hok : r.okG d = true) : (getMetaP r pre).ops m = 4 := by
  unfold getMetaP attrsThenP
  simp only [Prog.ops, h3, hA, hG, hok, ↓reduceIte]
  cases m.get (pre ++ kZattrs) with
  | none => rfl
  | some a => simp only; split <;> rfl

theorem childListP_pure (r : Reader) (m : KV) : ∀ l : List Key,
    (childListP r l).pure m = (childListPure r m l).map (fun ts => (ts, m))
  | [] => rfl
  | q :: rest => by
    simp only [childListP, childListPure]
    rw [Prog.pure_bind, getMetaP_pure]
    simp only
    cases getMeta r m q with
    | invalid => rfl
    | missing => exact childListP_pure r m rest
    | node k =>
      simp only
      rw [Prog.pure_bind_ret, childListP_pure r m rest]
      cases childListPure r m rest <;> rfl

theorem childListP_readOnly (r : Reader) : ∀ l : List Key, (childListP r l).readOnly
  | [] => trivial
  | q :: rest => by
    simp only [childListP]
    apply Prog.readOnly_bind _ _ (getMetaP_readOnly r q)
    intro v
    cases v with
    | invalid => trivial
    | missing => exact childListP_readOnly r rest
    | node k => exact Prog.readOnly_bind _ _ (childListP_readOnly r rest) (fun _ => trivial)

theorem childrenP_readOnly (r : Reader) (pre : Key) : (childrenP r pre).readOnly :=
  fun _ => childListP_readOnly r _

theorem childList_false_flatten (r : Reader) (m : KV) (fuel : Nat) : ∀ l : List Key,
    (childList r m false fuel l).map flattenList = childListPure r m l
  | [] => by rw [childList_nil]; simp [childListPure, flattenList_nil]
  | q :: rest => by
    have ih := childList_false_flatten r m fuel rest
    simp only [childListPure]
    cases hg : getMeta r m q with
    | invalid => rw [childList_cons_invalid r m false fuel q rest hg]; rfl
    | missing => rw [childList_cons_missing r m false fuel q rest hg]; exact ih
    | node k =>
      rw [childList_cons_node r m false fuel q rest k hg]
      simp only [subNodes, Bool.false_and, Bool.false_eq_true, ↓reduceIte, Option.bind_some]
      rw [← ih]
      cases childList r m false fuel rest with
      | none => rfl
      | some ts => simp [flattenList_cons, flattenList_nil]

/-- **`fops_refines` for `Group::children(false)`** -/
theorem childrenP_pure (r : Reader) (m : KV) (pre : Key) :
    (childrenP r pre).pure m = (children r m false pre).map (fun ts => (ts, m)) := by
  unfold childrenP children depthBound
  simp only [Prog.pure]
  rw [childListP_pure, childNodes, childList_false_flatten]
  rfl


theorem discover_eq (m : KV) (pre : Key) : discover m pre = (Spec.listDir m pre).2.filter keepChild := rfl

/-- one level of the list recursion for either value of `recursive`, given that the sub-listing of a GROUP refines -/
theorem childTreesWith_pure (r : Reader) (m : KV) (rec : Bool) (fuel : Nat) (sub : Key → Prog (List Tree))
    (hsub : ∀ q k, k.isGroup = true → (sub q).pure m = (subNodes r m rec fuel q k).map (fun cs => (cs, m))) :
    ∀ l : List Key, (childTreesWith r sub l).pure m = (childList r m rec fuel l).map (fun ts => (ts, m))
  | [] => by rw [childTreesWith, childList_nil]; rfl
  | q :: rest => by
    have ih := childTreesWith_pure r m rec fuel sub hsub rest
    rw [childTreesWith, Prog.pure_bind, getMetaP_pure]
    simp only
    cases hg : getMeta r m q with
    | invalid => rw [childList_cons_invalid r m rec fuel q rest hg]; rfl
    | missing => rw [childList_cons_missing r m rec fuel q rest hg]; exact ih
    | node k =>
      rw [childList_cons_node r m rec fuel q rest k hg]
      simp only
      rw [Prog.pure_bind]
      cases hk : k.isGroup with
      | false =>
        simp only [subNodes, hk, Bool.and_false, Bool.false_eq_true, ↓reduceIte, Prog.pure, Option.bind_some]
        rw [Prog.pure_bind_ret, ih]
        cases childList r m rec fuel rest <;> rfl
      | true =>
        simp only [↓reduceIte]
        rw [hsub q k hk]
        cases subNodes r m rec fuel q k with
        | none => rfl
        | some cs =>
          simp only [Option.map_some, Option.bind_some]
          rw [Prog.pure_bind_ret, ih]
          cases childList r m rec fuel rest <;> rfl

theorem childTreesWith_readOnly (r : Reader) (sub : Key → Prog (List Tree)) (hsub : ∀ q, (sub q).readOnly) :
    ∀ l : List Key, (childTreesWith r sub l).readOnly
  | [] => by rw [childTreesWith]; trivial
  | q :: rest => by
    rw [childTreesWith]
    apply Prog.readOnly_bind _ _ (getMetaP_readOnly r q)
    intro v
    cases v with
    | invalid => trivial
    | missing => exact childTreesWith_readOnly r sub hsub rest
    | node k =>
      simp only
      apply Prog.readOnly_bind
      · cases k.isGroup with
        | false => trivial
        | true => exact hsub q
      · intro cs
        exact Prog.readOnly_bind _ _ (childTreesWith_readOnly r sub hsub rest) (fun _ => trivial)

end Zarrs.Hier
