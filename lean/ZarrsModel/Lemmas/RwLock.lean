import ZarrsModel.Model.RwLock
import ZarrsModel.Lemmas.ListBasic
/-
The invariant that flat programs maintain under the configuration lock, and the progress argument built on
it (C19).
-/
namespace Zarrs.RwLock

theorem bump_getD_self {l : List Nat} {t v : Nat} (f : Nat → Nat) (h : t < l.length) (hv : l.getD t 0 = v) :
    (bump l t f).getD t 0 = f v := by
  rw [← hv, bump, List.getD, List.getElem?_set_self h, Option.getD_some]

theorem bump_getD_ne {l : List Nat} {t u : Nat} {f : Nat → Nat} (h : u ≠ t) :
    (bump l t f).getD u 0 = l.getD u 0 := by
  rw [bump, List.getD, List.getElem?_set_ne h.symm, List.getD]

def prog (ps : Progs) (t : Nat) : List Ev := ps[t]?.getD []

def pcOf (s : State) (t : Nat) : Nat := s.pc.getD t 0

def rdOf (s : State) (t : Nat) : Nat := s.readers.getD t 0

variable {ps : Progs} {s : State} {t : Nat} {e : Ev}

theorem lt_of_nextEv (h : nextEv ps s t = some e) : t < ps.length := by
  unfold nextEv at h
  by_cases ht : t < ps.length
  · exact ht
  · rw [List.getElem?_eq_none (Nat.le_of_not_lt ht)] at h
    nomatch h

theorem nextEv_eq (h : s.pc.length = ps.length) (t : Nat) :
    nextEv ps s t = (prog ps t)[pcOf s t]? := by
  unfold nextEv prog pcOf List.getD
  by_cases ht : t < ps.length
  · rw [List.getElem?_eq_getElem ht, List.getElem?_eq_getElem (h ▸ ht)]
    rfl
  · rw [List.getElem?_eq_none (Nat.le_of_not_lt ht)]
    rfl

theorem prog_flat (hflat : ∀ p ∈ ps, flat p = true) (t : Nat) : flat (prog ps t) = true := by
  unfold prog
  cases h : ps[t]? with
  | none => rfl
  | some p => exact hflat p (List.mem_of_getElem? h)

theorem flat_spec {p : List Ev} (hf : flat p = true) {k : Nat} (h : p[k]? = some e) :
    match (generalizing := false) e with
    | .acqR => k % 2 = 0 ∧ p[k + 1]? = some .relR
    | .acqW => k % 2 = 0 ∧ p[k + 1]? = some .relW
    | .relR | .relW => k % 2 = 1 := by
  induction p using flat.induct generalizing k with
  | case1 => nomatch h
  | case2 rest ih | case3 rest ih =>
    rcases k with _ | _ | k
    · cases h; exact ⟨rfl, rfl⟩
    · cases h; rfl
    · simpa only [Nat.add_assoc, Nat.reduceAdd, Nat.add_mod_right, List.getElem?_cons_succ] using ih hf h
  | case4 p h1 h2 h3 => rw [flat.eq_4 p h1 h2 h3] at hf; nomatch hf

structure Inv (ps : Progs) (s : State) : Prop where
  pcLen : s.pc.length = ps.length
  rdLen : s.readers.length = ps.length
  /-- between blocks a thread holds nothing -/
  even : ∀ t, pcOf s t % 2 = 0 → rdOf s t = 0 ∧ s.writer ≠ some t
  /-- inside a block a thread holds exactly the guard its next event releases -/
  odd : ∀ t, pcOf s t % 2 = 1 →
    ((prog ps t)[pcOf s t]? = some .relR ∧ rdOf s t = 1 ∧ s.writer ≠ some t) ∨
    ((prog ps t)[pcOf s t]? = some .relW ∧ rdOf s t = 0 ∧ s.writer = some t)
  /-- registered writers are about to complete an `acqW` -/
  wait : ∀ t ∈ s.waiting, (prog ps t)[pcOf s t]? = some .acqW

theorem Inv_init (ps : Progs) : Inv ps (init ps) := by
  have h0 : ∀ t, (ps.map (fun _ => 0)).getD t 0 = 0 := getD_map_const ps 0
  exact ⟨List.length_map _, List.length_map _, fun t _ => ⟨h0 t, nofun⟩,
    fun t h => (by rw [show pcOf (init ps) t = 0 from h0 t] at h; nomatch h), nofun⟩

/-- the shape of every step but the registration of a waiting writer: `t` advances by one event, the guards of the
other threads are left alone -/
theorem Inv_advance {rd : List Nat} {w : Option Nat} {wt : List Nat}
    (hI : Inv ps s) (ht : t < ps.length) (hrdL : rd.length = ps.length)
    (hrd : ∀ u, u ≠ t → rd.getD u 0 = rdOf s u)
    (hw : ∀ u, u ≠ t → (w = some u ↔ s.writer = some u))
    (hwt : ∀ u ∈ wt, u ∈ s.waiting ∧ u ≠ t)
    (ht' : (pcOf s t % 2 = 1 ∧ rd.getD t 0 = 0 ∧ w ≠ some t) ∨
      (pcOf s t % 2 = 0 ∧
        (((prog ps t)[pcOf s t + 1]? = some .relR ∧ rd.getD t 0 = 1 ∧ w ≠ some t) ∨
         ((prog ps t)[pcOf s t + 1]? = some .relW ∧ rd.getD t 0 = 0 ∧ w = some t)))) :
    Inv ps ⟨bump s.pc t (· + 1), rd, w, wt⟩ := by
  have hpcu : ∀ u, u ≠ t → (bump s.pc t (· + 1)).getD u 0 = pcOf s u := fun _ => bump_getD_ne
  have hpct : (bump s.pc t (· + 1)).getD t 0 = pcOf s t + 1 := bump_getD_self _ (hI.pcLen ▸ ht) rfl
  have hflip : ∀ {r : Nat}, pcOf s t % 2 = r → (pcOf s t + 1) % 2 = (r + 1) % 2 := fun h => by
    rw [Nat.add_mod, h]
  refine ⟨List.length_set.trans hI.pcLen, hrdL, fun u hu => ?_, fun u hu => ?_, fun u hu => ?_⟩
  all_goals simp only [pcOf, rdOf] at hu ⊢
  · by_cases hut : u = t
    · subst hut
      rw [hpct] at hu
      rcases ht' with ⟨_, h⟩ | ⟨hp, _⟩
      · exact h
      · nomatch (hflip hp).symm.trans hu
    · rw [hpcu u hut] at hu
      rw [hrd u hut, Ne, hw u hut]
      exact hI.even u hu
  · by_cases hut : u = t
    · subst hut
      rw [hpct] at hu ⊢
      rcases ht' with ⟨hp, _⟩ | ⟨_, h⟩
      · nomatch (hflip hp).symm.trans hu
      · exact h
    · rw [hpcu u hut] at hu ⊢
      rw [hrd u hut, Ne, hw u hut]
      exact hI.odd u hu
  · obtain ⟨hu, hut⟩ := hwt u hu
    rw [hpcu u hut]
    exact hI.wait u hu

theorem Inv_step (hflat : ∀ p ∈ ps, flat p = true) (hI : Inv ps s) (hen : enabled ps s t = true) :
    Inv ps (step ps s t) := by
  cases hev : nextEv ps s t with
  | none => simp only [enabled, hev] at hen; nomatch hen
  | some e =>
    have htlt := lt_of_nextEv hev
    have htrd : t < s.readers.length := hI.rdLen ▸ htlt
    have hne : (prog ps t)[pcOf s t]? = some e := (nextEv_eq hI.pcLen t).symm.trans hev
    have hsp := flat_spec (prog_flat hflat t) hne
    -- a thread whose next event is not `acqW` is not registered as a waiting writer
    have hwt : e ≠ .acqW → ∀ u ∈ s.waiting, u ∈ s.waiting ∧ u ≠ t := fun he u hu =>
      ⟨hu, fun hut => he (Option.some.inj (hne.symm.trans (hut ▸ hI.wait u hu)))⟩
    cases e with
    | acqR =>
      simp only [enabled, hev, Bool.and_eq_true, Option.isNone_iff_eq_none] at hen
      simp only [step, hev]
      exact Inv_advance hI htlt (List.length_set.trans hI.rdLen) (fun _ => bump_getD_ne)
        (fun _ _ => Iff.rfl) (hwt nofun)
        (.inr ⟨hsp.1, .inl ⟨hsp.2, bump_getD_self (· + 1) htrd (hI.even t hsp.1).1, hen.1 ▸ nofun⟩⟩)
    | relR =>
      rcases hI.odd t hsp with h | h
      case inr => nomatch hne.symm.trans h.1
      simp only [step, hev]
      exact Inv_advance hI htlt (List.length_set.trans hI.rdLen) (fun _ => bump_getD_ne)
        (fun _ _ => Iff.rfl) (hwt nofun) (.inl ⟨hsp, bump_getD_self (· - 1) htrd h.2.1, h.2.2⟩)
    | acqW =>
      by_cases hc : s.waiting.contains t = true
      · simp only [enabled, hev, if_pos hc, Bool.and_eq_true, Option.isNone_iff_eq_none] at hen
        simp only [step, hev, if_pos hc]
        refine Inv_advance hI htlt hI.rdLen (fun _ _ => rfl) (fun u hu => ?_) (fun u hu => ?_)
          (.inr ⟨hsp.1, .inr ⟨hsp.2, (hI.even t hsp.1).1, rfl⟩⟩)
        · exact ⟨fun h => absurd (Option.some.inj h).symm hu, fun h => nomatch hen.1.symm.trans h⟩
        · simpa only [List.mem_filter, bne_iff_ne] using hu
      · simp only [step, hev, if_neg hc]
        exact ⟨hI.pcLen, hI.rdLen, hI.even, hI.odd, fun u hu =>
          (List.mem_append.1 hu).elim (hI.wait u) fun h => List.mem_singleton.1 h ▸ hne⟩
    | relW =>
      simp only [enabled, hev, beq_iff_eq] at hen
      rcases hI.odd t hsp with h | h
      case inl => nomatch hne.symm.trans h.1
      simp only [step, hev]
      exact Inv_advance hI htlt hI.rdLen (fun _ _ => rfl)
        (fun u hu => ⟨nofun, fun h => absurd (Option.some.inj (hen.symm.trans h)) (Ne.symm hu)⟩)
        (hwt nofun) (.inl ⟨hsp, h.2.1, nofun⟩)

theorem Inv_reachable (hflat : ∀ p ∈ ps, flat p = true) (hr : Reachable ps s) : Inv ps s := by
  induction hr with
  | init => exact Inv_init ps
  | step s t _ _ hen ih => exact Inv_step hflat ih hen

theorem lt_of_enabled (h : enabled ps s t = true) : t < ps.length := by
  cases hev : nextEv ps s t with
  | none => simp only [enabled, hev] at h; nomatch h
  | some e => exact lt_of_nextEv hev

theorem run_cons (ps : Progs) (s s' : State) (t : Nat) (ts : List Nat) :
    run ps s (t :: ts) = some s' ↔ enabled ps s t = true ∧ run ps (step ps s t) ts = some s' := by
  rw [run]
  cases enabled ps s t with
  | true => exact ⟨fun h => ⟨rfl, h⟩, fun h => h.2⟩
  | false => exact ⟨nofun, fun h => nomatch h.1⟩

theorem run_append (ps : Progs) (a b : List Nat) (s s' s'' : State)
    (h1 : run ps s a = some s') (h2 : run ps s' b = some s'') : run ps s (a ++ b) = some s'' := by
  induction a generalizing s with
  | nil => exact Option.some.inj h1 ▸ h2
  | cons t ts ih =>
    obtain ⟨he, h1⟩ := (run_cons ..).1 h1
    exact (run_cons ..).2 ⟨he, ih _ h1⟩

theorem Inv_run (ps : Progs) (hflat : ∀ p ∈ ps, flat p = true) (sched : List Nat) (s s' : State)
    (hI : Inv ps s) (h : run ps s sched = some s') : Inv ps s' := by
  induction sched generalizing s with
  | nil => exact Option.some.inj h ▸ hI
  | cons t ts ih =>
    obtain ⟨he, h⟩ := (run_cons ..).1 h
    exact ih _ (Inv_step hflat hI he) h

def remaining (ps : Progs) (s : State) : Nat :=
  ((List.range ps.length).map (fun t => (prog ps t).length - pcOf s t)).sum

theorem remaining_lt {s' : State} (hlen : s.pc.length = ps.length)
    (hev : nextEv ps s t = some e) (hpc : s'.pc = bump s.pc t (· + 1)) :
    remaining ps s' < remaining ps s := by
  have htlt := lt_of_nextEv hev
  obtain ⟨hk, _⟩ := List.getElem?_eq_some_iff.1 ((nextEv_eq hlen t).symm.trans hev)
  have hself : pcOf s' t = pcOf s t + 1 := by
    rw [pcOf, hpc]
    exact bump_getD_self _ (hlen ▸ htlt) rfl
  refine (sum_map_le_lt _ _ _ fun x _ => ?_).2
    ⟨t, List.mem_range.2 htlt, hself ▸ Nat.sub_lt_sub_left hk (Nat.lt_succ_self _)⟩
  by_cases hx : x = t
  · rw [hx, hself]
    exact Nat.sub_le_sub_left (Nat.le_succ _) _
  · rw [pcOf, hpc, bump_getD_ne hx]
    exact Nat.le_refl _

theorem step_pc (hev : nextEv ps s t = some e)
    (hc : e = .acqW → s.waiting.contains t = true) : (step ps s t).pc = bump s.pc t (· + 1) := by
  cases e with
  | acqW => simp only [step, hev, if_pos (hc rfl)]
  | acqR | relR | relW => simp only [step, hev]

theorem enabled_acqW (hev : nextEv ps s t = some .acqW)
    (hc : s.waiting.contains t = true) (hw : s.writer = none) (hr : totalReaders s = 0) :
    enabled ps s t = true := by
  simp only [enabled, hev, if_pos hc, hw, hr]
  rfl

theorem progress_one (hflat : ∀ p ∈ ps, flat p = true) (hI : Inv ps s) (hev : nextEv ps s t = some e)
    (hen : enabled ps s t = true)
    (hc : e = .acqW → s.waiting.contains t = true) :
    ∃ u sched s', run ps s (u :: sched) = some s' ∧ Inv ps s' ∧ remaining ps s' < remaining ps s :=
  ⟨t, [], step ps s t, (run_cons ..).2 ⟨hen, rfl⟩, Inv_step hflat hI hen,
    remaining_lt hI.pcLen hev (step_pc hev hc)⟩

/-- the schedule is one step, or the request and the acquisition of a writer -/
theorem progress (ps : Progs) (hflat : ∀ p ∈ ps, flat p = true) (s : State) (hI : Inv ps s) (t0 : Nat)
    (hun : nextEv ps s t0 ≠ none) :
    ∃ u sched s', run ps s (u :: sched) = some s' ∧ Inv ps s' ∧ remaining ps s' < remaining ps s := by
  have hnext := nextEv_eq hI.pcLen
  by_cases hodd : ∃ t, pcOf s t % 2 = 1
  · -- some thread holds a guard: it can release it
    obtain ⟨t, ht⟩ := hodd
    rcases hI.odd t ht with ⟨hp, hr, _⟩ | ⟨hp, _, hw⟩
    · have hev := (hnext t).trans hp
      exact progress_one hflat hI hev
        (by simp only [enabled, hev]; exact decide_eq_true (Nat.lt_of_lt_of_eq Nat.one_pos hr.symm)) nofun
    · have hev := (hnext t).trans hp
      exact progress_one hflat hI hev (by simp only [enabled, hev, hw, beq_self_eq_true]) nofun
  · -- nobody holds anything
    have hevn : ∀ t, pcOf s t % 2 = 0 := fun t => Nat.mod_two_ne_one.1 fun h => hodd ⟨t, h⟩
    have hw : s.writer = none := Option.eq_none_iff_forall_ne_some.2 fun u => (hI.even u (hevn u)).2
    have htr : totalReaders s = 0 := List.sum_eq_zero_iff_forall_eq_nat.2 fun x hx => by
      obtain ⟨u, hu⟩ := List.mem_iff_getElem?.1 hx
      rw [← (hI.even u (hevn u)).1, rdOf, List.getD, hu]
      rfl
    cases hwt : s.waiting with
    | cons h rest =>
      -- the first registered writer can acquire
      have hmem : s.waiting.contains h = true := List.contains_iff_mem.2 (hwt ▸ List.mem_cons_self)
      have hev := (hnext h).trans (hI.wait h (List.contains_iff_mem.1 hmem))
      exact progress_one hflat hI hev (enabled_acqW hev hmem hw htr) (fun _ => hmem)
    | nil =>
      cases hev : nextEv ps s t0 with
      | none => exact absurd hev hun
      | some e =>
        have hsp := flat_spec (prog_flat hflat t0) ((hnext t0).symm.trans hev)
        cases e with
        | relR | relW => nomatch hsp.symm.trans (hevn t0)
        | acqR => exact progress_one hflat hI hev (by simp only [enabled, hev, hwt, hw]; rfl) nofun
        | acqW =>
          -- request, then acquire
          have hc : ¬ s.waiting.contains t0 = true := by rw [hwt]; nofun
          have hen1 : enabled ps s t0 = true := by simp only [enabled, hev, if_neg hc]
          have hs1 : step ps s t0 = { s with waiting := s.waiting ++ [t0] } := by
            simp only [step, hev, if_neg hc]
          have hI1 := Inv_step hflat hI hen1
          rw [hs1] at hI1
          have hc1 : (s.waiting ++ [t0]).contains t0 = true :=
            List.contains_iff_mem.2 (List.mem_append_right _ List.mem_cons_self)
          have hen2 : enabled ps { s with waiting := s.waiting ++ [t0] } t0 = true :=
            enabled_acqW hev hc1 hw htr
          exact ⟨t0, [t0], step ps { s with waiting := s.waiting ++ [t0] } t0,
            (run_cons ..).2 ⟨hen1, by rw [hs1]; exact (run_cons ..).2 ⟨hen2, rfl⟩⟩,
            Inv_step hflat hI1 hen2,
            remaining_lt hI.pcLen hev
              (step_pc (s := { s with waiting := s.waiting ++ [t0] }) hev fun _ => hc1)⟩

theorem can_finish_of_Inv (hflat : ∀ p ∈ ps, flat p = true) {s : State} (hI : Inv ps s) :
    ∃ sched s', run ps s sched = some s' ∧ ∀ t, t < ps.length → finished ps s' t = true := by
  by_cases hun : ∃ t, nextEv ps s t ≠ none
  · obtain ⟨t, ht⟩ := hun
    obtain ⟨u, sched, s', hrun, hI', hlt⟩ := progress ps hflat s hI t ht
    obtain ⟨sched2, s'', hrun2, hfin⟩ := can_finish_of_Inv hflat hI'
    exact ⟨(u :: sched) ++ sched2, s'', run_append ps _ _ s s' s'' hrun hrun2, hfin⟩
  · refine ⟨[], s, rfl, fun t _ => ?_⟩
    have : nextEv ps s t = none := Classical.not_not.1 fun h => hun ⟨t, h⟩
    rw [finished, this]
    rfl
termination_by remaining ps s
decreasing_by exact hlt

end Zarrs.RwLock
