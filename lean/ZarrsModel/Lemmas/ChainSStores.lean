import ZarrsModel.Lemmas.ChainSDecShard
import ZarrsModel.Lemmas.ShardPDMain
import ZarrsModel.Lemmas.ShardPE
/- The invariant of stored values of a (nested) sharded chain, `ChainS.Stores`, between the writers and the readers: the
full encoder establishes it (`stores_encode`), the partial encoder keeps it (Lemmas/ChainSPETop.lean), the full decoder
(`stores_decode`) and the partial decoders (`stores_pdOf`: one induction, for every correct region function) read the chunk
from any such value.  What holds of the encoder's own value (`chainS_dec_enc'`) is a corollary. -/
namespace Zarrs.Partial
open Zarrs Zarrs.Codec Zarrs.Subset Zarrs.Shard Zarrs.ShardPE

/-- `v` is a stored value of the chain holding the chunk `xs`; `St`: a well-formed, tight shard.
Not `v = c.encode …` at a sharding level: a partially encoded shard keeps dead bytes and its own order of the inner
chunks.  Tightness cannot be dropped (`C05Chain.refines_needs_tight`). -/
def ChainS.Stores : ChainS → Shape → Elem → Bytes → List Elem → Prop
  | .leaf c _, sh, _, v, xs => v = c.encode sh xs
  | .shard a2a cfg ish _ inner b2b, sh, fill, v, xs =>
    ∃ v0 chunks, v = encB b2b v0 ∧
      St { cfg with nChunks := prod (zipDiv (shapesOf a2a sh) ish) } (some v0) chunks ∧
      chunks.length = (splitShard (shapesOf a2a sh) ish (aEnc a2a sh xs)).length ∧
      ∀ i (h1 : i < chunks.length) (h2 : i < (splitShard (shapesOf a2a sh) ish (aEnc a2a sh xs)).length),
        match chunks[i] with
        | none => (splitShard (shapesOf a2a sh) ish (aEnc a2a sh xs))[i] = List.replicate (prod ish) fill
        | some b => (splitShard (shapesOf a2a sh) ish (aEnc a2a sh xs))[i] ≠ List.replicate (prod ish) fill ∧
            ChainS.Stores inner ish fill b (splitShard (shapesOf a2a sh) ish (aEnc a2a sh xs))[i]

theorem stores_shard_iff (a2a : List AStage) (cfg : Cfg) (ish : Shape) (es : Nat) (inner : ChainS) (b2b : List BStage)
    (sh : Shape) (fill : Elem) (v : Bytes) (xs : List Elem) :
    (ChainS.shard a2a cfg ish es inner b2b).Stores sh fill v xs ↔
      ∃ v0 chunks, v = encB b2b v0 ∧ St { cfg with nChunks := prod (zipDiv (shapesOf a2a sh) ish) } (some v0) chunks ∧
        ChunksHold fill ish (inner.Stores ish fill) chunks (splitShard (shapesOf a2a sh) ish (aEnc a2a sh xs)) :=
  Iff.rfl

theorem stores_decode : ∀ (c : ChainS) (sh : Shape) (fill : Elem) (v : Bytes) (xs : List Elem),
    c.okWith aOk BLawful sh fill → xs.length = prod sh → (∀ x ∈ xs, x.length = c.es) → c.Stores sh fill v xs →
    c.decode sh fill v = some xs := by
  intro c
  induction c with
  | leaf c keep =>
    intro sh fill v xs hok hxl hxe hst
    have hv : v = c.encode sh xs := hst
    subst hv
    exact chain_dec_enc c sh xs hok.es_pos hok.es_mod_unit hxl hxe hok.leaf_a2a fun st h => (hok.leaf_b2b st h).dec
  | shard a2a cfg ish es inner b2b ih =>
    intro sh fill v xs hok hxl hxe hst
    simp only [ChainS.es] at hxe
    obtain ⟨hyl, hye⟩ := aEnc_chunk es a2a sh xs hok.a2a hxl hxe
    obtain ⟨v0, chunks, hv, hSt, hh⟩ := (stores_shard_iff ..).mp hst
    subst hv
    have hp := splitShard_chunkOk hok.tiles hyl hye
    exact chainS_shard_decode hok xs v0 chunks hxl hxe hSt.of_some.1
      ((hh.imp fun p hm b h => ih ish fill b p hok.inner (hp p hm).1 (by rw [hok.inner_es]; exact (hp p hm).2) h).decode
        (fun _ _ h => h) hp)

theorem stores_encode {B : BStage → Prop} : ∀ (c : ChainS) (sh : Shape) (fill : Elem) (xs : List Elem),
    c.okWith aOk B sh fill → xs.length = prod sh → (∀ x ∈ xs, x.length = c.es) → c.fits sh fill xs →
    c.Stores sh fill (c.encode sh fill xs) xs := by
  intro c
  induction c with
  | leaf c keep => intro sh fill xs _ _ _ _; rfl
  | shard a2a cfg ish es inner b2b ih =>
    intro sh fill xs hok hxl hxe hfits
    simp only [ChainS.es] at hxe
    obtain ⟨hyl, hye⟩ := aEnc_chunk es a2a sh xs hok.a2a hxl hxe
    simp only [ChainS.fits, encodeA2A_eq] at hfits
    obtain ⟨hfp, hsmall⟩ := hfits
    have hclen : (shardChunks (inner.encode ish fill) fill (shapesOf a2a sh) ish (aEnc a2a sh xs)).length =
        prod (zipDiv (shapesOf a2a sh) ish) := by simp [shardChunks, splitShard_length]
    have hp := splitShard_chunkOk hok.tiles hyl hye
    refine (stores_shard_iff ..).mpr ⟨_, _, by simp only [ChainS.encode, encodeA2A_eq, encB],
      encode_St _ _ hclen (by rw [← Shard.encode_length _ _ hclen]; exact hsmall),
      shardChunks_hold _ _ fill _ hok.tiles hyl fun p hm =>
        ih ish fill p hok.inner (hp p hm).1 (by rw [hok.inner_es]; exact (hp p hm).2) (hfp p hm)⟩

theorem chainS_dec_enc' (c : ChainS) (sh : Shape) (fill : Elem) (xs : List Elem) (hok : c.okWith aOk BLawful sh fill)
    (hxl : xs.length = prod sh) (hxe : ∀ x ∈ xs, x.length = c.es) (hfits : c.fits sh fill xs) :
    c.decode sh fill (c.encode sh fill xs) = some xs :=
  stores_decode c sh fill _ xs hok hxl hxe (stores_encode c sh fill xs hok hxl hxe hfits)

/-- the induction over (nested) chains does not depend on how one region of a sharding level is decoded: any correct
region function will do (sync: `stores_pd`; async: `stores_async_pd`) -/
theorem stores_pdOf {region : RegionFn} (hR : RegionOk region) :
    ∀ (c : ChainS) (sh : Shape) (fill : Elem) (v : Bytes) (xs : List Elem),
    c.okWith aOk BLawful sh fill → xs.length = prod sh → (∀ x ∈ xs, x.length = c.es) → c.Stores sh fill v xs →
    ∀ g : BHandle, BHandleOk g v → AHandleOk (c.pdOf region sh fill g) sh xs := by
  intro c
  induction c with
  | leaf c keep =>
    intro sh fill v xs hok hxl hxe hst g hg
    have hv : v = c.encode sh xs := hst
    subst hv
    exact chain_ok_handle c sh fill xs hok.es_pos hok.unit_pos hok.es_mod_unit hxl hxe hok.leaf_a2a
      (fun st h => (hok.leaf_b2b st h).law) g hg
  | shard a2a cfg ish es inner b2b ih =>
    intro sh fill v xs hok hxl hxe hst g hg
    simp only [ChainS.es] at hxe
    obtain ⟨hyl, hye⟩ := aEnc_chunk es a2a sh xs hok.a2a hxl hxe
    obtain ⟨v0, chunks, hv, hSt, hh⟩ := (stores_shard_iff ..).mp hst
    subst hv
    simp only [ChainS.pdOf, stackA2A_eq]
    apply aChain_ok a2a sh xs _ hok.a2a hxl
    have hhb := bChain_ok b2b (fun st h => (hok.b2b st h).law) _ g hg
    have hp := splitShard_chunkOk hok.tiles hyl hye
    rw [← assemble_split hok.tiles _ hyl, ← shardFrame_cfg cfg (prod (zipDiv (shapesOf a2a sh) ish))]
    -- `encodes` carries the size of the piece: `hinner` and `hfixed` of `served_of_decode` get nothing else
    refine (served_of_decode (fixed := inner.fixedSize ish) (innerPD := fun ish f g => inner.pdOf region ish f g)
      (encodes := fun xs b => inner.Stores ish fill b xs ∧ xs.length = prod ish ∧ ∀ x ∈ xs, x.length = es)
      hok.tiles rfl hok.fill_length hhb hSt.of_some.1 (splitShard_length _ _ _)
      ((hh.imp fun p hm b h => And.intro h (hp p hm)).encodes hp) ?_ ?_).elim
      fun entries hS => shardFrame_served hR hS.2 _ true (hS.1 true)
    · intro g' b xs' ⟨hs, hl, he⟩ hg'
      exact ih ish fill b xs' hok.inner hl (by rw [hok.inner_es]; exact he) hs g' hg'
    · intro n hn xs' b ⟨hs, hl, he⟩
      cases inner with
      | leaf ci ki =>
        have hb : b = ci.encode ish xs' := hs
        subst hb
        exact chainS_encode_length (.leaf ci ki) ish fill xs' n hok.inner hl (by rw [hok.inner_es]; exact he) hn
      | shard _ _ _ _ _ _ => cases hn

theorem stores_pd : ∀ (c : ChainS) (sh : Shape) (fill : Elem) (v : Bytes) (xs : List Elem),
    c.okWith aOk BLawful sh fill → xs.length = prod sh → (∀ x ∈ xs, x.length = c.es) → c.Stores sh fill v xs →
    ∀ g : BHandle, BHandleOk g v → AHandleOk (c.partialDecoder sh fill g) sh xs :=
  fun c => partialDecoder_eq_pdOf c ▸ stores_pdOf shardRegion_regionOk c

end Zarrs.Partial
