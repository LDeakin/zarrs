import ZarrsModel.Lemmas.Grid
import ZarrsModel.Lemmas.Tiling
/- Boxes of chunks and regions.  `chunks_subset`, on a grid built from a configuration: a box of chunks covers exactly the
interval from the origin of its first chunk to the end of its last chunk, in every dimension (`Dim.cover`, from
`Dim.new_step`), hence as boxes (`Grid.cover`, `Grid.chunksSubset_union`).  `chunks_in_array_subset`, on any grid satisfying
`GridOK'`: the chunks of the reported box, cut to the region, tile it (`GridOK'.pieces`). -/
namespace Zarrs

/-- one dimension of `chunks_subset`; only the last chunk, `c0 + n`, is assumed to exist -/
theorem Dim.cover (cfg : DimCfg) : ∀ (n c0 o1 s1 : Nat),
    (Dim.new cfg).origin (c0 + n) = some o1 → (Dim.new cfg).chunkShape (c0 + n) = some s1 →
    ∃ o0, (Dim.new cfg).origin c0 = some o0 ∧ o0 ≤ o1 ∧
      (∀ c, c0 ≤ c → c ≤ c0 + n → ∃ o s, (Dim.new cfg).origin c = some o ∧ (Dim.new cfg).chunkShape c = some s) ∧
      ∀ i, (o0 ≤ i ∧ i < o1 + s1) ↔ ∃ c, c0 ≤ c ∧ c ≤ c0 + n ∧ (Dim.new cfg).Holds c i
  | 0, c0, o1, s1, ho, hs => by
    refine ⟨o1, ho, Nat.le_refl _, fun c h1 h2 => ?_,
      fun i => ⟨fun ⟨h1, h2⟩ => ⟨c0, Nat.le_refl _, Nat.le_refl _, o1, s1, ho, hs, h1, h2⟩, ?_⟩⟩
    · cases Nat.le_antisymm h2 h1
      exact ⟨o1, s1, ho, hs⟩
    · rintro ⟨c, h1, h2, o, s, ho', hs', h3, h4⟩
      cases Nat.le_antisymm h2 h1
      cases ho.symm.trans ho'
      cases hs.symm.trans hs'
      exact ⟨h3, h4⟩
  | n + 1, c0, o1, s1, ho, hs => by
    -- the last chunk starts where the chunks `c0 ..= c0 + n` end
    obtain ⟨o', s', ho', hs', rfl⟩ := Dim.new_step cfg (c0 + n) o1 ho
    obtain ⟨o0, ho0, hle, hdef, hiff⟩ := Dim.cover cfg n c0 o' s' ho' hs'
    refine ⟨o0, ho0, Nat.le_trans hle (Nat.le_add_right ..), fun c h1 h2 => ?_, fun i => ⟨?_, ?_⟩⟩
    · rcases Nat.eq_or_lt_of_le h2 with rfl | h2
      · exact ⟨_, s1, ho, hs⟩
      · exact hdef c h1 (Nat.le_of_lt_succ h2)
    · rintro ⟨h1, h2⟩
      by_cases hlt : i < o' + s'
      · obtain ⟨c, g1, g2, g⟩ := (hiff i).mp ⟨h1, hlt⟩
        exact ⟨c, g1, Nat.le_succ_of_le g2, g⟩
      · exact ⟨c0 + (n + 1), Nat.le_add_right .., Nat.le_refl _, o' + s', s1, ho, hs, Nat.le_of_not_lt hlt, h2⟩
    · rintro ⟨c, g1, g2, o, s, g3, g4, g5, g6⟩
      rcases Nat.eq_or_lt_of_le g2 with rfl | g2
      · cases ho.symm.trans g3
        cases hs.symm.trans g4
        exact ⟨Nat.le_trans hle (Nat.le_trans (Nat.le_add_right ..) g5), g6⟩
      · have := (hiff i).mpr ⟨c, g1, Nat.le_of_lt_succ g2, o, s, g3, g4, g5, g6⟩
        exact ⟨this.1, Nat.lt_of_lt_of_le this.2 (Nat.le_add_right ..)⟩

theorem Grid.new_cons (d : DimCfg) (cfg : List DimCfg) : Grid.new (d :: cfg) = Dim.new d :: Grid.new cfg := rfl

theorem Grid.new_length (cfg : List DimCfg) : (Grid.new cfg).length = cfg.length := List.length_map ..

namespace Grid

def Covered (g : Grid) (cs sh i : List Nat) : Prop :=
  ∃ c o s, Subset.mem c cs sh = true ∧ g.chunkOrigin c = some o ∧ g.chunkShape c = some s ∧ Subset.mem i o s = true

/-- the same through `g.subset` -/
theorem covered_iff {g : Grid} {cs sh i : List Nat} :
    Covered g cs sh i ↔ ∃ c sub, Subset.mem c cs sh = true ∧ g.subset c = some sub ∧ sub.contains i = true := by
  constructor
  · rintro ⟨c, o, s, hc, ho, hs, hm⟩
    exact ⟨c, ⟨o, s⟩, hc, subset_eq_some.mpr ⟨o, s, ho, hs, rfl⟩, hm⟩
  · rintro ⟨c, sub, hc, hsub, hm⟩
    obtain ⟨o, s, ho, hs, rfl⟩ := subset_eq_some.mp hsub
    exact ⟨c, o, s, hc, ho, hs, hm⟩

theorem covered_nil {i : List Nat} : Covered [] [] [] i ↔ Subset.mem i [] [] = true := by
  constructor
  · rintro ⟨c, o, s, hc, ho, hs, hm⟩
    match c, hc with
    | [], _ => cases ho; cases hs; exact hm
  · exact fun h => ⟨[], [], [], rfl, rfl, rfl, h⟩

theorem not_covered_nil {d : Dim} {g : Grid} {c0 n0 : Nat} {cs sh : List Nat} :
    ¬ Covered (d :: g) (c0 :: cs) (n0 :: sh) []
  | ⟨c, o, s, hc, ho, hs, hm⟩ => by
    match c, hc with
    | x :: xs, _ =>
      obtain ⟨_, _, _, _, rfl, rfl, _⟩ := chunk_cons_inv ho hs
      cases hm

theorem covered_cons {d : Dim} {g : Grid} {c0 n0 i0 : Nat} {cs sh it : List Nat} (hn : 0 < n0) :
    Covered (d :: g) (c0 :: cs) (n0 :: sh) (i0 :: it) ↔
      (∃ c, c0 ≤ c ∧ c ≤ c0 + (n0 - 1) ∧ d.Holds c i0) ∧ Covered g cs sh it := by
  constructor
  · rintro ⟨c, o, s, hc, ho, hs, hm⟩
    match c, hc with
    | x :: xs, hc =>
      obtain ⟨o0, ot, s0, st, rfl, rfl, h0, ht⟩ := chunk_cons_inv ho hs
      obtain ⟨a1, a2⟩ := Subset.mem_cons_iff.mp hc
      obtain ⟨b1, b2⟩ := Subset.mem_cons_iff.mp hm
      exact ⟨⟨x, a1.1, by omega, o0, s0, h0.1, h0.2, b1.1, b1.2⟩, xs, ot, st, a2, ht.1, ht.2, b2⟩
  · rintro ⟨⟨x, a1, a2, o0, s0, ho0, hs0, b1, b2⟩, xs, ot, st, hc, ho, hs, hm⟩
    exact ⟨x :: xs, o0 :: ot, s0 :: st, Subset.mem_cons_iff.mpr ⟨⟨a1, by omega⟩, hc⟩, zipOpt_cons_eq ho0 ho,
      zipOpt_cons_eq hs0 hs, Subset.mem_cons_iff.mpr ⟨⟨b1, b2⟩, hm⟩⟩

end Grid

/-- `chunks_subset`, N-dimensional; only the first and the last chunk of the box are assumed to exist -/
theorem Grid.cover : ∀ (cfg : List DimCfg) (cs sh o0 o1 s1 : List Nat),
    cs.length = cfg.length → sh.length = cfg.length → sh.any (· == 0) = false →
    (Grid.new cfg).chunkOrigin cs = some o0 →
    (Grid.new cfg).chunkOrigin ((addIdx cs sh).map (· - 1)) = some o1 →
    (Grid.new cfg).chunkShape ((addIdx cs sh).map (· - 1)) = some s1 →
    (∀ c, Subset.mem c cs sh = true →
      ∃ o s, (Grid.new cfg).chunkOrigin c = some o ∧ (Grid.new cfg).chunkShape c = some s) ∧
    ∀ i, Subset.mem i o0 (Subset.zipSub (addIdx o1 s1) o0) = true ↔ (Grid.new cfg).Covered cs sh i := by
  intro cfg
  induction cfg with
  | nil =>
    intro cs sh o0 o1 s1 hcs hsh _ ho0 ho1 hs1
    match cs, sh, hcs, hsh with
    | [], [], _, _ =>
      cases ho0; cases ho1; cases hs1
      refine ⟨fun c hc => ?_, fun i => covered_nil.symm⟩
      match c, hc with | [], _ => exact ⟨[], [], rfl, rfl⟩
  | cons d cfg ih =>
    intro cs sh o0 o1 s1 hcs hsh hne ho0 ho1 hs1
    match cs, sh, hcs, hsh with
    | c0 :: cst, n0 :: sht, hcs, hsh =>
      obtain ⟨hn0, hnet⟩ := any_zero_cons.mp hne
      obtain ⟨o00, o0t, h00, h0t, rfl⟩ := zipOpt_cons_some.mp ho0
      obtain ⟨o10, o1t, s10, s1t, rfl, rfl, h1, h1t⟩ := chunk_cons_inv ho1 hs1
      have e : c0 + n0 - 1 = c0 + (n0 - 1) := by omega
      obtain ⟨o00', h00', -, hdef0, hiff0⟩ := Dim.cover d (n0 - 1) c0 o10 s10 (e ▸ h1.1) (e ▸ h1.2)
      cases h00.symm.trans h00'
      obtain ⟨hdeft, hifft⟩ := ih cst sht o0t o1t s1t (Nat.succ.inj hcs) (Nat.succ.inj hsh) hnet h0t h1t.1 h1t.2
      refine ⟨fun c hc => ?_, fun i => ?_⟩
      · match c, hc with
        | x :: xs, hc =>
          obtain ⟨hx, hxs⟩ := Subset.mem_cons_iff.mp hc
          obtain ⟨o, s, a1, a2⟩ := hdef0 x hx.1 (by omega)
          obtain ⟨ot, st, a3, a4⟩ := hdeft xs hxs
          exact ⟨o :: ot, s :: st, zipOpt_cons_eq a1 a3, zipOpt_cons_eq a2 a4⟩
      · cases i with
        | nil => exact ⟨fun h => (nomatch h), fun h => (not_covered_nil h).elim⟩
        | cons i0 it =>
          rw [addIdx, Subset.zipSub, Subset.mem_cons_iff, and_congr_right (fun h => lt_add_sub _ h), hiff0 i0, hifft it]
          exact (covered_cons hn0).symm

/-- `chunks_subset` of a non-empty box runs from the origin of its first chunk to the end of its last -/
theorem Grid.chunksSubset_eq_some {g : Grid} {chunks sub : Subset} (hne : chunks.isEmpty = false) :
    g.chunksSubset chunks = some sub ↔ ∃ o0 s0 o1 s1, g.chunkOrigin chunks.start = some o0 ∧
      g.chunkShape chunks.start = some s0 ∧
      g.chunkOrigin ((addIdx chunks.start chunks.shape).map (· - 1)) = some o1 ∧
      g.chunkShape ((addIdx chunks.start chunks.shape).map (· - 1)) = some s1 ∧
      sub = Subset.ofStartEndExc o0 (addIdx o1 s1) := by
  simp only [Grid.chunksSubset, Subset.endInc, hne, Bool.false_eq_true, if_false]
  constructor
  · intro h
    split at h
    · rename_i c0 c1 h0 h1
      obtain ⟨o0, s0, ho0, hs0, rfl⟩ := Grid.subset_eq_some.mp h0
      obtain ⟨o1, s1, ho1, hs1, rfl⟩ := Grid.subset_eq_some.mp h1
      cases h
      exact ⟨o0, s0, o1, s1, ho0, hs0, ho1, hs1, rfl⟩
    · cases h
  · rintro ⟨o0, s0, o1, s1, ho0, hs0, ho1, hs1, rfl⟩
    rw [Grid.subset_eq_some.mpr ⟨o0, s0, ho0, hs0, rfl⟩, Grid.subset_eq_some.mpr ⟨o1, s1, ho1, hs1, rfl⟩]
    rfl

theorem Grid.chunksSubset_union (cfg : List DimCfg) (chunks sub : Subset) (hwf : chunks.wf = true)
    (hr : chunks.rank = cfg.length) (hne : chunks.isEmpty = false)
    (h : (Grid.new cfg).chunksSubset chunks = some sub) :
    (∀ c, chunks.contains c = true → ∃ csub, (Grid.new cfg).subset c = some csub) ∧
    ∀ i, sub.contains i = true ↔
      ∃ c csub, chunks.contains c = true ∧ (Grid.new cfg).subset c = some csub ∧ csub.contains i = true := by
  obtain ⟨cs, sh⟩ := chunks
  rw [Subset.wf_iff] at hwf
  obtain ⟨o0, -, o1, s1, ho0, -, ho1, hs1, rfl⟩ := (Grid.chunksSubset_eq_some hne).mp h
  obtain ⟨hdef, hiff⟩ := Grid.cover cfg cs sh o0 o1 s1 hr (hwf.symm.trans hr) hne ho0 ho1 hs1
  refine ⟨fun c hc => ?_, fun i => (hiff i).trans Grid.covered_iff⟩
  obtain ⟨o, s, h1, h2⟩ := hdef c hc
  exact ⟨⟨o, s⟩, Grid.subset_eq_some.mpr ⟨o, s, h1, h2, rfl⟩⟩

theorem Grid.chunksSubset_wf (g : Grid) (chunks sub : Subset) (hwf : chunks.wf = true) (hr : chunks.rank = g.length)
    (hne : chunks.isEmpty = false) (h : g.chunksSubset chunks = some sub) :
    sub.wf = true ∧ sub.rank = g.length := by
  rw [Subset.wf_iff] at hwf
  obtain ⟨o0, -, o1, s1, ho0, -, ho1, hs1, rfl⟩ := (Grid.chunksSubset_eq_some hne).mp h
  have hl : g.length = ((addIdx chunks.start chunks.shape).map (· - 1)).length := by
    rw [List.length_map, addIdx_length_eq _ _ hwf]; exact hr.symm
  have l0 := zipOpt_length_of_eq _ _ _ _ hr.symm ho0
  have l1 := zipOpt_length_of_eq _ _ _ _ hl ho1
  have l2 := zipOpt_length_of_eq _ _ _ _ hl hs1
  have l3 : (addIdx o1 s1).length = o0.length := by rw [addIdx_length_eq o1 s1 (l1.trans l2.symm), l1, l0]
  simp only [Subset.wf, Subset.rank, Subset.ofStartEndExc, beq_iff_eq, zipSub_length_eq _ _ l3, l3, l0, and_self]

/-- chunk `c` as a box (of no interest where `c` is no chunk) -/
def Grid.boxOf (g : Grid) (c : Idx) : Subset := (g.subset c).getD ⟨[], []⟩

theorem Grid.boxOf_eq {g : Grid} {c : Idx} {cs : Subset} (h : g.subset c = some cs) : g.boxOf c = cs := by
  rw [Grid.boxOf, h]; rfl

/-- what a multi-chunk access to the region `R` rests on -/
structure Grid.Pieces (g : Grid) (arr : Shape) (R box : Subset) : Prop where
  chunks : g.chunksInArraySubset R arr = some box
  meets : ∀ c ∈ box.indices, ∃ cs i0, g.subset c = some cs ∧ cs.contains i0 = true ∧ R.contains i0 = true
  tiling : Tiling box.indices (fun c => (g.boxOf c).overlap R) (R.contains · = true)

/-- the box holds exactly the chunks meeting the region (`chunksInSubset`) and every index of the region lies in
exactly one chunk (`locate`, `located_unique`): `Tiling.clip` -/
theorem GridOK'.pieces {g : Grid} {arr G : Shape} (hg : GridOK' g arr G)
    (R : Subset) (hr : R.wf = true) (hb : R.inboundsShape arr = true) (hne : R.isEmpty = false) :
    ∃ box, g.Pieces arr R box ∧ ∀ c ∈ box.indices, inB c G = true := by
  obtain ⟨box, hbox, hiff⟩ := hg.chunksInSubset R hr hb hne
  have hloc := fun i hi => hg.locate i (R.inB_of_inboundsShape hb hi)
  -- the chunk of the first element of the region is in the box
  have h0 := mem_start R.start R.shape (Subset.wf_iff.mp hr) hne
  obtain ⟨c0, o0, s0, e0, L0⟩ := hloc R.start h0
  have hbwf := box.wf_of_contains c0 ((hiff c0).mpr ⟨L0.inGrid, _, _, L0.subset, L0.mem, h0⟩)
  have hin : ∀ c ∈ box.indices, inB c G = true ∧ ∃ cs i0, g.subset c = some cs ∧ cs.contains i0 = true ∧
      R.contains i0 = true := fun c hc => (hiff c).mp ((box.mem_indices hbwf c).mp hc)
  refine ⟨box, ⟨hbox, fun c hc => (hin c hc).2, Tiling.clip hr (box.indices_nodup hbwf) (fun c hc => ?_)
    (fun i hi => ?_)⟩, fun c hc => (hin c hc).1⟩
  · obtain ⟨_, cs, i0, hcs, h1, h2⟩ := hin c hc
    exact ⟨i0, by rwa [Grid.boxOf_eq hcs], h2⟩
  · obtain ⟨c, o, s, e, L⟩ := hloc i hi
    refine ⟨c, (box.mem_indices hbwf c).mpr ((hiff c).mpr ⟨L.inGrid, _, i, L.subset, L.mem, hi⟩),
      by rw [Grid.boxOf_eq L.subset]; exact L.mem, fun c' hc' hi' => ?_⟩
    obtain ⟨hcG', cs', _, hcs', _⟩ := hin c' hc'
    exact hg.located_unique L hcG' hcs' (by rwa [Grid.boxOf_eq hcs'] at hi')

/-- `chunks` is the only field that mentions the array, and on a regular grid it does not depend on it -/
theorem Grid.Pieces.regular_indep {cs arr : Shape} {R box : Subset} (P : (Grid.regular cs).Pieces arr R box)
    (arr' : Shape) : (Grid.regular cs).Pieces arr' R box :=
  ⟨regular_chunksIn_indep cs R arr' arr ▸ P.chunks, P.meets, P.tiling⟩

/-- The region may overhang the array or lie beyond it: the pieces are those for the array `R.endExc`, in which `R`
is in bounds (`Grid.Pieces.regular_indep`). -/
theorem regular_pieces (cs : Shape) (hpos : ∀ k ∈ cs, 0 < k) (R : Subset) (hr : R.wf = true)
    (hrank : R.rank = cs.length) (hne : R.isEmpty = false) (arr : Shape) :
    ∃ box, (Grid.regular cs).Pieces arr R box := by
  have hr' := hr
  simp only [Subset.wf, beq_iff_eq] at hr'
  simp only [Subset.rank] at hrank
  obtain ⟨G, hG⟩ := regular_gridShape_some cs R.endExc
  obtain ⟨box, P, -⟩ := (gridOK'_regular cs R.endExc G (regular_wf cs hpos) hG
    (by simp only [Subset.endExc, addIdx_length]; omega)).pieces R hr
    (by
      simp only [Subset.inboundsShape, Subset.rank, Subset.endExc, addIdx_length, Bool.and_eq_true, beq_iff_eq]
      exact ⟨by omega, allLe_refl _⟩)
    hne
  exact ⟨box, P.regular_indep arr⟩

end Zarrs
