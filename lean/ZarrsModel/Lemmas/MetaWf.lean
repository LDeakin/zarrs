import ZarrsModel.Lemmas.Meta
import ZarrsModel.Lemmas.NumTok
import ZarrsModel.Lemmas.Json
/- helper lemmas for C13: well-formedness of metadata documents -/
namespace Zarrs.Meta
open Zarrs.Json

theorem keysDistinct_filter (o : Obj) (p : Str × J → Bool) (h : keysDistinct o) : keysDistinct (o.filter p) := by
  unfold keysDistinct at h ⊢
  exact h.sublist (List.filter_sublist.map _)

theorem wfKVs_filter (o : Obj) (p : Str × J → Bool) (h : wfKVs o) : wfKVs (o.filter p) := by
  rw [wfKVs_iff] at h ⊢
  intro kv hkv
  exact h kv (List.mem_filter.1 hkv).1

theorem wf_of_lookup (o : Obj) (h : wfKVs o) (k : Str) (v : J) (hl : lookup o k = some v) : v.wf :=
  ((wfKVs_iff o).1 h _ (lookup_mem o k v hl)).2

theorem obj_cons_wf (k : Str) (v : J) (o : Obj) (hk : strOk k) (hv : v.wf) (hn : lookup o k = none) (ho : (J.obj o).wf) :
    (J.obj ((k, v) :: o)).wf :=
  ⟨⟨hk, hv, ho.1⟩, (keysDistinct_cons ..).2 ⟨hn, ho.2⟩⟩

theorem without_wf (o : Obj) (k : Str) (h : (J.obj o).wf) : (J.obj (without o k)).wf :=
  ⟨wfKVs_filter _ _ h.1, keysDistinct_filter _ _ h.2⟩

theorem obj_nil_wf : (J.obj []).wf := ⟨trivial, List.nodup_nil⟩

theorem mapM_wf {β} (f : J → Option β) (Q : β → Prop) (hf : ∀ x, x.wf → ∀ y, f x = some y → Q y) (xs : List J)
    (hx : (J.arr xs).wf) (ys : List β) (h : xs.mapM f = some ys) : ∀ y ∈ ys, Q y := by
  intro y hy
  obtain ⟨x, hxm, e⟩ := mapM_some_mem _ _ _ h y hy
  exact hf x ((arr_wf_iff xs).1 hx x hxm) y e

/-- the `attributes` member, the same in the four documents (an object, left out when empty): read side, written side -/
theorem attrs_wf (o : Obj) (ho : wfKVs o) (k : Str) (a : Obj)
    (h : (lookup o k = none ∧ a = []) ∨ lookup o k = some (.obj a)) : (J.obj a).wf := by
  rcases h with ⟨_, rfl⟩ | h
  · exact obj_nil_wf
  · exact wf_of_lookup o ho k _ h

theorem attrsVal_wf (a : Obj) (h : (J.obj a).wf) (x : J)
    (hx : some x = if a.isEmpty then none else some (J.obj a)) : x.wf := by
  split at hx
  · cases hx
  · cases hx; exact h

def MetaV3.good (m : MetaV3) : Prop := strOk m.name ∧ ∀ c, m.config = some c → wfKVs c ∧ keysDistinct c

def AField.good (a : AField) : Prop := a.field.wf ∧ AField.shapeOk a

theorem obj_single_wf (k : Str) (v : J) (hk : strOk k) (hv : v.wf) : (J.obj [(k, v)]).wf :=
  ⟨⟨hk, hv, trivial⟩, by simp [keysDistinct]⟩

theorem good_config (n : Str) (c : Obj) (mu : Bool) (hn : strOk n) (hc : (J.obj c).wf) : MetaV3.good ⟨n, some c, mu⟩ :=
  ⟨hn, fun _ hc' => Option.some.inj hc' ▸ hc⟩

theorem metaV3_good_single (n k : Str) (v : J) (mu : Bool) (hn : strOk n) (hk : strOk k) (hv : v.wf) :
    MetaV3.good ⟨n, some [(k, v)], mu⟩ :=
  good_config n _ mu hn (obj_single_wf k v hk hv)

theorem strOk_kMustUnderstand : strOk kMustUnderstand := strOk_ascii _ (metaV3Keys_table.2 _ (by simp [metaV3Keys]))

theorem metaV3_ofJ_good (j : J) (hj : j.wf) (m : MetaV3) (h : MetaV3.ofJ j = some m) : MetaV3.good m := by
  unfold MetaV3.ofJ at h
  split at h
  · cases h; exact ⟨(str_wf_iff _).1 hj, nofun⟩
  · rename_i o
    split at h
    · cases h
    · split at h
      next n hn =>
        -- the readers of `configuration` (four cases) and of `must_understand` (three)
        have hw := wf_of_lookup o hj.1
        split at h <;> split at h <;> cases h <;> refine ⟨(str_wf_iff _).1 (hw _ _ hn), fun c' hc' => ?_⟩ <;> cases hc'
        all_goals exact (obj_wf_iff _).1 (hw _ _ ‹_›)
      · cases h
  -- read from a sequence: the name first, the configuration second
  all_goals cases h
  all_goals
    have hx := (arr_wf_iff _).1 hj
    refine ⟨(str_wf_iff _).1 (hx _ (.head _)), fun c' hc' => ?_⟩
    cases hc'
  · exact hx _ (.tail _ (.head _))
  · exact hx _ (.tail _ (.head _))

theorem afield_toJ_wf (a : AField) (h : AField.good a) : a.toJ.wf := by
  obtain ⟨f, mu⟩ := a
  obtain ⟨h1, h2⟩ := h
  match f, h1, h2 with
  | .obj o, h1, h2 => exact obj_cons_wf _ _ o strOk_kMustUnderstand (bool_wf mu) h2 h1
  | .null, h1, _ | .bool _, h1, _ | .num _, h1, _ | .str _, h1, _ | .arr _, h1, _ => exact h1

theorem afield_ofJ_good (j : J) (h : j.wf) : AField.good (AField.ofJ j) := by
  refine ⟨?_, afield_ofJ_shapeOk j⟩
  match j, h with
  | .obj o, h => exact without_wf o _ h
  | .null, h | .bool _, h | .num _, h | .str _, h | .arr _, h => exact h

theorem mem_extrasOf (known : List Str) (o : Obj) (x : Str × AField) (h : x ∈ extrasOf known o) :
    ∃ v, (x.1, v) ∈ o ∧ x.1 ∉ known ∧ x.2 = AField.ofJ v := by
  rw [extrasOf_eq] at h
  obtain ⟨kv, hkv, rfl⟩ := List.mem_map.1 (Cons.mem_sortKVs_sub _ x h)
  rw [List.mem_filter] at hkv
  exact ⟨kv.2, hkv.1, by simpa using hkv.2, rfl⟩

theorem extrasOf_mem (known : List Str) (o : Obj) (hd : keysDistinct o) (k : Str) (v : J) (h : (k, v) ∈ o)
    (hk : k ∉ known) : (k, AField.ofJ v) ∈ extrasOf known o := by
  rw [extrasOf_eq, Cons.mem_sortKVs]
  · exact List.mem_map.2 ⟨(k, v), List.mem_filter.2 ⟨h, by simpa using hk⟩, rfl⟩
  · rw [List.map_map]
    exact keysDistinct_filter o _ hd

theorem extrasOf_all_mu (known : List Str) (o : Obj) (hd : keysDistinct o) (k : Str) (v : J) (hk : (k, v) ∈ o)
    (hu : k ∉ known) (hv : ¬ ∃ o', v = .obj o' ∧ lookup o' kMustUnderstand = some (.bool false)) :
    (extrasOf known o).all (fun kv => !kv.2.mu) = false := by
  have hmu : (AField.ofJ v).mu = true := by rwa [← Bool.not_eq_false, afield_ofJ_mu_false_iff]
  exact List.all_eq_false.2 ⟨_, extrasOf_mem known o hd k v hk hu, by simp [hmu]⟩

theorem extrasOf_sorted (known : List Str) (o : Obj) : sortedKeys (extrasOf known o) :=
  extrasOf_eq known o ▸ Cons.sortKVs_sorted _

theorem extrasOf_shape (known : List Str) (o : Obj) : ∀ kv ∈ extrasOf known o, kv.1 ∉ known ∧ AField.shapeOk kv.2 := by
  intro kv hkv
  obtain ⟨v, _, hk, e⟩ := mem_extrasOf known o kv hkv
  exact ⟨hk, e ▸ afield_ofJ_shapeOk v⟩

theorem extrasOf_good (known : List Str) (o : Obj) (h : wfKVs o) :
    ∀ kv ∈ extrasOf known o, strOk kv.1 ∧ AField.good kv.2 ∧ kv.1 ∉ known := by
  intro kv hkv
  obtain ⟨v, hv, hk, e⟩ := mem_extrasOf known o kv hkv
  have := (wfKVs_iff o).1 h _ hv
  exact ⟨this.1, e ▸ afield_ofJ_good v this.2, hk⟩

structure ArrayDoc.good (d : ArrayDoc) : Prop where
  shape : ∀ t ∈ d.shape, isU64Tok t = true ∧ tokOk t
  dt : MetaV3.good d.dataType
  cg : MetaV3.good d.chunkGrid
  ck : MetaV3.good d.cke
  fill : d.fill.wf
  codecs : ∀ c ∈ d.codecs, MetaV3.good c
  attrs : wfKVs d.attrs ∧ keysDistinct d.attrs
  st : ∀ c ∈ d.st, MetaV3.good c
  dn : ∀ ns, d.dimNames = some ns → ∀ n ∈ ns, ∀ s, n = some s → strOk s
  extra : ∀ kv ∈ d.extra, strOk kv.1 ∧ AField.good kv.2 ∧ kv.1 ∉ arrayKeys
  sorted : sortedKeys d.extra

structure GroupDoc.good (d : GroupDoc) : Prop where
  attrs : wfKVs d.attrs ∧ keysDistinct d.attrs
  extra : ∀ kv ∈ d.extra, strOk kv.1 ∧ AField.good kv.2 ∧ kv.1 ∉ groupKeys
  sorted : sortedKeys d.extra

theorem ExtrasOk.of_good (ks : List Str) (e : List (Str × AField))
    (h : ∀ kv ∈ e, strOk kv.1 ∧ AField.good kv.2 ∧ kv.1 ∉ ks) (hs : sortedKeys e) : ExtrasOk ks e :=
  ⟨fun kv hkv => (h kv hkv).2.2, fun kv hkv => (h kv hkv).2.1.2, hs⟩

/-- the V2 documents hold the two halves of `AField.good` apart (`wfParts`, `shapeOk`) -/
theorem extras_good (ks : List Str) (e : List (Str × AField)) (hw : ∀ kv ∈ e, strOk kv.1 ∧ kv.2.field.wf)
    (hs : ∀ kv ∈ e, AField.shapeOk kv.2) (hk : ∀ kv ∈ e, kv.1 ∉ ks) :
    ∀ kv ∈ e, strOk kv.1 ∧ AField.good kv.2 ∧ kv.1 ∉ ks :=
  fun kv hkv => ⟨(hw kv hkv).1, ⟨(hw kv hkv).2, hs kv hkv⟩, hk kv hkv⟩

theorem ArrayDoc.good.shapeOk {d : ArrayDoc} (h : d.good) : d.shapeOk :=
  ⟨fun t ht => (h.shape t ht).1, .of_good _ _ h.extra h.sorted⟩

theorem GroupDoc.good.extras {d : GroupDoc} (h : d.good) : ExtrasOk groupKeys d.extra := .of_good _ _ h.extra h.sorted

theorem metaList_good (j : J) (hj : j.wf) (l : List MetaV3) (h : metaList j = some l) : ∀ c ∈ l, MetaV3.good c := by
  unfold metaList at h
  split at h
  · exact mapM_wf _ _ metaV3_ofJ_good _ hj l h
  · cases h

theorem dimNamesOfJ_good (j : J) (hj : j.wf) (dn : Option (List (Option Str))) (h : dimNamesOfJ j = some dn) :
    ∀ ns, dn = some ns → ∀ n ∈ ns, ∀ s, n = some s → strOk s := by
  unfold dimNamesOfJ at h
  split at h
  · cases h; intro ns e; cases e
  · obtain ⟨ns', hm, rfl⟩ := Option.map_eq_some_iff.1 h
    rintro ns ⟨⟩
    refine mapM_wf _ (fun n => ∀ s, n = some s → strOk s) (fun x hx n e s hs => ?_) _ hj _ hm
    subst hs
    split at e
    · cases e
    · cases e; exact (str_wf_iff _).1 hx
    · cases e
  · cases h

theorem arrayDoc_ofJ_good (j : J) (hj : j.wf) (d : ArrayDoc) (h : ArrayDoc.ofJ j = some d) : d.good := by
  match j, hj, h with
  | .obj o, hj, h =>
    have hw := wf_of_lookup o hj.1
    obtain ⟨hzf, hnt, hsh, hshTok, ⟨dt, hdt, hdt'⟩, ⟨cg, hcg, hcg'⟩, ⟨ck, hck, hck'⟩, hfill, ⟨cs, hcs, hcs'⟩, hattrs, hst, hdn, hextra⟩ :=
      arrayDoc_ofJ_inv o d h
    refine ⟨?_, metaV3_ofJ_good _ (hw _ _ hdt) _ hdt', metaV3_ofJ_good _ (hw _ _ hcg) _ hcg',
      metaV3_ofJ_good _ (hw _ _ hck) _ hck', hw _ _ hfill, metaList_good _ (hw _ _ hcs) _ hcs', ?_, ?_, ?_,
      hextra ▸ extrasOf_good _ _ hj.1, hextra ▸ extrasOf_sorted _ _⟩
    · exact fun t ht => ⟨hshTok t ht, (numArr_wf_iff _).1 (hw _ _ hsh) t ht⟩
    · exact attrs_wf o hj.1 _ _ hattrs
    · rcases hst with ⟨_, e⟩ | ⟨js, hs, hs'⟩
      · rw [e]; intro c hc; cases hc
      · exact metaList_good _ (hw _ _ hs) _ hs'
    · rcases hdn with ⟨_, e⟩ | ⟨jn, hn, hn'⟩
      · rw [e]; intro ns e; cases e
      · exact dimNamesOfJ_good _ (hw _ _ hn) _ hn'
  | .null, _, h | .bool _, _, h | .num _, _, h | .str _, _, h | .arr _, _, h => simp [ArrayDoc.ofJ] at h

theorem groupDoc_ofJ_good (j : J) (hj : j.wf) (d : GroupDoc) (h : GroupDoc.ofJ j = some d) : d.good := by
  match j, hj, h with
  | .obj o, hj, h =>
    obtain ⟨hzf, hnt, hcm, hattrs, hextra⟩ := groupDoc_ofJ_inv o d h
    exact ⟨attrs_wf o hj.1 _ _ hattrs, hextra ▸ extrasOf_good _ _ hj.1, hextra ▸ extrasOf_sorted _ _⟩
  | .null, _, h | .bool _, _, h | .num _, _, h | .str _, _, h | .arr _, _, h => simp [GroupDoc.ofJ] at h

theorem arrayKeys_strOk : ∀ k ∈ arrayKeys, strOk k := fun k hk => strOk_ascii k (arrayKeys_table.2 k hk)

theorem groupKeys_strOk : ∀ k ∈ groupKeys, strOk k := fun k hk => strOk_ascii k (groupKeys_table.2 k hk)

theorem extraKVs_wf (e : List (Str × AField)) (h : ∀ kv ∈ e, strOk kv.1 ∧ AField.good kv.2) : wfKVs (extraKVs e) := by
  rw [wfKVs_iff]
  intro kv hkv
  unfold extraKVs at hkv
  obtain ⟨x, hx, rfl⟩ := List.mem_map.1 hkv
  exact ⟨(h x hx).1, afield_toJ_wf _ (h x hx).2⟩

theorem keysDistinct_known_extra (known : List Str) (hn : known.Nodup) (a : Obj) (ha : (a.map (·.1)).Sublist known)
    (e : List (Str × AField)) (hs : sortedKeys e) (he : ∀ kv ∈ e, kv.1 ∉ known) : keysDistinct (a ++ extraKVs e) := by
  unfold keysDistinct
  rw [List.map_append, extraKVs, keys_mapSnd, List.nodup_append]
  refine ⟨hn.sublist ha, sortedKeys_nodup e hs, ?_⟩
  intro x hx y hy e'
  subst e'
  obtain ⟨kv, hkv, rfl⟩ := List.mem_map.1 hy
  exact he kv hkv (ha.subset hx)

theorem optKVs_extra_wf (ks : List Str) (hn : ks.Nodup) (hks : ∀ k ∈ ks, strOk k) (vs : List (Option J))
    (hv : ∀ x, some x ∈ vs → x.wf) (e : List (Str × AField))
    (he : ∀ kv ∈ e, strOk kv.1 ∧ AField.good kv.2 ∧ kv.1 ∉ ks) (hs : sortedKeys e) :
    (J.obj (optKVs ks vs ++ extraKVs e)).wf := by
  refine ⟨(wfKVs_iff _).2 fun kv hkv => ?_,
    keysDistinct_known_extra ks hn _ (optKVs_keys_sublist ks vs) e hs (fun kv hkv => (he kv hkv).2.2)⟩
  rcases List.mem_append.1 hkv with hk | hk
  · exact ⟨hks _ (optKVs_mem ks vs kv hk).1, hv _ (optKVs_mem ks vs kv hk).2⟩
  · exact (wfKVs_iff _).1 (extraKVs_wf e (fun kv hkv => ⟨(he kv hkv).1, (he kv hkv).2.1⟩)) kv hk

theorem optKVs_wf (ks : List Str) (hn : ks.Nodup) (hks : ∀ k ∈ ks, ∀ b ∈ k, b < 128) (vs : List (Option J))
    (hv : ∀ x, some x ∈ vs → x.wf) : (J.obj (optKVs ks vs)).wf :=
  List.append_nil (optKVs ks vs) ▸
    optKVs_extra_wf ks hn (fun k hk => strOk_ascii k (hks k hk)) vs hv [] nofun List.Pairwise.nil

theorem MetaV3.toJ_eq (m : MetaV3) : m.toJ = if m.config.isNone && m.mu then .str m.name else
    .obj (optKVs metaV3Keys [some (.str m.name), m.config.map .obj, if m.mu then none else some (.bool false)]) := by
  obtain ⟨n, c, mu⟩ := m
  cases c <;> cases mu <;> rfl

theorem metaV3_toJ_wf (m : MetaV3) (h : MetaV3.good m) : m.toJ.wf := by
  rw [MetaV3.toJ_eq]
  split
  · exact (str_wf_iff _).2 h.1
  · refine optKVs_wf _ metaV3Keys_table.1 metaV3Keys_table.2 _ (fun x hx => ?_)
    simp only [List.mem_cons, List.not_mem_nil, or_false, Option.some.injEq] at hx
    rcases hx with rfl | hx | hx
    · exact (str_wf_iff _).2 h.1
    · obtain ⟨c, hc, rfl⟩ := Option.map_eq_some_iff.1 hx.symm
      exact h.2 c hc
    · split at hx <;> cases hx
      trivial

theorem metaList_toJ_wf (l : List MetaV3) (h : ∀ c ∈ l, MetaV3.good c) : (J.arr (l.map MetaV3.toJ)).wf :=
  (arrMap_wf_iff _ l).2 fun c hc => metaV3_toJ_wf c (h c hc)

theorem dimNamesToJ_wf (ns : List (Option Str)) (h : ∀ n ∈ ns, ∀ s, n = some s → strOk s) : (dimNamesToJ ns).wf :=
  (arrMap_wf_iff _ ns).2 fun n hn => by
    cases n with
    | none => exact null_wf
    | some s => exact (str_wf_iff s).2 (h _ hn s rfl)

theorem arrayDoc_toJ_wf (d : ArrayDoc) (h : d.good) : d.toJ.wf := by
  rw [ArrayDoc.toJ_eq]
  refine optKVs_extra_wf arrayKeys arrayKeys_nodup arrayKeys_strOk _ (fun x hx => ?_) _ h.extra h.sorted
  simp only [ArrayDoc.knownVals, List.mem_cons, List.not_mem_nil, or_false, Option.some.injEq] at hx
  rcases hx with rfl | rfl | rfl | rfl | rfl | rfl | rfl | rfl | hx | hx | hx
  · exact (num_wf_iff _).2 (NumTok.tokOk_natTok 3)
  · exact (str_wf_iff _).2 (strOk_ascii _ (by decide +kernel))
  · exact (numArr_wf_iff _).2 fun t ht => (h.shape t ht).2
  · exact metaV3_toJ_wf _ h.dt
  · exact metaV3_toJ_wf _ h.cg
  · exact metaV3_toJ_wf _ h.ck
  · exact h.fill
  · exact metaList_toJ_wf _ h.codecs
  · exact attrsVal_wf _ h.attrs x hx
  · split at hx
    · cases hx
    · cases hx; exact metaList_toJ_wf _ h.st
  · obtain ⟨ns, hns, rfl⟩ := Option.map_eq_some_iff.1 hx.symm
    exact dimNamesToJ_wf ns (h.dn ns hns)

theorem groupDoc_vals_wf (d : GroupDoc) (h : d.good) (cm : Option J) (hc : ∀ x, cm = some x → x.wf) :
    ∀ x, some x ∈ d.knownVals cm → x.wf := by
  intro x hx
  simp only [GroupDoc.knownVals, List.mem_cons, List.not_mem_nil, or_false, Option.some.injEq] at hx
  rcases hx with rfl | rfl | hx | hx
  · exact (num_wf_iff _).2 (NumTok.tokOk_natTok 3)
  · exact (str_wf_iff _).2 (strOk_ascii _ (by decide +kernel))
  · exact attrsVal_wf _ h.attrs x hx
  · exact hc x hx.symm

theorem groupDoc_toJ_wf (d : GroupDoc) (h : d.good) : d.toJ.wf := by
  rw [GroupDoc.toJ_eq]
  exact optKVs_extra_wf groupKeys groupKeys_nodup groupKeys_strOk _ (groupDoc_vals_wf d h none (fun _ e => nomatch e)) _
    h.extra h.sorted

theorem arrayDoc_ofText_toText (d : ArrayDoc) (h : d.good) : ArrayDoc.ofText d.toText = some d :=
  (bind_parse_print _ _ (arrayDoc_toJ_wf d h)).trans (arrayDoc_ofJ_toJ d h.shapeOk)

theorem groupDoc_ofText_toText (d : GroupDoc) (h : d.good) : GroupDoc.ofText d.toText = some d :=
  (bind_parse_print _ _ (groupDoc_toJ_wf d h)).trans (groupDoc_ofJ_toJ d h.extras)

end Zarrs.Meta
