import ZarrsModel.Model.Cache
import ZarrsModel.Lemmas.ArrayCell
/- Coherent chunk caches (C06): a cached read returns the uncached read and keeps the cache coherent. -/
namespace Zarrs

namespace Cache
variable {α : Type}

theorem lookup_some_mem {c : Cache α} {i : Idx} {e : CacheEntry α} (h : c.lookup i = some e) :
    (i, e) ∈ c := by
  obtain ⟨⟨a, b⟩, hf, rfl⟩ := Option.map_eq_some_iff.mp h
  have hi : a = i := beq_iff_eq.mp (List.find?_some (p := fun x : Idx × CacheEntry α => x.1 == i) hf)
  subst hi
  exact List.mem_of_find?_eq_some hf

theorem mem_touch {c : Cache α} {i : Idx} {p : Idx × CacheEntry α} (h : p ∈ c.touch i) : p ∈ c := by
  unfold touch at h
  cases hf : c.find? (·.1 == i) with
  | none => simpa [hf] using h
  | some q =>
    rw [hf] at h
    simp only [List.mem_cons] at h
    rcases h with h | h
    · subst h; exact List.mem_of_find?_eq_some hf
    · exact (List.mem_filter.mp h).1

end Cache

namespace ArrCfg
variable {α : Type}

theorem cacheFill_bind_cacheDecode (cfg : ArrCfg α) (st : KV) (kind : CacheKind) (c : Idx) :
    (cfg.cacheFill st kind c).bind (cfg.cacheDecode c) = cfg.retrieveChunk st c := by
  cases kind with
  | decoded => simp only [cacheFill]; cases cfg.retrieveChunk st c <;> rfl
  | encoded =>
    rw [retrieveChunk_eqV]
    simp only [cacheFill, retrieveChunkV]
    cases hs : cfg.chunkShape c with
    | none => rfl
    | some s =>
      simp only [Option.bind_some, cacheDecode, hs]
      cases st.get (cfg.keyOf c) with
      | none => rfl
      | some b => cases hd : cfg.dec b <;> simp [hd]

theorem cacheDecode_of_cacheFill (cfg : ArrCfg α) (st : KV) (kind : CacheKind) (c : Idx)
    (e : CacheEntry α) (h : cfg.cacheFill st kind c = some e) :
    cfg.cacheDecode c e = cfg.retrieveChunk st c := by
  rw [← cfg.cacheFill_bind_cacheDecode st kind c, h]
  rfl

theorem CacheOk.of_subset {cfg : ArrCfg α} {st : KV} {kind : CacheKind} {c c' : Cache α}
    (hc : cfg.CacheOk st kind c) (hsub : ∀ p ∈ c', p ∈ c) : cfg.CacheOk st kind c' :=
  fun p hp => hc p (hsub p hp)

theorem CacheOk.cons {cfg : ArrCfg α} {st : KV} {kind : CacheKind} {c : Cache α} {i : Idx}
    {e : CacheEntry α} (hc : cfg.CacheOk st kind c) (he : cfg.cacheFill st kind i = some e) :
    cfg.CacheOk st kind ((i, e) :: c) := by
  intro p hp
  rcases List.mem_cons.mp hp with h | h
  · subst h; exact he
  · exact hc p h

theorem cachedRetrieveChunk_spec (cfg : ArrCfg α) (st : KV) (kind : CacheKind)
    (evict : Cache α → Cache α) (hev : ∀ c, (evict c).Sublist c) (cache : Cache α)
    (hc : cfg.CacheOk st kind cache) (c : Idx) :
    (cfg.cachedRetrieveChunk st kind evict cache c).1 = cfg.retrieveChunk st c ∧
    cfg.CacheOk st kind (cfg.cachedRetrieveChunk st kind evict cache c).2 := by
  simp only [cachedRetrieveChunk]
  cases hl : cache.lookup c with
  | some e =>
    exact ⟨cfg.cacheDecode_of_cacheFill st kind c e (hc (c, e) (Cache.lookup_some_mem hl)),
      hc.of_subset (c' := cache.touch c) (fun p hp => Cache.mem_touch hp)⟩
  | none =>
    cases hf : cfg.cacheFill st kind c with
    | none => exact ⟨by rw [← cfg.cacheFill_bind_cacheDecode st kind c, hf]; rfl, hc⟩
    | some e =>
      exact ⟨cfg.cacheDecode_of_cacheFill st kind c e hf, (hc.cons hf).of_subset (fun p hp => (hev _).subset hp)⟩

theorem cachedReads_spec (cfg : ArrCfg α) (st : KV) (kind : CacheKind)
    (evict : Cache α → Cache α) (hev : ∀ c, (evict c).Sublist c) (reads : List Idx) :
    ∀ (cache : Cache α), cfg.CacheOk st kind cache →
    (cfg.cachedReads st kind evict cache reads).1 = reads.map (cfg.retrieveChunk st) ∧
    cfg.CacheOk st kind (cfg.cachedReads st kind evict cache reads).2 := by
  induction reads with
  | nil => intro cache hc; exact ⟨rfl, hc⟩
  | cons c cs ih =>
    intro cache hc
    obtain ⟨h1, h2⟩ := cfg.cachedRetrieveChunk_spec st kind evict hev cache hc c
    obtain ⟨h3, h4⟩ := ih _ h2
    simp only [cachedReads, List.map_cons]
    exact ⟨by rw [h1, h3], h4⟩

end ArrCfg
end Zarrs
