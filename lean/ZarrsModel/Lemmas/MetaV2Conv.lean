import ZarrsModel.Model.MetaV2
import ZarrsModel.Lemmas.Meta
import ZarrsModel.Lemmas.ListBasic
/- helper lemmas for `Props/C13V2Conv.lean`: unfolding `MetaV2.v2ToV3` -/
namespace Zarrs.MetaV2
open Zarrs.Json Zarrs.Meta

/-- the V3 document `v2ToV3` gives, from what it computes -/
def v3Of (d : ArrayDocV2) (s : Str) (fill : J) (cs : List MetaV3) : ArrayDoc :=
  { shape := d.shape, dataType := ⟨dtypeNameV3 s, none, true⟩, chunkGrid := regularMeta d.chunks, cke := v2KeyMeta d.sep,
    fill := fill, codecs := cs, attrs := d.attrs, st := [], dimNames := none, extra := d.extra }

structure V2ToV3Of (d : ArrayDocV2) (s : Str) (e : Option Endian) (f : J) (cs : List MetaV3) : Prop where
  simple : d.dtype = .simple s
  endian : endianOf s = some e
  fill : fillConv (dtypeNameV3 s) d.fill = some f
  order : (d.order == .F && d.shape.isEmpty) = false
  codecs : codecsV2ToV3 d.order d.shape.length (dtypeNameV3 s) e d.filters d.compressor = .ok cs

theorem v2ToV3_inv (d : ArrayDocV2) (v3 : ArrayDoc) (h : v2ToV3 d = .ok v3) :
    ∃ s e f cs, V2ToV3Of d s e f cs ∧ v3 = v3Of d s f cs := by
  unfold v2ToV3 at h
  split at h
  · cases h
  · rename_i s hs
    split at h
    · cases h
    · rename_i endian he
      simp only at h
      split at h
      · cases h
      · rename_i fill hf
        split at h
        · cases h
        · rename_i hof
          split at h
          · cases h
          · rename_i cs hc
            refine ⟨s, endian, fill, cs, ⟨hs, he, hf, ?_, hc⟩, ?_⟩
            · simpa using hof
            · cases h; rfl

theorem v2ToV3_intro (d : ArrayDocV2) (s : Str) (e : Option Endian) (f : J) (cs : List MetaV3) (h : V2ToV3Of d s e f cs) :
    v2ToV3 d = .ok (v3Of d s f cs) := by
  unfold v2ToV3 v3Of
  simp only [h.simple, h.endian, h.fill, h.order, h.codecs]
  simp

theorem codecsV2ToV3_inv (order : Order) (rank : Nat) (dtName : Str) (endian : Option Endian)
    (filters : Option (List MetaV2)) (compressor : Option MetaV2) (cs : List MetaV3)
    (h : codecsV2ToV3 order rank dtName endian filters compressor = .ok cs) :
    ∃ b2b : List MetaV3, cs = codecsHead order rank endian filters compressor ++ b2b ∧
      (match (generalizing := false) compressor with
       | none => b2b = []
       | some c => ∃ o, compressorB2B dtName c = .ok o ∧ b2b = o.toList) := by
  cases compressor with
  | none =>
    simp only [codecsV2ToV3] at h
    cases h; exact ⟨[], by simp, rfl⟩
  | some c =>
    simp only [codecsV2ToV3] at h
    split at h
    · cases h
    · rename_i b hb
      cases h
      exact ⟨b.toList, rfl, b, hb, rfl⟩

theorem codecsHead_F (rank : Nat) (endian : Option Endian) (filters : Option (List MetaV2)) (compressor : Option MetaV2) :
    codecsHead .F rank endian filters compressor = transposeMeta rank :: codecsHead .C rank endian filters compressor := by
  simp [codecsHead]

theorem codecsV2ToV3_F (rank : Nat) (dtName : Str) (endian : Option Endian)
    (filters : Option (List MetaV2)) (compressor : Option MetaV2) (cs : List MetaV3)
    (h : codecsV2ToV3 .F rank dtName endian filters compressor = .ok cs) :
    ∃ cs', codecsV2ToV3 .C rank dtName endian filters compressor = .ok cs' ∧ cs = transposeMeta rank :: cs' := by
  cases compressor with
  | none =>
    simp only [codecsV2ToV3] at h ⊢
    cases h; exact ⟨_, rfl, by rw [codecsHead_F]⟩
  | some c =>
    simp only [codecsV2ToV3] at h ⊢
    split at h
    · cases h
    · rename_i b hb
      cases h
      exact ⟨_, rfl, by rw [codecsHead_F]; rfl⟩

theorem filterToV3_of_ident (id : Str) (cfg : Obj) (i : Str) (hi : codecIdent id = i) (h : isVlenIdent i = false) :
    filterToV3 ⟨id, cfg⟩ = (⟨codecName i, some cfg, true⟩, false) := by
  simp [filterToV3, hi, h]

theorem compressorA2B_of_ident (id : Str) (cfg : Obj) (i : Str) (hi : codecIdent id = i) (h : isA2BCompressor i = false) :
    compressorA2B ⟨id, cfg⟩ = none := by
  simp [compressorA2B, hi, h]

theorem compressorB2B_of_ident (dt id : Str) (cfg : Obj) (i : Str) (hi : codecIdent id = i)
    (h : (isA2BCompressor i || i == ascii "blosc" || i == ascii "zstd") = false) :
    compressorB2B dt ⟨id, cfg⟩ = .ok (some ⟨codecName i, some cfg, true⟩) := by
  simp only [Bool.or_eq_false_iff] at h
  simp [compressorB2B, hi, h]

theorem fillConv_of_num (n : Str) (t : List Char) (h1 : n ≠ ascii "bool") (h2 : n ≠ ascii "string") :
    fillConv n (.num t) = some (.num t) := by
  simp [fillConv, fillV2ToV3, h1, h2]

theorem codecsHead_eq (order : Order) (rank : Nat) (endian : Option Endian) (filters : Option (List MetaV2))
    (compressor : Option MetaV2) :
    codecsHead order rank endian filters compressor =
      (if order = .F then [transposeMeta rank] else []) ++ (filters.getD []).map (fun f => (filterToV3 f).1) ++
        (compressor.bind compressorA2B).toList ++
        (if ((filters.getD []).any (fun f => (filterToV3 f).2) || (compressor.bind compressorA2B).isSome) then []
         else [bytesMeta (endian.getD .little)]) := by
  cases order <;> simp [codecsHead, List.map_map, List.any_map, Function.comp_def]

theorem codecsV2ToV3_some (order : Order) (rank : Nat) (dt : Str) (endian : Option Endian) (filters : Option (List MetaV2))
    (c : MetaV2) (b : Option MetaV3) (h : compressorB2B dt c = .ok b) :
    codecsV2ToV3 order rank dt endian filters (some c) = .ok (codecsHead order rank endian filters (some c) ++ b.toList) := by
  simp only [codecsV2ToV3, h]

theorem endianOf_getD (s : Str) (e : Option Endian) (h : endianOf s = some e) :
    e.getD .little = (match (generalizing := false) s with | 62 :: _ => Endian.big | _ => Endian.little) := by
  unfold endianOf at h
  split at h
  · cases h; rfl
  · cases h; rfl
  · cases h; rfl
  · cases h

theorem v2ToV3_codecs (d : ArrayDocV2) (v3 : ArrayDoc) (h : v2ToV3 d = .ok v3) :
    ∃ s endian b2b, d.dtype = .simple s ∧ endianOf s = some endian ∧
      v3.codecs = codecsHead d.order d.shape.length endian d.filters d.compressor ++ b2b ∧
      (match d.compressor with
       | none => b2b = []
       | some c => ∃ o, compressorB2B (dtypeNameV3 s) c = .ok o ∧ b2b = o.toList) := by
  obtain ⟨s, e, f, cs, hv, rfl⟩ := v2ToV3_inv d v3 h
  obtain ⟨b2b, h1, h2⟩ := codecsV2ToV3_inv _ _ _ _ _ _ _ hv.codecs
  exact ⟨s, e, b2b, hv.simple, hv.endian, h1, h2⟩

theorem b2b_length_le (dt : Str) (compressor : Option MetaV2) (b2b : List MetaV3)
    (h : match compressor with
       | none => b2b = []
       | some c => ∃ o, compressorB2B dt c = .ok o ∧ b2b = o.toList) : b2b.length ≤ 1 := by
  cases compressor with
  | none => simp only at h; subst h; simp
  | some c =>
    simp only at h
    obtain ⟨o, _, rfl⟩ := h
    cases o <;> simp

theorem openOkV2_iff (d : ArrayDocV2) : openOkV2 d = true ↔
    d.shape.length = d.chunks.length ∧ (∀ kv ∈ d.extra, kv.2.mu = false) ∧ ∃ v3, v2ToV3 d = .ok v3 := by
  unfold openOkV2
  cases hv : v2ToV3 d with
  | error e => simp
  | ok v3 =>
    obtain ⟨s, e, f, cs, _, rfl⟩ := v2ToV3_inv d v3 hv
    simp only [v3Of, structOk, Bool.and_eq_true, List.all_eq_true, Bool.not_eq_true', beq_iff_eq, Bool.and_true,
      Except.ok.injEq, exists_eq', and_true]
    exact ⟨fun h => ⟨h.2.2.symm, h.1⟩, fun h => ⟨h.2, h.2, h.1.symm⟩⟩

/-- the converted document has no storage transformers (`transformersOk`) -/
theorem openOkV2_openOk (d : ArrayDocV2) (v : ArrayDoc) (hv : v2ToV3 d = .ok v) (h : openOkV2 d = true) :
    openOk v d.chunks.length = true := by
  unfold openOkV2 at h
  rw [hv] at h
  simp only [Bool.and_eq_true] at h
  obtain ⟨s, e, f, cs, _, rfl⟩ := v2ToV3_inv d v hv
  unfold openOk
  rw [h.2]
  rfl

theorem regularRank_regularMeta (chunks : List (List Char)) : regularRank (regularMeta chunks) = some chunks.length := by
  simp [regularRank, regularMeta, lookup_cons_eq]

end Zarrs.MetaV2
