import ZarrsModel.Lemmas.PartialArray
import ZarrsModel.Lemmas.CodecTranspose
/- helper lemmas for C02: the `transpose` partial decoder -/
namespace Zarrs.Partial
open Zarrs Zarrs.Codec

theorem addIdx_permute (i st : List Nat) (order : List Nat) (h : i.length = st.length) :
    addIdx (permute i order) (permute st order) = permute (addIdx i st) order := by
  unfold permute
  rw [addIdx_map]
  apply List.map_congr_left
  intro a _
  exact (addIdx_getD i st h a).symm

theorem allLe_permute (x y order : List Nat) (h : x.length = y.length) (hle : Subset.allLe x y = true) :
    Subset.allLe (permute x order) (permute y order) = true := by
  unfold permute
  exact allLe_map order _ _ (fun a _ => allLe_getD x y h hle a)

/-- the region `TransposePartialDecoder` asks the inner decoder for -/
def permRegion (order : List Nat) (r : Subset) : Subset := ⟨permute r.start order, permute r.shape order⟩

theorem permRegion_inShape (order : List Nat) (sh : Shape) (r : Subset)
    (hr : r.wf = true) (hb : r.inboundsShape sh = true) :
    (permRegion order r).wf = true ∧ (permRegion order r).inboundsShape (permute sh order) = true := by
  obtain ⟨hr, h2, h3⟩ := region_facts r sh hr hb
  refine ⟨by simp [permRegion, Subset.wf, permute_length], ?_⟩
  simp only [permRegion, Subset.inboundsShape, Subset.rank, Subset.endExc, permute_length, beq_self_eq_true,
    Bool.true_and]
  rw [addIdx_permute _ _ _ hr]
  exact allLe_permute _ _ _ (by rw [addIdx_length, ← hr, Nat.min_self, h2]) h3

theorem transposeDec_extract (order : List Nat) (sh : Shape) (xs : List Elem) (r : Subset)
    (ho : validOrder order sh.length = true) (hx : xs.length = prod sh)
    (hr : r.wf = true) (hb : r.inboundsShape sh = true) :
    transposeDec order r.shape ((permRegion order r).extract (permute sh order) (transposeEnc order sh xs)) =
      r.extract sh xs := by
  obtain ⟨hw', hb'⟩ := permRegion_inShape order sh r hr hb
  have hx' : (transposeEnc order sh xs).length = prod (permute sh order) := transposeEnc_length _ _ _
  obtain ⟨hl1, hp1⟩ := extract_spec (permRegion order r) (permute sh order) _ hw' hb' hx'
  obtain ⟨hl2, hp2⟩ := extract_spec r sh xs hr hb hx
  obtain ⟨hrw, hb1, hb2⟩ := region_facts r sh hr hb
  have hrl : r.shape.length = sh.length := by rw [← hrw, hb1]
  apply list_ext_box r.shape _ _ (transposeDec_length _ _ _) hl2
  intro i hi
  have hil : i.length = r.start.length := by rw [inB_length hi, hrw]
  have hm : inB (addIdx i r.start) sh = true :=
    inB_of_allLe_end _ r.start r.shape sh hb1 hb2 (mem_addIdx i r.start r.shape hrw hi)
  have hm' : inB (permute (addIdx i r.start) order) (permute sh order) = true :=
    inB_permute _ sh order ho hm
  have hi' : inB (permute i order) (permRegion order r).shape = true :=
    inB_permute i r.shape order (by rw [hrl]; exact ho) hi
  have hlt2 : ravel (addIdx i r.start) sh < xs.length := by rw [hx]; exact ravel_lt _ _ hm
  rw [transposeDec_getElem? _ _ _ _ hi, hp2 i hi, List.getD_eq_getElem?_getD]
  have := hp1 (permute i order) hi'
  rw [show (permRegion order r).shape = permute r.shape order from rfl,
    show (permRegion order r).start = permute r.start order from rfl] at this
  rw [this, addIdx_permute i r.start order hil, transposeEnc_getElem? _ _ _ _ hm',
    permute_permute_inv _ order ho (inB_length hm)]
  simp [List.getD_eq_getElem?_getD, List.getElem?_eq_getElem hlt2]

theorem transposePD_ok' (order : List Nat) (sh : Shape) (h : AHandle) (xs : List Elem)
    (ho : validOrder order sh.length = true) (hx : xs.length = prod sh)
    (hh : AHandleOk h (permute sh order) (transposeEnc order sh xs)) :
    AHandleOk (transposePD order h) sh xs := by
  intro rs hrs
  have h1 : ∀ r ∈ rs.map (permRegion order), r.wf = true ∧ r.inboundsShape (permute sh order) = true :=
    List.forall_mem_map.mpr fun r hr => permRegion_inShape order sh r (hrs r hr).1 (hrs r hr).2
  show (match h (rs.map (permRegion order)) with
    | none => none
    | some parts => some ((rs.zip parts).map (fun (x : Subset × List Elem) => transposeDec order x.1.shape x.2))) = _
  rw [hh _ h1, List.map_map]
  dsimp only
  rw [zip_map_map]
  -- beta and `∘` are reduced first: comparing the two sides by unfolding is slow
  simp only [Function.comp_apply]
  exact congrArg some (List.map_congr_left fun r hr =>
    transposeDec_extract order sh xs r ho hx (hrs r hr).1 (hrs r hr).2)

end Zarrs.Partial
