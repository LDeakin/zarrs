import ZarrsModel.Model.Fault
import ZarrsModel.Lemmas.ArrayCell
import ZarrsModel.Lemmas.ArrayInv
set_option linter.unusedSectionVars false
/-
C20.  Every per-chunk step of a multi-chunk write is a *single-key* store operation whose outcome (fail / erase /
set `v`) depends only on the value currently stored under the chunk's own key (`kvStep`, `Lemmas/ArrayCell.lean`).
Here: the per-chunk steps of `store_array_subset` and `store_chunks` in that form, idempotence of a step on its own
key, and the `foldOpt_kvStep_*` lemmas: a fold of such steps over chunks with distinct keys leaves under each key the
outcome of that chunk's step computed from the INITIAL store, whatever the order (`foldOpt_kvStep_some`, `_iff`); partial
states, retry and order independence are read off from that.
-/
namespace Zarrs
open Subset

theorem updateRuns_idem {α} (sh : Shape) (r : Subset) (xs ys : List α) (hr : r.wf = true)
    (hb : r.inboundsShape sh = true) (hx : xs.length = prod sh) (hy : ys.length = r.numElements) :
    updateRuns sh r (updateRuns sh r xs ys) ys = updateRuns sh r xs ys := by
  obtain ⟨hl1, hp1⟩ := updateRuns_spec sh r xs ys hr hb hx hy
  obtain ⟨hl2, hp2⟩ := updateRuns_spec sh r (updateRuns sh r xs ys) ys hr hb hl1 hy
  apply list_ext_box sh _ _ hl2 hl1
  intro j hj
  rw [hp2 j hj, hp1 j hj]
  split <;> rfl

namespace ArrCfg
variable {α : Type} [DecidableEq α]
variable {cfg : ArrCfg α}

theorem retrieveChunkV_length (c : Idx) (s : Shape) (hs : cfg.chunkShape c = some s) (old : Option Bytes)
    (xs : List α) (h : cfg.retrieveChunkV c old = some xs) : xs.length = prod s := by
  simp only [retrieveChunkV, hs] at h
  split at h
  · cases h
    exact List.length_replicate
  · split at h
    · split at h
      · cases h
        assumption
      · cases h
    · cases h

/-- an elided all-fill chunk reads back as fill -/
theorem storeChunkW_readback (hL : cfg.Lossless) (c : Idx) (d : List α) (w : Option Bytes)
    (h : cfg.storeChunkW c d = some w) : cfg.retrieveChunkV c w = some d := by
  obtain ⟨s, hs, hlen, rfl⟩ := storeChunkW_eq_some.1 h
  by_cases hf : (!cfg.storeEmpty && cfg.isFill d) = true
  · simp only [retrieveChunkV, hs, if_pos hf]
    exact congrArg some (List.eq_replicate_iff.2 ⟨hlen, (isFill_iff d).1 ((Bool.and_eq_true _ _).mp hf).2⟩).symm
  · simp only [retrieveChunkV, hs, if_neg hf, hL d, hlen, if_true]

theorem storeChunkSubsetW_idem (hL : cfg.Lossless) (c : Idx) (r : Subset) (d : List α) (hrw : r.wf = true)
    (old w : Option Bytes) (h : cfg.storeChunkSubsetW c r d old = some w) :
    cfg.storeChunkSubsetW c r d w = some w := by
  simp only [storeChunkSubsetW] at h ⊢
  cases hs : cfg.chunkShape c with
  | none => rw [hs] at h; cases h
  | some s =>
    rw [hs] at h
    simp only at h ⊢
    split at h
    · cases h
    · rename_i hb
      rw [if_neg hb]
      split at h
      · rename_i hfull
        rw [if_pos hfull]
        exact h
      · rename_i hfull
        rw [if_neg hfull]
        split at h
        · cases h
        · rename_i hlen
          rw [if_neg hlen]
          simp only [bne_iff_ne, ne_eq, Decidable.not_not] at hlen
          simp only [Bool.not_eq_true', Bool.not_eq_false] at hb
          cases ho : cfg.retrieveChunkV c old with
          | none => rw [ho] at h; cases h
          | some oldxs =>
            rw [ho] at h
            simp only at h
            have hol := retrieveChunkV_length c s hs old oldxs ho
            rw [storeChunkW_readback hL c _ w h]
            simp only
            rw [updateRuns_idem s r oldxs d hrw hb hol hlen]
            exact h

/-- outcome of the per-chunk step of `store_array_subset` given the old value under the chunk's key -/
def storeArraySubsetChunkW (cfg : ArrCfg α) (region : Subset) (data : List α) (c : Idx) (old : Option Bytes) :
    Option (Option Bytes) :=
  match cfg.chunkSubset c with
  | none => none
  | some cs =>
    let ov := region.overlap cs
    cfg.storeChunkSubsetW c (ov.relativeTo cs.start) ((ov.relativeTo region.start).extract region.shape data) old

/-- outcome of the per-chunk step of `store_chunks` (it does not read the old value) -/
def storeChunksChunkW (cfg : ArrCfg α) (region : Subset) (data : List α) (c : Idx) (_old : Option Bytes) :
    Option (Option Bytes) :=
  match cfg.chunkSubset c with
  | none => none
  | some cs => cfg.storeChunkW c ((cs.relativeTo region.start).extract region.shape data)

theorem overlap_relativeTo_wf (region cs : Subset) (hw : region.wf = true) (hcs : cs.wf = true) :
    ((region.overlap cs).relativeTo cs.start).wf = true := by
  rw [Subset.wf_iff] at hw hcs ⊢
  simp only [Subset.relativeTo, Subset.overlap, Subset.endExc, zipSub_length, zipMin_length, zipMax_length,
    addIdx_length, ← hw, ← hcs, Nat.min_self, Nat.min_assoc]

theorem storeArraySubsetChunkW_idem (hL : cfg.Lossless) (region : Subset) (data : List α) (hw : region.wf = true)
    (c : Idx) (old w : Option Bytes) (h : cfg.storeArraySubsetChunkW region data c old = some w) :
    cfg.storeArraySubsetChunkW region data c w = some w := by
  simp only [storeArraySubsetChunkW] at h ⊢
  cases hcs : cfg.chunkSubset c with
  | none => rw [hcs] at h; cases h
  | some cs =>
    rw [hcs] at h
    simp only at h ⊢
    exact storeChunkSubsetW_idem hL c _ _ (overlap_relativeTo_wf region cs hw (chunkSubset_wf hcs)) old w h

theorem storeArraySubsetChunk_eq_kvStep (region : Subset) (data : List α) :
    cfg.storeArraySubsetChunk region data = kvStep cfg.keyOf (cfg.storeArraySubsetChunkW region data) := by
  funext st c
  simp only [storeArraySubsetChunk, storeArraySubsetChunkW, kvStep]
  cases cfg.chunkSubset c with
  | none => rfl
  | some cs => exact storeChunkSubset_eq st c _ _

theorem storeChunksChunk_eq_kvStep (region : Subset) (data : List α) :
    cfg.storeChunksChunk region data = kvStep cfg.keyOf (cfg.storeChunksChunkW region data) := by
  funext st c
  simp only [storeChunksChunk, storeChunksChunkW, kvStep]
  cases cfg.chunkSubset c with
  | none => rfl
  | some cs => exact storeChunk_eq st c _

section fold
variable (keyOf : Idx → Key) (W : Idx → Option Bytes → Option (Option Bytes))

theorem foldOpt_kvStep_sorted (l : List Idx) (s s' : KV) (hs : s.sorted) (h : foldOpt (kvStep keyOf W) s l = some s') :
    s'.sorted := by
  induction l generalizing s with
  | nil => cases h; exact hs
  | cons c rest ih =>
    simp only [foldOpt, kvStep] at h
    cases hw : W c (s.get (keyOf c)) with
    | none => rw [hw] at h; cases h
    | some w => rw [hw] at h; exact ih _ (KV.applyW_sorted s hs _ w) h

theorem foldOpt_kvStep_some (l : List Idx) (hnd : (l.map keyOf).Nodup) (s s' : KV)
    (h : foldOpt (kvStep keyOf W) s l = some s') :
    (∀ c ∈ l, W c (s.get (keyOf c)) = some (s'.get (keyOf c))) ∧ ∀ k, k ∉ l.map keyOf → s'.get k = s.get k := by
  induction l generalizing s with
  | nil =>
    simp only [foldOpt, Option.some.injEq] at h
    subst h
    exact ⟨fun _ hc => (nomatch hc), fun _ _ => rfl⟩
  | cons c rest ih =>
    simp only [List.map_cons, List.nodup_cons] at hnd
    simp only [foldOpt] at h
    cases hw : W c (s.get (keyOf c)) with
    | none => simp only [kvStep, hw, Option.map_none] at h; cases h
    | some w =>
      simp only [kvStep, hw, Option.map_some] at h
      obtain ⟨ih1, ih2⟩ := ih hnd.2 _ h
      have hc' : s'.get (keyOf c) = w := by
        rw [ih2 _ hnd.1, KV.get_applyW, if_pos rfl]
      refine ⟨?_, ?_⟩
      · intro c' hc'm
        rcases List.mem_cons.1 hc'm with rfl | hr
        · rw [hc']; exact hw
        · have hne : keyOf c' ≠ keyOf c := fun e => hnd.1 (e ▸ List.mem_map_of_mem hr)
          have := ih1 c' hr
          rwa [KV.get_applyW, if_neg hne] at this
      · intro k hk
        simp only [List.map_cons, List.mem_cons, not_or] at hk
        rw [ih2 k hk.2, KV.get_applyW, if_neg hk.1]

/-- the fold succeeds when every step, taken from the initial store, does -/
theorem foldOpt_kvStep_exists (l : List Idx) (hnd : (l.map keyOf).Nodup) (s : KV) {V : Idx → Option Bytes}
    (h : ∀ c ∈ l, W c (s.get (keyOf c)) = some (V c)) :
    ∃ s', foldOpt (kvStep keyOf W) s l = some s' := by
  induction l generalizing s with
  | nil => exact ⟨s, rfl⟩
  | cons c rest ih =>
    simp only [List.map_cons, List.nodup_cons] at hnd
    simp only [foldOpt, kvStep, h c List.mem_cons_self, Option.map_some]
    apply ih hnd.2
    intro c' hc'
    have hne : keyOf c' ≠ keyOf c := fun e => hnd.1 (e ▸ List.mem_map_of_mem hc')
    rw [KV.get_applyW, if_neg hne]
    exact h c' (List.mem_cons_of_mem _ hc')

theorem foldOpt_kvStep_partial (l : List Idx) (hl : (l.map keyOf).Nodup) (s sFull s' : KV)
    (hfull : foldOpt (kvStep keyOf W) s l = some sFull) (done : List Idx) (hd : (done.map keyOf).Nodup)
    (hsub : ∀ c ∈ done, c ∈ l) (hpart : foldOpt (kvStep keyOf W) s done = some s') (k : Key) :
    s'.get k = s.get k ∨ s'.get k = sFull.get k := by
  obtain ⟨hF, _⟩ := foldOpt_kvStep_some keyOf W l hl s sFull hfull
  obtain ⟨hP, hPframe⟩ := foldOpt_kvStep_some keyOf W done hd s s' hpart
  by_cases hk : k ∈ done.map keyOf
  · obtain ⟨c, hcd, rfl⟩ := List.mem_map.1 hk
    have h1 := hP c hcd
    rw [hF c (hsub c hcd)] at h1
    exact Or.inr (Option.some.inj h1).symm
  · exact Or.inl (hPframe k hk)

/-- over a sorted store these three clauses determine the result; none of them mentions the order of `l` -/
theorem foldOpt_kvStep_iff (l : List Idx) (hnd : (l.map keyOf).Nodup) (s s' : KV) (hs : s.sorted) :
    foldOpt (kvStep keyOf W) s l = some s' ↔ s'.sorted ∧ (∀ c ∈ l, W c (s.get (keyOf c)) = some (s'.get (keyOf c))) ∧
      ∀ k, k ∉ l.map keyOf → s'.get k = s.get k := by
  constructor
  · intro h
    exact ⟨foldOpt_kvStep_sorted keyOf W l s s' hs h, foldOpt_kvStep_some keyOf W l hnd s s' h⟩
  · intro ⟨hs', h1, h2⟩
    obtain ⟨s2, hs2⟩ := foldOpt_kvStep_exists keyOf W l hnd s h1
    obtain ⟨g1, g2⟩ := foldOpt_kvStep_some keyOf W l hnd s s2 hs2
    rw [hs2]
    refine congrArg some (KV.ext_sorted s2 s' (foldOpt_kvStep_sorted keyOf W l s s2 hs hs2) hs' fun k => ?_)
    by_cases hk : k ∈ l.map keyOf
    · obtain ⟨c, hc, rfl⟩ := List.mem_map.1 hk
      exact Option.some.inj ((g1 c hc).symm.trans (h1 c hc))
    · rw [g2 k hk, h2 k hk]

/-- `hgran` asks less than that `s'` is the state after some of the steps: every key at its value in `s` or in `sFull`,
however that came about -/
theorem foldOpt_kvStep_retry (hidem : ∀ c old w, W c old = some w → W c w = some w) (l : List Idx)
    (hnd : (l.map keyOf).Nodup) (s sFull s' : KV) (hs : s.sorted) (hs' : s'.sorted)
    (hfull : foldOpt (kvStep keyOf W) s l = some sFull) (hgran : ∀ k, s'.get k = s.get k ∨ s'.get k = sFull.get k) :
    foldOpt (kvStep keyOf W) s' l = some sFull := by
  obtain ⟨hFs, hF, hFframe⟩ := (foldOpt_kvStep_iff keyOf W l hnd s sFull hs).1 hfull
  refine (foldOpt_kvStep_iff keyOf W l hnd s' sFull hs').2 ⟨hFs, fun c hc => ?_, fun k hk => ?_⟩
  · rcases hgran (keyOf c) with h | h <;> rw [h]
    · exact hF c hc
    · exact hidem c _ _ (hF c hc)
  · rcases hgran k with h | h
    · rw [h, hFframe k hk]
    · exact h.symm

theorem foldOpt_kvStep_perm (l1 l2 : List Idx) (hperm : l1.Perm l2) (hnd2 : (l2.map keyOf).Nodup) (s : KV)
    (hs : s.sorted) : foldOpt (kvStep keyOf W) s l1 = foldOpt (kvStep keyOf W) s l2 := by
  apply Option.ext
  intro s'
  rw [foldOpt_kvStep_iff keyOf W l1 ((hperm.map keyOf).nodup_iff.2 hnd2) s s' hs, foldOpt_kvStep_iff keyOf W l2 hnd2 s s' hs]
  simp only [hperm.mem_iff, (hperm.map keyOf).mem_iff]

end fold

end ArrCfg
end Zarrs
