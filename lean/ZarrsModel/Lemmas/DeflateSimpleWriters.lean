import ZarrsModel.Lemmas.DeflateContainers
import ZarrsModel.Lemmas.DeflateRender
/-
The two simple writers of `Model/Inflate.lean` (stored blocks only; one fixed-Huffman block of literals) and their gzip
and zlib containers: what they emit are the bits of block sequences of `Model/DeflateSpec.lean`, so the reader inverts
them (for C12; "layer E" in DESIGN.md is the specification-level reader and writer, `Model/Inflate` and `Model/Conform`).
-/
namespace Zarrs.Inflate
open Zarrs.DeflateSpec

theorem splitAt65535_flatten (fuel : Nat) (bs : Bytes) (h : bs.length < fuel) :
    (splitAt65535 fuel bs).flatten = bs := by
  induction fuel generalizing bs with
  | zero => omega
  | succ fuel ih =>
    unfold splitAt65535
    split
    · simp
    · rw [List.flatten_cons, ih _ (by simp only [List.length_drop]; omega), List.take_append_drop]

theorem splitAt65535_ne_nil (fuel : Nat) (bs : Bytes) (h : bs.length < fuel) :
    splitAt65535 fuel bs ≠ [] := by
  cases fuel with
  | zero => omega
  | succ fuel => unfold splitAt65535; split <;> simp

theorem splitAt65535_parts (fuel : Nat) (bs : Bytes) (hb : ∀ x ∈ bs, x < 256) :
    ∀ p ∈ splitAt65535 fuel bs, p.length ≤ 65535 ∧ ∀ x ∈ p, x < 256 := by
  induction fuel generalizing bs with
  | zero => simp [splitAt65535]
  | succ fuel ih =>
    unfold splitAt65535
    split
    · rename_i h
      intro p hp
      simp only [List.mem_singleton] at hp
      subst hp
      exact ⟨h, hb⟩
    · intro p hp
      simp only [List.mem_cons] at hp
      rcases hp with hp | hp
      · subst hp
        refine ⟨by simp only [List.length_take]; omega, fun x hx => hb x (List.mem_of_mem_take hx)⟩
      · exact ih _ (fun x hx => hb x (List.mem_of_mem_drop hx)) p hp

theorem encodeBlock_stored (pos : Nat) (final : Bool) (p : Bytes) (hpos : pos % 8 = 0) (hl : p.length ≤ 65535)
    (hp : ∀ x ∈ p, x < 256) :
    encodeBlock pos final (.stored [] p) =
      some (toBits ([if final then 1 else 0] ++ le16 p.length ++ le16 (65535 - p.length) ++ p)) := by
  have h5 : (8 - (pos + 3) % 8) % 8 = 5 := by omega
  have hc : p.length ≤ 65535 ∧ (p.all fun b => decide (b < 256)) = true := ⟨hl, by simpa using hp⟩
  simp only [encodeBlock, if_pos hc, h5, toBits_append, toBits_cons, toBits_nil, List.append_assoc, List.append_nil]
  cases final <;> rfl

/-- `n` parts, numbered from `k`; the last one is marked final -/
theorem encodeBlocks_stored (parts : List Bytes) (k n pos : Nat) (hn : n = k + parts.length) (hpos : pos % 8 = 0)
    (hne : parts ≠ []) (hp : ∀ p ∈ parts, p.length ≤ 65535 ∧ ∀ x ∈ p, x < 256) :
    encodeBlocks pos (parts.map (.stored [])) = some (toBits ((parts.zipIdx k).map (fun (p, i) =>
      [if i + 1 == n then 1 else 0] ++ le16 p.length ++ le16 (65535 - p.length) ++ p)).flatten) := by
  induction parts generalizing k pos with
  | nil => exact absurd rfl hne
  | cons p ps ih =>
    have hpp := hp p (by simp)
    simp only [List.zipIdx_cons, List.map_cons, List.flatten_cons]
    cases ps with
    | nil =>
      have e : (k + 1 == n) = true := by simp only [List.length_cons, List.length_nil] at hn; simp [hn]
      simp only [e, List.map_nil, encodeBlocks, encodeBlock_stored pos true p hpos hpp.1 hpp.2,
        List.zipIdx_nil, List.flatten_nil, List.append_nil]
    | cons q ps =>
      have e : (k + 1 == n) = false := by simp only [List.length_cons] at hn; simp; omega
      have := ih (k + 1) (pos + (toBits ([if false then 1 else 0] ++ le16 p.length ++ le16 (65535 - p.length) ++ p)).length)
        (by simp only [List.length_cons] at hn ⊢; omega) (by rw [toBits_length]; omega) (by simp)
        (fun p' hp' => hp p' (List.mem_cons_of_mem _ hp'))
      simp only [List.map_cons] at this
      rw [toBits_append]
      simp only [e, List.map_cons, encodeBlocks, encodeBlock_stored pos false p hpos hpp.1 hpp.2, this]

theorem renderBlocks_stored (parts : List Bytes) (out : Bytes) :
    renderBlocks (parts.map (.stored [])) out = some (out ++ parts.flatten) := by
  induction parts generalizing out with
  | nil => simp [renderBlocks]
  | cons p ps ih => simp [renderBlocks, renderBlock, ih]

theorem deflateStored_deflates {bs : Bytes} (hb : ∀ x ∈ bs, x < 256) : Deflates (deflateStored bs) bs :=
  ⟨fun rest => inflate_of_bits _ _ [] _ bs rest
    (encodeBlocks_stored _ 0 _ 0 (by simp) rfl (splitAt65535_ne_nil _ _ (Nat.lt_succ_self _)) (splitAt65535_parts _ _ hb))
    (by rw [renderBlocks_stored, splitAt65535_flatten _ _ (Nat.lt_succ_self _)]; rfl) (List.append_nil _).symm (by decide),
   hb⟩

theorem deflateStored_wf (bs : Bytes) (hb : ∀ x ∈ bs, x < 256) : ∀ x ∈ deflateStored bs, x < 256 := by
  intro x hx
  simp only [deflateStored, List.mem_flatten, List.mem_map] at hx
  obtain ⟨_, ⟨⟨p, i⟩, hpi, rfl⟩, hx⟩ := hx
  simp only [List.mem_append, List.mem_singleton] at hx
  rcases hx with ((hx | hx) | hx) | hx
  · subst hx; split <;> omega
  · exact le16_wf _ x hx
  · exact le16_wf _ x hx
  · exact (splitAt65535_parts _ _ hb p (List.fst_mem_of_mem_zipIdx hpi)).2 x hx

def litCode (b : Nat) : Bits := if b < 144 then bitsMsb 8 (0x30 + b) else bitsMsb 9 (0x190 + (b - 144))

theorem deflateFixed_eq (bs : Bytes) :
    deflateFixed bs = fromBits ([true, true, false] ++ bs.flatMap litCode ++ bitsMsb 7 0) := rfl

/-- RFC 1951 §3.2.6: literals 0–143 have the 8-bit codes from 00110000, literals 144–255 the 9-bit codes from
    110010000 -/
theorem codeOf_fixedLit (b : Nat) (hb : b < 256) : codeOf fixedLitLens b = some (litCode b) := by
  have e : fixedLitLens =
      List.replicate 144 8 ++ (List.replicate 112 9 ++ (List.replicate 24 7 ++ List.replicate 8 8)) := by
    simp only [fixedLitLens, List.append_assoc]
  have ⟨f8, f9⟩ : firstCode fixedLitLens 8 = 48 ∧ firstCode fixedLitLens 9 = 400 := by decide +kernel
  unfold litCode
  split
  · rename_i h
    have := codeOf_run [] (List.replicate 112 9 ++ (List.replicate 24 7 ++ List.replicate 8 8)) 144 8 b (by decide) h rfl
    rw [List.nil_append, ← e, f8, List.length_nil, Nat.zero_add] at this
    exact this
  · rename_i h
    have := codeOf_run (List.replicate 144 8) (List.replicate 24 7 ++ List.replicate 8 8) 112 9 (b - 144) (by decide) (by omega) (by decide)
    rw [← e, f9, List.length_replicate, show 144 + (b - 144) = b by omega] at this
    exact this

theorem encTokens_lits (bs : Bytes) (hb : ∀ x ∈ bs, x < 256) :
    encTokens fixedLitLens fixedDistLens (bs.map .lit) = some (bs.flatMap litCode ++ bitsMsb 7 0) := by
  induction bs with
  | nil => decide +kernel
  | cons b bs ih =>
    have hb0 : b < 256 := hb b (by simp)
    simp only [List.map_cons, encTokens, encToken, if_pos hb0, codeOf_fixedLit b hb0,
      ih (fun x hx => hb x (List.mem_cons_of_mem _ hx)), List.flatMap_cons, List.append_assoc]

theorem deflateFixed_deflates {bs : Bytes} (hb : ∀ x ∈ bs, x < 256) : Deflates (deflateFixed bs) bs := by
  obtain ⟨k, hk, hbits⟩ := toBits_fromBitsAux _ ([true, true, false] ++ bs.flatMap litCode ++ bitsMsb 7 0)
    (Nat.lt_succ_self _)
  refine ⟨fun rest => inflate_of_bits [.fixed (bs.map .lit)] _ _ _ bs rest ?_ ?_ (by rw [deflateFixed_eq]; exact hbits)
    (by simpa using hk), hb⟩
  · simp only [encodeBlocks, encodeBlock, encTokens_lits bs hb, List.append_assoc]
  · simp only [renderBlocks, renderBlock, render_lits bs [] hb, List.nil_append]

theorem deflateFixed_wf (bs : Bytes) : ∀ x ∈ deflateFixed bs, x < 256 := fromBits_wf _

/-- the two headers `gzipWith` writes: none of the optional fields, or FEXTRA and FNAME -/
def gzipWithHeader (extra : Bool) : GzHeader := if extra then { extra := some [65, 66], name := some [110] } else {}

theorem gzipWith_eq (deflate : Bytes → Bytes) (extra : Bool) (bs : Bytes) :
    gzipWith deflate extra bs = gzipMember (gzipWithHeader extra) (deflate bs) bs := by
  cases extra <;> simp [gzipWith, gzipMember, gzipWithHeader, GzHeader.bytes, GzHeader.flg, gzExtraBytes, gzZBytes,
    gzCrcBytes, le16]

theorem gunzip_gzipWith (deflate : Bytes → Bytes) (extra : Bool) {bs : Bytes} (hd : Deflates (deflate bs) bs) :
    gunzip (gzipWith deflate extra bs) = some bs := by
  rw [gzipWith_eq]
  exact gunzip_gzipMember _ (by cases extra <;> rfl) hd

theorem unzlib_zlibWith (deflate : Bytes → Bytes) {bs : Bytes} (hd : Deflates (deflate bs) bs) :
    unzlib (zlibWith deflate bs) = some bs := by
  have e : zlibWith deflate bs = zlibStream 7 0 (deflate bs) bs := by simp [zlibWith, zlibStream]
  rw [e]
  exact unzlib_zlibStream 7 0 hd

theorem gzipWith_wf (deflate : Bytes → Bytes) (extra : Bool) (bs : Bytes) (hd : ∀ x ∈ deflate bs, x < 256) :
    ∀ x ∈ gzipWith deflate extra bs, x < 256 := by
  rw [gzipWith_eq]
  exact gzipMember_wf _ _ _ (by cases extra <;> decide) hd

theorem zlibWith_wf (deflate : Bytes → Bytes) (bs : Bytes) (hd : ∀ x ∈ deflate bs, x < 256) :
    ∀ x ∈ zlibWith deflate bs, x < 256 :=
  List.forall_mem_append.2 ⟨List.forall_mem_append.2 ⟨by decide, hd⟩, fun x hx => le32_wf _ x (List.mem_reverse.1 hx)⟩

theorem fixed_example : gunzip (gzipWith deflateFixed true [1, 2, 3, 200, 255]) = some [1, 2, 3, 200, 255] ∧
    unzlib (zlibWith deflateStored [9, 8]) = some [9, 8] :=
  ⟨gunzip_gzipWith deflateFixed true (deflateFixed_deflates (by decide)),
    unzlib_zlibWith deflateStored (deflateStored_deflates (by decide))⟩

end Zarrs.Inflate
