import ZarrsModel.Model.FsConc
import ZarrsModel.Lemmas.FsConcStep
import ZarrsModel.Lemmas.MemConcSpec
/- C18, filesystem store: every finished execution of the repaired (`.fixed`) per-key RwLock protocol of `FilesystemStore` is
linearizable; the linearization is the history itself (response order). -/
namespace Zarrs.FsConc
open Zarrs.MemConc (Op Res Protocol Done specStep isLinearization legalSeq legalSeq_snoc respectsRealTime_iff
  invOf invOf_le)

structure Inv (ps : Progs) (i0 : Option Bytes) (s : State) (time : Nat) (invs : List (Option Nat))
    (acc : List Done) : Prop where
  lpc : s.pc.length = ps.length
  lts : s.ts.length = ps.length
  lout : s.out.length = ps.length
  /-- the recorded history, in response order, is a legal run of the atomic register ending in the abstract
  value `A`, which is the file's contents unless a `set` is between truncation and write -/
  legal : ∃ A, legalSeq i0 acc = some A ∧ (s.writer = none → A = s.file)
  writer_writing : ∀ t, s.writer = some t → s.ts.getD t .idle = .writing
  writing_writer : ∀ t, s.ts.getD t .idle = .writing → s.writer = some t ∧ ∃ v, curOp ps s t = some (.set v)
  realTime : acc.Pairwise (fun d e => ¬ e.resp < d.inv)
  resp_lt : ∀ d ∈ acc, d.inv ≤ d.resp ∧ d.resp < time
  invs_lt : ∀ t i, invs.getD t none = some i → i < time

theorem inv_init (ps : Progs) (i0 : Option Bytes) : Inv ps i0 (init ps i0) 0 (ps.map (fun _ => none)) [] where
  lpc := by simp [init]
  lts := by simp [init]
  lout := by simp [init]
  legal := ⟨i0, rfl, fun _ => rfl⟩
  writer_writing := by intro t h; simp [init] at h
  writing_writer := fun t h => nomatch (getD_map_const ps TS.idle t).symm.trans h
  realTime := List.Pairwise.nil
  resp_lt := by intro d hd; cases hd
  invs_lt := fun t i h => nomatch (getD_map_const ps none t).symm.trans h

theorem invs_lt_set {invs : List (Option Nat)} {time : Nat} (t : Nat) {x : Option Nat}
    (h : ∀ t i, invs.getD t none = some i → i < time) (hx : ∀ i, x = some i → i ≤ time) :
    ∀ t' i, (invs.set t x).getD t' none = some i → i < time + 1 := by
  intro t' i hi
  by_cases ht : t < invs.length
  · rw [getD_set ht] at hi
    split at hi
    · exact Nat.lt_succ_of_le (hx i hi)
    · exact Nat.lt_succ_of_lt (h t' i hi)
  · rw [List.set_eq_of_length_le (Nat.le_of_not_lt ht)] at hi
    exact Nat.lt_succ_of_lt (h t' i hi)

section
variable {ps : Progs} {i0 : Option Bytes} {s : State} {time : Nat} {invs : List (Option Nat)} {acc : List Done}
  {t : Nat}

/-- a step inside an operation (M, L1) changes neither program counters nor history: what is left to show is the lock
discipline of the new state -/
theorem Inv.silent (I : Inv ps i0 s time invs acc) {s' : State} (hpc : s'.pc = s.pc)
    (hts : s'.ts.length = s.ts.length) (hout : s'.out = s.out)
    (hfile : s'.writer = none → s.writer = none ∧ s'.file = s.file)
    (hw : ∀ t, s'.writer = some t → s'.ts.getD t .idle = .writing)
    (hwr : ∀ t, s'.ts.getD t .idle = .writing → s'.writer = some t ∧ ∃ v, curOp ps s t = some (.set v)) :
    Inv ps i0 s' (time + 1) (invs.set t (some (invOf invs t time))) acc := by
  obtain ⟨A, hA1, hA2⟩ := I.legal
  refine ⟨hpc ▸ I.lpc, hts.trans I.lts, hout ▸ I.lout,
    ⟨A, hA1, fun h => (hA2 (hfile h).1).trans (hfile h).2.symm⟩, hw, ?_, I.realTime,
    fun d hd => ⟨(I.resp_lt d hd).1, Nat.lt_succ_of_lt (I.resp_lt d hd).2⟩,
    invs_lt_set t I.invs_lt (fun i hi => by cases hi; exact invOf_le (I.invs_lt t))⟩
  intro t' h'
  have : curOp ps s' t' = curOp ps s t' := by unfold curOp; rw [hpc]
  rw [this]
  exact hwr t' h'

theorem inv_step (hnp : noPartial ps = true) (rest : List Nat) (ht : t < ps.length)
    (I : Inv ps i0 s time invs acc) (hen : enabled .fixed ps s t = true) :
    ∃ s' invs' acc', Inv ps i0 s' (time + 1) invs' acc' ∧
      history.go .fixed ps s time invs acc (t :: rest) = history.go .fixed ps s' (time + 1) invs' acc' rest := by
  have htl : t < s.ts.length := by rw [I.lts]; exact ht
  rcases step_cases hnp hen I.writing_writer with ⟨hts, hs⟩ | ⟨hts, hfree, ⟨v, hv⟩, hs⟩ | ⟨op, hop, hwt, hs⟩
  · -- M: no lock changes hands, and `t` is not the writer before or after
    refine ⟨_, _, _, ?_, go_noresp hen (by rw [hs])⟩
    rw [hs]
    refine I.silent rfl List.length_set rfl (fun h => ⟨h, rfl⟩) (fun t' h' => ?_) (fun t' h' => ?_)
    · have := I.writer_writing t' h'
      rw [getD_set htl]
      split
      · rename_i h; rw [h, hts] at this; cases this
      · exact this
    · rw [getD_set htl] at h'
      split at h'
      · cases h'
      · exact I.writing_writer t' h'
  · -- L1: `t` becomes the writer, of a lock that was free
    refine ⟨_, _, _, ?_, go_noresp hen (by rw [hs])⟩
    rw [hs]
    refine I.silent rfl List.length_set rfl (fun h => nomatch h) (fun t' h' => ?_) (fun t' h' => ?_)
    · cases h'
      rw [getD_set htl, if_pos rfl]
    · rw [getD_set htl] at h'
      split at h'
      · rename_i h
        rw [h]
        exact ⟨rfl, v, hv⟩
      · have := (I.writing_writer t' h').1
        rw [hfree] at this; cases this
  · -- response
    obtain ⟨A, hA1, hA2⟩ := I.legal
    have hs := hs A hA2
    have hil : invOf invs t time ≤ time := invOf_le (I.invs_lt t)
    have hpc : (step .fixed ps s t).pc.getD t 0 = s.pc.getD t 0 + 1 := by
      rw [hs]; exact respond_pc _ (I.lpc.symm ▸ ht)
    have hout : ((step .fixed ps s t).out.getD t []).getLast? = some (specStep A op).2 := by
      rw [hs]; exact respond_out _ (I.lout.symm ▸ ht)
    refine ⟨_, _, _, ?_, go_resp hen hpc hop hout⟩
    rw [hs]
    refine ⟨by simp [respond, I.lpc], by simp [respond, I.lts], by simp [respond, I.lout],
      ⟨_, legalSeq_snoc hA1 rfl, fun _ => rfl⟩, ?_, ?_, ?_, ?_, ?_⟩
    · intro t' h'; cases h'
    · intro t' h'
      simp only [respond, getD_set htl] at h'
      by_cases hc : t' = t
      · rw [if_pos hc] at h'; cases h'
      · rw [if_neg hc] at h'
        exact absurd (hwt t' (I.writing_writer t' h').1) hc
    · rw [List.pairwise_append]
      refine ⟨I.realTime, List.pairwise_singleton _ _, ?_⟩
      intro d hd e he
      rw [List.mem_singleton] at he
      subst he
      exact Nat.not_lt.mpr (Nat.le_trans (I.resp_lt d hd).1 (Nat.le_of_lt (I.resp_lt d hd).2))
    · intro d hd
      rcases List.mem_append.mp hd with hd | hd
      · exact ⟨(I.resp_lt d hd).1, Nat.lt_succ_of_lt (I.resp_lt d hd).2⟩
      · rw [List.mem_singleton] at hd
        subst hd
        exact ⟨hil, Nat.lt_succ_self _⟩
    · exact invs_lt_set t I.invs_lt (fun i hi => by cases hi)

theorem go_inv (hnp : noPartial ps = true) {sched : List Nat} (hs : ∀ t ∈ sched, t < ps.length)
    (I : Inv ps i0 s time invs acc) {s' : State} {h : List Done}
    (hgo : history.go .fixed ps s time invs acc sched = some (s', h)) :
    ∃ time' invs', Inv ps i0 s' time' invs' h := by
  induction sched generalizing s time invs acc with
  | nil =>
    cases hgo
    exact ⟨time, invs, I⟩
  | cons t rest ih =>
    cases hen : enabled .fixed ps s t with
    | false => rw [go_disabled hen] at hgo; cases hgo
    | true =>
      obtain ⟨s1, invs1, acc1, I1, heq⟩ := inv_step hnp rest (hs t List.mem_cons_self) I hen
      rw [heq] at hgo
      exact ih (fun t' ht' => hs t' (List.mem_cons_of_mem _ ht')) I1 hgo

end

theorem fs_history_isLinearization (ps : Progs) (i0 : Option Bytes) (sched : List Nat)
    (hs : ∀ t ∈ sched, t < ps.length) (hnp : noPartial ps = true)
    (s : State) (h : List Done) (hrun : history .fixed ps i0 sched = some (s, h))
    (hfin : allFinished ps s = true) :
    isLinearization i0 h h s.file = true := by
  obtain ⟨time, invs, I⟩ := go_inv hnp hs (inv_init ps i0) hrun
  obtain ⟨A, hA1, hA2⟩ := I.legal
  have hwn : s.writer = none := by
    cases hw : s.writer with
    | none => rfl
    | some t =>
      obtain ⟨_, v, hv⟩ := I.writing_writer t (I.writer_writing t hw)
      rw [curOp_none_of_allFinished hfin t] at hv
      cases hv
  simp only [isLinearization, Bool.and_eq_true, beq_iff_eq, List.all_eq_true, List.contains_iff_mem]
  refine ⟨⟨⟨⟨trivial, fun d hd => hd⟩, fun d hd => hd⟩, (respectsRealTime_iff h).mpr I.realTime⟩, ?_⟩
  rw [hA1, hA2 hwn]

/-! ### non-vacuity: the hypotheses hold on a concrete execution with overlapping operations
(thread 1 and 2 fetch the lock object while thread 0's `set` holds the write lock; a second `set` overlaps an
`erase` and a `get`) -/

def exPs : FsConc.Progs := [[.set [1, 2], .erase], [.get, .set [9]], [.size, .get]]
def exSched : List Nat := [0, 0, 1, 2, 0, 1, 2, 1, 1, 0, 2, 1, 0, 2]

example : ∃ s h, FsConc.history .fixed exPs none exSched = some (s, h) ∧ FsConc.allFinished exPs s = true ∧
    FsConc.noPartial exPs = true ∧ (∀ t ∈ exSched, t < exPs.length) ∧ h.length = 6 := by
  have key : (FsConc.history .fixed exPs none exSched).map (fun x => (FsConc.allFinished exPs x.1, x.2.length)) =
      some (true, 6) := by decide +kernel
  obtain ⟨x, hx, hfx⟩ := Option.map_eq_some_iff.mp key
  simp only [Prod.mk.injEq] at hfx
  exact ⟨x.1, x.2, hx, hfx.1, by decide +kernel, by decide +kernel, hfx.2⟩

end Zarrs.FsConc
