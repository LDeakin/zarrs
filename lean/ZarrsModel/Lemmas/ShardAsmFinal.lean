import ZarrsModel.Lemmas.ShardAsmInv
import ZarrsModel.Lemmas.CodecShard
import ZarrsModel.Lemmas.ListBasic
/- the end of a complete schedule of the atomic machine: the value is a legal shard -/
namespace Zarrs.ShardAsm
open Zarrs Zarrs.Codec

variable {p : Params} {s : State}

theorem any_eq_false_of_final {ps : List Pc} (h : ps.all Pc.isFinal = true) {x : Pc} (hx : x.isFinal = false) :
    ps.any (· == x) = false := by
  rw [List.any_eq_false]
  intro y hy heq
  have h1 := List.all_eq_true.mp h y hy
  have h2 : y = x := by simpa using heq
  subst h2; rw [hx] at h1; cases h1

theorem final_pcs (inv : Inv p s) (hcomp : complete s = true) (i : Nat) (hi : i < p.chunks.length) :
    (p.chunks[i]? = some none ∧ s.index[i]? = some (Shard.sentinel, Shard.sentinel)) ∨
    (∃ b off, p.chunks[i]? = some (some b) ∧ s.pc[i]? = some (.done off) ∧ s.index[i]? = some (off, b.length) ∧
      ∀ k, k < b.length → s.buf[off + k]? = some (some (b.getD k 0))) := by
  -- a program counter that is not final contradicts `complete`
  have hfin : ∀ x, s.pc[i]? = some x → x.isFinal = true := fun x hx =>
    List.all_eq_true.mp hcomp x (List.mem_of_getElem? hx)
  cases pc_cases inv i hi with
  | elided hc hp => exact Or.inl ⟨hc, inv.pcs i _ _ hc hp⟩
  | start b hc hp | reserved b off hc hp | indexed b off hc hp => cases hfin _ hp
  | done b off hc hp => exact Or.inr ⟨b, off, hc, hp, inv.pcs i _ _ hc hp⟩

theorem final_offset (inv : Inv p s) (hcomp : complete s = true) : s.offset = p.base + p.total := by
  have := inv.acct
  rw [pendingOf_final hcomp] at this; omega

theorem shardLen_final (hoff : s.offset = p.base + p.total) :
    shardLen p s = p.total + Shard.indexSize p.cfg := by
  unfold shardLen
  cases p.mode with
  | unbounded => rfl
  | bounded bound =>
    simp only [hoff, Params.base]
    cases p.cfg.indexAtEnd <;> simp <;> omega

/-- the data region of the buffer; a position nobody wrote reads as 0 (`final_data`: at the end there is none) -/
def dataOf (p : Params) (s : State) : Bytes := ((s.buf.drop p.base).take p.total).map (fun x => x.getD 0)

theorem dataOf_length (h : p.base + p.total ≤ s.buf.length) : (dataOf p s).length = p.total := by
  simp [dataOf]; omega

theorem dataOf_getElem? (p : Params) (s : State) (k : Nat) (hk : k < p.total) :
    (dataOf p s)[k]? = (s.buf[p.base + k]?).map (fun x => x.getD 0) := by
  simp only [dataOf, List.getElem?_map, List.getElem?_take_of_lt hk, List.getElem?_drop]

theorem range_done (inv : Inv p s) (hcomp : complete s = true) {i a e : Nat} (h : rangeOf p s i = some (a, e)) :
    ∃ b, p.chunks[i]? = some (some b) ∧ e = a + b.length ∧ s.index[i]? = some (a, b.length) ∧
      ∀ k, k < b.length → s.buf[a + k]? = some (some (b.getD k 0)) := by
  obtain ⟨b, hc, he, _⟩ := rangeOf_some h
  rcases final_pcs inv hcomp i (lt_of_getElem?_some hc) with ⟨hn, _⟩ | ⟨b', off, hc', hp, hidx, hbuf⟩
  · rw [hc] at hn; cases hn
  · rw [hc] at hc'; cases hc'
    rw [rangeOf_eq hc hp] at h; cases h
    exact ⟨b, hc, he, hidx, hbuf⟩

/-- the owned ranges cover the data region -/
theorem final_data (inv : Inv p s) (hcomp : complete s = true) :
    (dataOf p s).map some = (s.buf.drop p.base).take p.total := by
  apply map_some_map_getD
  intro o ho
  obtain ⟨k, hk, rfl⟩ := List.getElem_of_mem ho
  have hk' : k < p.total := Nat.lt_of_lt_of_le hk (by rw [List.length_take]; exact Nat.min_le_left _ _)
  obtain ⟨i, a, e, hr, h1, h2⟩ := inv.tiles.cover (p.base + k) (Nat.le_add_right _ _)
    (by rw [final_offset inv hcomp]; exact Nat.add_lt_add_left hk' _)
  obtain ⟨b, _, rfl, _, hbuf⟩ := range_done inv hcomp hr
  obtain ⟨d, hd⟩ := Nat.exists_eq_add_of_le h1
  have := hbuf d (by omega)
  rw [← hd] at this
  rw [List.getElem_take, List.getElem_drop]
  exact ⟨_, Option.some.inj ((List.getElem?_eq_getElem _).symm.trans this)⟩

theorem final_lengths (hwf : p.wf = true) (hfit : p.fits = true) (inv : Inv p s) :
    (dataOf p s).length = p.total ∧ (Shard.encodeIndex p.cfg s.index).length = Shard.indexSize p.cfg := by
  constructor
  · apply dataOf_length
    rw [inv.bufLen, ← inv.acct]; exact offset_le_cap hfit inv
  · apply Shard.encodeIndex_length
    rw [inv.idxLen]; simp only [Params.wf, beq_iff_eq] at hwf; exact hwf.symm

theorem final_value (hwf : p.wf = true) (hfit : p.fits = true) (inv : Inv p s)
    (hcomp : complete s = true) :
    finish p s = .ok (if p.cfg.indexAtEnd then dataOf p s ++ Shard.encodeIndex p.cfg s.index
      else Shard.encodeIndex p.cfg s.index ++ dataOf p s) := by
  have hil := (final_lengths hwf hfit inv).2
  have hcap : p.total + Shard.indexSize p.cfg ≤ s.buf.length := by
    rw [inv.bufLen]; simpa only [Params.fits, decide_eq_true_eq] using hfit
  have hdata := final_data inv hcomp
  unfold finish
  rw [any_eq_false_of_final hcomp rfl, any_eq_false_of_final hcomp rfl, hcomp,
    shardLen_final (final_offset inv hcomp)]
  have hc : (decide (p.total + Shard.indexSize p.cfg > s.buf.length) ||
      decide (p.total + Shard.indexSize p.cfg < Shard.indexSize p.cfg)) = false := by
    simp only [Bool.or_eq_false_iff, decide_eq_false_iff_not]
    exact ⟨Nat.not_lt.mpr hcap, Nat.not_lt.mpr (Nat.le_add_left _ _)⟩
  simp only [Bool.false_eq_true, if_false, Bool.not_true, hil, hc]
  generalize Shard.encodeIndex p.cfg s.index = idx at hil ⊢
  have hout : (writeAt s.buf (if p.cfg.indexAtEnd then p.total + Shard.indexSize p.cfg - Shard.indexSize p.cfg else 0) idx).take
      (p.total + Shard.indexSize p.cfg) = (if p.cfg.indexAtEnd then dataOf p s ++ idx else idx ++ dataOf p s).map some := by
    cases hat : p.cfg.indexAtEnd with
    | true =>
      simp only [Params.base, hat, if_true, List.drop_zero] at hdata
      have hl : (s.buf.take p.total ++ idx.map some).length = p.total + Shard.indexSize p.cfg := by
        rw [List.length_append, List.length_take, List.length_map, hil,
          Nat.min_eq_left (Nat.le_trans (Nat.le_add_right _ _) hcap)]
      rw [if_pos rfl, if_pos rfl, Nat.add_sub_cancel, writeAt_eq (by rw [hil]; exact hcap), ← List.append_assoc,
        List.take_left' hl,
        List.map_append, hdata]
    | false =>
      simp only [Params.base, hat, Bool.false_eq_true, if_false] at hdata
      rw [if_neg Bool.false_ne_true, if_neg Bool.false_ne_true,
        writeAt_eq (by rw [Nat.zero_add, hil]; exact Nat.le_trans (Nat.le_add_left _ _) hcap), List.take_zero, List.nil_append,
        Nat.zero_add, Nat.add_comm p.total, ← hil, ← List.length_map (f := some), List.take_length_add_append,
        List.length_map, hil, List.map_append, hdata]
  rw [hout]
  simp only [List.all_map, Function.comp_def, Option.isSome_some, List.all_eq_true, implies_true, if_true, map_getD_map_some]

theorem assemble_value (hwf : p.wf = true) (hfit : p.fits = true) {sched : List Nat}
    (hcomp : complete (run false p (init p) sched) = true) :
    assemble false p sched = .ok (if p.cfg.indexAtEnd
      then dataOf p (run false p (init p) sched) ++ Shard.encodeIndex p.cfg (run false p (init p) sched).index
      else Shard.encodeIndex p.cfg (run false p (init p) sched).index ++ dataOf p (run false p (init p) sched)) :=
  final_value hwf hfit (inv_run hfit sched (inv_init p)) hcomp

/-- the form in which a concrete vector is checked: evaluating the parts forces only the data region and the index of
the final state, where evaluating `assemble` walks the whole buffer once per byte -/
theorem assemble_eq_of_parts {sched : List Nat} {v : Bytes}
    (h : p.wf = true ∧ p.fits = true ∧ complete (run false p (init p) sched) = true ∧
      (if p.cfg.indexAtEnd
        then dataOf p (run false p (init p) sched) ++ Shard.encodeIndex p.cfg (run false p (init p) sched).index
        else Shard.encodeIndex p.cfg (run false p (init p) sched).index ++ dataOf p (run false p (init p) sched)) = v) :
    assemble false p sched = .ok v := by
  rw [assemble_value h.1 h.2.1 h.2.2.1, h.2.2.2]

/-- the index names, for each stored chunk, the range its task owned; `small` keeps offsets apart from the sentinel -/
theorem final_legal (hwf : p.wf = true) (hfit : p.fits = true) (hsmall : p.small = true)
    (inv : Inv p s) (hcomp : complete s = true) :
    Shard.Legal p.cfg (if p.cfg.indexAtEnd then dataOf p s ++ Shard.encodeIndex p.cfg s.index
      else Shard.encodeIndex p.cfg s.index ++ dataOf p s) p.chunks := by
  have hn : p.chunks.length = p.cfg.nChunks := by simp only [Params.wf, beq_iff_eq] at hwf; exact hwf.symm
  have hdl := (final_lengths hwf hfit inv).1
  have live : ∀ i (h : i < s.index.length), Shard.isLive s.index[i] = true →
      rangeOf p s i = some (s.index[i].1, s.index[i].1 + s.index[i].2) := by
    intro i h hl
    have hii := List.getElem?_eq_getElem h
    rcases final_pcs inv hcomp i (inv.idxLen ▸ h) with ⟨_, hidx⟩ | ⟨b, off, hc, hp, hidx, _⟩ <;>
      rw [Option.some.inj (hii.symm.trans hidx)] at hl ⊢
    · cases hl
    · exact rangeOf_eq hc hp
  apply Shard.legal_of_entries p.cfg p.chunks hn (dataOf p s) s.index inv.idxLen
  · intro i hc h
    have hci := List.getElem?_eq_getElem hc
    have hii := List.getElem?_eq_getElem h
    rcases final_pcs inv hcomp i hc with ⟨hnone, hidx⟩ | ⟨b, off, hb, hp, hidx, hbuf⟩
    · rw [Option.some.inj (hci.symm.trans hnone)]; exact Option.some.inj (hii.symm.trans hidx)
    · rw [Option.some.inj (hci.symm.trans hb), Option.some.inj (hii.symm.trans hidx)]
      have hbd := inv.tiles.within i _ _ (rangeOf_eq hb hp)
      rw [final_offset inv hcomp] at hbd
      obtain ⟨d, hd⟩ := Nat.exists_eq_add_of_le hbd.1
      have hdt : d + b.length ≤ p.total := by omega
      refine ⟨(dataOf p s).take d, (dataOf p s).drop (d + b.length), ?_, ?_⟩
      · apply split_around
        intro k hk
        rw [dataOf_getElem? p s (d + k) (Nat.lt_of_lt_of_le (Nat.add_lt_add_left hk d) hdt), ← Nat.add_assoc, ← hd, hbuf k hk,
          List.getD_eq_getElem?_getD, List.getElem?_eq_getElem hk]; rfl
      · rw [List.length_take, hdl, hd, Nat.min_eq_left (Nat.le_trans (Nat.le_add_right _ _) hdt)]; rfl
  · intro i j hi hj hij hli hlj
    exact inv.tiles.disj i j _ _ _ _ hij (live i hi hli) (live j hj hlj)
  · simp only [Params.small, decide_eq_true_eq] at hsmall
    rw [hdl]; exact hsmall

theorem finish_ok_complete {v : Bytes} (h : finish p s = .ok v) : complete s = true := by
  cases hc : complete s with
  | true => rfl
  | false =>
    unfold finish at h
    rw [hc] at h
    by_cases h1 : (s.pc.any (· == .failed)) = true
    · rw [if_pos h1] at h; cases h
    · rw [if_neg h1] at h
      by_cases h2 : (s.pc.any (· == .panicked)) = true
      · rw [if_pos h2] at h; cases h
      · rw [if_neg h2, if_pos (show (!false) = true from rfl)] at h; cases h

end Zarrs.ShardAsm
