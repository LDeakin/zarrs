import ZarrsModel.Lemmas.ShardPEBasic
/- C05 at inner-chunk level. A call of `partial_encode` that does not erase the shard writes `place c w off data ib`;
`Frame` states what the reasoning about the index needs of those bytes (`frame_place`), and from `Frame` alone the value
reads the updated chunks through the new index (`frame_result`, a `Shard.Table`). -/
namespace Zarrs.ShardPE
open Zarrs Zarrs.Codec Zarrs.Shard

/-- `P`: the live entries that were not touched (`Kept`); `endLen` is what tightness of `v'` is read off from -/
structure Frame (c : Cfg) (P : Nat × Nat → Prop) (v : Bytes) (off : Nat) (data ib v' : Bytes) : Prop where
  split : ∃ pre post, v' = pre ++ data ++ post ∧ pre.length = off
  index : indexBytes c v' = some ib
  keep : ∀ e, P e → e.1 + e.2 ≤ off ∧ slice v' e.1 (e.1 + e.2) = slice v e.1 (e.1 + e.2) ∧
      (e.1 + e.2 ≤ (indexRegion c v'.length).1 ∨ (indexRegion c v'.length).2 ≤ e.1)
  fresh : ∀ o l, off ≤ o → o + l ≤ off + data.length →
      o + l ≤ (indexRegion c v'.length).1 ∨ (indexRegion c v'.length).2 ≤ o
  endLen : c.indexAtEnd = true → v'.length = off + data.length + indexSize c

def Kept (idx : List (Nat × Nat)) (us : List (Nat × Option Bytes)) (e : Nat × Nat) : Prop :=
  isLive e = true ∧ ∃ j : Nat, idx[j]? = some e ∧ j ∉ us.map (·.1)

/-- the written value: the base value `w` up to `off`, the new data, the index `ib` at its place -/
def place (c : Cfg) (w : Bytes) (off : Nat) (data ib : Bytes) : Bytes :=
  if c.indexAtEnd then w.take off ++ data ++ ib
  else ib ++ (w.take off).drop (indexSize c) ++ data ++ w.drop (off + data.length)

theorem place_length (c : Cfg) (w : Bytes) (off : Nat) (data ib : Bytes) (hib : ib.length = indexSize c) :
    (place c w off data ib).length ≤ w.length + data.length + indexSize c := by
  unfold place
  split <;> simp only [List.length_append, List.length_take, List.length_drop, hib] <;> omega

/-- `hP`: what is kept lies below `off`, reads the same in the base value as in the value `v` the index speaks of (the
two differ only when nothing is kept), and, index at the start, lies behind the index -/
theorem frame_place (c : Cfg) (P : Nat × Nat → Prop) (v w data ib : Bytes) (off : Nat)
    (hib : ib.length = indexSize c) (h0 : c.indexAtEnd = false → indexSize c ≤ off)
    (h1 : off ≤ (if c.indexAtEnd then w.length else max w.length (indexSize c)))
    (hP : ∀ e, P e → e.1 + e.2 ≤ off ∧ slice w e.1 (e.1 + e.2) = slice v e.1 (e.1 + e.2) ∧
      (c.indexAtEnd = false → e.1 + e.2 ≤ 0 ∨ indexSize c ≤ e.1)) :
    Frame c P v off data ib (place c w off data ib) := by
  unfold place
  cases hc : c.indexAtEnd
  · simp only [hc, Bool.false_eq_true, if_false] at h1 ⊢
    have h0' := h0 hc
    have hpre : (ib ++ (w.take off).drop (indexSize c)).length = off := by
      simp only [List.length_append, List.length_drop, List.length_take, hib]; omega
    refine ⟨⟨_, _, rfl, hpre⟩, ?_, ?_, ?_, fun h => by rw [hc] at h; cases h⟩
    · unfold indexBytes
      rw [if_neg (by simp only [List.length_append, hib]; omega), hc]
      simp only [Bool.false_eq_true, if_false, List.append_assoc]
      rw [← hib, List.take_left' rfl]
    · intro e he
      obtain ⟨k1, k2, k3⟩ := hP e he
      refine ⟨k1, ?_, ?_⟩
      · rw [← k2]
        rcases k3 hc with k3 | k3
        · have : e.1 + e.2 = e.1 := by omega
          rw [this, slice_self, slice_self]
        · rw [slice_append_left _ _ _ _ (by rw [List.length_append, hpre]; omega), slice_append_left _ _ _ _ (by omega),
            slice_append_right _ _ _ _ (by omega), slice_drop, slice_take _ _ _ _ (by omega), hib]
          congr 1 <;> omega
      · simp only [indexRegion, hc, Bool.false_eq_true, if_false]
        exact k3 hc
    · intro o l h _
      right
      simp only [indexRegion, hc, Bool.false_eq_true, if_false]
      omega
  · simp only [hc, if_true] at h1 ⊢
    have hto : (w.take off).length = off := by rw [List.length_take]; omega
    have hl : (w.take off ++ data ++ ib).length = off + data.length + indexSize c := by
      simp only [List.length_append, hto, hib]
    refine ⟨⟨w.take off, ib, rfl, hto⟩, ?_, fun e he => ?_, fun o l _ h => ?_, fun _ => hl⟩
    · unfold indexBytes
      rw [if_neg (by omega), if_pos hc, List.drop_left' (by simp only [List.length_append, hto, hib]; omega)]
    · obtain ⟨k1, k2, _⟩ := hP e he
      refine ⟨k1, ?_, Or.inl ?_⟩
      · rw [← k2, slice_append_left _ _ _ _ (by simp [hto]; omega), slice_append_left _ _ _ _ (by omega),
          slice_take _ _ _ _ k1]
      · simp only [indexRegion, hc, if_true, hl]
        omega
    · left
      simp only [indexRegion, hc, if_true, hl]
      omega

/-- what `frame_result` needs of the value `v` and its index; unlike `Shard.Table` it also holds of the all-sentinel index
of an ABSENT value (`v := []`) -/
structure IdxOk (c : Cfg) (v : Bytes) (chunks : List (Option Bytes)) (idx : List (Nat × Nat)) : Prop where
  len : idx.length = c.nChunks
  dec : idx.mapM (decEntry v) = .ok chunks
  apart : ∀ (i j : Nat) (a b : Nat × Nat), i ≠ j → idx[i]? = some a → idx[j]? = some b →
    isLive a = true → isLive b = true → Apart a b

theorem _root_.Zarrs.Shard.Table.idxOk {c : Cfg} {v ib : Bytes} {chunks : List (Option Bytes)} {idx : List (Nat × Nat)}
    (T : Table c v chunks ib idx) : IdxOk c v chunks idx := ⟨T.len, T.dec, T.wf.2⟩

theorem IdxOk.chunks_len {c : Cfg} {v : Bytes} {chunks : List (Option Bytes)} {idx : List (Nat × Nat)}
    (H : IdxOk c v chunks idx) : chunks.length = c.nChunks := (mapM_except_ok _ _ _ H.dec).1.trans H.len

/-- position by position: an untouched entry is kept (`hf.keep`), a touched one is the entry the C-order layout of the new
data gives its update (`entriesFrom_reads`) -/
theorem frame_result (c : Cfg) (idx : List (Nat × Nat)) (v : Bytes) (chunks : List (Option Bytes))
    (us : List (Nat × Option Bytes)) (off : Nat) (v' : Bytes)
    (H : IdxOk c v chunks idx)
    (hu : UpdatesOk c us)
    (hs : off + (dataNew us).length < sentinel) (hsv : v'.length < sentinel)
    (hf : Frame c (Kept idx us) v off (dataNew us) (encodeIndex c (idxNew idx us off)) v') :
    Table c v' (applyUpdates chunks us) (encodeIndex c (idxNew idx us off)) (idxNew idx us off) := by
  obtain ⟨pre, post, hv', hpre⟩ := hf.split
  obtain ⟨hlc, hold'⟩ := (mapM_ok_iff _ _ _).mp H.dec
  have hvl : v'.length = off + (dataNew us).length + post.length := by rw [hv', ← hpre]; simp [Nat.add_assoc]
  have htouch : ∀ (k j : Nat) (ch : Option Bytes) (e : Nat × Nat), us[k]? = some (j, ch) →
      (entriesFrom off (us.map (·.2)))[k]? = some e →
      decEntry v' e = .ok ch ∧ (isLive e = true → off ≤ e.1 ∧ e.1 + e.2 ≤ off + (dataNew us).length) := by
    intro k j ch e hk he
    subst hpre hv'
    exact entriesFrom_reads (us.map (fun (u : Nat × Option Bytes) => u.2)) pre post hs k ch e (by simp [hk]) he
  have hkept : ∀ (j : Nat) (e : Nat × Nat), j ∉ us.map (·.1) → idx[j]? = some e → isLive e = true → Kept idx us e :=
    fun j e hj he hl => ⟨hl, j, he, hj⟩
  have hcases := idxNew_cases idx us off hu.2
  have hpt : ∀ (j : Nat) (e : Nat × Nat), (idxNew idx us off)[j]? = some e →
      ∃ ch, (applyUpdates chunks us)[j]? = some ch ∧ decEntry v' e = .ok ch := by
    intro j e hj
    have hjl : j < idx.length := by rw [← idxNew_length idx us off]; exact lt_of_getElem?_some hj
    rcases hcases j e hj with ⟨hjn, h⟩ | ⟨k, ch, hk, h⟩
    · obtain ⟨b, hb1, hb2⟩ := hold' j e h
      refine ⟨b, by rw [applyUpdates_untouched _ _ _ hjn]; exact hb1, ?_⟩
      rw [decEntry_ok_iff] at hb2 ⊢
      rcases hb2 with hd | ⟨hl, _, rfl⟩
      · exact Or.inl hd
      · obtain ⟨k1, k2, _⟩ := hf.keep e (hkept j e hjn h hl)
        exact Or.inr ⟨hl, by omega, by rw [k2]⟩
    · exact ⟨ch, applyUpdates_touched _ _ hu.2 k j ch hk (by omega), (htouch k j ch e hk h).1⟩
  refine ⟨hf.index, decodeIndex_encodeIndex c true _ (by rw [idxNew_length, H.len]) fun e he => ?_,
    (mapM_ok_iff ..).mpr ⟨by rw [idxNew_length, applyUpdates_length, hlc], hpt⟩, fun e he hl => ?_,
    fun i j a b hij hi hj hla hlb => ?_⟩
  · obtain ⟨j, hj⟩ := List.mem_iff_getElem?.mp he
    obtain ⟨_, _, h⟩ := hpt j e hj
    exact decEntry_lt h hsv
  · obtain ⟨j, hj⟩ := List.mem_iff_getElem?.mp he
    rcases hcases j e hj with ⟨hjn, h⟩ | ⟨k, ch, hk, h⟩
    · obtain ⟨k1, _, k3⟩ := hf.keep e (hkept j e hjn h hl)
      exact ⟨by omega, k3⟩
    · obtain ⟨h1, h2⟩ := (htouch k j ch e hk h).2 hl
      exact ⟨by omega, hf.fresh e.1 e.2 h1 h2⟩
  · rcases hcases i a hi with ⟨hin, ha⟩ | ⟨ki, chi, hki, ha⟩
    · rcases hcases j b hj with ⟨hjn, hb'⟩ | ⟨kj, chj, hkj, hb'⟩
      · exact H.apart i j a b hij ha hb' hla hlb
      · exact Or.inl (Nat.le_trans (hf.keep a (hkept i a hin ha hla)).1 ((htouch kj j chj b hkj hb').2 hlb).1)
    · rcases hcases j b hj with ⟨hjn, hb'⟩ | ⟨kj, chj, hkj, hb'⟩
      · exact Or.inr (Or.inl (Nat.le_trans (hf.keep b (hkept j b hjn hb' hlb)).1 ((htouch ki i chi a hki ha).2 hla).1))
      · have hkk : ki ≠ kj := by
          intro h; subst h; rw [hki] at hkj; cases hkj; exact hij rfl
        obtain ⟨hki', rfl⟩ := List.getElem?_eq_some_iff.mp ha
        obtain ⟨hkj', rfl⟩ := List.getElem?_eq_some_iff.mp hb'
        rcases entriesFrom_apart _ off ki kj hki' hkj' hkk hla hlb with h | h
        · exact Or.inl h
        · exact Or.inr (Or.inl h)

theorem liveEnd_idxNew_le (idx : List (Nat × Nat)) (us : List (Nat × Option Bytes)) (off : Nat)
    (hn : (us.map (·.1)).Nodup)
    (hk : ∀ (j : Nat) (e : Nat × Nat), j ∉ us.map (·.1) → idx[j]? = some e → isLive e = true → e.1 + e.2 ≤ off) :
    liveEnd (idxNew idx us off) ≤ off + (dataNew us).length := by
  rw [liveEnd_le_iff]
  intro e he hl
  obtain ⟨j, hj⟩ := List.mem_iff_getElem?.mp he
  rcases idxNew_cases idx us off hn j e hj with ⟨hjn, h⟩ | ⟨k, ch, hk', h⟩
  · have := hk j e hjn h hl; omega
  · rcases entriesFrom_mem (us.map (fun (u : Nat × Option Bytes) => u.2)) off e
      (List.mem_iff_getElem?.mpr ⟨k, h⟩) with rfl | h'
    · simp [isLive] at hl
    · exact h'.2

theorem liveEnd_idxNew (idx : List (Nat × Nat)) (us : List (Nat × Option Bytes)) (off : Nat)
    (hn : (us.map (·.1)).Nodup) (hr : ∀ u ∈ us, u.1 < idx.length) (hs : off + (dataNew us).length < sentinel)
    (hk : ∀ (j : Nat) (e : Nat × Nat), j ∉ us.map (·.1) → idx[j]? = some e → isLive e = true → e.1 + e.2 ≤ off)
    (hsome : ∃ u ∈ us, Option.isSome u.2 = true) :
    liveEnd (idxNew idx us off) = off + (dataNew us).length := by
  refine liveEnd_eq _ _ ((liveEnd_le_iff _ _).mp (liveEnd_idxNew_le idx us off hn hk)) ?_
  obtain ⟨u, hu, hi⟩ := hsome
  obtain ⟨k, e, h1, h2, h3⟩ := entriesFrom_last (us.map (fun (u : Nat × Option Bytes) => u.2)) off
    ⟨u.2, List.mem_map.mpr ⟨u, hu, rfl⟩, hi⟩ hs
  have hkl : k < us.length := by
    have := lt_of_getElem?_some h1
    rwa [entriesFrom_length, List.length_map] at this
  obtain ⟨e', h4, h5⟩ := idxNew_touched idx us off hn k us[k].1 us[k].2 (List.getElem?_eq_getElem hkl)
    (hr _ (List.getElem_mem hkl))
  cases h1.symm.trans h4
  exact ⟨e, List.mem_of_getElem? h5, h2, h3⟩

theorem Kept.le_liveEnd {idx : List (Nat × Nat)} {us : List (Nat × Option Bytes)} {e : Nat × Nat} (h : Kept idx us e) :
    e.1 + e.2 ≤ liveEnd idx :=
  let ⟨hl, j, hj, _⟩ := h
  ShardPE.le_liveEnd idx e (List.mem_iff_getElem?.mpr ⟨j, hj⟩) hl

end Zarrs.ShardPE
