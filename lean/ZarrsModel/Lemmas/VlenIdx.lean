import ZarrsModel.Lemmas.VlenBasic
import ZarrsModel.Lemmas.CodecBasic
/- the `vlen` layout (`u64` index length, index and data each through its codec chain): the decoder on what `vlenPack`
writes (`vlenDec_packed`), and what the decoder and its second half accept (`vlenDec_eq_ok`, `vlenDecTail_eq_ok`) -/
namespace Zarrs.Vlen
open Zarrs Zarrs.Codec

/-- what an offset must stay below to be representable in the index: 2^32 (`uint32`; the encoder returns an error
beyond) or 2^64 (`uint64`; `usize`) -/
def Cfg.maxOff (c : Cfg) : Nat := if c.idx64 then 2 ^ 64 else 2 ^ 32

theorem w_pos (c : Cfg) : 0 < c.w := by unfold Cfg.w; split <;> omega

theorem leW_length (c : Cfg) (n : Nat) : (c.leW n).length = c.w := by
  unfold Cfg.leW Cfg.w; split <;> simp [le64_length, le32_length]

theorem ofLe_leW (c : Cfg) (n : Nat) (h : n < c.maxOff) : ofLe (c.leW n) = n := by
  unfold Cfg.maxOff at h
  unfold Cfg.leW
  split
  · rename_i h64; simp only [h64, if_true] at h; exact ofLe_le64 n h
  · rename_i h64; simp only [h64] at h; exact ofLe_le32 n h

theorem rawIndex_eq (c : Cfg) (offs : List Nat) : rawIndex c offs = (offs.map c.leW).flatten := by
  rw [rawIndex, List.flatMap_def]

theorem leW_all_length (c : Cfg) (offs : List Nat) : ∀ g ∈ offs.map c.leW, g.length = c.w := by
  intro g hg
  obtain ⟨o, _, rfl⟩ := List.mem_map.mp hg
  exact leW_length c o

theorem rawIndex_length (c : Cfg) (offs : List Nat) : (rawIndex c offs).length = offs.length * c.w := by
  rw [rawIndex_eq, flatten_length_of_all c.w _ (leW_all_length c offs), List.length_map]

theorem readOffsets_rawIndex (c : Cfg) (offs : List Nat) (h : ∀ o ∈ offs, o < c.maxOff) :
    readOffsets c (rawIndex c offs) = offs := by
  rw [readOffsets, rawIndex_eq, groups_of_flatten c.w (w_pos c) _ (leW_all_length c offs), List.map_map]
  exact (List.map_congr_left fun o ho => ofLe_leW c o (h o ho)).trans (List.map_id _)

theorem readOffsets_length (c : Cfg) (big : Bool) (raw : Bytes) (m : Nat) (h : raw.length = m * c.w) :
    (readOffsets c (bytesDec big c.w raw)).length = m := by
  have hmod : raw.length % c.w = 0 := by rw [h]; exact Nat.mul_mod_left m c.w
  rw [readOffsets, List.length_map]
  exact groups_length c.w (w_pos c) _ m ((bytes_dec_enc' big c.w raw (Or.inr hmod)).2.trans h)

/-- the index is a whole number of words, so the `bytes` codec is invertible on it and keeps its length -/
theorem bytes_rawIndex (c : Cfg) (offs : List Nat) :
    bytesDec c.idxBig c.w (bytesEnc c.idxBig c.w (rawIndex c offs)) = rawIndex c offs ∧
    (bytesEnc c.idxBig c.w (rawIndex c offs)).length = offs.length * c.w := by
  have := bytes_dec_enc' c.idxBig c.w (rawIndex c offs) (Or.inr (by rw [rawIndex_length]; exact Nat.mul_mod_left _ _))
  rwa [rawIndex_length] at this

theorem vlenPack_eq_some {c : Cfg} {offs : List Nat} {data b : Bytes} (h : vlenPack c offs data = some b) :
    ∃ idx d, chainEnc c.idxChain (bytesEnc c.idxBig c.w (rawIndex c offs)) = some idx ∧
      (if data.length = 0 then some [] else chainEnc c.dataChain data) = some d ∧
      b = le64 idx.length ++ idx ++ d := by
  unfold vlenPack at h
  split at h
  · cases h
  · split at h
    · cases h
    · exact ⟨_, _, ‹_›, ‹_›, (Option.some.inj h).symm⟩

theorem vlenPack_plain (c : Cfg) (hi : c.idxChain = []) (hd : c.dataChain = []) (offs : List Nat) (data : Bytes) :
    vlenPack c offs data = some (le64 (offs.length * c.w) ++ bytesEnc c.idxBig c.w (rawIndex c offs) ++ data) := by
  unfold vlenPack
  rw [hi, hd, ← (bytes_rawIndex c offs).2]
  by_cases h0 : data.length = 0
  · rw [List.eq_nil_of_length_eq_zero h0]; rfl
  · simp only [chainEnc, List.foldl_nil, h0, if_false]

theorem vlenEnc_eq_ok_iff (c : Cfg) (n : Nat) (v : VArr) (e : Bytes) :
    vlenEnc c n v = .ok e ↔
      v.valid n = true ∧ (c.idx64 = false → ∀ o ∈ v.offsets, o < 2 ^ 32) ∧ vlenPack c v.offsets v.data = some e := by
  unfold vlenEnc
  cases v.valid n with
  | false => simp
  | true =>
    by_cases hoff : (!c.idx64 && v.offsets.any fun o => decide (o ≥ 2 ^ 32)) = true
    · rw [if_neg (by simp), if_pos hoff]
      simp only [Bool.and_eq_true, Bool.not_eq_true', List.any_eq_true, decide_eq_true_eq] at hoff
      obtain ⟨h32, o, ho, hge⟩ := hoff
      exact ⟨(nomatch ·), fun h => absurd (h.2.1 h32 o ho) (Nat.not_lt.mpr hge)⟩
    · rw [if_neg (by simp), if_neg hoff]
      simp only [Bool.and_eq_true, Bool.not_eq_true', List.any_eq_true, decide_eq_true_eq, not_and, not_exists] at hoff
      cases vlenPack c v.offsets v.data with
      | none => simp
      | some e' =>
        simp only [Except.ok.injEq, Option.some.injEq, true_and]
        exact ⟨fun h => ⟨fun h32 o ho => Nat.not_le.mp (hoff h32 o ho), h⟩, And.right⟩

theorem vlenDec_packed (c : Cfg) (hl : ∀ x ∈ c.idxChain, x.Lawful) (n : Nat) (offs : List Nat) (idx d : Bytes)
    (hn : offs.length = n + 1) (ho : ∀ o ∈ offs, o < c.maxOff)
    (hi : chainEnc c.idxChain (bytesEnc c.idxBig c.w (rawIndex c offs)) = some idx) (hidx : idx.length < 2 ^ 64) :
    vlenDec c n (le64 idx.length ++ idx ++ d) = vlenDecTail c offs d := by
  obtain ⟨hdec, hlen⟩ := bytes_rawIndex c offs
  have h8 := le64_length idx.length
  unfold vlenDec
  have h1 : ¬ ((le64 idx.length ++ idx ++ d).length < 8) := by simp [h8]
  have h2 : (le64 idx.length ++ idx ++ d).take 8 = le64 idx.length := by
    rw [List.append_assoc]; exact List.take_left' h8
  have h3 : ¬ ((le64 idx.length ++ idx ++ d).length < 8 + idx.length) := by
    simp only [List.length_append, h8]; omega
  have h4 : slice (le64 idx.length ++ idx ++ d) 8 (8 + idx.length) = idx := by
    unfold slice
    rw [List.append_assoc, List.drop_left' h8, Nat.add_sub_cancel_left, List.take_left]
  have h5 : (le64 idx.length ++ idx ++ d).drop (8 + idx.length) = d := List.drop_left' (by simp [h8])
  simp only [h1, if_false, h2, ofLe_le64 _ hidx, h3, h4, chain_dec_enc' _ hl _ _ hi, hlen, hn, ne_eq, not_true_eq_false,
    h5, hdec, readOffsets_rawIndex c offs ho]

theorem vlenDecTail_eq_ok {c : Cfg} {offs : List Nat} {rest : Bytes} {v : VArr}
    (h : vlenDecTail c offs rest = .ok v) :
    v.offsets = offs ∧ offsetsOk v.data.length offs = true ∧ offs.getLast? = some v.data.length ∧
      ((v.data = [] ∧ offs.getLast? = some 0) ∨ chainDec c.dataChain rest = some v.data) := by
  unfold vlenDecTail at h
  split at h
  · cases h
  · rename_i expected hlast
    simp only at h
    split at h
    · cases h
    · rename_i data hdata
      split at h
      · rename_i hok
        obtain rfl := Except.ok.inj h
        refine ⟨rfl, hok, ?_⟩
        -- where `data` comes from: nothing (last offset 0) or the data chain, with the length checked
        split at hdata
        · obtain rfl := Except.ok.inj hdata
          subst expected
          exact ⟨hlast, Or.inl ⟨rfl, hlast⟩⟩
        · split at hdata
          · cases hdata
          · rename_i d hd
            split at hdata
            · cases hdata
            · rename_i hlen
              obtain rfl := Except.ok.inj hdata
              rw [Decidable.of_not_not hlen]
              exact ⟨hlast, Or.inr hd⟩
      · cases h

theorem vlenDec_eq_ok {c : Cfg} {n : Nat} {b : Bytes} {v : VArr} (h : vlenDec c n b = .ok v) :
    8 + ofLe (b.take 8) ≤ b.length ∧ ∃ raw, chainDec c.idxChain (slice b 8 (8 + ofLe (b.take 8))) = some raw ∧
      raw.length = (n + 1) * c.w ∧
      vlenDecTail c (readOffsets c (bytesDec c.idxBig c.w raw)) (b.drop (8 + ofLe (b.take 8))) = .ok v := by
  unfold vlenDec at h
  split at h
  · cases h
  · simp only at h
    split at h
    · cases h
    · rename_i hpast
      split at h
      · cases h
      · rename_i raw hraw
        split at h
        · cases h
        · rename_i hlen
          exact ⟨Nat.le_of_not_lt hpast, raw, hraw, Decidable.of_not_not hlen, h⟩

theorem vlenDecTail_valid (c : Cfg) (hl : ∀ x ∈ c.dataChain, x.Lawful) (n : Nat) (v : VArr) (d : Bytes)
    (hv : v.valid n = true)
    (hd : (if v.data.length = 0 then some [] else chainEnc c.dataChain v.data) = some d) :
    vlenDecTail c v.offsets d = .ok v := by
  have hok := valid_offsetsOk n v hv
  have hlast := valid_last n v hv
  unfold vlenDecTail
  rw [hlast]
  simp only
  by_cases h0 : v.data.length = 0
  · have hnil : v.data = [] := List.eq_nil_of_length_eq_zero h0
    rw [h0] at hok
    simp only [h0, if_true, List.length_nil, hok]
    cases v with
    | mk data offsets => simp only at hnil; subst hnil; rfl
  · simp only [h0, if_false] at hd ⊢
    rw [chain_dec_enc' _ hl _ _ hd]
    simp only [ne_eq, not_true_eq_false, if_false, hok, if_true]

end Zarrs.Vlen
