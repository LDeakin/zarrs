import ZarrsModel.Lemmas.MemConcStep
import ZarrsModel.Lemmas.MemConcSpec
import ZarrsModel.Lemmas.ListBasic
/- From a ghost linearization list to `isLinearization` (pure list reasoning) -/
namespace Zarrs.MemConc

/-- `legalSeq` does not read the times -/
def LinE.toDone (e : LinE) : Done := ⟨e.t, e.k, e.op, e.res, e.lt, e.lt⟩

def legalG (a : Option Bytes) (l : List LinE) : Option (Option Bytes) := legalSeq a (l.map LinE.toDone)

theorem legalG_cons (a : Option Bytes) (e : LinE) (es : List LinE) :
    legalG a (e :: es) = if (specStep a e.op).2 = e.res then legalG (specStep a e.op).1 es else none :=
  legalSeq_cons a e.toDone _

theorem legalG_append (a : Option Bytes) (l1 l2 : List LinE) :
    legalG a (l1 ++ l2) = (legalG a l1).bind (fun a' => legalG a' l2) := by
  rw [legalG, List.map_append, legalSeq_append]
  rfl

structure LinE.Matches (e : LinE) (d : Done) : Prop where
  t : e.t = d.t
  k : e.k = d.k
  op : e.op = d.op
  res : e.res = d.res
  inv_le : d.inv ≤ e.lt
  le_resp : e.lt ≤ d.resp

/-- what the invariants leave of a complete execution with history `h` (`history_ghost`) -/
structure Ghost (ps : Progs) (i0 final : Option Bytes) (h : List Done) (lin : List LinE) : Prop where
  legal : legalG i0 lin = some final
  hNodup : h.Pairwise (fun a b => ¬ (a.t = b.t ∧ a.k = b.k))
  linNodup : lin.Pairwise (fun a b => ¬ (a.t = b.t ∧ a.k = b.k))
  sorted : lin.Pairwise (fun a b => a.lt ≤ b.lt)
  covers : ∀ d ∈ h, ∃ e ∈ lin, e.Matches d
  covered : ∀ e ∈ lin, ∃ d ∈ h, d.t = e.t ∧ d.k = e.k
  ops : ∀ e ∈ lin, opAt ps e.t e.k = some e.op

theorem Ghost.exists_linearization {ps i0 final h lin} (g : Ghost ps i0 final h lin) :
    ∃ order, isLinearization i0 h order final = true := by
  -- every ghost record has its completed operation; the order is `lin` with each record replaced by it
  have H : ∀ e, ∃ d, e ∈ lin → d ∈ h ∧ e.Matches d := by
    intro e
    by_cases he : e ∈ lin
    · obtain ⟨d, hd, hk1, hk2⟩ := g.covered e he
      obtain ⟨e', he', m⟩ := g.covers d hd
      cases eq_of_pairwise_key g.linNodup he' he (m.t.trans hk1) (m.k.trans hk2)
      exact ⟨d, fun _ => ⟨hd, m⟩⟩
    · exact ⟨e.toDone, fun h => absurd h he⟩
  obtain ⟨f, F⟩ := Classical.axiomOfChoice H
  have nd1 : (lin.map f).Nodup := by
    rw [List.Nodup, List.pairwise_map]
    refine (List.Pairwise.and_mem.mp g.linNodup).imp (fun {a b} ⟨ha, hb, hab⟩ heq => hab ?_)
    rw [(F a ha).2.t, (F a ha).2.k, heq]
    exact ⟨(F b hb).2.t.symm, (F b hb).2.k.symm⟩
  have nd2 : h.Nodup := g.hNodup.imp (fun {a b} hab (heq : a = b) => hab (heq ▸ ⟨rfl, rfl⟩))
  have hp : (lin.map f).Perm h := by
    refine (List.perm_ext_iff_of_nodup nd1 nd2).mpr (fun d => ⟨fun hd => ?_, fun hd => ?_⟩)
    · obtain ⟨e, he, rfl⟩ := List.mem_map.mp hd
      exact (F e he).1
    · obtain ⟨e, he, m⟩ := g.covers d hd
      obtain ⟨g1, m'⟩ := F e he
      exact List.mem_map.mpr ⟨e, he, eq_of_pairwise_key g.hNodup g1 hd (m'.t.symm.trans m.t) (m'.k.symm.trans m.k)⟩
  refine ⟨lin.map f, ?_⟩
  simp only [isLinearization, Bool.and_eq_true, beq_iff_eq, List.all_eq_true, List.contains_iff_mem]
  refine ⟨⟨⟨⟨hp.length_eq, fun d hd => hp.mem_iff.mpr hd⟩, fun d hd => hp.mem_iff.mp hd⟩, ?_⟩, ?_⟩
  · rw [respectsRealTime_iff, List.pairwise_map]
    refine (List.Pairwise.and_mem.mp g.sorted).imp (fun {a b} ⟨ha, hb, hab⟩ => ?_)
    exact Nat.not_lt.mpr (Nat.le_trans (F a ha).2.inv_le (Nat.le_trans hab (F b hb).2.le_resp))
  · rw [legalSeq_map_congr f LinE.toDone lin i0 (fun e he => ⟨(F e he).2.op.symm, (F e he).2.res.symm⟩)]
    exact g.legal

end Zarrs.MemConc
