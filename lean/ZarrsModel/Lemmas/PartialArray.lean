import ZarrsModel.Model.Partial
import ZarrsModel.Lemmas.ArrayList
/- region extraction (`Subset.extract`) and the contiguous runs of a region: for the partial decoders of C02, the sharding
decoders (`extract_tabulate`) and the sharding partial encoder (`extract_updateRuns`) -/
namespace Zarrs.Partial
open Zarrs Zarrs.Codec

theorem region_facts (r : Subset) (sh : Shape) (hr : r.wf = true) (hb : r.inboundsShape sh = true) :
    r.start.length = r.shape.length ∧ r.start.length = sh.length ∧
      Subset.allLe (addIdx r.start r.shape) sh = true :=
  ⟨Subset.wf_iff.mp hr, Subset.inboundsShape_iff_allLe.mp hb⟩

theorem ofShape_inShape (sh : Shape) : (Subset.ofShape sh).wf = true ∧ (Subset.ofShape sh).inboundsShape sh = true := by
  rw [Subset.wf_iff, Subset.inboundsShape_iff_allLe]
  simp [Subset.ofShape, addIdx_comm _ sh, addIdx_zeros sh sh.length (Nat.le_refl _), allLe_refl]

theorem extract_updateRuns {α} (sh : Shape) (q r : Subset) (cur ys : List α) (hq : q.wf = true)
    (hqb : q.inboundsShape sh = true) (hr : r.wf = true) (hb : r.inboundsShape sh = true) (hcur : cur.length = prod sh)
    (hy : ys.length = r.numElements) (j : Idx) (hj : inB j q.shape = true) :
    (q.extract sh (updateRuns sh r cur ys))[ravel j q.shape]? =
      if r.contains (addIdx j q.start) = true then ys[ravel (Subset.zipSub (addIdx j q.start) r.start) r.shape]?
      else cur[ravel (addIdx j q.start) sh]? := by
  obtain ⟨hN1, hN2⟩ := updateRuns_spec sh r cur ys hr hb hcur hy
  rw [(extract_spec q sh _ hq hqb hN1).2 j hj,
    hN2 _ (Subset.inB_of_inboundsShape hqb (mem_addIdx j _ _ (Subset.wf_iff.mp hq) hj))]

/-- extraction depends on the region only through its linear indices (how `squeezeRegion_ok` compares a region with
its squeezed form) -/
theorem extract_lin {α} (r : Subset) (sh : Shape) (xs : List α) (hr : r.wf = true)
    (hb : r.inboundsShape sh = true) (hx : xs.length = prod sh) :
    (r.extract sh xs).map some = (linIdx r.start r.shape sh).map (fun k => xs[k]?) := by
  rw [r.extract_exact sh xs hr hb hx]
  simp [Subset.gather, linIdx, Subset.indices, List.map_map, Function.comp_def]

theorem extract_empty {α} (r : Subset) (sh : Shape) (xs : List α) (hr : r.wf = true)
    (hb : r.inboundsShape sh = true) (hx : xs.length = prod sh) (he : r.numElements = 0) :
    r.extract sh xs = [] := by
  apply List.eq_nil_of_length_eq_zero
  rw [(extract_spec r sh xs hr hb hx).1, he]

theorem extract_map {α β} (f : α → β) (r : Subset) (sh : Shape) (xs : List α) :
    r.extract sh (xs.map f) = (r.extract sh xs).map f := by
  simp only [Subset.extract, List.map_flatMap, List.map_take, List.map_drop]

theorem extract_replicate {α} (r : Subset) (sh : Shape) (f : α) (hr : r.wf = true)
    (hb : r.inboundsShape sh = true) :
    r.extract sh (List.replicate (prod sh) f) = List.replicate r.numElements f := by
  rw [List.eq_replicate_iff]
  refine ⟨(extract_spec r sh _ hr hb (by simp)).1, ?_⟩
  intro b hb'
  exact (List.mem_replicate.1 (mem_extract r sh _ b hb')).2

theorem extract_full {α} (sh : Shape) (xs : List α) (hx : xs.length = prod sh) :
    (Subset.ofShape sh).extract sh xs = xs := by
  obtain ⟨h1, h2⟩ := ofShape_inShape sh
  obtain ⟨hl, hp⟩ := extract_spec (Subset.ofShape sh) sh xs h1 h2 hx
  apply list_ext_box sh _ _ hl hx
  intro j hj
  have := hp j hj
  simp only [Subset.ofShape] at this
  rw [addIdx_zeros j sh.length (by rw [inB_length hj]; exact Nat.le_refl _)] at this
  exact this

theorem AHandleOk.whole {h : AHandle} {sh : Shape} {xs : List Elem} (hh : AHandleOk h sh xs)
    (hx : xs.length = prod sh) : h [Subset.ofShape sh] = some [xs] := by
  rw [hh _ (List.forall_mem_singleton.mpr (ofShape_inShape sh)), List.map_singleton, extract_full sh xs hx]

theorem extract_flatten {α} (n : Nat) (r : Subset) (sh : Shape) (G : List (List α)) (hG : ∀ g ∈ G, g.length = n) :
    (r.extract sh G).flatten =
      (r.contiguousLinearised sh).flatMap (fun i => (G.flatten.drop (i * n)).take ((r.contiguous sh).run * n)) := by
  rw [Subset.extract, List.flatMap_def, List.flatten_flatten, List.map_map, List.flatMap_def]
  refine congrArg List.flatten (List.map_congr_left fun i _ => ?_)
  rw [Function.comp_apply, flatten_drop_mul n _ i hG, flatten_take_mul n _ _ (fun g hg => hG g (List.mem_of_mem_drop hg))]

/-- why the byte ranges `bytesPD` asks for are valid (`bytesPD_region`) -/
theorem contiguous_bound (r : Subset) (sh : Shape) (hr : r.wf = true) (hb : r.inboundsShape sh = true) :
    ∀ i ∈ r.contiguousLinearised sh, i + (r.contiguous sh).run ≤ prod sh := by
  obtain ⟨h1, h2, h3⟩ := region_facts r sh hr hb
  rw [r.contiguousLinearised_eq_linIdx, r.contiguous_run]
  exact (contigAux_spec r.start r.shape sh h1 h2).2.2 h3

theorem extract_tabulate {α} (a : AArr α) (r : Subset) (sh : Shape) (hr : r.wf = true)
    (hb : r.inboundsShape sh = true) :
    r.extract sh ((boxIndices sh).map a) = a.read r := by
  have hx : ((boxIndices sh).map a).length = prod sh := by simp [boxIndices_length]
  obtain ⟨hl, hp⟩ := extract_spec r sh _ hr hb hx
  apply list_ext_box r.shape _ _ hl (a.read_length r)
  intro j hj
  rw [hp j hj, a.read_getElem?_box r j hj]
  have hr' := hr
  simp only [Subset.wf, beq_iff_eq] at hr'
  have hin : inB (addIdx j r.start) sh = true := Subset.inB_of_inboundsShape hb (mem_addIdx j r.start r.shape hr' hj)
  rw [List.getElem?_map, boxIndices_getElem?_ravel _ _ hin]
  rfl

end Zarrs.Partial
