import ZarrsModel.Lemmas.FaultOps
import ZarrsModel.Lemmas.Fault
set_option linter.unusedSectionVars false
/-
Array methods as operation-level programs.  A single-chunk write IS a single-key step of `Lemmas/ArrayCell.lean` written
as a program (`Prog.Cell`): at most one read of the chunk's key, then at most one write of it, decided by the outcome
function (`storeChunkW`, `storeChunkSubsetW`); refinement of `Model/Array.lean`, atomicity and the locality of the
operation count are read off from that.  Then: the read methods, the plans of the multi-chunk methods (`planOf_pure`), what
a run of per-chunk steps leaves in the store (`Reached`), and why the operation count of a multi-chunk write does not depend
on the order of its closures.
-/
namespace Zarrs

namespace Prog

/-- perform the outcome of a single-key step (`none`: fail, `some none`: erase `k`, `some (some v)`: set it): at most one
operation -/
def write (k : Key) : Option (Option Bytes) → Prog Unit
  | none => .fail
  | some none => .erase k (.ret ())
  | some (some v) => .set k v (.ret ())

theorem write_pure (k : Key) (o : Option (Option Bytes)) (m : KV) :
    (write k o).pure m = (o.map (m.applyW k)).map (fun m' => ((), m')) := by
  rcases o with _ | _ | v <;> rfl

theorem write_ops (k : Key) (o : Option (Option Bytes)) (m : KV) : (write k o).ops m = if o.isSome then 1 else 0 := by
  rcases o with _ | _ | v <;> rfl

theorem write_writeLast (k : Key) (o : Option (Option Bytes)) : (write k o).writeLast := by
  rcases o with _ | _ | v
  · trivial
  · exact ⟨(), rfl⟩
  · exact ⟨(), rfl⟩

/-- `p` is the single-key step with outcome function `W` on the key `k`, as a program: a read of `k` and the write that `W`
decides from the value read — or that write alone, where `W` does not look at the value -/
inductive Cell (k : Key) (W : Option Bytes → Option (Option Bytes)) : Prog Unit → Prop
  | const (o : Option (Option Bytes)) (h : ∀ old, W old = o) : Cell k W (write k o)
  | rmw : Cell k W (.get k (fun old => write k (W old)))

namespace Cell
variable {k : Key} {W : Option Bytes → Option (Option Bytes)} {p : Prog Unit} (h : Cell k W p)
include h

theorem pure_eq (m : KV) : p.pure m = ((W (m.get k)).map (m.applyW k)).map (fun m' => ((), m')) := by
  cases h with
  | const o ho => rw [ho, write_pure]
  | rmw => exact write_pure k _ m

/-- whenever it returns an error the store is unchanged (`writeLast_err`) -/
theorem writeLast : p.writeLast := by
  cases h with
  | const o ho => exact write_writeLast k o
  | rmw => exact fun old => write_writeLast k _

theorem ops_congr (m m' : KV) (hg : m.get k = m'.get k) : p.ops m = p.ops m' := by
  cases h with
  | const o ho => rw [write_ops, write_ops]
  | rmw =>
    show (write k (W (m.get k))).ops m + 1 = (write k (W (m'.get k))).ops m' + 1
    rw [hg, write_ops, write_ops]

end Cell
end Prog

open ArrCfg in
/-- all that `runAll_reached` and `seq_reached` ask of the closures; those of the model are `Cell`s (`of_cell`) -/
structure KeyStep (keyOf : Idx → Key) (W : Idx → Option Bytes → Option (Option Bytes)) (stepP : Idx → Prog Unit) :
    Prop where
  pure_eq : ∀ m c, (stepP c).pure m = (kvStep keyOf W m c).map (fun m' => ((), m'))
  atomic : ∀ c, (stepP c).writeLast

open ArrCfg in
/-- the stores a faulted run over the closures `order` can leave: those of the steps of a sub-list (a failed step
leaves the store unchanged) -/
def Reached (keyOf : Idx → Key) (W : Idx → Option Bytes → Option (Option Bytes)) (st : KV) (order : List Idx)
    (st' : KV) : Prop :=
  ∃ done, done.Sublist order ∧ foldOpt (kvStep keyOf W) st done = some st'

namespace KeyStep
open ArrCfg
variable {keyOf : Idx → Key} {W : Idx → Option Bytes → Option (Option Bytes)} {stepP : Idx → Prog Unit}
  (h : KeyStep keyOf W stepP)
include h

theorem step_run (c : Idx) (s : FStore) :
    (∃ s', (stepP c).run s = .ok () s' ∧ kvStep keyOf W s.m c = some s'.m) ∨
      (∃ s', (stepP c).run s = .err s' ∧ s'.m = s.m) := by
  obtain ⟨m, n, F⟩ := s
  cases hr : (stepP c).run ⟨m, n, F⟩ with
  | err s' => exact Or.inr ⟨s', rfl, Prog.writeLast_err _ (h.atomic c) m n F s' hr⟩
  | ok v s' =>
    have hp := (Prog.run_ok _ m n F v s' hr).pure
    rw [h.pure_eq] at hp
    cases hst : kvStep keyOf W m c with
    | none => rw [hst] at hp; cases hp
    | some m1 =>
      rw [hst] at hp
      cases hp
      exact Or.inl ⟨s', rfl, rfl⟩

theorem runAll_reached : ∀ (order : List Idx) (s : FStore),
    Reached keyOf W s.m order (Prog.runAll (order.map stepP) s).st.m
  | [], s => ⟨[], List.Sublist.refl _, rfl⟩
  | c :: rest, s => by
    rw [List.map_cons, Prog.runAll]
    rcases h.step_run c s with ⟨s', hr, hst⟩ | ⟨s', hr, hm⟩
    · obtain ⟨done, hsub, hfold⟩ := runAll_reached rest s'
      rw [hr]
      exact ⟨c :: done, hsub.cons_cons c, by rw [foldOpt, hst]; exact hfold⟩
    · obtain ⟨done, hsub, hfold⟩ := runAll_reached rest s'
      rw [hr]
      exact ⟨done, hsub.cons c, hm ▸ hfold⟩

theorem seq_reached : ∀ (order : List Idx) (s : FStore),
    Reached keyOf W s.m order ((Prog.seq (order.map stepP)).run s).st.m
  | [], s => ⟨[], List.Sublist.refl _, rfl⟩
  | c :: rest, s => by
    rw [List.map_cons, Prog.seq, Prog.run_bind]
    rcases h.step_run c s with ⟨s', hr, hst⟩ | ⟨s', hr, hm⟩ <;> rw [hr]
    · obtain ⟨done, hsub, hfold⟩ := seq_reached rest s'
      exact ⟨c :: done, hsub.cons_cons c, by rw [foldOpt, hst]; exact hfold⟩
    · exact ⟨[], List.nil_sublist _, congrArg some hm.symm⟩

end KeyStep

open ArrCfg in
theorem KeyStep.of_cell {keyOf : Idx → Key} {W : Idx → Option Bytes → Option (Option Bytes)} {stepP : Idx → Prog Unit}
    (h : ∀ c, (stepP c).Cell (keyOf c) (W c)) : KeyStep keyOf W stepP :=
  ⟨fun m c => (h c).pure_eq m, fun c => (h c).writeLast⟩

namespace Prog.Cell
open ArrCfg
variable {keyOf : Idx → Key} {W : Idx → Option Bytes → Option (Option Bytes)} {stepP : Idx → Prog Unit}
  (h : ∀ c, (stepP c).Cell (keyOf c) (W c))
include h

/-- every summand is counted from the INITIAL store: a closure touches only the key of its own chunk, and distinct chunks
have distinct keys -/
theorem seq_ops_sum : ∀ (l : List Idx), (l.map keyOf).Nodup → ∀ (m m' : KV), foldOpt (kvStep keyOf W) m l = some m' →
    (Prog.seq (l.map stepP)).ops m = (l.map (fun c => (stepP c).ops m)).sum
  | [], _, m, m', _ => rfl
  | c :: rest, hnd, m, m', hfold => by
    simp only [List.map_cons, List.nodup_cons] at hnd
    simp only [List.map_cons, List.sum_cons]
    rw [Prog.ops_seq_cons, (KeyStep.of_cell h).pure_eq]
    simp only [foldOpt] at hfold
    cases hst : kvStep keyOf W m c with
    | none => rw [hst] at hfold; cases hfold
    | some m1 =>
      rw [hst] at hfold
      simp only [Option.map_some]
      rw [seq_ops_sum rest hnd.2 m1 m' hfold]
      congr 2
      apply List.map_congr_left
      intro c' hc'
      exact (h c').ops_congr m1 m (kvStep_frame hst fun he => hnd.1 (he ▸ List.mem_map_of_mem hc'))

theorem seq_ops_perm (chunks : List Idx) (hnd : (chunks.map keyOf).Nodup) (st stFull : KV)
    (hfull : foldOpt (kvStep keyOf W) st chunks = some stFull) (order : List Idx) (hperm : order.Perm chunks) :
    (Prog.seq (order.map stepP)).ops st = (Prog.seq (chunks.map stepP)).ops st := by
  obtain ⟨hF, _⟩ := foldOpt_kvStep_some _ _ _ hnd st stFull hfull
  have hndO : (order.map keyOf).Nodup := (hperm.map keyOf).nodup_iff.2 hnd
  obtain ⟨s2, hs2⟩ := foldOpt_kvStep_exists keyOf W order hndO st fun c hc => hF c (hperm.subset hc)
  rw [seq_ops_sum h order hndO st s2 hs2, seq_ops_sum h chunks hnd st stFull hfull]
  exact (hperm.map _).sum_nat

end Prog.Cell

namespace Reached
open ArrCfg
variable {keyOf : Idx → Key} {W : Idx → Option Bytes → Option (Option Bytes)} {st st' : KV} {order : List Idx}
  (hr : Reached keyOf W st order st')
include hr

theorem sorted (hs : st.sorted) : st'.sorted := by
  obtain ⟨done, _, hpart⟩ := hr
  exact foldOpt_kvStep_sorted keyOf W done st st' hs hpart

theorem granular {chunks : List Idx} {stFull : KV} (hndC : (chunks.map keyOf).Nodup)
    (hfull : foldOpt (kvStep keyOf W) st chunks = some stFull) (hndO : (order.map keyOf).Nodup)
    (hsub : ∀ c ∈ order, c ∈ chunks) (k : Key) : st'.get k = st.get k ∨ st'.get k = stFull.get k := by
  obtain ⟨done, hsl, hpart⟩ := hr
  exact foldOpt_kvStep_partial keyOf W chunks hndC st stFull st' hfull done ((hsl.map keyOf).nodup hndO)
    (fun c hc => hsub c (hsl.subset hc)) hpart k

end Reached

namespace ArrCfg
variable {α : Type} [BEq α] (cfg : ArrCfg α)

theorem chunkShape_none_of_len (c : Idx) (h : ¬ c.length = cfg.grid.length) : cfg.chunkShape c = none := by
  simp [chunkShape, h]

theorem length_of_chunkShape (c : Idx) (s : Shape) (hs : cfg.chunkShape c = some s) : c.length = cfg.grid.length :=
  Decidable.byContradiction fun hl => by rw [chunkShape_none_of_len cfg c hl] at hs; cases hs

theorem storeChunkP_eq (c : Idx) (d : List α) : cfg.storeChunkP c d = Prog.write (cfg.keyOf c) (cfg.storeChunkW c d) := by
  unfold storeChunkP storeChunkW
  cases cfg.chunkShape c with
  | none => rfl
  | some s =>
    simp only
    split
    · rfl
    · split <;> rfl

theorem storeChunkP_cell (c : Idx) (d : List α) : (cfg.storeChunkP c d).Cell (cfg.keyOf c) (fun _ => cfg.storeChunkW c d) :=
  storeChunkP_eq cfg c d ▸ .const _ fun _ => rfl

theorem eraseChunkP_cell (c : Idx) : (cfg.eraseChunkP c).Cell (cfg.keyOf c) (fun _ => some none) :=
  .const (some none) fun _ => rfl

theorem storeChunkP_pure (st : KV) (c : Idx) (d : List α) :
    (cfg.storeChunkP c d).pure st = (cfg.storeChunk st c d).map (fun m => ((), m)) := by
  rw [(storeChunkP_cell cfg c d).pure_eq, storeChunk_eq]

theorem retrieveChunkIfExistsP_pure (st : KV) (c : Idx) (h : c.length = cfg.grid.length → (cfg.chunkShape c).isSome = true) :
    (cfg.retrieveChunkIfExistsP c).pure st = (cfg.retrieveChunkIfExists st c).map (fun v => (v, st)) := by
  unfold retrieveChunkIfExistsP retrieveChunkIfExists
  by_cases hl : c.length = cfg.grid.length
  · have hne : (c.length != cfg.grid.length) = false := by simp [hl]
    obtain ⟨s, hs⟩ := Option.isSome_iff_exists.1 (h hl)
    simp only [hne, hs, Bool.false_eq_true, ↓reduceIte, Prog.pure]
    cases st.get (cfg.keyOf c) with
    | none => rfl
    | some b =>
      simp only
      cases cfg.dec b with
      | none => rfl
      | some xs => simp only; split <;> rfl
  · have hne : (c.length != cfg.grid.length) = true := by simp [hl]
    simp only [hne, ↓reduceIte, chunkShape_none_of_len cfg c hl, Prog.pure, Option.map_none]

theorem retrieveChunkP_eq (c : Idx) : cfg.retrieveChunkP c =
    if c.length != cfg.grid.length then .fail else .get (cfg.keyOf c) (fun old => Prog.leaf (cfg.retrieveChunkV c old)) := by
  unfold retrieveChunkP retrieveChunkIfExistsP
  split
  · rfl
  · show Prog.get _ _ = _
    congr 1
    funext old
    unfold retrieveChunkV
    cases old with
    | none => cases cfg.chunkShape c <;> rfl
    | some b =>
      dsimp only
      cases cfg.chunkShape c with
      | none => rfl
      | some s =>
        dsimp only
        cases cfg.dec b with
        | none => rfl
        | some xs => by_cases hl : xs.length = prod s <;> simp [hl, Prog.bind, Prog.leaf]

theorem retrieveChunkP_pure (st : KV) (c : Idx) :
    (cfg.retrieveChunkP c).pure st = (cfg.retrieveChunk st c).map (fun xs => (xs, st)) := by
  rw [retrieveChunkP_eq, retrieveChunk_eqV]
  split
  next hl =>
    rw [retrieveChunkV, chunkShape_none_of_len cfg c (by simpa using hl)]
    rfl
  next => exact Prog.leaf_pure _ st

theorem retrieveChunkP_readOnly (c : Idx) : (cfg.retrieveChunkP c).readOnly := by
  rw [retrieveChunkP_eq]
  split
  · trivial
  · exact fun old => Prog.leaf_readOnly _

/-- the read-modify-write path of `store_chunk_subset` (a valid subset, not the whole chunk, data of its size): GET the
chunk's key, then the write decided from the value read -/
theorem storeChunkSubsetP_rmw_eq (c : Idx) (r : Subset) (d : List α) (s : Shape) (hs : cfg.chunkShape c = some s)
    (h1 : ¬ (!(r.rank == s.length && Subset.allLe r.endExc s)) = true)
    (h2 : ¬ (r.shape == s && r.start.all (· == 0)) = true) (h3 : ¬ (d.length != r.numElements) = true) :
    (cfg.retrieveChunkP c).bind (fun old => cfg.storeChunkP c (updateRuns s r old d)) =
      .get (cfg.keyOf c) (fun old => Prog.write (cfg.keyOf c) (cfg.storeChunkSubsetW c r d old)) := by
  have hl : (c.length != cfg.grid.length) = false := by simp [length_of_chunkShape cfg c s hs]
  rw [retrieveChunkP_eq, hl]
  show Prog.get _ _ = _
  congr 1
  funext old
  simp only [storeChunkSubsetW, hs, if_neg h1, if_neg h2, if_neg h3]
  cases cfg.retrieveChunkV c old with
  | none => rfl
  | some xs => exact storeChunkP_eq cfg c _

theorem storeChunkSubsetP_cell (c : Idx) (r : Subset) (d : List α) :
    (cfg.storeChunkSubsetP c r d).Cell (cfg.keyOf c) (cfg.storeChunkSubsetW c r d) := by
  unfold storeChunkSubsetP
  cases hs : cfg.chunkShape c with
  | none => exact .const none fun old => by simp only [storeChunkSubsetW, hs]
  | some s =>
    simp only
    split
    next h1 => exact .const none fun old => by simp only [storeChunkSubsetW, hs, if_pos h1]
    next h1 =>
      split
      next h2 =>
        rw [storeChunkP_eq]
        exact .const _ fun old => by simp only [storeChunkSubsetW, hs, if_neg h1, if_pos h2]
      next h2 =>
        split
        next h3 => exact .const none fun old => by simp only [storeChunkSubsetW, hs, if_neg h1, if_neg h2, if_pos h3]
        next h3 =>
          rw [storeChunkSubsetP_rmw_eq cfg c r d s hs h1 h2 h3]
          exact .rmw

theorem storeChunkSubsetP_pure (st : KV) (c : Idx) (r : Subset) (d : List α) :
    (cfg.storeChunkSubsetP c r d).pure st = (cfg.storeChunkSubset st c r d).map (fun m => ((), m)) := by
  rw [(storeChunkSubsetP_cell cfg c r d).pure_eq, storeChunkSubset_eq]

theorem readsThen_pure {β} (k : Key) (p : Prog β) (m : KV) : ∀ j, (readsThen k j p).pure m = p.pure m
  | 0 => rfl
  | j + 1 => by simp only [readsThen, Prog.pure]; exact readsThen_pure k p m j

theorem readsThen_ops {β} (k : Key) (p : Prog β) (m : KV) : ∀ j, (readsThen k j p).ops m = j + p.ops m
  | 0 => by simp [readsThen]
  | j + 1 => by simp only [readsThen, Prog.ops]; rw [readsThen_ops k p m j]; omega

theorem decodeOrFill_eq (st : KV) (c : Idx) (s : Shape) (hs : cfg.chunkShape c = some s) :
    cfg.retrieveChunk st c = cfg.decodeOrFill s (st.get (cfg.keyOf c)) := by
  rw [retrieveChunk_eqV]
  simp only [retrieveChunkV, hs]
  cases st.get (cfg.keyOf c) with
  | none => rfl
  | some b =>
    simp only [decodeOrFill]
    cases cfg.dec b with
    | none => rfl
    | some xs => simp only [beq_iff_eq]

theorem retrieveChunkSubsetP_pure (extra : Option Bytes → Subset → Nat) (st : KV) (c : Idx) (r : Subset) :
    (cfg.retrieveChunkSubsetP extra c r).pure st = (cfg.retrieveChunkSubset st c r).map (fun xs => (xs, st)) := by
  unfold retrieveChunkSubsetP retrieveChunkSubset
  cases hs : cfg.chunkShape c with
  | none => rfl
  | some s =>
    simp only
    split
    · rfl
    · split
      · rw [Prog.pure_bind_ret, retrieveChunkP_pure]
        cases cfg.retrieveChunk st c <;> rfl
      · simp only [Prog.pure, readsThen_pure]
        rw [decodeOrFill_eq cfg st c s hs]
        cases cfg.decodeOrFill s (st.get (cfg.keyOf c)) <;> rfl

theorem seq_map_pure {σ} (stepP : σ → Prog Unit) (step : KV → σ → Option KV)
    (h : ∀ m c, (stepP c).pure m = (step m c).map (fun m' => ((), m'))) :
    ∀ (l : List σ) (m : KV), (Prog.seq (l.map stepP)).pure m = (foldOpt step m l).map (fun m' => ((), m'))
  | [], m => rfl
  | c :: l, m => by
    simp only [List.map_cons, foldOpt]
    rw [Prog.pure_seq_cons, h]
    cases step m c with
    | none => rfl
    | some m' => exact seq_map_pure stepP step h l m'

theorem storeChunksStepP_pure (region : Subset) (d : List α) (m : KV) (c : Idx) :
    (cfg.storeChunksStepP region d c).pure m = (cfg.storeChunksChunk region d m c).map (fun m' => ((), m')) := by
  unfold storeChunksStepP storeChunksChunk
  cases cfg.chunkSubset c with
  | none => rfl
  | some cs => exact storeChunkP_pure cfg m c _

theorem storeArraySubsetStepP_pure (region : Subset) (d : List α) (m : KV) (c : Idx) :
    (cfg.storeArraySubsetStepP region d c).pure m = (cfg.storeArraySubsetChunk region d m c).map (fun m' => ((), m')) := by
  unfold storeArraySubsetStepP storeArraySubsetChunk
  cases cfg.chunkSubset c with
  | none => rfl
  | some cs => exact storeChunkSubsetP_pure cfg m c _ _

theorem single_pure (p : Prog Unit) (m : KV) : (Plan.single p).prog.pure m = p.pure m := by
  show (Prog.seq [p]).pure m = _
  rw [Prog.pure_seq_cons]
  cases p.pure m <;> rfl

theorem storeChunksPlan_pure (st : KV) (box : Subset) (d : List α) :
    (cfg.storeChunksPlan box d).prog.pure st = (cfg.storeChunks st box d).map (fun m => ((), m)) := by
  unfold storeChunksPlan storeChunks
  generalize box.numElements = n
  match n with
  | 0 => simp only; split <;> rfl
  | 1 => exact (single_pure _ st).trans (storeChunkP_pure cfg st _ d)
  | n + 2 =>
    simp only
    cases cfg.grid.chunksSubset box with
    | none => rfl
    | some region =>
      simp only
      split
      · rfl
      · exact seq_map_pure _ _ (storeChunksStepP_pure cfg region d) _ st

theorem storeArraySubsetPlan_pure (st : KV) (region : Subset) (d : List α) :
    (cfg.storeArraySubsetPlan region d).prog.pure st = (cfg.storeArraySubset st region d).map (fun m => ((), m)) := by
  unfold storeArraySubsetPlan storeArraySubset
  split
  · rfl
  · cases cfg.grid.chunksInArraySubset region cfg.shape with
    | none => rfl
    | some chunks =>
      simp only
      split
      · cases cfg.chunkSubset chunks.start with
        | none => rfl
        | some cs =>
          simp only
          split
          · exact (single_pure _ st).trans (storeChunkP_pure cfg st _ d)
          · exact (single_pure _ st).trans (storeChunkSubsetP_pure cfg st _ _ d)
      · split
        · rfl
        · exact seq_map_pure _ _ (storeArraySubsetStepP_pure cfg region d) _ st

theorem eraseChunksPlan_pure (st : KV) (box : Subset) :
    (cfg.eraseChunksPlan box).prog.pure st = some ((), cfg.eraseChunks st box) := by
  show (Prog.seq (box.indices.map cfg.eraseChunkP)).pure st = some ((), box.indices.foldl _ st)
  generalize box.indices = l
  induction l generalizing st with
  | nil => rfl
  | cons c l ih => exact (Prog.pure_seq_cons _ _ st).trans (ih _)

/-- what `fops_refines` of Props/C20Ops rests on; the closures in the order of `chunks.indices()` -/
theorem planOf_pure (st : KV) (op : WriteOp α) :
    (cfg.planOf op).prog.pure st = (cfg.applyOp st op).map (fun m => ((), m)) := by
  cases op with
  | storeChunk c d => exact (single_pure _ st).trans (storeChunkP_pure cfg st c d)
  | storeChunks b d => exact storeChunksPlan_pure cfg st b d
  | storeChunkSubset c r d => exact (single_pure _ st).trans (storeChunkSubsetP_pure cfg st c r d)
  | storeArraySubset r d => exact storeArraySubsetPlan_pure cfg st r d
  | eraseChunk c => exact single_pure _ st
  | eraseChunks b => exact eraseChunksPlan_pure cfg st b

theorem readStepsP_pure (extra : Option Bytes → Subset → Nat) (region : Subset) (st : KV) :
    ∀ (l : List Idx) (out : List α), (cfg.readStepsP extra region l out).pure st =
      (foldOpt (fun out c =>
        match cfg.chunkSubset c with
        | none => none
        | some cs =>
          let ov := cs.overlap region
          match cfg.retrieveChunkSubset st c (ov.relativeTo cs.start) with
          | none => none
          | some part => some (updateRuns region.shape (ov.relativeTo region.start) out part)) out l).map (fun xs => (xs, st))
  | [], out => rfl
  | c :: l, out => by
    simp only [readStepsP, foldOpt]
    cases cfg.chunkSubset c with
    | none => rfl
    | some cs =>
      simp only
      rw [Prog.pure_bind, retrieveChunkSubsetP_pure]
      cases cfg.retrieveChunkSubset st c ((cs.overlap region).relativeTo cs.start) with
      | none => rfl
      | some part => exact readStepsP_pure extra region st l _

theorem retrieveArraySubsetP_pure (extra : Option Bytes → Subset → Nat) (st : KV) (region : Subset) :
    (cfg.retrieveArraySubsetP extra id region).pure st = (cfg.retrieveArraySubset st region).map (fun xs => (xs, st)) := by
  unfold retrieveArraySubsetP retrieveArraySubset
  split
  · rfl
  · cases cfg.grid.chunksInArraySubset region cfg.shape with
    | none => rfl
    | some chunks =>
      simp only
      generalize chunks.numElements = n
      match n with
      | 0 => rfl
      | 1 =>
        simp only
        cases cfg.chunkSubset chunks.start with
        | none => rfl
        | some cs =>
          simp only
          split
          · exact retrieveChunkP_pure cfg st _
          · exact retrieveChunkSubsetP_pure cfg extra st _ _
      | n + 2 => exact readStepsP_pure cfg extra region st _ _

theorem retrieveChunkIfExistsP_readOnly (c : Idx) : (cfg.retrieveChunkIfExistsP c).readOnly := by
  unfold retrieveChunkIfExistsP
  split
  · trivial
  · intro old
    cases old with
    | none => trivial
    | some b =>
      simp only
      cases cfg.chunkShape c with
      | none => trivial
      | some s =>
        simp only
        cases cfg.dec b with
        | none => trivial
        | some xs => simp only; split <;> trivial

theorem readsThen_readOnly {β} (k : Key) (p : Prog β) (h : p.readOnly) : ∀ j, (readsThen k j p).readOnly
  | 0 => h
  | j + 1 => fun _ => readsThen_readOnly k p h j

theorem retrieveChunkSubsetP_readOnly (extra : Option Bytes → Subset → Nat) (c : Idx) (r : Subset) :
    (cfg.retrieveChunkSubsetP extra c r).readOnly := by
  unfold retrieveChunkSubsetP
  cases cfg.chunkShape c with
  | none => trivial
  | some s =>
    simp only
    split
    · trivial
    · split
      · exact Prog.readOnly_bind _ _ (retrieveChunkP_readOnly cfg c) (fun _ => trivial)
      · intro old
        apply readsThen_readOnly
        cases cfg.decodeOrFill s old <;> trivial

theorem readStepsP_readOnly (extra : Option Bytes → Subset → Nat) (region : Subset) :
    ∀ (l : List Idx) (out : List α), (cfg.readStepsP extra region l out).readOnly
  | [], out => trivial
  | c :: l, out => by
    simp only [readStepsP]
    cases cfg.chunkSubset c with
    | none => trivial
    | some cs =>
      exact Prog.readOnly_bind _ _ (retrieveChunkSubsetP_readOnly cfg extra c _)
        (fun part => readStepsP_readOnly extra region l _)

theorem retrieveArraySubsetP_readOnly (extra : Option Bytes → Subset → Nat) (order : List Idx → List Idx)
    (region : Subset) : (cfg.retrieveArraySubsetP extra order region).readOnly := by
  unfold retrieveArraySubsetP
  split
  · trivial
  · cases cfg.grid.chunksInArraySubset region cfg.shape with
    | none => trivial
    | some chunks =>
      simp only
      generalize chunks.numElements = n
      match n with
      | 0 => trivial
      | 1 =>
        simp only
        cases cfg.chunkSubset chunks.start with
        | none => trivial
        | some cs =>
          simp only
          split
          · exact retrieveChunkP_readOnly cfg _
          · exact retrieveChunkSubsetP_readOnly cfg extra _ _
      | n + 2 => exact readStepsP_readOnly cfg extra region _ _

theorem cacheFillP_readOnly (kind : CacheKind) (c : Idx) : (cfg.cacheFillP kind c).readOnly := by
  cases kind with
  | decoded => exact Prog.readOnly_bind _ _ (retrieveChunkP_readOnly cfg c) (fun _ => trivial)
  | encoded => exact fun _ => trivial

/-- GET, then SET or ERASE -/
theorem storeChunkSubsetP_ops_rmw (st st' : KV) (c : Idx) (r : Subset) (d : List α) (s : Shape)
    (hs : cfg.chunkShape c = some s) (hpart : (r.shape == s && r.start.all (· == 0)) = false)
    (h : cfg.storeChunkSubset st c r d = some st') : (cfg.storeChunkSubsetP c r d).ops st = 2 := by
  rw [storeChunkSubset_eq] at h
  obtain ⟨w, hw, _⟩ := Option.map_eq_some_iff.1 h
  have h1 : ¬ (!(r.rank == s.length && Subset.allLe r.endExc s)) = true := fun h1 => by
    simp only [storeChunkSubsetW, hs, if_pos h1] at hw
    cases hw
  have h2 : ¬ (r.shape == s && r.start.all (· == 0)) = true := by simp [hpart]
  have h3 : ¬ (d.length != r.numElements) = true := fun h3 => by
    simp only [storeChunkSubsetW, hs, if_neg h1, if_neg h2, if_pos h3] at hw
    cases hw
  unfold storeChunkSubsetP
  simp only [hs, if_neg h1, if_neg h2, if_neg h3]
  rw [storeChunkSubsetP_rmw_eq cfg c r d s hs h1 h2 h3]
  show (Prog.write _ _).ops st + 1 = 2
  rw [hw]
  cases w <;> rfl

theorem storeChunksStepP_cell {α : Type} [DecidableEq α] (cfg : ArrCfg α) (region : Subset) (data : List α) (c : Idx) :
    (cfg.storeChunksStepP region data c).Cell (cfg.keyOf c) (cfg.storeChunksChunkW region data c) := by
  unfold storeChunksStepP storeChunksChunkW
  cases cfg.chunkSubset c with
  | none => exact .const none fun _ => rfl
  | some cs => exact storeChunkP_cell cfg c _

theorem storeArraySubsetStepP_cell {α : Type} [DecidableEq α] (cfg : ArrCfg α) (region : Subset) (data : List α) (c : Idx) :
    (cfg.storeArraySubsetStepP region data c).Cell (cfg.keyOf c) (cfg.storeArraySubsetChunkW region data c) := by
  unfold storeArraySubsetStepP storeArraySubsetChunkW
  cases cfg.chunkSubset c with
  | none => exact .const none fun _ => rfl
  | some cs => exact storeChunkSubsetP_cell cfg c _ _

end ArrCfg
end Zarrs
