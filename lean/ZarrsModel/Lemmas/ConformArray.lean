import ZarrsModel.Lemmas.Keys
import ZarrsModel.Lemmas.Conform
/- helper lemmas for C12: whole arrays (keys of distinct chunks differ; read of write) -/
namespace Zarrs.Conform
open Zarrs Zarrs.Codec Zarrs.Inflate

theorem isSep_of (sep : Char) (h : sep = '/' ∨ sep = '.') : Keys.isSep sep = true := by
  rcases h with rfl | rfl <;> decide

theorem key_inj (path : List Char) (e : Keys.Enc) (sep : Char) (hs : sep = '/' ∨ sep = '.') (grid : Shape) :
    ∀ a ∈ boxIndices grid, ∀ b ∈ boxIndices grid,
      Keys.dataKey path (Keys.encode e sep a) = Keys.dataKey path (Keys.encode e sep b) → a = b := by
  intro a ha b hb h
  rw [mem_boxIndices] at ha hb
  exact Keys.encode_inj e sep (isSep_of sep hs) a b ((inB_length ha).trans (inB_length hb).symm) (Keys.dataKey_inj path h)

/-- the generic read-of-write argument, for any chunk codec that round-trips the chunks of this array -/
theorem array_roundtrip (shape chunk : Shape) (hl : chunk.length = shape.length) (hpos : ∀ d ∈ chunk, 0 < d)
    (fill : Elem) (xs : List Elem) (hx : xs.length = prod shape) (key : Idx → List Char)
    (hkey : ∀ a ∈ boxIndices (gridOf shape chunk), ∀ b ∈ boxIndices (gridOf shape chunk), key a = key b → a = b)
    (enc : List Elem → Bytes) (dec : Bytes → Option (List Elem))
    (hdec : ∀ c ∈ boxIndices (gridOf shape chunk),
      dec (enc (subBox shape chunk xs c fill)) = some (subBox shape chunk xs c fill)) :
    (match (boxIndices (gridOf shape chunk)).mapM (fun c =>
        match Store.get ((boxIndices (gridOf shape chunk)).filterMap (fun c =>
            let part := subBox shape chunk xs c fill
            if part.all (· == fill) then none else some (key c, enc part))) (key c) with
        | none => some (List.replicate (prod chunk) fill)
        | some v => dec v) with
      | some parts => some (assemble shape chunk parts fill)
      | none => none) = some xs := by
  have hget : ∀ c ∈ boxIndices (gridOf shape chunk),
      Store.get ((boxIndices (gridOf shape chunk)).filterMap (fun c =>
        let part := subBox shape chunk xs c fill
        if part.all (· == fill) then none else some (key c, enc part))) (key c) =
      if (subBox shape chunk xs c fill).all (· == fill) then none else some (enc (subBox shape chunk xs c fill)) :=
    fun c hc => get_filterMap key (fun c => (subBox shape chunk xs c fill).all (· == fill))
      (fun c => enc (subBox shape chunk xs c fill)) _ c (fun a ha h => hkey a ha c hc h) hc
  rw [mapM_some_of_forall _ (fun c => subBox shape chunk xs c fill)]
  · simp only
    rw [assemble_subBox shape chunk hl hpos xs hx fill]
  · intro c hc
    rw [hget c hc]
    by_cases hall : (subBox shape chunk xs c fill).all (· == fill) = true
    · simp only [hall, if_true]
      rw [(all_beq_iff_replicate fill _ _ rfl).mp hall, subBox_length]
    · simp only [hall, Bool.false_eq_true, if_false]
      exact hdec c hc

end Zarrs.Conform
