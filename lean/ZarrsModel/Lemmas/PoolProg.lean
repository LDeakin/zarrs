import ZarrsModel.Lemmas.PoolInv
/- progress: a well-formed pool in which no program holds the mutex across a join never gets stuck -/
namespace Zarrs.ShardAsm

variable {P : Pool} {s : PState}

theorem fork_in_allForks {t k c : Nat} (h : instrAt P t k = some (.fork c)) : c ∈ P.allForks := by
  rw [instrAt_eq] at h
  rcases prog_mem_or_nil P t with hm | hn
  · simp only [Pool.allForks, List.mem_flatMap]
    exact ⟨_, hm, fork_mem_forksOf h⟩
  · rw [hn] at h; simp at h

theorem allForks_fork {c : Nat} (h : c ∈ P.allForks) :
    ∃ t k, t < P.progs.length ∧ instrAt P t k = some (.fork c) := by
  simp only [Pool.allForks, List.mem_flatMap] at h
  obtain ⟨pr, hpr, hc⟩ := h
  obtain ⟨k, hk⟩ := forksOf_mem hc
  obtain ⟨t, ht, rfl⟩ := List.getElem_of_mem hpr
  refine ⟨t, k, ht, ?_⟩
  rw [instrAt_eq]
  unfold prog
  rw [List.getD_eq_getElem?_getD, List.getElem?_eq_getElem ht]; exact hk

theorem forked_leaf (wfp : WfParts P) {c : Nat} (h : c ∈ P.allForks) : isLeaf (prog P c) = true := by
  have hcf := wfp.forks c h
  exact (wfp.leaf c hcf.1).resolve_left hcf.2

theorem enabled_zero {s s' : PState} {w : Nat} (h : pstep P s w 0 = some s') : penabled P s w = true := by
  simp [penabled, h]

theorem enabled_queue {s s' : PState} {w c : Nat} (hc : c ∈ s.queue) (h : pstep P s w c = some s') :
    penabled P s w = true := by
  simp only [penabled, Bool.or_eq_true, List.any_eq_true]
  exact Or.inr ⟨c, hc, by rw [h]; rfl⟩

theorem top_enabled {w t pc : Nat} {below : List (Nat × Nat)}
    (hst : s.stacks[w]? = some ((t, pc) :: below)) (hlock : instrAt P t pc = some .lock → s.holder = none)
    (hwait : ∀ c, instrAt P t pc = some (.wait c) → c ∈ s.finished ∨ s.queue ≠ []) : penabled P s w = true := by
  cases hi : instrAt P t pc with
  | none => exact enabled_zero (by simp only [pstep, hst, hi]; rfl)
  | some i =>
    cases i with
    | lock => exact enabled_zero (by simp only [pstep, hst, hi, hlock hi, Option.isNone_none, if_true]; rfl)
    | wait c =>
      by_cases hf : c ∈ s.finished
      · have : s.finished.contains c = true := by simpa using hf
        exact enabled_zero (by simp only [pstep, hst, hi, this, if_true]; rfl)
      · have hf' : s.finished.contains c = false := by simpa using hf
        cases hqq : s.queue with
        | nil => exact absurd hqq ((hwait c hi).resolve_left hf)
        | cons q0 qs =>
          have hm : q0 ∈ s.queue := by rw [hqq]; exact List.mem_cons_self
          have hm' : s.queue.contains q0 = true := by simpa using hm
          exact enabled_queue hm (by simp only [pstep, hst, hi, hf', hm', if_true, Bool.false_eq_true, if_false]; rfl)
    | _ => exact enabled_zero (by simp only [pstep, hst, hi]; rfl)

theorem holder_enabled (wfp : WfParts P) (nj : NoJoin P) (inv : PInv P s) {h : Nat} (hh : s.holder = some h) :
    h < P.workers ∧ penabled P s h = true := by
  obtain ⟨t, pc, below, hst, hheld⟩ := holder_top inv hh
  rcases crit_next (wfp.bal t) (nj t) hheld with hi | hi <;>
    exact ⟨inv.len ▸ lt_of_getElem?_some hst, top_enabled hst (fun hl => by rw [instrAt_eq, hi] at hl; cases hl)
      (fun c hw => by rw [instrAt_eq, hi] at hw; cases hw)⟩

/-- an idle worker takes the task, one at a `wait` goes on or steals it -/
theorem queued_enabled {w : Nat} {st : List (Nat × Nat)} (hst : s.stacks[w]? = some st) (hfree : s.holder = none)
    (hq : s.queue ≠ []) : penabled P s w = true := by
  cases st with
  | cons f rest => exact top_enabled hst (fun _ => hfree) (fun _ _ => Or.inr hq)
  | nil =>
    obtain ⟨q0, hm⟩ := List.exists_mem_of_ne_nil _ hq
    exact enabled_queue hm (by simp only [pstep, hst, List.contains_iff_mem.2 hm, if_true]; rfl)

/-- a leaf task on a stack is the top frame: the frames below a top frame are at a `wait` -/
theorem leaf_enabled (inv : PInv P s) {w c pc : Nat} {st : List (Nat × Nat)} (hleaf : isLeaf (prog P c) = true)
    (hst : s.stacks[w]? = some st) (hm : (c, pc) ∈ st) (hfree : s.holder = none) : penabled P s w = true := by
  have hnw := (leaf_no_join hleaf pc).1
  cases st with
  | nil => cases hm
  | cons f rest =>
    rcases List.mem_cons.mp hm with rfl | h
    · exact top_enabled hst (fun _ => hfree) (fun c' hi => absurd hi (hnw c'))
    · obtain ⟨c', hc'⟩ := inv.below_at hst _ h
      exact absurd hc' (hnw c')

theorem awaited_running (wfp : WfParts P) (inv : PInv P s) {w t pc c : Nat} {below : List (Nat × Nat)}
    (hst : s.stacks[w]? = some ((t, pc) :: below)) (hi : instrAt P t pc = some (.wait c)) (hcf : c ∉ s.finished)
    (hq : s.queue = []) : isLeaf (prog P c) = true ∧ onStack s c := by
  -- `wait c` comes after `fork c` in the same program, and the forks a frame has executed are live
  obtain ⟨k, hk, hfk⟩ := (waitsOk_fork (wfp.waits t) hi).resolve_left nofun
  refine ⟨forked_leaf wfp (fork_in_allForks hfk), ?_⟩
  rcases inv.forks_at hst (t, pc) List.mem_cons_self k c hk hfk with hq' | hs | hf
  · rw [hq] at hq'; cases hq'
  · exact hs
  · exact absurd hf hcf

/-- the roots are live, hence finished, and so is every task forked by a finished one -/
theorem quiescent_finished (wfp : WfParts P) (inv : PInv P s) (hq : s.queue = []) (hidle : ∀ x, ¬ onStack s x)
    {u : Nat} (hu : u < P.progs.length) : u ∈ s.finished := by
  have dead : ∀ x, Live s x → x ∈ s.finished := fun x hx =>
    hx.elim (fun h => by rw [hq] at h; cases h) fun hx => hx.elim (fun h => absurd h (hidle x)) id
  rcases wfp.covered u hu with hroot | hforked
  · exact dead u (inv.liveRoot u hroot)
  · obtain ⟨t, k, ht, hfk⟩ := allForks_fork hforked
    -- the forking task is not a leaf, so it is not forked itself: it is a root
    have htfin : t ∈ s.finished := by
      rcases wfp.covered t ht with hr | hf
      · exact dead t (inv.liveRoot t hr)
      · exact absurd hfk ((leaf_no_join (forked_leaf wfp hf) k).2 u)
    exact dead u (inv.liveFin t htfin k u hfk)

/-- a worker is stuck at a `lock` while the mutex is held, at a `wait` for an unfinished child while nothing is queued,
or idle while nothing is queued: each time another worker can step -/
theorem pool_progress (hwf : P.wf = true) (hnj : P.noLockAcrossJoin = true) (hr : PReach P s)
    (hun : allFinished P s = false) : ∃ w, w < P.workers ∧ penabled P s w = true := by
  have wfp := wf_parts hwf
  have nj := noJoin_of hnj
  have inv := pinv_reach wfp nj hr
  have wlt : ∀ {w : Nat} {st : List (Nat × Nat)}, s.stacks[w]? = some st → w < P.workers := fun h =>
    inv.len ▸ lt_of_getElem?_some h
  cases hh : s.holder with
  | some h => exact ⟨h, holder_enabled wfp nj inv hh⟩
  | none =>
    by_cases hq : s.queue = []
    · by_cases hrun : ∃ x, onStack s x
      · obtain ⟨_, w, st, _, hst, hm⟩ := hrun
        obtain ⟨⟨t, pc⟩, below, rfl⟩ := List.exists_cons_of_ne_nil (List.ne_nil_of_mem hm)
        by_cases hblocked : ∃ c, instrAt P t pc = some (.wait c) ∧ c ∉ s.finished
        · obtain ⟨c, hi, hcf⟩ := hblocked
          obtain ⟨hleaf, w2, st2, pc2, hst2, hm2⟩ := awaited_running wfp inv hst hi hcf hq
          exact ⟨w2, wlt hst2, leaf_enabled inv hleaf hst2 hm2 hh⟩
        · exact ⟨w, wlt hst, top_enabled hst (fun _ => hh) fun c hi =>
            .inl (Decidable.not_not.1 fun hf => hblocked ⟨c, hi, hf⟩)⟩
      · obtain ⟨u, hu, hnf⟩ := List.all_eq_false.mp hun
        exact absurd (List.contains_iff_mem.2
          (quiescent_finished wfp inv hq (fun x h => hrun ⟨x, h⟩) (List.mem_range.mp hu))) hnf
    · have h0 : 0 < s.stacks.length := inv.len ▸ wfp.workers
      exact ⟨0, wfp.workers, queued_enabled (List.getElem?_eq_getElem h0) hh hq⟩

end Zarrs.ShardAsm
