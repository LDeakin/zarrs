import ZarrsModel.Lemmas.MemConcWF
import ZarrsModel.Lemmas.MemConcAssemble
import ZarrsModel.Lemmas.Store
/- Generic facts about view-level steps; the logical value of a cell; the readers an erase helps -/
namespace Zarrs.MemConc

section
variable {ps : Progs} {time : Nat} {v v' : VState} {lin lin' : List LinE} {t : Nat} {r : Option Res}

theorem VStep.ts_other (hst : VStep ps time v lin t v' lin' r) {t' : Nat} (h : t' ≠ t) : v'.ts t' = v.ts t' := by
  cases hst <;> (rename_i hv _ _; subst hv; simp [upd_apply, h])

theorem VStep.pc_other (hst : VStep ps time v lin t v' lin' r) {t' : Nat} (h : t' ≠ t) : v'.pc t' = v.pc t' := by
  cases hst <;> (rename_i hv _ _; subst hv; simp [upd_apply, h])

/-- a step without response is the first of two: it finds its thread idle and leaves it inside the operation -/
theorem VStep.pc_silent (hst : VStep ps time v lin t v' lin' r) (hr : r = none) :
    v'.pc t = v.pc t ∧ v.ts t = .idle ∧ v'.ts t ≠ .idle := by
  cases hst <;> (rename_i hv _ hr'; subst hv hr'; simp [upd_apply, *] at hr ⊢)

theorem VStep.pc_resp (hst : VStep ps time v lin t v' lin' r) {res : Res} (hr : r = some res) :
    v'.pc t = v.pc t + 1 ∧ v'.ts t = .idle := by
  cases hst <;> (rename_i hv _ hr'; subst hv hr'; simp [upd_apply] at hr ⊢)

theorem VStep.pc_le (hst : VStep ps time v lin t v' lin' r) (t' : Nat) : v.pc t' ≤ v'.pc t' := by
  by_cases h : t' = t
  · subst h
    cases hr : r with
    | none => rw [(hst.pc_silent hr).1]; exact Nat.le_refl _
    | some x => rw [(hst.pc_resp hr).1]; exact Nat.le_succ _
  · rw [hst.pc_other h]; exact Nat.le_refl _

theorem VStep.ncells_le (hst : VStep ps time v lin t v' lin' r) : v.ncells ≤ v'.ncells := by
  cases hst <;> (rename_i hv _ _; subst hv; simp)

theorem VStep.cur_orphan (hst : VStep ps time v lin t v' lin' r) {c : Nat} (h1 : v.cur ≠ some c)
    (h2 : c < v.ncells) : v'.cur ≠ some c := by
  cases hst <;> (rename_i hv _ _; subst hv; simp) <;> first | exact h1 | omega

theorem VStep.get_self (hst : VStep ps time v lin t v' lin' r) {c : Nat} (h : v'.ts t = .getHold c) :
    v'.cur = some c := by
  cases hst <;> (rename_i hv _ _; subst hv; simp [upd_apply] at h)
  subst h
  assumption

theorem VStep.op_self (hst : VStep ps time v lin t v' lin' r) : ∃ op, opAt ps t (v.pc t) = some op := by
  cases hst <;> exact ⟨_, by assumption⟩

end

theorem logical_free {ps v c} (h : v.wl c = none) : logical ps v c = v.cell c := by
  simp [logical, h]

theorem logical_locked {ps v c t op} (h : v.wl c = some t) (hop : opAt ps t (v.pc t) = some op) :
    logical ps v c = applyWrite (v.cell c) op := by
  simp [logical, h, hop]

theorem logical_congr {ps v v' c} (h1 : v'.wl c = v.wl c) (h2 : v'.cell c = v.cell c)
    (h3 : ∀ t, v.wl c = some t → v'.pc t = v.pc t) : logical ps v' c = logical ps v c := by
  unfold logical
  rw [h1, h2]
  cases h : v.wl c with
  | none => rfl
  | some t => simp only [h3 t h]

/-- the logical value of a cell only changes when a writer takes its lock (S1), and S1 only locks the current
cell of the key -/
theorem logical_frame {ps time v lin t v' lin' r} (hwf : VWF ps v) (hst : VStep ps time v lin t v' lin' r)
    (c' : Nat) (h : (∀ c0, v'.ts t ≠ .setHold c0) ∨ (v.cur ≠ some c' ∧ c' < v.ncells)) :
    logical ps v' c' = logical ps v c' := by
  -- a responding step of a thread that holds no lock: the holder of `c'`, if any, is another thread
  have hresp : ∀ (K : Option Nat), (∀ c, v.ts t ≠ .setHold c) →
      logical ps { v with cur := K, pc := upd v.pc t (v.pc t + 1), ts := upd v.ts t .idle } c' = logical ps v c' :=
    fun K hnl => logical_congr rfl rfl
      (fun u hu => if_neg (fun e : u = t => hnl c' (e ▸ (hwf.lock_iff u c').mp hu)))
  have hlock : ∀ (n : Nat) (K : Option Nat) (c : Nat), c' ≠ c →
      logical ps { v with ncells := n, wl := upd v.wl c (some t), cur := K, ts := upd v.ts t (.setHold c) } c' =
        logical ps v c' :=
    fun _ _ c hne => logical_congr (if_neg hne) rfl (fun _ _ => rfl)
  have idle : v.ts t = .idle → ∀ c, v.ts t ≠ .setHold c := fun e c e' => nomatch e.symm.trans e'
  cases hst with
  | s1e op c hop hw hts hcur hfree hv hl hr =>
    subst hv
    refine hlock _ _ c ?_
    rcases h with h | h
    · exact absurd (if_pos rfl) (h c)
    · exact fun e => h.1 (e ▸ hcur)
  | s1n op hop hw hts hcur hv hl hr =>
    subst hv
    refine hlock _ _ v.ncells ?_
    rcases h with h | h
    · exact absurd (if_pos rfl) (h v.ncells)
    · exact Nat.ne_of_lt h.2
  | s2 op c hop hts hv hl hr =>
    subst hv
    have hlk : v.wl c = some t := (hwf.lock_iff t c).mpr hts
    by_cases hc : c' = c
    · subst hc
      rw [logical_locked hlk hop, logical_free (if_pos rfl)]
      exact if_pos rfl
    · refine logical_congr (if_neg hc) (if_neg hc) (fun u hu => if_neg ?_)
      intro e; subst e
      have := (hwf.lock_iff _ _).mp hu
      rw [hts] at this; cases this; exact hc rfl
  | g1m op hop hrd hts hcur hv hl hr => subst hv; exact hresp v.cur (idle hts)
  | g1h op c hop hrd hts hcur hv hl hr => subst hv; exact logical_congr rfl rfl (fun _ _ => rfl)
  | g2 op c hop hts hfree hv hl hr => subst hv; exact hresp v.cur (fun c e => nomatch hts.symm.trans e)
  | sz hop hts hfree hv hl hr => subst hv; exact hresp v.cur (idle hts)
  | e1 hop hts hv hl hr => subst hv; exact hresp none (idle hts)

theorem mem_helpers {ps v c time e} : e ∈ helpers ps v c time ↔
    ∃ t' op, t' < ps.length ∧ v.ts t' = .getHold c ∧ opAt ps t' (v.pc t') = some op ∧
      e = ⟨t', v.pc t', op, readRes op (logical ps v c), time⟩ := by
  simp only [helpers, List.mem_filterMap, List.mem_range, Option.ite_none_right_eq_some, Option.map_eq_some_iff]
  constructor
  · rintro ⟨t', ht', hts, op, hop, rfl⟩
    exact ⟨t', op, ht', hts, hop, rfl⟩
  · rintro ⟨t', op, ht', hts, hop, rfl⟩
    exact ⟨t', ht', hts, op, hop, rfl⟩

/-- a helped record: of a thread that holds the Arc of `c` with a read as current operation, answered with the logical
value of `c` -/
structure Helped (ps : Progs) (v : VState) (c time : Nat) (e : LinE) : Prop where
  ts : v.ts e.t = .getHold c
  k : e.k = v.pc e.t
  op : opAt ps e.t e.k = some e.op
  read : isRead e.op = true
  res : e.res = readRes e.op (logical ps v c)
  lt : e.lt = time

theorem helpers_spec {ps v c time e} (hwf : VWF ps v) (he : e ∈ helpers ps v c time) : Helped ps v c time e := by
  obtain ⟨t', op, _, hts, hop, rfl⟩ := mem_helpers.mp he
  obtain ⟨_, op', hop', hrd⟩ := hwf.get_op t' c hts
  rw [hop] at hop'; cases hop'
  exact ⟨hts, rfl, hop, hrd, rfl, rfl⟩

theorem helpers_pairwise (ps : Progs) (v : VState) (c time : Nat) :
    (helpers ps v c time).Pairwise (fun a b => a.t ≠ b.t) := by
  refine List.Pairwise.filterMap _ (fun a a' hne b hb b' hb' => ?_) (List.nodup_range (n := ps.length))
  simp only [Option.ite_none_right_eq_some, Option.map_eq_some_iff] at hb hb'
  obtain ⟨_, _, _, rfl⟩ := hb
  obtain ⟨_, _, _, rfl⟩ := hb'
  exact hne

theorem specStep_read (b : Bytes) (op : Op) (h : isRead op = true) :
    specStep (some b) op = (some b, readRes op b) := by
  cases op <;> simp [isRead] at h <;> simp [specStep, readRes]

theorem specStep_read_none (op : Op) (h : isRead op = true) :
    specStep none op = (none, .bytes none) := by
  cases op <;> simp [isRead] at h <;> simp [specStep]

theorem specStep_write (a : Option Bytes) (op : Op) (h : isWrite op = true) :
    specStep a op = (some (applyWrite (a.getD []) op), .unit) := by
  cases op <;> simp [isWrite] at h <;> simp [specStep, applyWrite, setImpl_full, setImpl_noTrunc]

theorem legalG_reads (b : Bytes) (l : List LinE)
    (h : ∀ e ∈ l, isRead e.op = true ∧ e.res = readRes e.op b) : legalG (some b) l = some (some b) := by
  induction l with
  | nil => rfl
  | cons e es ih =>
    have he := h e List.mem_cons_self
    rw [legalG_cons, specStep_read b e.op he.1, if_pos he.2.symm]
    exact ih (fun e' he' => h e' (List.mem_cons_of_mem _ he'))

end Zarrs.MemConc
