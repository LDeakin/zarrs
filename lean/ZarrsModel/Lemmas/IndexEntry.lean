import ZarrsModel.Model.IndexEntry
/- 64-bit addition with and without wrap-around, as natural numbers (for C15, `Props/C15Entry.lean`) -/
namespace Zarrs.IndexEntry

theorem toNat_add_of_lt (a b : UInt64) (h : a.toNat + b.toNat < 2 ^ 64) : (a + b).toNat = a.toNat + b.toNat := by
  rw [UInt64.toNat_add, Nat.mod_eq_of_lt h]

theorem toNat_add_of_ge (a b : UInt64) (h : 2 ^ 64 ≤ a.toNat + b.toNat) :
    (a + b).toNat = a.toNat + b.toNat - 2 ^ 64 := by
  have ha := a.toNat_lt
  have hb := b.toNat_lt
  rw [UInt64.toNat_add, Nat.mod_eq_sub_mod h, Nat.mod_eq_of_lt (by omega)]

theorem checkedAdd_of_lt (a b : UInt64) (h : a.toNat + b.toNat < 2 ^ 64) : checkedAdd a b = some (a + b) := by
  unfold checkedAdd
  rw [if_neg]
  rw [UInt64.lt_iff_toNat_lt, toNat_add_of_lt a b h]
  exact Nat.not_lt.mpr (Nat.le_add_right _ _)

theorem checkedAdd_of_ge (a b : UInt64) (h : 2 ^ 64 ≤ a.toNat + b.toNat) : checkedAdd a b = none := by
  have hb := b.toNat_lt
  unfold checkedAdd
  rw [if_pos]
  rw [UInt64.lt_iff_toNat_lt, toNat_add_of_ge a b h]
  omega

end Zarrs.IndexEntry
