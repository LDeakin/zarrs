import ZarrsModel.Model.ShardAsm
import ZarrsModel.Lemmas.ListBasic
/- the assembly machine's data: the ranges the tasks own (`Tiles`, `rangeOf` by program counter), writes into the buffer,
`step` by program counter, the bytes still to be reserved -/
namespace Zarrs.ShardAsm
open Zarrs Zarrs.Codec

structure Tiles (r : Nat → Option (Nat × Nat)) (a e : Nat) : Prop where
  le : a ≤ e
  within : ∀ i x y, r i = some (x, y) → a ≤ x ∧ y ≤ e
  disj : ∀ i j x y x' y', i ≠ j → r i = some (x, y) → r j = some (x', y') → y ≤ x' ∨ y' ≤ x
  cover : ∀ k, a ≤ k → k < e → ∃ i x y, r i = some (x, y) ∧ x ≤ k ∧ k < y

theorem tiles_push {r r' : Nat → Option (Nat × Nat)} {a e i n : Nat} (h : Tiles r a e) (hn : r i = none)
    (hi : r' i = some (e, e + n)) (ho : ∀ j, j ≠ i → r' j = r j) : Tiles r' a (e + n) := by
  have old : ∀ j x y, j ≠ i → r' j = some (x, y) → a ≤ x ∧ y ≤ e := fun j x y hj hr => h.within j x y (ho j hj ▸ hr)
  have new : ∀ x y, r' i = some (x, y) → x = e ∧ y = e + n := fun x y hr => by
    rw [hi] at hr; cases hr; exact ⟨rfl, rfl⟩
  refine ⟨Nat.le_trans h.le (Nat.le_add_right _ _), ?_, ?_, ?_⟩
  · intro j x y hr
    by_cases hj : j = i
    · subst hj; obtain ⟨rfl, rfl⟩ := new x y hr; exact ⟨h.le, Nat.le_refl _⟩
    · exact ⟨(old j x y hj hr).1, Nat.le_trans (old j x y hj hr).2 (Nat.le_add_right _ _)⟩
  · intro j j' x y x' y' hne hr hr'
    by_cases hj : j = i <;> by_cases hj' : j' = i
    · exact absurd (hj.trans hj'.symm) hne
    · subst hj; obtain ⟨rfl, rfl⟩ := new x y hr; exact Or.inr (old j' x' y' hj' hr').2
    · subst hj'; obtain ⟨rfl, rfl⟩ := new x' y' hr'; exact Or.inl (old j x y hj hr).2
    · exact h.disj j j' x y x' y' hne (ho j hj ▸ hr) (ho j' hj' ▸ hr')
  · intro k h1 h2
    by_cases hk : k < e
    · obtain ⟨j, x, y, hr, hx, hy⟩ := h.cover k h1 hk
      have hj : j ≠ i := fun hj => by rw [hj, hn] at hr; cases hr
      exact ⟨j, x, y, (ho j hj).trans hr, hx, hy⟩
    · exact ⟨i, e, e + n, hi, Nat.le_of_not_lt hk, h2⟩

def owned (b : Bytes) : Pc → Option (Nat × Nat)
  | .reserved off | .indexed off | .done off => some (off, off + b.length)
  | _ => none

section
variable {p : Params} {s s' : State} {i : Nat}

theorem rangeOf_eq {b : Bytes} {x : Pc} (hc : p.chunks[i]? = some (some b)) (hp : s.pc[i]? = some x) :
    rangeOf p s i = owned b x := by
  unfold rangeOf; rw [hc, hp]; cases x <;> rfl

theorem rangeOf_some {a e : Nat} (h : rangeOf p s i = some (a, e)) :
    ∃ b, p.chunks[i]? = some (some b) ∧ e = a + b.length ∧
      (s.pc[i]? = some (.reserved a) ∨ s.pc[i]? = some (.indexed a) ∨ s.pc[i]? = some (.done a)) := by
  unfold rangeOf at h
  split at h <;> cases h
  · exact ⟨_, ‹_›, rfl, Or.inl ‹_›⟩
  · exact ⟨_, ‹_›, rfl, Or.inr (Or.inl ‹_›)⟩
  · exact ⟨_, ‹_›, rfl, Or.inr (Or.inr ‹_›)⟩

theorem rangeOf_set_ne {x : Pc} {j : Nat} (hpc : s'.pc = s.pc.set i x) (hj : j ≠ i) : rangeOf p s' j = rangeOf p s j := by
  unfold rangeOf; rw [hpc, List.getElem?_set_ne (Ne.symm hj)]

theorem rangeOf_set_self {b : Bytes} {x y : Pc} (hc : p.chunks[i]? = some (some b)) (hp : s.pc[i]? = some y)
    (hpc : s'.pc = s.pc.set i x) : rangeOf p s' i = owned b x :=
  rangeOf_eq hc (by rw [hpc]; exact List.getElem?_set_self (lt_of_getElem?_some hp))

theorem rangeOf_move {b : Bytes} {x y : Pc} (hc : p.chunks[i]? = some (some b)) (hp : s.pc[i]? = some y)
    (hpc : s'.pc = s.pc.set i x) (hxy : owned b x = owned b y) : rangeOf p s' = rangeOf p s := by
  funext j
  by_cases hj : j = i
  · subst hj; rw [rangeOf_set_self hc hp hpc, rangeOf_eq hc hp, hxy]
  · exact rangeOf_set_ne hpc hj

end

@[simp] theorem writeAt_length (buf : List (Option Nat)) (off : Nat) (b : Bytes) : (writeAt buf off b).length = buf.length := by
  simp [writeAt]

theorem writeAt_getElem? {buf : List (Option Nat)} (off : Nat) (b : Bytes) {k : Nat} (hk : k < buf.length) :
    (writeAt buf off b)[k]? = some (if off ≤ k ∧ k < off + b.length then some (b.getD (k - off) 0) else buf.getD k none) := by
  simp [writeAt, hk]

theorem writeAt_in {buf : List (Option Nat)} {off : Nat} {b : Bytes} {k : Nat} (hk : k < b.length) (h : off + b.length ≤ buf.length) :
    (writeAt buf off b)[off + k]? = some (some (b.getD k 0)) := by
  rw [writeAt_getElem? _ _ (Nat.lt_of_lt_of_le (Nat.add_lt_add_left hk off) h),
    if_pos ⟨Nat.le_add_right _ _, Nat.add_lt_add_left hk off⟩, Nat.add_sub_cancel_left]

theorem writeAt_out (buf : List (Option Nat)) {off : Nat} {b : Bytes} {k : Nat} (h : k < off ∨ off + b.length ≤ k) :
    (writeAt buf off b)[k]? = buf[k]? := by
  by_cases hk : k < buf.length
  · rw [writeAt_getElem? _ _ hk]
    have : ¬ (off ≤ k ∧ k < off + b.length) := fun hh => h.elim (Nat.not_lt.mpr hh.1) (fun h2 => Nat.not_lt.mpr h2 hh.2)
    simp only [this, if_false, List.getD_eq_getElem?_getD, List.getElem?_eq_getElem hk, Option.getD_some]
  · rw [List.getElem?_eq_none (by rw [writeAt_length]; exact Nat.le_of_not_lt hk), List.getElem?_eq_none (Nat.le_of_not_lt hk)]

theorem writeAt_eq {buf : List (Option Nat)} {off : Nat} {b : Bytes} (h : off + b.length ≤ buf.length) :
    writeAt buf off b = buf.take off ++ (b.map some ++ buf.drop (off + b.length)) := by
  apply List.ext_getElem?
  intro k
  rw [List.getElem?_append, List.getElem?_append, List.length_take, List.length_map, List.getElem?_drop,
    Nat.min_eq_left (Nat.le_trans (Nat.le_add_right _ _) h)]
  by_cases h1 : k < off
  · rw [if_pos h1, writeAt_out _ (Or.inl h1), List.getElem?_take_of_lt h1]
  · rw [if_neg h1]
    by_cases h2 : k - off < b.length
    · have := writeAt_in h2 h
      rw [Nat.add_sub_cancel' (Nat.le_of_not_lt h1)] at this
      rw [if_pos h2, this, List.getElem?_map, List.getElem?_eq_getElem h2, List.getD_eq_getElem?_getD,
        List.getElem?_eq_getElem h2]; rfl
    · rw [if_neg h2, writeAt_out _ (Or.inr (by omega))]
      congr 1; omega

section
variable {racy : Bool} {p : Params} {s : State} {i : Nat} {b : Bytes} {off : Nat} (hc : p.chunks[i]? = some (some b))
include hc

theorem step_start_atomic (hp : s.pc[i]? = some .start) : step false p s i =
    if p.checks && decide (s.offset + b.length > p.cap) then
      { s with offset := s.offset + b.length, log := s.log ++ [(i, s.offset, b.length)], pc := s.pc.set i .failed }
    else
      { s with offset := s.offset + b.length, log := s.log ++ [(i, s.offset, b.length)], pc := s.pc.set i (.reserved s.offset) } := by
  simp only [step, hc, hp, Bool.false_eq_true, if_false]

theorem step_start_racy (hp : s.pc[i]? = some .start) : step true p s i = { s with pc := s.pc.set i (.loaded s.offset) } := by
  simp only [step, hc, hp, if_true]

theorem step_loaded (hp : s.pc[i]? = some (.loaded off)) : step racy p s i =
    if p.checks && decide (off + b.length > p.cap) then { s with pc := s.pc.set i .failed }
    else { s with offset := off + b.length, log := s.log ++ [(i, off, b.length)], pc := s.pc.set i (.reserved off) } := by
  simp only [step, hc, hp]

theorem step_reserved (hp : s.pc[i]? = some (.reserved off)) : step racy p s i =
    { s with index := s.index.set i (off, b.length), pc := s.pc.set i (.indexed off) } := by
  simp only [step, hc, hp]

theorem step_indexed (hp : s.pc[i]? = some (.indexed off)) : step racy p s i =
    if off + b.length > s.buf.length then { s with pc := s.pc.set i .panicked }
    else { s with buf := writeAt s.buf off b, pc := s.pc.set i (.done off) } := by
  simp only [step, hc, hp]

theorem step_done (hp : s.pc[i]? = some (.done off)) : step racy p s i = s := by
  simp only [step, hc, hp]

end

theorem step_no_chunk {racy : Bool} {p : Params} {s : State} {i : Nat} (hc : p.chunks[i]? = some none ∨ p.chunks[i]? = none) :
    step racy p s i = s := by
  rcases hc with hc | hc <;> simp only [step, hc]

/-- the bytes a task has still to reserve.  `offset` + the sum of these over all tasks (`pendingOf`) is constant
(`Inv.acct`): that keeps every later reservation inside a buffer that `fits`, whichever tasks have run. -/
def due : Option Bytes → Pc → Nat
  | some b, .start => b.length
  | _, _ => 0

def pendingOf (cs : List (Option Bytes)) (ps : List Pc) : Nat := (List.zipWith due cs ps).sum

theorem pendingOf_init (chunks : List (Option Bytes)) :
    pendingOf chunks (chunks.map initPc) = (lens chunks).sum := by
  induction chunks with
  | nil => rfl
  | cons c cs ih =>
    simp only [pendingOf, lens, List.map_cons, List.zipWith_cons_cons, List.sum_cons] at ih ⊢
    rw [ih]; cases c <;> rfl

theorem pendingOf_set {cs : List (Option Bytes)} {ps : List Pc} {i : Nat} {c : Option Bytes} {y : Pc} (x : Pc)
    (hc : cs[i]? = some c) (hp : ps[i]? = some y) : pendingOf cs (ps.set i x) + due c y = pendingOf cs ps + due c x := by
  induction cs generalizing ps i with
  | nil => cases hc
  | cons c0 cs ih =>
    cases ps with
    | nil => cases hp
    | cons q ps =>
      cases i with
      | zero =>
        cases hc; cases hp
        simp only [pendingOf, List.set_cons_zero, List.zipWith_cons_cons, List.sum_cons]; omega
      | succ i =>
        have := ih hc hp
        simp only [pendingOf, List.set_cons_succ, List.zipWith_cons_cons, List.sum_cons] at this ⊢; omega

theorem due_le_pendingOf {cs : List (Option Bytes)} {ps : List Pc} {i : Nat} {c : Option Bytes} {y : Pc}
    (hc : cs[i]? = some c) (hp : ps[i]? = some y) : due c y ≤ pendingOf cs ps := by
  have := pendingOf_set .elided hc hp
  have h0 : due c .elided = 0 := by cases c <;> rfl
  omega

theorem pendingOf_final {cs : List (Option Bytes)} {ps : List Pc} (h : ps.all Pc.isFinal = true) : pendingOf cs ps = 0 := by
  induction cs generalizing ps with
  | nil => rfl
  | cons c cs ih =>
    cases ps with
    | nil => rfl
    | cons q ps =>
      simp only [List.all_cons, Bool.and_eq_true] at h
      simp only [pendingOf, List.zipWith_cons_cons, List.sum_cons] at ih ⊢
      rw [ih h.2]
      cases c <;> cases q <;> first | rfl | cases h.1

end Zarrs.ShardAsm
