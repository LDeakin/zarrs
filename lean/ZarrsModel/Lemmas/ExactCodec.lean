import ZarrsModel.Model.FillMeta
import ZarrsModel.Lemmas.NumTok
import ZarrsModel.Lemmas.Float
/-
The exact decimal expansion of a finite binary64 pattern (`a / 2^k = a * 5^k / 10^k`) as a number token,
and the proof that the correctly rounded reader `readF64` reads it back.
-/
namespace Zarrs.Float
open Zarrs.NumTok Zarrs.FillMeta

theorem natOfDigits_eq_json : @natOfDigits = @Zarrs.Json.natOfDigits := rfl

theorem f64_value_den (m : Nat) : ∃ a k, f64.value m = (a, 2 ^ k) ∧ k ≤ 1074 := by
  obtain ⟨k, q, rfl, hkq⟩ := f64.exists_mk m
  rw [Fmt.value_eq, f64.sigExp_mk k q hkq]
  split
  · exact ⟨_, 0, rfl, by omega⟩
  · refine ⟨_, _, rfl, ?_⟩
    have h2 : f64.bias + f64.mb = 1075 := by decide
    omega

theorem readDec_exp (sign : Bool) (D K : List Char) (hne : D ≠ []) (hD : ∀ c ∈ D, c.isDigit = true) :
    readDec ((if sign then ['-'] else []) ++ D ++ ['e', '-'] ++ K) =
      { neg := sign, digits := natOfDigits D, exp10 := -(natOfDigits K : Int) } := by
  obtain ⟨d, D', rfl⟩ := List.exists_cons_of_ne_nil hne
  have hdm : d ≠ '-' := by intro h; subst h; exact absurd (hD '-' (by simp)) (by decide)
  have htw : ((d :: D') ++ 'e' :: '-' :: K).takeWhile Char.isDigit = d :: D' := by
    rw [List.takeWhile_append_of_pos hD]; simp
  have hdw : ((d :: D') ++ 'e' :: '-' :: K).dropWhile Char.isDigit = 'e' :: '-' :: K := by
    rw [List.dropWhile_append_of_pos hD]; simp
  cases sign
  · simp only [Bool.false_eq_true, if_false, List.nil_append, List.append_assoc, List.cons_append] at htw hdw ⊢
    unfold readDec
    split
    next neg t heq =>
      -- the sign match on a first character that is not `-`
      split at heq
      · next r h2 => exact absurd (List.cons.inj h2).1 hdm
      · cases heq; simp [htw, hdw]
  · simp only [if_true, List.append_assoc, List.cons_append, List.nil_append] at htw hdw ⊢
    simp [readDec, htw, hdw]

theorem rat_exact (s : Bool) (a k : Nat) :
    0 < (Dec.rat { neg := s, digits := a * 5 ^ k, exp10 := -(k : Int) }).2 ∧
    (Dec.rat { neg := s, digits := a * 5 ^ k, exp10 := -(k : Int) }).1 * 2 ^ k =
      a * (Dec.rat { neg := s, digits := a * 5 ^ k, exp10 := -(k : Int) }).2 := by
  unfold Dec.rat
  rcases Nat.eq_zero_or_pos k with rfl | hk
  · simp
  · have h1 : ¬ (-(k : Int) ≥ 0) := by omega
    simp only [h1, if_false, Int.neg_neg, Int.toNat_natCast]
    refine ⟨Nat.pow_pos (by decide), ?_⟩
    rw [Nat.mul_assoc, ← Nat.mul_pow]

/-- `4^k ≤ 5^k`; with `k ≤ 1074` this keeps the token clear of the underflow shortcut of `readF64` (`g2` below) -/
theorem log2_guard (a k : Nat) (ha : 0 < a) : 2 * k ≤ Nat.log2 (a * 5 ^ k) := by
  have h5 : 0 < 5 ^ k := Nat.pow_pos (by decide)
  have hne : a * 5 ^ k ≠ 0 := Nat.ne_of_gt (Nat.mul_pos ha h5)
  rw [Nat.le_log2 hne, Nat.pow_mul]
  calc (2 ^ 2) ^ k ≤ 5 ^ k := Nat.pow_le_pow_left (by decide) k
    _ = 1 * 5 ^ k := (Nat.one_mul _).symm
    _ ≤ a * 5 ^ k := Nat.mul_le_mul_right _ ha

theorem readF64_exact (s : Bool) (m a k : Nat) (hm : m < f64.inf) (hv : f64.value m = (a, 2 ^ k)) (hk : k ≤ 1074) :
    readF64 ((if s then ['-'] else []) ++ natTok (a * 5 ^ k) ++ ['e', '-'] ++ natTok k) =
      some ((if s then f64.signBit else 0) + m) := by
  have hdig : ∀ n, ∀ c ∈ natTok n, c.isDigit = true :=
    fun n c hc => Nat.isDigit_of_mem_toDigits (by decide) (by decide) hc
  rw [readF64, readDec_exp s (natTok _) (natTok k) Nat.toDigits_ne_nil (hdig _), natOfDigits_eq_json,
    natOfDigits_natTok, natOfDigits_natTok]
  rcases Nat.eq_zero_or_pos a with rfl | ha
  · have h0 : f64.round 0 1 = m := f64.round_of_eq (by decide) m 0 1 Nat.one_pos (by rw [hv]; simp)
    rw [Fmt.round_zero] at h0
    subst h0
    simp only [Nat.zero_mul, beq_self_eq_true, if_true, Nat.add_zero]
  · have hrat := rat_exact s a k
    have hround := f64.round_of_eq (by decide) m _ _ hrat.1 (by rw [hv]; exact hrat.2)
    have hne : a * 5 ^ k ≠ 0 := Nat.ne_of_gt (Nat.mul_pos ha (Nat.pow_pos (by decide)))
    have hlog := log2_guard a k ha
    have g0 : (a * 5 ^ k == 0) = false := by simpa using hne
    have g1 : ¬ (-(k : Int) > 400) := by omega
    have g2 : ¬ (-(k : Int) + ((Nat.log2 (a * 5 ^ k) / 3 + 1 : Nat) : Int) < -400) := by omega
    have g3 : ¬ (m ≥ f64.inf) := by omega
    simp only [g0, g1, g2, Bool.false_eq_true, if_false, hround, g3]

end Zarrs.Float
