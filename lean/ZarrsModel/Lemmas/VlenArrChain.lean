import ZarrsModel.Lemmas.VlenArr
import ZarrsModel.Lemmas.Partial
import ZarrsModel.Lemmas.ChainSDec
/-
Chains with a vlen array-to-bytes codec (`ChainV`): every partial decoder of the stack keeps a served handle served
(`VHandleOk`: byte level, canonical answers); what an encoding holds for them (`encode_stored`), and the full decoder
undoes the encoder up to `Sim` (`decode_encode`).
-/
namespace Zarrs.VlenArr
open Zarrs Zarrs.Codec Zarrs.Vlen Zarrs.Partial

def VHandleOk (h : VHandle) (sh : Shape) (xs : List Bytes) : Prop :=
  ∀ rs : List Subset, (∀ r ∈ rs, r.wf = true ∧ r.inboundsShape sh = true) →
    h rs = some (rs.map (fun r => VArr.ofElems (r.extract sh xs)))

theorem transposePDV_ok (order : List Nat) (sh : Shape) (h : VHandle) (xs : List Bytes)
    (ho : validOrder order sh.length = true) (hx : xs.length = prod sh)
    (hh : VHandleOk h (permute sh order) (transposeEnc order sh xs)) :
    VHandleOk (transposePDV order sh.length h) sh xs := by
  intro rs hrs
  unfold transposePDV
  have hany : rs.any (fun r => r.rank != sh.length) = false := by
    rw [List.any_eq_false]
    intro r hr
    simp [Subset.rank, (Subset.inboundsShape_iff_allLe.mp (hrs r hr).2).1]
  simp only [hany, Bool.false_eq_true, if_false]
  have hin := hh (rs.map (permRegion order)) (by
    intro r hr
    obtain ⟨r', hr', rfl⟩ := List.mem_map.mp hr
    exact permRegion_inShape order sh r' (hrs r' hr').1 (hrs r' hr').2)
  show (match h (rs.map (permRegion order)) with
    | none => none
    | some parts => (rs.zip parts).mapM (fun (x : Subset × VArr) =>
        if !x.2.valid x.1.numElements then none
        else transposeVlen x.2 (permute x.1.shape order) (orderDecode order))) = _
  rw [hin, List.map_map]
  apply mapM_zip_map
  intro r hr
  obtain ⟨hrw, hrb⟩ := hrs r hr
  have hrl : r.shape.length = sh.length := by
    have := (Subset.inboundsShape_iff_allLe.mp hrb).1
    simp only [Subset.wf, beq_iff_eq] at hrw
    rw [← hrw]; exact this
  have ho' : validOrder order r.shape.length = true := by rw [hrl]; exact ho
  obtain ⟨hw', hb'⟩ := permRegion_inShape order sh r hrw hrb
  have hlen : ((permRegion order r).extract (permute sh order) (transposeEnc order sh xs)).length = prod r.shape := by
    rw [(extract_spec _ _ _ hw' hb' (transposeEnc_length _ _ _)).1]
    exact prod_permute r.shape order ho'
  have hv := ofElems_valid_of_length _ _ hlen
  simp only [Function.comp]
  rw [show r.numElements = prod r.shape from rfl, hv]
  simp only [Bool.not_true, Bool.false_eq_true, if_false]
  rw [transposeVlen_dec _ r.shape order ho' hv, elems_ofElems,
    transposeDec_extract order sh xs r ho hx hrw hrb]

theorem squeezePDV_ok (sh : Shape) (h : VHandle) (xs : List Bytes) (hpos : ∀ d ∈ sh, 0 < d) (hx : xs.length = prod sh)
    (hh : VHandleOk h (AStage.squeeze.encShape sh) xs) :
    VHandleOk (squeezePDV sh h) sh xs := by
  intro rs hrs
  have hsq := fun r hr => squeezeRegion_ok sh r hpos (hrs r hr).1 (hrs r hr).2
  have hin := hh (rs.map (squeezeRegion sh)) (by
    intro r hr
    obtain ⟨r', hr', rfl⟩ := List.mem_map.mp hr
    exact ⟨(hsq r' hr').1, (hsq r' hr').2.1⟩)
  rw [List.map_map] at hin
  -- `congrArg`, not `congr 1`: that one first tries `rfl`, and the unifier unfolds both extractions
  exact hin.trans (congrArg some (List.map_congr_left fun r hr => congrArg VArr.ofElems ((hsq r hr).2.2 xs hx)))

theorem arrayCachePDV_ok (sh : Shape) (h : VHandle) (xs : List Bytes) (hx : xs.length = prod sh)
    (hh : VHandleOk h sh xs) : VHandleOk (arrayCachePDV sh h) sh xs := by
  intro rs hrs
  unfold arrayCachePDV
  rw [hh [Subset.ofShape sh] (by
    intro r hr
    simp only [List.mem_singleton] at hr
    subst hr
    exact ofShape_inShape sh)]
  simp only [List.map_cons, List.map_nil, extract_full sh xs hx]
  rw [extractRegionsVlen_spec rs sh _ hrs (ofElems_valid_of_length xs _ hx), elems_ofElems]

theorem aChainV_ok (stages : List AStage) : ∀ (sh : Shape) (xs : List Bytes) (inner : VHandle),
    aOk stages sh → xs.length = prod sh → VHandleOk inner (shapesOf stages sh) (aEnc stages sh xs) →
    VHandleOk (aPDV stages sh inner) sh xs := by
  induction stages with
  | nil => intro sh xs inner _ _ hin; exact hin
  | cons st rest ih =>
    intro sh xs inner ha hx hin
    have hh := ih (st.encShape sh) (st.enc sh xs) inner ha.2 (aStage_length st sh xs ha.1 hx) hin
    cases st with
    | transpose order => exact transposePDV_ok order sh _ xs ha.1 hx hh
    | squeeze => exact squeezePDV_ok sh _ xs ha.1 hx hh
    | cache => exact arrayCachePDV_ok sh _ xs hx hh

theorem vlenPD_ok (codec : VCodec) (sh : Shape) (fill : Bytes) (h : BHandle) (b : Bytes) (w : VArr)
    (hd : codec.dec (prod sh) b = some w) (hw : w.valid (prod sh) = true) (hh : BHandleOk h b) :
    VHandleOk (vlenPD codec sh fill h) sh w.elems := by
  intro rs hrs
  unfold vlenPD
  rw [hh.whole]
  simp only [hd, Option.bind_some]
  exact extractRegionsVlen_spec rs sh w hrs hw

theorem vlenPD_absent (codec : VCodec) (sh : Shape) (fill : Bytes) (h : BHandle) (hh : BHandleAbsent h) :
    VHandleOk (vlenPD codec sh fill h) sh (List.replicate (prod sh) fill) := by
  intro rs hrs
  unfold vlenPD
  rw [hh]
  simp only [fillVArr_eq]
  exact congrArg some (List.map_congr_left fun r hr =>
    congrArg VArr.ofElems (extract_replicate r sh fill (hrs r hr).1 (hrs r hr).2).symm)

/-- a valid value with first offset 0 is `VArr.ofElems` of its elements (`ofElems_elems`) -/
def canon (v : VArr) : Prop := v.offsets.head? = some 0

/-- `b` is as good as `a`: valid, the same elements, the same value when `a` is canonical.  This is all decode ∘ encode
can promise: `vlen_v2` does not write leading padding and `transpose_vlen` rebuilds the value from its elements, so a
non-canonical input comes back canonical -/
structure Sim (n : Nat) (a b : VArr) : Prop where
  valid : b.valid n = true
  elems : b.elems = a.elems
  same : canon a → b = a ∧ canon b

theorem canon_ofElems (xs : List Bytes) : canon (VArr.ofElems xs) := offsetsFrom_head 0 xs

theorem sim_ofElems (n : Nat) (a : VArr) (h : a.valid n = true) : Sim n a (VArr.ofElems a.elems) :=
  ⟨ofElems_valid_of_length _ _ (elems_length n a h), elems_ofElems _, fun hc => ⟨ofElems_elems n a h hc, canon_ofElems _⟩⟩

/-- the decoder takes anything as good as (`Sim`) the encoded value back to something as good as the value -/
theorem aStageV_spec (st : AStage) (sh : Shape) (v : VArr) (ho : st.ok sh) (hv : v.valid (prod sh) = true) :
    ∃ w, st.encV sh v = some w ∧ w.valid (prod (st.encShape sh)) = true ∧ w.elems = st.enc sh v.elems ∧
      (canon v → canon w) ∧
      ∀ w', Sim (prod (st.encShape sh)) w w' → ∃ v', st.decV sh w' = some v' ∧ Sim (prod sh) v v' := by
  cases st with
  | transpose order =>
    have ho' : validOrder order sh.length = true := ho
    obtain ⟨hl, _⟩ := (validOrder_iff _ _).1 ho'
    refine ⟨VArr.ofElems (transposeEnc order sh v.elems), ?_, ofElems_valid_of_length _ _ (transposeEnc_length _ _ _),
      elems_ofElems _, fun _ => canon_ofElems _, fun w' hs => ?_⟩
    · simp only [AStage.encV, hv, Bool.not_true, Bool.false_eq_true, if_false, hl, bne_self_eq_false]
      exact transposeVlen_enc v sh order ho' hv
    · have hv' := hs.valid
      rw [show prod (AStage.encShape (.transpose order) sh) = prod sh from prod_permute sh order ho'] at hv'
      refine ⟨VArr.ofElems (transposeDec order sh w'.elems), ?_, ?_⟩
      · simp only [AStage.decV, hv', Bool.not_true, Bool.false_eq_true, if_false, hl, bne_self_eq_false]
        exact transposeVlen_dec w' sh order ho' hv'
      · rw [hs.elems, elems_ofElems, (transpose_dec_enc' order sh v.elems ho' (elems_length _ v hv)).1]
        exact sim_ofElems _ v hv
  | squeeze =>
    rw [show prod (AStage.squeeze.encShape sh) = prod sh from prod_encShape_squeeze sh ho]
    exact ⟨v, rfl, hv, rfl, fun h => h, fun w' hs => ⟨w', rfl, hs⟩⟩
  | cache => exact ⟨v, rfl, hv, rfl, fun h => h, fun w' hs => ⟨w', rfl, hs⟩⟩

theorem encodeA2AV_spec (stages : List AStage) : ∀ (sh : Shape) (v : VArr), aOk stages sh → v.valid (prod sh) = true →
    ∃ w, encodeA2AV stages sh v = some w ∧ w.valid (prod (shapesOf stages sh)) = true ∧
      w.elems = aEnc stages sh v.elems ∧ (canon v → canon w) ∧
      ∀ w', Sim (prod (shapesOf stages sh)) w w' → ∃ v', decodeA2AV stages sh w' = some v' ∧ Sim (prod sh) v v' := by
  induction stages with
  | nil => intro sh v _ hv; exact ⟨v, rfl, hv, rfl, fun h => h, fun w' hs => ⟨w', rfl, hs⟩⟩
  | cons st rest ih =>
    intro sh v ha hv
    obtain ⟨w1, h1, hv1, he1, hc1, hd1⟩ := aStageV_spec st sh v ha.1 hv
    obtain ⟨w, h2, hv2, he2, hc2, hd2⟩ := ih (st.encShape sh) w1 ha.2 hv1
    refine ⟨w, ?_, hv2, ?_, fun h => hc2 (hc1 h), fun w' hs => ?_⟩
    · simp only [encodeA2AV, h1, Option.bind_some]; exact h2
    · rw [he2, he1]; rfl
    · obtain ⟨w1', hdd, hs1⟩ := hd2 w' hs
      obtain ⟨v', hd, hsv⟩ := hd1 w1' hs1
      exact ⟨v', by simp only [decodeA2AV, hdd, Option.bind_some]; exact hd, hsv⟩

theorem ChainV.encode_eq_some {c : ChainV} {sh : Shape} {v : VArr} {e : Bytes} (he : c.encode sh v = some e) :
    v.valid (prod sh) = true ∧ ∃ w e', encodeA2AV c.a2a sh v = some w ∧
      c.codec.enc (prod (shapesOf c.a2a sh)) w = some e' ∧ e = c.b2b.foldl (fun b st => st.enc b) e' := by
  cases hv : v.valid (prod sh) with
  | false => simp [ChainV.encode, hv] at he
  | true =>
    simp only [ChainV.encode, hv, Bool.not_true, Bool.false_eq_true, if_false, Option.map_eq_some_iff,
      Option.bind_eq_some_iff] at he
    obtain ⟨e', ⟨w, h1, he'⟩, rfl⟩ := he
    exact ⟨rfl, w, e', h1, he', rfl⟩

/-- the array-to-bytes codec of `c` undoes its own encoding of what the array-to-array stages make of `v`, up to `Sim`
(Props/C01Vlen.lean gets it from C03 for both vlen codecs: `ChainV.ok.roundTrips`) -/
def ChainV.RoundTrips (c : ChainV) (sh : Shape) (v : VArr) : Prop :=
  ∀ w e', encodeA2AV c.a2a sh v = some w → c.codec.enc (prod (shapesOf c.a2a sh)) w = some e' →
    ∃ w', c.codec.dec (prod (shapesOf c.a2a sh)) e' = some w' ∧ Sim (prod (shapesOf c.a2a sh)) w w'

/-- an encoding is the bytes-to-bytes image of some `e'` that the codec decodes to a `w'` with the array-to-array image
of `v`'s elements (what the partial decoders are served), and the array-to-array decoders take `w'` back to `v` -/
theorem encode_stored (c : ChainV) (sh : Shape) (v : VArr) (e : Bytes) (ha : aOk c.a2a sh) (hc : c.RoundTrips sh v)
    (he : c.encode sh v = some e) :
    ∃ e' w', e = c.b2b.foldl (fun b st => st.enc b) e' ∧ c.codec.dec (prod (shapesOf c.a2a sh)) e' = some w' ∧
      w'.valid (prod (shapesOf c.a2a sh)) = true ∧ w'.elems = aEnc c.a2a sh v.elems ∧
      ∃ v', decodeA2AV c.a2a sh w' = some v' ∧ Sim (prod sh) v v' := by
  obtain ⟨hv, w, e', h1, he', rfl⟩ := c.encode_eq_some he
  obtain ⟨w0, h0, _, he1, _, hdec⟩ := encodeA2AV_spec c.a2a sh v ha hv
  obtain rfl : w = w0 := Option.some.inj (h1.symm.trans h0)
  obtain ⟨w', hd, hs⟩ := hc w e' h1 he'
  exact ⟨e', w', rfl, hd, hs.valid, hs.elems.trans he1, hdec w' hs⟩

theorem decode_encode (c : ChainV) (sh : Shape) (v : VArr) (e : Bytes) (ha : aOk c.a2a sh)
    (hb : ∀ st ∈ c.b2b, BDec st) (hc : c.RoundTrips sh v) (he : c.encode sh v = some e) :
    ∃ v', c.decode sh e = some v' ∧ Sim (prod sh) v v' := by
  obtain ⟨e', w', rfl, hd, -, -, v', hd2, hsv⟩ := encode_stored c sh v e ha hc he
  refine ⟨v', ?_, hsv⟩
  have hB : decodeB2B c.b2b (c.b2b.foldl (fun b st => st.enc b) e') = some e' := decodeB2B_enc c.b2b hb e'
  simp only [ChainV.decode, hB, Option.bind_some, hd, hd2, hsv.valid, if_true]

end Zarrs.VlenArr
