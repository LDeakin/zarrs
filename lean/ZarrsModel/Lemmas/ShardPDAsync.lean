import ZarrsModel.Model.ShardPDAsync
import ZarrsModel.Lemmas.ShardPDExtra
import ZarrsModel.Lemmas.WriteMapShard
import ZarrsModel.Lemmas.ChainSStores
/- C07 / C17 for the async sharding partial decoder.  Its writes for a region are one map over the items of the chunk
iterator, the stored ones first (`asyncWrites_eq`); from that equation: the region function is correct on a served shard,
fails on a corrupted entry, and writes the views of the sync decoder in another order.  The decoder itself and the chain
decoder are `shardFrame` / `ChainS.pdOf` at `asyncShardRegion`. -/
namespace Zarrs.Partial
open Zarrs Zarrs.Codec Zarrs.Subset

variable {fixed : Option Nat} {shard inner : Shape} {es : Nat} {fill : Elem} {innerPD : Shape → Elem → BHandle → AHandle}
  {h : BHandle} {entries : List (Nat × Nat)} {xss : List (List Elem)}

/-- the default `(0, 0)` is a filler: where the index is too short `chunkInfo` fails, as the Rust code panics, and no
entry is read -/
def entryAt (cps : Shape) (entries : List (Nat × Nat)) (p : Idx × Subset) : Nat × Nat :=
  (entries[ravel p.1 cps]?).getD (0, 0)

def liveAt (cps : Shape) (entries : List (Nat × Nat)) (p : Idx × Subset) : Bool :=
  Shard.isLive (entryAt cps entries p)

def infoOf (cps : Shape) (entries : List (Nat × Nat)) (p : Idx × Subset) : ChunkInfo :=
  (p.2, if (entryAt cps entries p).1 == Shard.sentinel && (entryAt cps entries p).2 == Shard.sentinel then none
        else some (entryAt cps entries p))

theorem chunkInfo_eq (cps : Shape) (r : Subset)
    (hall : ∀ p ∈ r.chunks inner, ∃ e, entries[ravel p.1 cps]? = some e) :
    chunkInfo inner cps entries r = some ((r.chunks inner).map (infoOf cps entries)) := by
  unfold chunkInfo
  apply mapM_some_of_forall
  intro p hp
  obtain ⟨e, he⟩ := hall p hp
  simp only [infoOf, entryAt, he, Option.getD_some]

theorem storedOf_map (cps : Shape) (l : List (Idx × Subset)) :
    storedOf (l.map (infoOf cps entries)) =
      (l.filter (liveAt cps entries)).map (fun p => (p.2, entryAt cps entries p)) :=
  filterMap_map_eq _ _ _ _ (fun p => by
    by_cases hs : ((entryAt cps entries p).1 == Shard.sentinel && (entryAt cps entries p).2 == Shard.sentinel) = true <;>
      simp [infoOf, liveAt, Shard.isLive, hs]) l

theorem filledOf_map (cps : Shape) (l : List (Idx × Subset)) :
    filledOf (l.map (infoOf cps entries)) =
      (l.filter (fun p => !liveAt cps entries p)).map (fun p => p.2) :=
  filterMap_map_eq _ _ _ _ (fun p => by
    by_cases hs : ((entryAt cps entries p).1 == Shard.sentinel && (entryAt cps entries p).2 == Shard.sentinel) = true <;>
      simp [infoOf, liveAt, Shard.isLive, hs]) l

theorem mapM_some_of_forall_mem {α β} (g : α → Option β) (k : α → β) (l : List α) (hl : ∀ a ∈ l, g a = some (k a)) :
    l.mapM g = some (l.map k) := mapM_some_of_forall g k l hl

def asyncPart (fixed : Option Nat) (es : Nat) (fill : Elem) (inner cps : Shape) (entries : List (Nat × Nat))
    (innerPD : Shape → Elem → BHandle → AHandle) (h : BHandle) (r : Subset) (p : Idx × Subset) : Option (List Elem) :=
  match entries[ravel p.1 cps]? with
  | none => none
  | some e =>
    if e.1 == Shard.sentinel && e.2 == Shard.sentinel then some (List.replicate (r.overlap p.2).numElements fill)
    else match asyncDecodeStored fixed fill inner innerPD h r (p.2, e) with
      | none => none
      | some res => if res.1.flatten.length != res.2.numElements * es then none else some res.1


def asyncOrder (cps : Shape) (entries : List (Nat × Nat)) (L : List (Idx × Subset)) : List (Idx × Subset) :=
  L.filter (liveAt cps entries) ++ L.filter (fun p => !liveAt cps entries p)

theorem asyncOrder_perm (cps : Shape) (entries : List (Nat × Nat)) (L : List (Idx × Subset)) :
    (asyncOrder cps entries L).Perm L := List.filter_append_perm _ _

theorem asyncDecodeStored_overlap (fixed : Option Nat) (fill : Elem) (inner : Shape)
    (innerPD : Shape → Elem → BHandle → AHandle) (h : BHandle) (r : Subset) (q : Subset × (Nat × Nat))
    (res : List Elem × Subset) (hres : asyncDecodeStored fixed fill inner innerPD h r q = some res) :
    res.2 = r.overlap q.1 := by
  unfold asyncDecodeStored at hres
  split at hres
  · cases hres
  · split at hres
    · simp only at hres
      cases hx : extractSubset ((r.overlap q.1).relativeTo q.1.start) q.1.shape ‹_› with
      | none => rw [hx] at hres; cases hres
      | some part => rw [hx] at hres; cases hres; rfl
    · cases hres

theorem asyncWrites_eq {cps : Shape} (r : Subset) :
    asyncWrites fixed es fill inner cps entries innerPD h r =
      (asyncOrder cps entries (r.chunks inner)).mapM (fun p =>
        (asyncPart fixed es fill inner cps entries innerPD h r p).map (fun part => (pdView r p, part))) := by
  cases hall' : (r.chunks inner).all (fun p => (entries[ravel p.1 cps]?).isSome) with
  | true =>
    have hall : ∀ p ∈ r.chunks inner, ∃ e, entries[ravel p.1 cps]? = some e :=
      fun p hp => Option.isSome_iff_exists.mp (List.all_eq_true.mp hall' p hp)
    have hE : ∀ p ∈ r.chunks inner, entries[ravel p.1 cps]? = some (entryAt cps entries p) := by
      intro p hp
      obtain ⟨e, he⟩ := hall p hp
      simp only [entryAt, he, Option.getD_some]
    unfold asyncWrites asyncOrder
    rw [chunkInfo_eq cps r hall, List.mapM_append]
    simp only [storedOf_map, filledOf_map]
    rw [mapM_some_of_forall _ (fun p => (pdView r p, List.replicate (r.overlap p.2).numElements fill))
      ((r.chunks inner).filter (fun p => !liveAt cps entries p)) (fun p hp => by
        obtain ⟨hp1, hp2⟩ := List.mem_filter.mp hp
        simp only [liveAt, Bool.not_eq_true', Shard.isLive_eq_false] at hp2
        simp only [asyncPart, hE p hp1, hp2, if_true, Option.map_some])]
    -- per stored item: decode, then the length test; `mapM_guard` moves the tests behind the `mapM`, as in the model
    rw [mapM_congr_mem _ (fun p => (asyncDecodeStored fixed fill inner innerPD h r (p.2, entryAt cps entries p)).bind
        (fun res => if (res.1.flatten.length != res.2.numElements * es) = true then none
          else some (res.2.relativeTo r.start, res.1)))
      ((r.chunks inner).filter (liveAt cps entries)) (fun p hp => by
        obtain ⟨hp1, hp2⟩ := List.mem_filter.mp hp
        simp only [liveAt, Shard.isLive_eq_true] at hp2
        simp only [asyncPart, hE p hp1, hp2, Bool.false_eq_true, if_false]
        cases hd : asyncDecodeStored fixed fill inner innerPD h r (p.2, entryAt cps entries p) with
        | none => rfl
        | some res =>
          simp only [Option.bind_some, pdView, asyncDecodeStored_overlap _ _ _ _ _ _ _ _ hd]
          split <;> rfl),
      mapM_guard (fun p => asyncDecodeStored fixed fill inner innerPD h r (p.2, entryAt cps entries p))
        (fun res => res.1.flatten.length != res.2.numElements * es) (fun res => (res.2.relativeTo r.start, res.1)),
      List.mapM_map]
    simp only [Function.comp_def]
    cases ((r.chunks inner).filter (liveAt cps entries)).mapM
        (fun p => asyncDecodeStored fixed fill inner innerPD h r (p.2, entryAt cps entries p)) with
    | none => rfl
    | some results =>
      simp only [Option.bind_eq_bind, Option.bind_some, storedWrites, filledWrites, List.map_map, pdView,
        Function.comp_def]
      split <;> rfl
  | false =>
    -- a failing lookup: the Rust code panics in `chunk_info`; the item has no piece
    obtain ⟨p, hp, hnone⟩ := List.all_eq_false.mp hall'
    have hn : entries[ravel p.1 cps]? = none := by simpa using hnone
    have h1 : chunkInfo inner cps entries r = none := mapM_none_of_mem _ _ p hp (by simp only [hn])
    rw [asyncWrites, h1]
    exact (mapM_none_of_mem _ _ p ((asyncOrder_perm cps entries _).mem_iff.mpr hp)
      (by simp only [asyncPart, hn, Option.map_none])).symm

theorem asyncPart_served (S : Served fixed shard inner es fill innerPD h entries xss) (r : Subset) (hr : r.wf = true)
    (hb : r.inboundsShape shard = true) (p : Idx × Subset) (hp : p ∈ r.chunks inner) :
    asyncPart fixed es fill inner (zipDiv shard inner) entries innerPD h r p =
      some (AArr.read (shardElem inner (zipDiv shard inner) xss) (r.overlap p.2)) := by
  obtain ⟨e, hent, hflat, hcase⟩ := item_served S r hr hb p hp
  cases hcase with
  | dead hdead hrep =>
    rw [Shard.isLive_eq_false] at hdead
    simp only [asyncPart, hent, hdead, if_true, hrep]
  | live hlive hsz xs hxl hA hread =>
    rw [Shard.isLive_eq_true] at hlive
    have V := item_overlap S.tiles r hr hb p hp
    -- the async decoder asks for the whole inner chunk and extracts the overlap itself
    have hwhole := hA.whole hxl
    simp only [asyncPart, hent, hlive, Bool.false_eq_true, if_false, asyncDecodeStored, hsz, Bool.not_true, V.shape,
      hwhole, extractSubset, V.relWf, V.relIn, Bool.and_self, hxl, bne_self_eq_false, Option.map_some, ← hread, hflat]

theorem asyncShardRegionFrom_ok (S : Served fixed shard inner es fill innerPD h entries xss) (r : Subset)
    (hr : r.wf = true) (hb : r.inboundsShape shard = true) (junk : List Elem) (hj : junk.length = r.numElements) :
    asyncShardRegionFrom junk fixed es fill inner (zipDiv shard inner) entries innerPD h r =
      some (r.extract shard (assemble shard inner xss)) := by
  rw [asyncShardRegionFrom, asyncWrites_eq, assemble, extract_tabulate _ r shard hr hb,
    mapM_some_of_forall _ (fun p => (pdView r p, AArr.read (shardElem inner (zipDiv shard inner) xss) (r.overlap p.2)))
      _ (fun p hp => by rw [asyncPart_served S r hr hb p ((asyncOrder_perm _ _ _).mem_iff.mp hp)]; rfl)]
  simp only [Option.map_some, applyViewWrites, List.foldl_map]
  exact (ArrCfg.foldOpt_some_foldl _ _ _).symm.trans
    (((chunksTiling inner (tiles_pos S.tiles) r hr (tiles_rank S.tiles hb)).perm (asyncOrder_perm _ _ _)).read hr _ _
      (fun _ _ _ => rfl) junk hj)

theorem asyncShardPD_eq_frame : @asyncShardPD = shardFrame @asyncShardRegion := rfl

theorem asyncShardRegion_regionOk : RegionOk @asyncShardRegion :=
  fun S r hr hb => asyncShardRegionFrom_ok S r hr hb _ (by simp)

theorem asyncShardRegion_none_of_entry {cps : Shape} (hpos : ∀ k ∈ inner, 0 < k) (r : Subset) (hwf : r.wf = true)
    (hcl : inner.length = r.rank) (i : Idx) (hi : r.contains i = true) (e : Nat × Nat)
    (hent : entries[ravel (zipDiv i inner) cps]? = some e) (hlive : Shard.isLive e = true)
    (hfut : ∀ cs, asyncDecodeStored fixed fill inner innerPD h r (cs, e) = none) :
    asyncShardRegion fixed es fill inner cps entries innerPD h r = none := by
  rw [Shard.isLive_eq_true] at hlive
  rw [asyncShardRegion, asyncShardRegionFrom, asyncWrites_eq, mapM_none_of_mem _ _ _
    ((asyncOrder_perm _ _ _).mem_iff.mpr (own_item_mem inner hpos r hwf hcl i hi))
    (by simp only [asyncPart, hent, hlive, Bool.false_eq_true, if_false, hfut, Option.map_none])]
  rfl

theorem asyncDecodeStored_wrong_size (n : Nat) (fill : Elem) (inner : Shape)
    (innerPD : Shape → Elem → BHandle → AHandle) (h : BHandle) (e : Nat × Nat) (hsize : e.2 ≠ n) (r cs : Subset) :
    asyncDecodeStored (some n) fill inner innerPD h r (cs, e) = none := by
  have hso : sizeOk (some n) e.2 = false := by simp [sizeOk, hsize]
  simp only [asyncDecodeStored, hso, Bool.not_false, if_true]

theorem asyncDecodeStored_outside (fixed : Option Nat) (fill : Elem) (inner : Shape)
    (innerPD : Shape → Elem → BHandle → AHandle) (h : BHandle) (v : Bytes) (hstrict : BHandleStrict h v)
    (hwhole : ReadsWhole (innerPD inner fill)) (e : Nat × Nat) (hbad : e.1 + e.2 > v.length) (r cs : Subset) :
    asyncDecodeStored fixed fill inner innerPD h r (cs, e) = none := by
  simp only [asyncDecodeStored, hwhole _ _ (byteIntervalPD_whole_none h v hstrict e.1 e.2 hbad)]
  split <;> rfl

def asyncViews (ws : List ViewWrite) : List Subset := ws.map (·.1)

theorem asyncViews_perm (fixed : Option Nat) (es : Nat) (fill : Elem) (inner cps : Shape) (entries : List (Nat × Nat))
    (innerPD : Shape → Elem → BHandle → AHandle) (h : BHandle) (r : Subset) (ws : List ViewWrite)
    (hws : asyncWrites fixed es fill inner cps entries innerPD h r = some ws) :
    (asyncViews ws).Perm (shardPDViews inner r) := by
  rw [asyncWrites_eq] at hws
  rw [asyncViews, mapM_some_map_rel _ (·.1) (pdView r) _ ws hws (fun p _ b hb => by
    cases hpc : asyncPart fixed es fill inner cps entries innerPD h r p with
    | none => rw [hpc] at hb; cases hb
    | some part => rw [hpc] at hb; cases hb; rfl)]
  exact (asyncOrder_perm cps entries _).map _

theorem asyncPartialDecoder_eq_pdOf : ∀ c : ChainS, c.asyncPartialDecoder = c.pdOf @asyncShardRegion
  | .leaf _ _ => rfl
  | .shard a2a cfg ish es inner b2b => by
    funext sh fill input
    simp only [ChainS.asyncPartialDecoder, ChainS.pdOf, asyncPartialDecoder_eq_pdOf inner]
    rfl

theorem stores_async_pd (c : ChainS) (sh : Shape) (fill : Elem) (v : Bytes) (xs : List Elem)
    (hok : c.okWith aOk BLawful sh fill) (hxl : xs.length = prod sh) (hxe : ∀ x ∈ xs, x.length = c.es)
    (hst : c.Stores sh fill v xs) (g : BHandle) (hg : BHandleOk g v) :
    AHandleOk (c.asyncPartialDecoder sh fill g) sh xs :=
  asyncPartialDecoder_eq_pdOf c ▸ stores_pdOf asyncShardRegion_regionOk c sh fill v xs hok hxl hxe hst g hg

theorem chainS_async_absent {B : BStage → Prop} (c : ChainS) (sh : Shape) (fill : Elem) (hok : c.okWith aOk B sh fill)
    (g : BHandle) (hg : BHandleAbsent g) :
    AHandleOk (c.asyncPartialDecoder sh fill g) sh (List.replicate (prod sh) fill) :=
  asyncPartialDecoder_eq_pdOf c ▸ chainS_pdOf_absent c sh fill hok g hg

end Zarrs.Partial
