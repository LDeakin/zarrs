import ZarrsModel.Model.Codec
import ZarrsModel.Lemmas.Index
import ZarrsModel.Lemmas.ArrayList
/- C03 for `transpose`: both directions are maps over `boxIndices`, so round trip and fill value are read off pointwise at
`ravel` (`list_ext_box`); on a valid order, permuting by `inverseOrder` undoes permuting by the order
(`permute_permute_inv`) -/
namespace Zarrs.Codec
open Zarrs

theorem validOrder_iff (order : List Nat) (n : Nat) :
    validOrder order n = true ↔ order.length = n ∧ ∀ a, a < n → a ∈ order := by
  simp [validOrder, List.all_eq_true]

theorem validOrder_cover {order : List Nat} {n : Nat} (h : validOrder order n = true) :
    order.length = n ∧ ∀ a, a < order.length → a ∈ order := by
  obtain ⟨hl, hc⟩ := (validOrder_iff order n).1 h
  exact ⟨hl, hl ▸ hc⟩

theorem validOrder_perm {order : List Nat} {n : Nat} (h : validOrder order n = true) :
    order.Perm (List.range n) := by
  obtain ⟨h1, h2⟩ := (validOrder_iff order n).1 h
  exact perm_range_of_cover n order h1 h2

theorem validOrder_lt {order : List Nat} {n : Nat} (h : validOrder order n = true) :
    ∀ a ∈ order, a < n := by
  intro a ha
  exact List.mem_range.1 ((validOrder_perm h).mem_iff.1 ha)

theorem permute_length {α} [Inhabited α] (v : List α) (order : List Nat) :
    (permute v order).length = order.length := by
  simp [permute]

theorem permute_getD {α} [Inhabited α] (v : List α) (order : List Nat) (k : Nat) (hk : k < order.length) :
    (permute v order).getD k default = v.getD order[k] default := by
  simp [permute, List.getD_eq_getElem?_getD, hk]

/-- the value `inverseOrder order` has at position `a` -/
def invAt (order : List Nat) (a : Nat) : Nat := (order.findIdx? (· == a)).getD 0

theorem inverseOrder_length (order : List Nat) : (inverseOrder order).length = order.length := by
  simp [inverseOrder]

theorem permute_inverseOrder {α} [Inhabited α] (v : List α) (order : List Nat) :
    permute v (inverseOrder order) =
      (List.range order.length).map (fun a => v.getD (invAt order a) default) := by
  simp [permute, inverseOrder, invAt, List.map_map, Function.comp_def]

theorem permute_inv_getD {α} [Inhabited α] (v : List α) (order : List Nat) (k : Nat) (hk : k < order.length) :
    (permute v (inverseOrder order)).getD k default = v.getD (invAt order k) default := by
  rw [permute_inverseOrder]
  simp [List.getD_eq_getElem?_getD, hk]

theorem invAt_spec (order : List Nat) (a : Nat) (ha : a ∈ order) :
    ∃ h : invAt order a < order.length, order[invAt order a] = a := by
  unfold invAt
  cases hf : order.findIdx? (· == a) with
  | none =>
    rw [List.findIdx?_eq_none_iff] at hf
    have := hf a ha
    simp at this
  | some i =>
    rw [List.findIdx?_eq_some_iff_getElem] at hf
    obtain ⟨hi, hp, _⟩ := hf
    refine ⟨hi, ?_⟩
    simpa using hp

theorem permute_permute_inv {α} [Inhabited α] (v : List α) (order : List Nat) {n : Nat}
    (ho : validOrder order n = true) (hv : v.length = n) :
    permute (permute v order) (inverseOrder order) = v := by
  obtain ⟨hn, hc⟩ := validOrder_cover ho
  have hl : v.length = order.length := hv.trans hn.symm
  rw [permute_inverseOrder]
  conv => rhs; rw [← range_map_getD v default]
  rw [hl]
  apply List.map_congr_left
  intro a ha
  obtain ⟨h1, h2⟩ := invAt_spec order a (hc a (List.mem_range.1 ha))
  rw [permute_getD v order _ h1, h2]

theorem prod_permute (shape : Shape) (order : List Nat) (ho : validOrder order shape.length = true) :
    prod (permute shape order) = prod shape := by
  have hp := validOrder_perm ho
  have h1 : prod (permute shape order) = prod ((List.range shape.length).map (fun a => shape.getD a default)) :=
    prod_perm (hp.map _)
  rw [h1, range_map_getD]

theorem inB_permute (i : Idx) (shape : Shape) (order : List Nat) (ho : validOrder order shape.length = true)
    (h : inB i shape = true) : inB (permute i order) (permute shape order) = true := by
  have hlt := validOrder_lt ho
  rw [inB_iff] at h ⊢
  refine ⟨by simp [permute_length], ?_⟩
  intro k hk
  rw [permute_length] at hk
  rw [permute_getD _ _ _ hk, permute_getD _ _ _ hk]
  exact h.2 _ (hlt _ (List.getElem_mem hk))

theorem inB_permute_inv (j : Idx) (shape : Shape) (order : List Nat) (ho : validOrder order shape.length = true)
    (h : inB j (permute shape order) = true) : inB (permute j (inverseOrder order)) shape = true := by
  obtain ⟨hl, hc⟩ := validOrder_cover ho
  rw [inB_iff] at h ⊢
  refine ⟨by rw [permute_length, inverseOrder_length, hl], ?_⟩
  intro k hk
  rw [← hl] at hk
  obtain ⟨h1, h2⟩ := invAt_spec order k (hc k hk)
  rw [permute_inv_getD _ _ _ hk]
  have := h.2 (invAt order k) (by rw [permute_length]; exact h1)
  rwa [permute_getD _ _ _ h1, h2] at this

theorem transposeEnc_length {α} [Inhabited α] (order : List Nat) (shape : Shape) (xs : List α) :
    (transposeEnc order shape xs).length = prod (permute shape order) := by
  simp [transposeEnc, boxIndices_length]

theorem transposeDec_length {α} [Inhabited α] (order : List Nat) (shape : Shape) (ys : List α) :
    (transposeDec order shape ys).length = prod shape := by
  simp [transposeDec, boxIndices_length]

theorem transposeEnc_getElem? {α} [Inhabited α] (order : List Nat) (shape : Shape) (xs : List α) (j : Idx)
    (h : inB j (permute shape order) = true) :
    (transposeEnc order shape xs)[ravel j (permute shape order)]? =
      some (xs.getD (ravel (permute j (inverseOrder order)) shape) default) := by
  simp only [transposeEnc, List.getElem?_map, boxIndices_getElem?_ravel _ _ h, Option.map_some]

theorem transposeDec_getElem? {α} [Inhabited α] (order : List Nat) (shape : Shape) (ys : List α) (i : Idx)
    (h : inB i shape = true) :
    (transposeDec order shape ys)[ravel i shape]? =
      some (ys.getD (ravel (permute i order) (permute shape order)) default) := by
  simp only [transposeDec, List.getElem?_map, boxIndices_getElem?_ravel _ _ h, Option.map_some]

theorem transpose_dec_enc' {α} [Inhabited α] (order : List Nat) (shape : Shape) (xs : List α)
    (ho : validOrder order shape.length = true) (hx : xs.length = prod shape) :
    transposeDec order shape (transposeEnc order shape xs) = xs ∧
    (transposeEnc order shape xs).length = prod (permute shape order) ∧
    prod (permute shape order) = prod shape ∧
    permute (permute shape order) (inverseOrder order) = shape := by
  refine ⟨?_, transposeEnc_length _ _ _, prod_permute _ _ ho, permute_permute_inv _ _ ho rfl⟩
  apply list_ext_box shape _ _ (transposeDec_length _ _ _) hx
  intro i hi
  have hi' := inB_permute i shape order ho hi
  rw [transposeDec_getElem? _ _ _ _ hi, List.getD_eq_getElem?_getD, transposeEnc_getElem? _ _ _ _ hi',
    permute_permute_inv i order ho (inB_length hi)]
  have hr : ravel i shape < xs.length := by rw [hx]; exact ravel_lt i shape hi
  simp [List.getD_eq_getElem?_getD, List.getElem?_eq_getElem hr]

theorem transpose_fill' {α} [Inhabited α] (order : List Nat) (shape : Shape) (f : α)
    (ho : validOrder order shape.length = true) :
    transposeEnc order shape (List.replicate (prod shape) f) = List.replicate (prod (permute shape order)) f := by
  apply list_ext_box (permute shape order) _ _ (transposeEnc_length _ _ _) (by simp)
  intro j hj
  have h1 := ravel_lt _ _ (inB_permute_inv j shape order ho hj)
  have h2 := ravel_lt _ _ hj
  rw [transposeEnc_getElem? _ _ _ _ hj]
  simp [List.getD_eq_getElem?_getD, h1, h2]

theorem mem_transposeEnc {α} [Inhabited α] (order : List Nat) (sh : Shape) (xs : List α)
    (ho : validOrder order sh.length = true) (hx : xs.length = prod sh) :
    ∀ y ∈ transposeEnc order sh xs, y ∈ xs := by
  intro y hy
  simp only [transposeEnc, List.mem_map, mem_boxIndices] at hy
  obtain ⟨j, hj, rfl⟩ := hy
  have hlt : ravel (permute j (inverseOrder order)) sh < xs.length := by
    rw [hx]; exact ravel_lt _ _ (inB_permute_inv j sh order ho hj)
  rw [List.getD_eq_getElem?_getD, List.getElem?_eq_getElem hlt]
  exact List.getElem_mem hlt

theorem validOrder_nodup {order : List Nat} {n : Nat} (h : validOrder order n = true) : order.Nodup :=
  (validOrder_perm h).nodup_iff.2 List.nodup_range

theorem invAt_getElem {order : List Nat} {n : Nat} (ho : validOrder order n = true) (k : Nat) (hk : k < order.length) :
    invAt order order[k] = k := by
  obtain ⟨h1, h2⟩ := invAt_spec order order[k] (List.getElem_mem hk)
  exact (List.getElem_inj (validOrder_nodup ho)).mp h2

theorem inverseOrder_getElem (order : List Nat) (a : Nat) (ha : a < (inverseOrder order).length) :
    (inverseOrder order)[a] = invAt order a := by
  simp [inverseOrder, invAt]

theorem validOrder_inverse {order : List Nat} {n : Nat} (ho : validOrder order n = true) :
    validOrder (inverseOrder order) n = true := by
  obtain ⟨hl, _⟩ := (validOrder_iff _ _).1 ho
  rw [validOrder_iff]
  refine ⟨by rw [inverseOrder_length, hl], ?_⟩
  intro k hk
  have hk' : k < order.length := by rw [hl]; exact hk
  have hlt := validOrder_lt ho order[k] (List.getElem_mem hk')
  have hlt' : order[k] < (inverseOrder order).length := by rw [inverseOrder_length, hl]; exact hlt
  have : (inverseOrder order)[order[k]] = k := by
    rw [inverseOrder_getElem _ _ hlt']; exact invAt_getElem ho k hk'
  rw [← this]
  exact List.getElem_mem hlt'

theorem inverseOrder_inverseOrder {order : List Nat} {n : Nat} (ho : validOrder order n = true) :
    inverseOrder (inverseOrder order) = order := by
  obtain ⟨hl, hc⟩ := (validOrder_iff _ _).1 ho
  have hoi := validOrder_inverse ho
  obtain ⟨hli, hci⟩ := (validOrder_iff _ _).1 hoi
  apply List.ext_getElem
  · rw [inverseOrder_length, inverseOrder_length]
  · intro k h1 h2
    rw [inverseOrder_getElem _ _ h1]
    have hkn : k < n := by rw [← hl]; exact h2
    obtain ⟨ha, hspec⟩ := invAt_spec (inverseOrder order) k (hci k hkn)
    rw [inverseOrder_getElem _ _ ha] at hspec
    have han : invAt (inverseOrder order) k < n := by rw [← hli]; exact ha
    obtain ⟨hb, hspec2⟩ := invAt_spec order (invAt (inverseOrder order) k) (hc _ han)
    simp only [hspec] at hspec2
    exact hspec2.symm

end Zarrs.Codec
