import ZarrsModel.Model.Codec
import ZarrsModel.Lemmas.ListBasic
/- C03 for the byte-level codecs: little-endian words, checksum codecs, grouping into elements, `bytes`, chains -/
namespace Zarrs.Codec
open Zarrs

theorem ofLe_cons (b : Nat) (bs : Bytes) : ofLe (b :: bs) = b + 256 * ofLe bs := rfl

theorem ofLe_eq_leVal : ∀ bs : Bytes, ofLe bs = leVal bs
  | [] => rfl
  | b :: bs => congrArg (b + 256 * ·) (ofLe_eq_leVal bs)

theorem le32_length (n : Nat) : (le32 n).length = 4 := rfl

theorem le64_length (n : Nat) : (le64 n).length = 8 := rfl

theorem le32_eq_leDigits (n : Nat) : le32 n = leDigits 4 n := by
  simp only [le32, leDigits, Nat.div_div_eq_div_mul]

theorem le64_eq_leDigits (n : Nat) : le64 n = leDigits 8 n := (leDigits_eq_map 8 n).symm

theorem le32_wf (n : Nat) : ∀ x ∈ le32 n, x < 256 := le32_eq_leDigits n ▸ leDigits_wf 4 n

theorem le64_wf (n : Nat) : ∀ x ∈ le64 n, x < 256 := le64_eq_leDigits n ▸ leDigits_wf 8 n

theorem le64_eq (n : Nat) : le64 n = [n % 256, n / 256 % 256, n / 65536 % 256, n / 16777216 % 256,
    n / 4294967296 % 256, n / 1099511627776 % 256, n / 281474976710656 % 256, n / 72057594037927936 % 256] := by
  simp only [le64, List.range, List.range.loop, List.map, Nat.pow_zero, Nat.div_one]

theorem ofLe_le64 (n : Nat) (h : n < 2 ^ 64) : ofLe (le64 n) = n := by
  rw [le64_eq_leDigits, ofLe_eq_leVal, leVal_leDigits, Nat.mod_eq_of_lt h]

theorem ofLe_le32_mod (n : Nat) : ofLe (le32 n) = n % 2 ^ 32 := by
  rw [le32_eq_leDigits, ofLe_eq_leVal, leVal_leDigits]

theorem ofLe_le32 (n : Nat) (h : n < 2 ^ 32) : ofLe (le32 n) = n :=
  (ofLe_le32_mod n).trans (Nat.mod_eq_of_lt h)

theorem le32_ofLe (bs : Bytes) (hl : bs.length = 4) (hw : ∀ x ∈ bs, x < 256) : le32 (ofLe bs) = bs := by
  rw [le32_eq_leDigits, ← hl, ofLe_eq_leVal, leDigits_leVal bs hw]

theorem checksumEnc_length (sum : Bytes → Nat) (b : Bytes) : (checksumEnc sum b).length = b.length + 4 := by
  simp [checksumEnc, le32_length]

theorem checksumDec_append (sum : Bytes → Nat) (validate : Bool) (q c : Bytes) (hc : c.length = 4) :
    checksumDec sum validate (q ++ c) =
      if validate && le32 (sum q) != c then .error .invalidChecksum else .ok q := by
  unfold checksumDec
  rw [List.length_append, hc, if_neg (Nat.not_lt.mpr (Nat.le_add_left 4 _)), Nat.add_sub_cancel, List.take_left,
    List.drop_left]

theorem checksumDec_enc (sum : Bytes → Nat) (validate : Bool) (b : Bytes) :
    checksumDec sum validate (checksumEnc sum b) = .ok b := by
  rw [checksumEnc, checksumDec_append sum validate b _ (le32_length _)]
  simp

theorem checksumCodec_lawful (sum : Bytes → Nat) :
    B2B.Lawful { enc := fun b => some (checksumEnc sum b), dec := fun b => (checksumDec sum true b).toOption,
                 size := fun n => (n + 4, true) } :=
  ⟨fun b e h => by cases h; exact congrArg Except.toOption (checksumDec_enc sum true b),
    fun b e h => by cases h; simp [checksumEnc_length]⟩

theorem chunksOf_spec {α} (n : Nat) (hn : 0 < n) : ∀ (fuel : Nat) (l : List α), l.length < fuel →
    (chunksOf n fuel l).flatten = l ∧
      ∀ g ∈ chunksOf n fuel l, g.length ≤ n ∧ (l.length % n = 0 → g.length = n)
  | 0, l, h => absurd h (Nat.not_lt_zero _)
  | fuel + 1, [], _ => by simp [chunksOf]
  | fuel + 1, a :: t, h => by
    obtain ⟨ih1, ih2⟩ := chunksOf_spec n hn fuel ((a :: t).drop n) (by simp at h ⊢; omega)
    rw [chunksOf, List.isEmpty_cons, if_neg Bool.false_ne_true, List.flatten_cons, ih1]
    refine ⟨List.take_append_drop n _, fun g hg => ?_⟩
    rcases List.mem_cons.mp hg with rfl | hg
    · rw [List.length_take]
      refine ⟨Nat.min_le_left _ _, fun hm => Nat.min_eq_left ?_⟩
      exact Nat.le_of_dvd (Nat.succ_pos _) (Nat.dvd_of_mod_eq_zero hm)
    · refine ⟨(ih2 g hg).1, fun hm => (ih2 g hg).2 ?_⟩
      rw [List.length_drop]
      exact Nat.sub_mod_eq_zero_of_mod_eq (hm.trans (Nat.mod_self n).symm)

theorem chunksOf_of_flatten {α} (n : Nat) (hn : 0 < n) : ∀ (gs : List (List α)) (fuel : Nat),
    (∀ g ∈ gs, g.length = n) → gs.flatten.length < fuel → chunksOf n fuel gs.flatten = gs
  | [], fuel, _, h => by
    cases fuel with
    | zero => simp at h
    | succ f => simp [chunksOf]
  | g :: gs, fuel, hall, h => by
    have hg : g.length = n := hall g (by simp)
    cases fuel with
    | zero => simp at h
    | succ f =>
      subst hg
      have hne : (g ++ gs.flatten).isEmpty = false := by
        cases g with
        | nil => simp at hn
        | cons a t => simp
      unfold chunksOf
      simp only [List.flatten_cons, hne, Bool.false_eq_true, if_false, List.take_left, List.drop_left]
      rw [chunksOf_of_flatten g.length hn gs f (fun g' hg' => hall g' (by simp [hg'])) (by
        simp only [List.flatten_cons, List.length_append] at h; omega)]

theorem flatMap_flatten {α β} (f : α → List β) (G : List (List α)) :
    G.flatten.flatMap f = (G.map (fun e => e.flatMap f)).flatten := by
  rw [← List.flatMap_id (L := G), List.flatMap_assoc, List.flatMap_def]
  rfl

theorem groups_of_flatten (n : Nat) (hn : 0 < n) (gs : List Bytes) (h : ∀ g ∈ gs, g.length = n) :
    groups n gs.flatten = gs :=
  chunksOf_of_flatten n hn gs _ h (Nat.lt_succ_self _)

theorem groups_flatten_self (n : Nat) (hn : 0 < n) (b : Bytes) : (groups n b).flatten = b :=
  (chunksOf_spec n hn _ b (Nat.lt_succ_self _)).1

theorem groups_all_length (n : Nat) (hn : 0 < n) (b : Bytes) (h : b.length % n = 0) :
    ∀ g ∈ groups n b, g.length = n :=
  fun g hg => ((chunksOf_spec n hn _ b (Nat.lt_succ_self _)).2 g hg).2 h

theorem groups_flatten (u : Nat) (hu : 0 < u) (ys : List Bytes) (h : ∀ y ∈ ys, y.length % u = 0) :
    groups u ys.flatten = ys.flatMap (groups u) := by
  have hfl : (ys.flatMap (groups u)).flatten = ys.flatten := by
    induction ys with
    | nil => rfl
    | cons y ys ih =>
      rw [List.flatMap_cons, List.flatten_append, groups_flatten_self u hu, List.flatten_cons,
        ih (fun y' hy' => h y' (by simp [hy']))]
  rw [← hfl]
  apply groups_of_flatten u hu
  intro g hg
  obtain ⟨y, hy, hgy⟩ := List.mem_flatMap.mp hg
  exact groups_all_length u hu y (h y hy) g hgy

theorem groups_length (n : Nat) (hn : 0 < n) (b : Bytes) (m : Nat) (h : b.length = m * n) : (groups n b).length = m := by
  have hmod : b.length % n = 0 := by rw [h]; exact Nat.mul_mod_left _ _
  have h1 := flatten_length_of_all n _ (groups_all_length n hn b hmod)
  rw [groups_flatten_self n hn b, h] at h1
  exact (Nat.eq_of_mul_eq_mul_right hn h1).symm

theorem bytes_dec_enc' (big : Bool) (es : Nat) (b : Bytes) (h : es = 0 ∨ b.length % es = 0) :
    bytesDec big es (bytesEnc big es b) = b ∧ (bytesEnc big es b).length = b.length := by
  unfold bytesDec bytesEnc
  by_cases hc : (big && decide (es > 1)) = true
  · have hes : big = true ∧ 1 < es := by simpa using hc
    have hpos : 0 < es := Nat.lt_trans Nat.zero_lt_one hes.2
    have hall := groups_all_length es hpos b (h.resolve_left (Nat.ne_of_gt hpos))
    have hrev : ∀ g ∈ (groups es b).map List.reverse, g.length = es :=
      List.forall_mem_map.mpr fun g hg => List.length_reverse.trans (hall g hg)
    -- the encoding is the concatenation of the reversed elements, which `groups` splits again
    simp only [hc, if_true, List.flatMap_def]
    rw [groups_of_flatten es hpos _ hrev, List.map_map]
    constructor
    · rw [show (List.reverse ∘ List.reverse : Bytes → Bytes) = id from funext List.reverse_reverse, List.map_id,
        groups_flatten_self es hpos]
    · rw [flatten_length_of_all es _ hrev, List.length_map, ← flatten_length_of_all es _ hall,
        groups_flatten_self es hpos]
  · simp [hc]

theorem chainEnc_concat (cs : List B2B) (c : B2B) (b : Bytes) :
    chainEnc (cs ++ [c]) b = (chainEnc cs b).bind c.enc := by
  simp only [chainEnc, List.foldl_append, List.foldl_cons, List.foldl_nil]

theorem chainDec_concat (cs : List B2B) (c : B2B) (e : Bytes) :
    chainDec (cs ++ [c]) e = (c.dec e).bind (chainDec cs) := by
  simp only [chainDec, List.foldl_append, List.foldl_cons, List.foldl_nil]
  rfl

theorem chainSize_concat (cs : List B2B) (c : B2B) (n : Nat) :
    chainSize (cs ++ [c]) n = ((c.size (chainSize cs n).1).1, (chainSize cs n).2 && (c.size (chainSize cs n).1).2) := by
  simp only [chainSize, List.foldl_append, List.foldl_cons, List.foldl_nil]

theorem chain_dec_enc' (cs : List B2B) (hl : ∀ c ∈ cs, c.Lawful) (b e : Bytes) (h : chainEnc cs b = some e) :
    chainDec cs e = some b := by
  induction cs using concat_induction generalizing e with
  | nil => cases h; rfl
  | concat cs c ih =>
    rw [chainEnc_concat] at h
    obtain ⟨m, hm, hc⟩ := Option.bind_eq_some_iff.mp h
    rw [chainDec_concat, (hl c (by simp)).dec_enc m e hc, Option.bind_some]
    exact ih (fun d hd => hl d (List.mem_append_left _ hd)) m hm

theorem chain_size' (cs : List B2B) (hl : ∀ c ∈ cs, c.Lawful)
    (hmono : ∀ c ∈ cs, ∀ m n, m ≤ n → (c.size m).1 ≤ (c.size n).1)
    (b e : Bytes) (h : chainEnc cs b = some e) :
    e.length ≤ (chainSize cs b.length).1 ∧ ((chainSize cs b.length).2 = true → e.length = (chainSize cs b.length).1) := by
  induction cs using concat_induction generalizing e with
  | nil => cases h; exact ⟨Nat.le_refl _, fun _ => rfl⟩
  | concat cs c ih =>
    rw [chainEnc_concat] at h
    obtain ⟨m, hm, hc⟩ := Option.bind_eq_some_iff.mp h
    obtain ⟨h1, h2⟩ := ih (fun d hd => hl d (List.mem_append_left _ hd))
      (fun d hd => hmono d (List.mem_append_left _ hd)) m hm
    obtain ⟨s1, s2⟩ := (hl c (by simp)).size_ok m e hc
    rw [chainSize_concat]
    refine ⟨Nat.le_trans s1 (hmono c (by simp) _ _ h1), fun hx => ?_⟩
    rw [Bool.and_eq_true] at hx
    rw [← h2 hx.1] at hx ⊢
    exact s2 hx.2

end Zarrs.Codec
