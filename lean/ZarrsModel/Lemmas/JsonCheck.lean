import ZarrsModel.Lemmas.NumTok
import ZarrsModel.Lemmas.JsonStr
/- Boolean tests on documents: `J.check` implies `J.wf`, so that the well-formedness of a concrete document is one
   evaluation; the comparison `J.beq` is reflexive. -/
namespace Zarrs.Json

mutual
/-- strings must be ASCII, and a number token must be the token `intTok` writes for the integer it reads as: enough for
    ASCII documents with integer tokens, which is what the examples hold -/
def J.check : J → Bool
  | .num t => match asI64 t with | some i => FillMeta.intTok i == t | none => false
  | .str s => s.all (· < 128)
  | .arr xs => checkList xs
  | .obj kvs => checkKVs kvs && decide (kvs.map (·.1)).Nodup
  | _ => true
def checkList : List J → Bool
  | [] => true
  | x :: rest => J.check x && checkList rest
def checkKVs : List (Str × J) → Bool
  | [] => true
  | (k, v) :: rest => k.all (· < 128) && J.check v && checkKVs rest
end

theorem strOk_of_check (s : Str) (h : s.all (· < 128) = true) : strOk s :=
  strOk_ascii s (by simpa using h)

mutual
theorem J.wf_of_check : ∀ j : J, j.check = true → j.wf
  | .null, _ => trivial
  | .bool _, _ => trivial
  | .num t, h => by
    simp only [J.check] at h
    split at h
    · rename_i i _
      rw [num_wf_iff, ← beq_iff_eq.1 h]
      exact NumTok.tokOk_intTok i
    · cases h
  | .str s, h => strOk_of_check s h
  | .arr xs, h => wfList_of_check xs h
  | .obj kvs, h => by
    simp only [J.check, Bool.and_eq_true, decide_eq_true_eq] at h
    exact ⟨wfKVs_of_check kvs h.1, h.2⟩
theorem wfList_of_check : ∀ xs : List J, checkList xs = true → wfList xs
  | [], _ => trivial
  | x :: rest, h => by
    simp only [checkList, Bool.and_eq_true] at h
    exact ⟨J.wf_of_check x h.1, wfList_of_check rest h.2⟩
theorem wfKVs_of_check : ∀ kvs : List (Str × J), checkKVs kvs = true → wfKVs kvs
  | [], _ => trivial
  | (k, v) :: rest, h => by
    simp only [checkKVs, Bool.and_eq_true] at h
    exact ⟨strOk_of_check k h.1.1, J.wf_of_check v h.1.2, wfKVs_of_check rest h.2⟩
end

mutual
theorem J.beq_refl : ∀ j : J, J.beq j j = true
  | .null | .bool _ | .num _ | .str _ => by simp [J.beq]
  | .arr xs => by rw [J.beq]; exact beqList_refl xs
  | .obj kvs => by rw [J.beq]; exact beqKVs_refl kvs
theorem beqList_refl : ∀ xs : List J, beqList xs xs = true
  | [] => by rw [beqList]
  | x :: xs => by rw [beqList, J.beq_refl x, beqList_refl xs]; rfl
theorem beqKVs_refl : ∀ kvs : List (Str × J), beqKVs kvs kvs = true
  | [] => by rw [beqKVs]
  | (k, v) :: kvs => by rw [beqKVs, J.beq_refl v, beqKVs_refl kvs]; simp
end
end Zarrs.Json
