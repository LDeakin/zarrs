import ZarrsModel.Lemmas.MemConcStep
import ZarrsModel.Lemmas.ListBasic
/- Well-formedness of the view, an enabled step of the list-level machine is a step of
the view, well-formedness is an invariant -/
namespace Zarrs.MemConc

structure VWF (ps : Progs) (v : VState) : Prop where
  cur_lt : ∀ c, v.cur = some c → c < v.ncells
  lock_iff : ∀ t c, v.wl c = some t ↔ v.ts t = .setHold c
  lock_lt : ∀ t c, v.wl c = some t → c < v.ncells
  ts_lt : ∀ t, v.ts t ≠ .idle → t < ps.length
  no_got : ∀ t c, v.ts t ≠ .setGot c
  hold_op : ∀ t c, v.ts t = .setHold c → ∃ op, opAt ps t (v.pc t) = some op ∧ isWrite op = true
  get_op : ∀ t c, v.ts t = .getHold c → c < v.ncells ∧ ∃ op, opAt ps t (v.pc t) = some op ∧ isRead op = true
  cell_nil : ∀ c, v.ncells ≤ c → v.cell c = []

structure WF (ps : Progs) (s : State) : Prop where
  lwf : LWF ps s
  vwf : VWF ps (view s)

theorem LWF.respond {ps s} (hl : LWF ps s) (t : Nat) (r : Res) : LWF ps (respond s t r) :=
  ⟨List.length_set.trans hl.lpc, List.length_set.trans hl.lts, List.length_set.trans hl.lout, hl.lwl⟩

theorem view_respond {ps s t} (hl : LWF ps s) (ht : t < ps.length) (r : Res) :
    view (respond s t r) =
      { view s with pc := upd (view s).pc t ((view s).pc t + 1), ts := upd (view s).ts t .idle } :=
  view_eq rfl (fun _ => rfl) (fun _ => rfl) rfl (getD_set (hl.lpc ▸ ht) _ _) (getD_set (hl.lts ▸ ht) _ _)

/-- the clauses of `VWF` about one thread: its control state `x` and program counter `k`, with `n` cells -/
def ThreadOK (ps : Progs) (n t : Nat) (x : TS) (k : Nat) : Prop :=
  (x ≠ .idle → t < ps.length) ∧ (∀ c, x ≠ .setGot c) ∧
  (∀ c, x = .setHold c → ∃ op, opAt ps t k = some op ∧ isWrite op = true) ∧
  (∀ c, x = .getHold c → c < n ∧ ∃ op, opAt ps t k = some op ∧ isRead op = true)

/-- a step of thread `t` changes only `t`'s entries: the per-thread clauses need checking for `t` only -/
theorem VWF.of_step {ps v v'} {t : Nat} (h : VWF ps v) (hn : v.ncells ≤ v'.ncells)
    (hts : ∀ u, u ≠ t → v'.ts u = v.ts u) (hpc : ∀ u, u ≠ t → v'.pc u = v.pc u)
    (ht : ThreadOK ps v'.ncells t (v'.ts t) (v'.pc t))
    (cur_lt : ∀ c, v'.cur = some c → c < v'.ncells)
    (lock_iff : ∀ u c, v'.wl c = some u ↔ v'.ts u = .setHold c)
    (lock_lt : ∀ u c, v'.wl c = some u → c < v'.ncells)
    (cell_nil : ∀ c, v'.ncells ≤ c → v'.cell c = []) : VWF ps v' := by
  have key : ∀ u, ThreadOK ps v'.ncells u (v'.ts u) (v'.pc u) := by
    intro u
    by_cases hu : u = t
    · rw [hu]; exact ht
    · rw [hts u hu, hpc u hu]
      exact ⟨h.ts_lt u, h.no_got u, h.hold_op u,
        fun c hc => ⟨Nat.lt_of_lt_of_le (h.get_op u c hc).1 hn, (h.get_op u c hc).2⟩⟩
  exact ⟨cur_lt, lock_iff, lock_lt, fun u => (key u).1, fun u => (key u).2.1, fun u => (key u).2.2.1,
    fun u => (key u).2.2.2, cell_nil⟩

theorem lock_iff_other {v : VState} {t : Nat} {x : TS} (h : ∀ u c, v.wl c = some u ↔ v.ts u = .setHold c)
    (h1 : ∀ c, v.ts t ≠ .setHold c) (h2 : ∀ c, x ≠ .setHold c) (u c : Nat) :
    v.wl c = some u ↔ upd v.ts t x u = .setHold c := by
  rw [h u c, upd_apply]
  by_cases hu : u = t
  · rw [if_pos hu, hu]; exact ⟨fun e => absurd e (h1 c), fun e => absurd e (h2 c)⟩
  · rw [if_neg hu]

theorem lock_iff_take {v : VState} {t c : Nat} (h : ∀ u c, v.wl c = some u ↔ v.ts u = .setHold c)
    (h1 : ∀ c, v.ts t ≠ .setHold c) (hfree : v.wl c = none) (u c' : Nat) :
    upd v.wl c (some t) c' = some u ↔ upd v.ts t (.setHold c) u = .setHold c' := by
  rw [upd_apply, upd_apply]
  by_cases hu : u = t <;> by_cases hc : c' = c
  · rw [if_pos hu, if_pos hc, hu, hc]; exact ⟨fun _ => rfl, fun _ => rfl⟩
  · rw [if_pos hu, if_neg hc, hu, h]
    exact ⟨fun e => absurd e (h1 c'), fun e => absurd (TS.setHold.inj e).symm hc⟩
  · rw [if_neg hu, if_pos hc, hc, ← h]
    exact ⟨fun e => absurd (Option.some.inj e).symm hu, fun e => by rw [hfree] at e; cases e⟩
  · rw [if_neg hu, if_neg hc]; exact h u c'

theorem lock_iff_release {v : VState} {t c : Nat} (h : ∀ u c, v.wl c = some u ↔ v.ts u = .setHold c)
    (hts : v.ts t = .setHold c) (u c' : Nat) :
    upd v.wl c none c' = some u ↔ upd v.ts t .idle u = .setHold c' := by
  rw [upd_apply, upd_apply]
  by_cases hu : u = t <;> by_cases hc : c' = c
  · rw [if_pos hu, if_pos hc]; exact ⟨nofun, nofun⟩
  · rw [if_pos hu, if_neg hc, hu, h, hts]
    exact ⟨fun e => absurd (TS.setHold.inj e).symm hc, nofun⟩
  · rw [if_neg hu, if_pos hc, hc, ← h, (h t c).mpr hts]
    exact ⟨nofun, fun e => absurd (Option.some.inj e).symm hu⟩
  · rw [if_neg hu, if_neg hc]; exact h u c'

theorem vwf_step {ps v t v' time lin lin' r} (hwf : VWF ps v) (ht : t < ps.length)
    (hst : VStep ps time v lin t v' lin' r) : VWF ps v' := by
  have other : ∀ {α} (f : Nat → α) (x : α) (u : Nat), u ≠ t → upd f t x u = f u := fun _ _ _ hu => if_neg hu
  have self : ∀ {α} (f : Nat → α) (x : α), upd f t x t = x := fun _ _ => if_pos rfl
  have idle : ∀ k, ThreadOK ps v.ncells t (upd v.ts t .idle t) k := fun k => by
    rw [self]; exact ⟨fun h => absurd rfl h, nofun, nofun, nofun⟩
  -- a responding step of a thread that holds no lock
  have respond : v.ts t = .idle ∨ (∃ c, v.ts t = .getHold c) → ∀ K, K = v.cur ∨ K = none →
      VWF ps { v with cur := K, pc := upd v.pc t (v.pc t + 1), ts := upd v.ts t .idle } := by
    intro hts K hK
    have hnl : ∀ c, v.ts t ≠ .setHold c := by
      rcases hts with h | ⟨_, h⟩ <;> (rw [h]; exact nofun)
    refine hwf.of_step (Nat.le_refl _) (other _ _) (other _ _) (idle _) ?_
      (lock_iff_other hwf.lock_iff hnl (nofun)) hwf.lock_lt hwf.cell_nil
    rcases hK with rfl | rfl
    · exact hwf.cur_lt
    · exact nofun
  cases hst with
  | s1e op c hop hw hts hcur hfree hv hl hr =>
    subst hv
    refine hwf.of_step (Nat.le_refl _) (other _ _) (fun _ _ => rfl) ?_ hwf.cur_lt
      (lock_iff_take hwf.lock_iff (by rw [hts]; exact nofun) hfree) ?_ hwf.cell_nil
    · show ThreadOK ps _ t (upd v.ts t (.setHold c) t) _
      rw [self]
      exact ⟨fun _ => ht, nofun, fun _ _ => ⟨op, hop, hw⟩, nofun⟩
    · intro u c' h
      by_cases hc : c' = c
      · rw [hc]; exact hwf.cur_lt c hcur
      · exact hwf.lock_lt u c' ((if_neg hc).symm.trans h)
  | s1n op hop hw hts hcur hv hl hr =>
    subst hv
    have hfree : v.wl v.ncells = none := by
      cases h : v.wl v.ncells with
      | none => rfl
      | some u => exact absurd (hwf.lock_lt u _ h) (Nat.lt_irrefl _)
    refine hwf.of_step (Nat.le_succ _) (other _ _) (fun _ _ => rfl) ?_ ?_
      (lock_iff_take hwf.lock_iff (by rw [hts]; exact nofun) hfree) ?_
      (fun c hc => hwf.cell_nil c (Nat.le_of_succ_le hc))
    · show ThreadOK ps _ t (upd v.ts t (.setHold v.ncells) t) _
      rw [self]
      exact ⟨fun _ => ht, nofun, fun _ _ => ⟨op, hop, hw⟩, nofun⟩
    · intro c hc; cases hc; exact Nat.lt_succ_self _
    · intro u c' h
      by_cases hc : c' = v.ncells
      · rw [hc]; exact Nat.lt_succ_self _
      · exact Nat.lt_succ_of_lt (hwf.lock_lt u c' ((if_neg hc).symm.trans h))
  | s2 op c hop hts hv hl hr =>
    subst hv
    have hc : c < v.ncells := hwf.lock_lt t c ((hwf.lock_iff t c).mpr hts)
    refine hwf.of_step (Nat.le_refl _) (other _ _) (other _ _) (idle _) hwf.cur_lt
      (lock_iff_release hwf.lock_iff hts) ?_ ?_
    · intro u c' h
      by_cases hc' : c' = c
      · rw [hc']; exact hc
      · exact hwf.lock_lt u c' ((if_neg hc').symm.trans h)
    · intro c' hc'
      exact (if_neg (fun e : c' = c => Nat.not_le_of_lt hc (e ▸ hc'))).trans (hwf.cell_nil c' hc')
  | g1m op hop hrd hts hcur hv hl hr => subst hv; exact respond (.inl hts) v.cur (.inl rfl)
  | g1h op c hop hrd hts hcur hv hl hr =>
    subst hv
    refine hwf.of_step (Nat.le_refl _) (other _ _) (fun _ _ => rfl) ?_ hwf.cur_lt
      (lock_iff_other hwf.lock_iff (by rw [hts]; exact nofun) (nofun))
      hwf.lock_lt hwf.cell_nil
    show ThreadOK ps _ t (upd v.ts t (.getHold c) t) _
    rw [self]
    exact ⟨fun _ => ht, nofun, nofun,
      fun c' e => by cases e; exact ⟨hwf.cur_lt c hcur, op, hop, hrd⟩⟩
  | g2 op c hop hts hfree hv hl hr => subst hv; exact respond (.inr ⟨c, hts⟩) v.cur (.inl rfl)
  | sz hop hts hfree hv hl hr => subst hv; exact respond (.inl hts) v.cur (.inl rfl)
  | e1 hop hts hv hl hr => subst hv; exact respond (.inl hts) none (.inr rfl)

theorem tsOf_init (ps : Progs) (i0 : Option Bytes) (t : Nat) : tsOf (init ps i0) t = .idle :=
  getD_map_const ps _ t

theorem pcOf_init (ps : Progs) (i0 : Option Bytes) (t : Nat) : pcOf (init ps i0) t = 0 :=
  getD_map_const ps _ t

theorem wl_init (ps : Progs) (i0 : Option Bytes) (c : Nat) : wl (init ps i0) c = none := by
  simp only [wl, init]
  cases i0 with
  | none => rfl
  | some b => cases c <;> rfl

theorem lwf_init (ps : Progs) (i0 : Option Bytes) : LWF ps (init ps i0) :=
  ⟨by simp [init], by simp [init], by simp [init], by cases i0 <;> simp [init]⟩

theorem vwf_init (ps : Progs) (i0 : Option Bytes) : VWF ps (view (init ps i0)) := by
  have hts : ∀ t, (view (init ps i0)).ts t = .idle := tsOf_init ps i0
  have hwl : ∀ c, (view (init ps i0)).wl c = none := wl_init ps i0
  refine ⟨?_, fun t c => ?_, fun t c => ?_, fun t => ?_, fun t c => ?_, fun t c => ?_, fun t c => ?_,
    fun c hc => cell_nil_of_ge _ c hc⟩
  · intro c hc; cases i0 <;> simp [view, init] at hc ⊢; omega
  · rw [hts, hwl]; exact ⟨nofun, nofun⟩
  · rw [hwl]; nofun
  · rw [hts]; exact fun h => absurd rfl h
  · rw [hts]; nofun
  · rw [hts]; nofun
  · rw [hts]; nofun

theorem step_view {ps s t} (hw : WF ps s) (ht : t < ps.length)
    (hen : enabled .fixed ps s t = true) (time : Nat) (lin : List LinE) :
    WF ps (step .fixed ps s t) ∧ ∃ lin' r, VStep ps time (view s) lin t (view (step .fixed ps s t)) lin' r ∧
      (∀ res, r = some res → ((step .fixed ps s t).out.getD t []).getLast? = some res) := by
  obtain ⟨hl, hv⟩ := hw
  suffices h : LWF ps (step .fixed ps s t) ∧ ∃ lin' r,
      VStep ps time (view s) lin t (view (step .fixed ps s t)) lin' r ∧
      (∀ res, r = some res → ((step .fixed ps s t).out.getD t []).getLast? = some res) from
    let ⟨h1, lin', r, h2, h3⟩ := h
    ⟨⟨h1, vwf_step hv ht h2⟩, lin', r, h2, h3⟩
  have htl : t < s.ts.length := by rw [hl.lts]; exact ht
  have hol : t < s.out.length := by rw [hl.lout]; exact ht
  have hout : ∀ s0 r, s0.out = s.out → ∀ res, some r = some res →
      ((respond s0 t r).out.getD t []).getLast? = some res := by
    intro s0 r h0 res hr; cases hr; simp [respond, h0, hol]
  cases hop : curOp ps s t with
  | none => simp [enabled, hop] at hen
  | some op =>
    have hop' : opAt ps t ((view s).pc t) = some op := by rw [← hop]; exact (curOp_eq ps s hl.lpc t).symm
    cases hts : tsOf s t with
    | idle =>
      rcases op.kind with hw | hrd | rfl | rfl
      · cases hcur : s.cur with
        | some c =>
          have hc : c < s.wlock.length := by rw [hl.lwl]; exact hv.cur_lt c hcur
          rw [step_write hop hts hw, hcur]
          exact ⟨⟨hl.lpc, List.length_set.trans hl.lts, hl.lout, List.length_set.trans hl.lwl⟩, _, none,
            .s1e op c hop' hw hts hcur ((enabled_free hop hen).1 hts (.inl hw) hcur)
              (view_eq rfl (fun _ => rfl) (getD_set hc _ _) hcur.symm (fun _ => rfl) (getD_set htl _ _)) rfl rfl,
            fun _ h => nomatch h⟩
        | none =>
          have hn : s.cells.length < (s.wlock ++ [none]).length := by simp [hl.lwl]
          rw [step_write hop hts hw, hcur]
          refine ⟨⟨hl.lpc, List.length_set.trans hl.lts, hl.lout, by simp [hl.lwl]⟩, _, none,
            .s1n op hop' hw hts hcur (view_eq List.length_append (fun _ => getD_append_default _ _ _)
              (fun x => ?_) rfl (fun _ => rfl) (getD_set htl _ _)) rfl rfl, fun _ h => nomatch h⟩
          show ((s.wlock ++ [none]).set s.cells.length (some t)).getD x none = upd (wl s) s.cells.length (some t) x
          rw [getD_set hn, upd_apply, getD_append_default]; rfl
      · cases hcur : s.cur with
        | none =>
          rw [step_read hop hts hrd, hcur]
          exact ⟨hl.respond t _, _, _, .g1m op hop' hrd hts hcur (view_respond hl ht _) rfl rfl, hout s _ rfl⟩
        | some c =>
          rw [step_read hop hts hrd, hcur]
          exact ⟨⟨hl.lpc, List.length_set.trans hl.lts, hl.lout, hl.lwl⟩, _, none,
            .g1h op c hop' hrd hts hcur
              (view_eq rfl (fun _ => rfl) (fun _ => rfl) hcur.symm (fun _ => rfl) (getD_set htl _ _)) rfl rfl,
            fun _ h => nomatch h⟩
      · rw [step_size hop hts]
        exact ⟨hl.respond t _, _, _, .sz hop' hts (fun c => (enabled_free hop hen).1 hts (.inr rfl))
          (view_respond hl ht _) rfl rfl, hout s _ rfl⟩
      · rw [step_erase hop hts]
        have hl0 : LWF ps { s with cur := none } := ⟨hl.lpc, hl.lts, hl.lout, hl.lwl⟩
        exact ⟨hl0.respond t _, _, _, .e1 hop' hts (view_respond hl0 ht _) rfl rfl, hout _ _ rfl⟩
    | setGot c => exact absurd hts (hv.no_got t c)
    | setHold c =>
      have hc : c < s.cells.length := hv.lock_lt t c ((hv.lock_iff t c).mpr hts)
      have hcl : c < s.wlock.length := by rw [hl.lwl]; exact hc
      rw [step_setHold hop hts]
      have hl0 : LWF ps { s with cells := s.cells.set c (applyWrite (cell s c) op), wlock := s.wlock.set c none } :=
        ⟨hl.lpc, hl.lts, hl.lout, List.length_set.trans (hl.lwl.trans List.length_set.symm)⟩
      exact ⟨hl0.respond t _, _, _, .s2 op c hop' hts (view_eq List.length_set (getD_set hc _ _)
        (getD_set hcl _ _) rfl (getD_set (hl.lpc ▸ ht) _ _) (getD_set htl _ _)) rfl rfl, hout _ _ rfl⟩
    | getHold c =>
      rw [step_getHold hop hts]
      exact ⟨hl.respond t _, _, _,
        .g2 op c hop' hts ((enabled_free hop hen).2 hts) (view_respond hl ht _) rfl rfl, hout s _ rfl⟩

theorem wf_init (ps : Progs) (i0 : Option Bytes) : WF ps (init ps i0) := ⟨lwf_init ps i0, vwf_init ps i0⟩

theorem reachable_wf {ps i0 s} (hr : Reachable .fixed ps i0 s) : WF ps s := by
  induction hr with
  | init => exact wf_init ps i0
  | step s t _ ht hen ih => exact (step_view ih ht hen 0 []).1

end Zarrs.MemConc
