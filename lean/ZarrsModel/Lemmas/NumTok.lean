import ZarrsModel.Model.FillMeta
/- number tokens: decimal digits of `Nat.toDigits 10`, the JSON number tokenizer on them, and their integer
   classification (for C13 and C14) -/
namespace Zarrs.NumTok
open Zarrs.Json

theorem char_isDigit_eq (c : Char) : c.isDigit = isDigit c.toNat := by
  have h1 : c.isDigit = (decide (48 ≤ c.toNat) && decide (c.toNat ≤ 57)) := by
    simp only [Char.isDigit, ge_iff_le, UInt32.le_iff_toNat_le]
    rfl
  rw [h1]; rfl

structure DigitsOk (ds : List Char) : Prop where
  ne : ds ≠ []
  dig : ∀ c ∈ ds, isDigit c.toNat = true
  lead : 1 < ds.length → ds.head? ≠ some '0'

theorem toDigits_dig (n : Nat) : ∀ c ∈ Nat.toDigits 10 n, isDigit c.toNat = true := by
  intro c hc
  rw [← char_isDigit_eq]
  exact Nat.isDigit_of_mem_toDigits (by decide) (by decide) hc

theorem toDigits_head (n : Nat) (hn : 0 < n) : (Nat.toDigits 10 n).head? ≠ some '0' := by
  induction n using Nat.base_induction 10 (by decide) with
  | single m hm => rw [Nat.toDigits_of_lt_base hm]; simpa using Nat.ne_of_gt hn
  | digit m k hk hm ih =>
    obtain ⟨c, cs, e⟩ := List.exists_cons_of_ne_nil (Nat.toDigits_ne_nil (b := 10) (n := m))
    rw [← Nat.toDigits_append_toDigits (by decide) hm hk]
    rw [e] at ih ⊢
    exact ih hm

theorem toDigits_ok (n : Nat) : DigitsOk (Nat.toDigits 10 n) := by
  refine ⟨Nat.toDigits_ne_nil, toDigits_dig n, fun h => toDigits_head n ?_⟩
  rcases Nat.eq_zero_or_pos n with h0 | h0
  · subst h0; simp [Nat.toDigits_zero] at h
  · exact h0

theorem natOfDigits_eq_ofDigitChars (ds : List Char) : natOfDigits ds = Nat.ofDigitChars 10 ds 0 := by
  simp only [natOfDigits, Nat.ofDigitChars, Nat.mul_comm]; rfl

/- the three inline stages of `Json.parseNum` under names: `parseNum_eq` holds by `rfl` -/
def pnSign : List Nat → List Nat × List Nat
  | 45 :: r => ([45], r)
  | r => ([], r)
def pnFrac (r1 : List Nat) : List Nat × List Nat :=
  match r1 with
  | 46 :: r => let (d, r') := takeWhileB isDigit r; if d.isEmpty then ([0], r1) else (46 :: d, r')
  | r => ([], r)
def pnExp (r2 : List Nat) : List Nat × List Nat :=
  match r2 with
  | e :: r => if e == 101 || e == 69 then
      let (sg, r') := match r with | 43 :: x => ([43], x) | 45 :: x => ([45], x) | x => ([], x)
      let (d, r'') := takeWhileB isDigit r'
      if d.isEmpty then ([0], r2) else (e :: sg ++ d, r'')
    else ([], r2)
  | [] => ([], [])

theorem parseNum_eq (inp : List Nat) : parseNum inp =
    (let sr := pnSign inp
     let ir := takeWhileB isDigit sr.2
     if ir.1.isEmpty || (ir.1.length > 1 && ir.1.head? == some 48) then none else
     let fr := pnFrac ir.2
     if fr.1 == [0] then none else
     let er := pnExp fr.2
     if er.1 == [0] then none else
     some ((sr.1 ++ ir.1 ++ fr.1 ++ er.1).map Char.ofNat, er.2)) := by
  rfl

theorem takeWhileB_nil (p : Nat → Bool) (b : Nat) (tl : List Nat) (h : p b = false) :
    takeWhileB p (b :: tl) = ([], b :: tl) := by
  rw [takeWhileB, h]; rfl

theorem takeWhileB_digits (ds rest : List Nat) (hds : ∀ b ∈ ds, isDigit b = true)
    (hrest : ∀ b, rest.head? = some b → isDigit b = false) :
    takeWhileB isDigit (ds ++ rest) = (ds, rest) := by
  induction ds with
  | nil =>
    cases rest with
    | nil => rfl
    | cons b r => simp [takeWhileB, hrest b rfl]
  | cons d ds ih =>
    have hd := hds d (by simp)
    have := ih (fun b hb => hds b (by simp [hb]))
    simp [takeWhileB, hd, this]

theorem pnSign_neg (r : List Nat) : pnSign (45 :: r) = ([45], r) := rfl
theorem pnSign_pos (d : Nat) (r : List Nat) (h : d ≠ 45) : pnSign (d :: r) = ([], d :: r) := by
  unfold pnSign; split
  · rename_i heq; simp at heq; omega
  · rfl

theorem pnFrac_none (rest : List Nat) (h : ∀ b, rest.head? = some b → b ≠ 46) : pnFrac rest = ([], rest) := by
  unfold pnFrac; split
  · exact absurd rfl (h 46 rfl)
  · rfl

theorem pnExp_none (rest : List Nat) (h : ∀ b, rest.head? = some b → b ≠ 101 ∧ b ≠ 69) : pnExp rest = ([], rest) := by
  unfold pnExp; split
  · rename_i e r
    have := h e rfl
    simp [this.1, this.2]
  · rfl

theorem pnExp_neg (ex rest : List Nat) (hne : ex ≠ []) (hex : ∀ b ∈ ex, isDigit b = true)
    (hrest : ∀ b, rest.head? = some b → isDigit b = false) :
    pnExp (101 :: 45 :: (ex ++ rest)) = (101 :: 45 :: ex, rest) := by
  have htw := takeWhileB_digits ex rest hex hrest
  cases ex with
  | nil => exact absurd rfl hne
  | cons x xs =>
    rw [List.cons_append] at htw
    simp [pnExp, htw]

theorem parseNum_head (inp : List Nat) (x) (h : parseNum inp = some x) :
    ∃ b tl, inp = b :: tl ∧ (b = 45 ∨ 48 ≤ b ∧ b ≤ 57) := by
  cases inp with
  | nil => cases h
  | cons b tl =>
    refine ⟨b, tl, rfl, ?_⟩
    by_cases h45 : b = 45
    · exact Or.inl h45
    · cases hd : isDigit b with
      | true => exact Or.inr (by simpa [isDigit] using hd)
      | false =>
        simp only [parseNum_eq, pnSign_pos _ _ h45, takeWhileB_nil _ _ _ hd] at h
        cases h

theorem tokOk_head (t : List Char) (h : tokOk t) :
    ∃ b tl, t.map Char.toNat = b :: tl ∧ (b = 45 ∨ 48 ≤ b ∧ b ≤ 57) := by
  have := h [] nofun
  rw [List.append_nil] at this
  exact parseNum_head _ _ this

theorem numCont_false {b : Nat} (h : numCont b = false) :
    isDigit b = false ∧ b ≠ 46 ∧ b ≠ 101 ∧ b ≠ 69 ∧ b ≠ 43 ∧ b ≠ 45 := by
  simp only [numCont, Bool.or_eq_false_iff, beq_eq_false_iff_ne] at h
  simp [h]

theorem map_ofNat_toNat (t : List Char) : (t.map Char.toNat).map Char.ofNat = t := by
  simp [List.map_map, Function.comp_def]

theorem signTok_map (sign : Bool) :
    (if sign then ['-'] else []).map Char.toNat = (if sign then [45] else []) := by
  cases sign <;> rfl

/-- `suf` is what the exponent stage takes (nothing, or an exponent) -/
theorem parseNum_tok (sign : Bool) (ds suf : List Char) (rest : List Nat) (h : DigitsOk ds)
    (hsuf : ∀ b, (suf.map Char.toNat ++ rest).head? = some b → isDigit b = false ∧ b ≠ 46)
    (hexp : pnExp (suf.map Char.toNat ++ rest) = (suf.map Char.toNat, rest))
    (hne0 : (suf.map Char.toNat == [0]) = false) :
    parseNum (((if sign then ['-'] else []) ++ ds ++ suf).map Char.toNat ++ rest) =
      some ((if sign then ['-'] else []) ++ ds ++ suf, rest) := by
  obtain ⟨c, cs, rfl⟩ := List.exists_cons_of_ne_nil h.ne
  have hdig : ∀ b ∈ (c :: cs).map Char.toNat, isDigit b = true := by
    intro b hb
    obtain ⟨x, hx, rfl⟩ := List.mem_map.mp hb
    exact h.dig x hx
  have hc := h.dig c (by simp)
  have hc45 : c.toNat ≠ 45 := by intro e; rw [e] at hc; simp [isDigit] at hc
  generalize hR : suf.map Char.toNat ++ rest = R at hsuf hexp
  have hs : pnSign ((if sign then [45] else []) ++ (c :: cs).map Char.toNat ++ R) =
      (if sign then [45] else [], (c :: cs).map Char.toNat ++ R) := by
    cases sign
    · exact pnSign_pos _ _ hc45
    · exact pnSign_neg _
  have htw := takeWhileB_digits _ R hdig (fun b hb => (hsuf b hb).1)
  have hlead : (((c :: cs).map Char.toNat).isEmpty ||
      decide (((c :: cs).map Char.toNat).length > 1) && ((c :: cs).map Char.toNat).head? == some 48) = false := by
    rcases Nat.lt_or_ge 1 (c :: cs).length with hl | hl
    · have : c.toNat ≠ 48 := fun h48 => h.lead hl (by rw [← Char.ofNat_toNat c, h48]; rfl)
      simp [this]
    · obtain rfl : cs = [] := List.eq_nil_of_length_eq_zero (by simp only [List.length_cons] at hl; omega)
      rfl
  have hfr := pnFrac_none R (fun b hb => (hsuf b hb).2)
  rw [List.map_append, List.map_append, signTok_map, List.append_assoc, hR, parseNum_eq]
  have h0 : (([] : List Nat) == [0]) = false := rfl
  simp only [hs, htw, hlead, hfr, hexp, hne0, h0, Bool.false_eq_true, if_false, List.append_nil]
  rw [← signTok_map, ← List.map_append, ← List.map_append, map_ofNat_toNat]

theorem tokOk_int (sign : Bool) (ds : List Char) (h : DigitsOk ds) :
    tokOk ((if sign then ['-'] else []) ++ ds) := by
  intro rest hrest
  have hr := fun b hb => numCont_false (hrest b hb)
  have := parseNum_tok sign ds [] rest h (fun b hb => ⟨(hr b hb).1, (hr b hb).2.1⟩)
    (pnExp_none rest (fun b hb => ⟨(hr b hb).2.2.1, (hr b hb).2.2.2.1⟩)) rfl
  rwa [List.append_nil] at this

theorem tokOk_exp (sign : Bool) (ds ex : List Char) (h : DigitsOk ds) (hne : ex ≠ [])
    (hex : ∀ c ∈ ex, isDigit c.toNat = true) :
    tokOk ((if sign then ['-'] else []) ++ ds ++ ['e', '-'] ++ ex) := by
  intro rest hrest
  have := parseNum_tok sign ds ('e' :: '-' :: ex) rest h (by intro b hb; simp at hb; subst hb; decide)
    (pnExp_neg (ex.map Char.toNat) rest (by simpa using hne)
      (by intro b hb; obtain ⟨c, hc, rfl⟩ := List.mem_map.mp hb; exact hex c hc)
      (fun b hb => (numCont_false (hrest b hb)).1)) (by simp)
  simpa [List.append_assoc] using this

open Zarrs.FillMeta

theorem tokIsInt_digits (t : List Char) (h : ∀ c ∈ t, isDigit c.toNat = true) : tokIsInt t = true := by
  simp only [tokIsInt, Bool.not_eq_true', List.any_eq_false]
  intro c hc
  have hd := h c hc
  have h46 : c ≠ '.' := by intro h'; subst h'; revert hd; decide
  have h101 : c ≠ 'e' := by intro h'; subst h'; revert hd; decide
  have h69 : c ≠ 'E' := by intro h'; subst h'; revert hd; decide
  simp [h46, h101, h69]

theorem tokIsInt_neg (t : List Char) : tokIsInt ('-' :: t) = tokIsInt t := by
  simp [tokIsInt]

theorem head_ne_minus (t : List Char) (h : ∀ c ∈ t, isDigit c.toNat = true) : t.head? ≠ some '-' := by
  cases t with
  | nil => simp
  | cons c cs =>
    have := h c (by simp)
    intro h'; simp at h'; subst h'; revert this; decide

theorem natTok_dig (v : Nat) : ∀ c ∈ natTok v, isDigit c.toNat = true := toDigits_dig v

theorem natOfDigits_natTok (v : Nat) : natOfDigits (natTok v) = v := by
  rw [natTok, natOfDigits_eq_ofDigitChars, Nat.ofDigitChars_ten_toDigits]

theorem asU64_natTok (v : Nat) : asU64 (natTok v) = if v < 2 ^ 64 then some v else none := by
  have h1 := tokIsInt_digits _ (natTok_dig v)
  have h2 := head_ne_minus _ (natTok_dig v)
  simp only [asU64, h1, Bool.true_and, bne_iff_ne, ne_eq, h2, not_false_eq_true, if_true]
  rw [natOfDigits_natTok]

theorem asU64_neg (t : List Char) : asU64 ('-' :: t) = none := by
  simp [asU64]

theorem asU64_nonint (t : List Char) (h : tokIsInt t = false) : asU64 t = none := by
  simp [asU64, h]
theorem asI64_nonint (t : List Char) (h : tokIsInt t = false) : asI64 t = none := by
  simp [asI64, h]

theorem asI64_intTok (i : Int) :
    asI64 (intTok i) = if -(2 ^ 63 : Int) ≤ i ∧ i < 2 ^ 63 then some i else none := by
  have h1 := tokIsInt_digits _ (natTok_dig i.natAbs)
  unfold intTok
  split
  · next hi =>
    simp only [asI64, tokIsInt_neg, h1, Bool.not_true, Bool.false_eq_true, if_false, natOfDigits_natTok, beq_iff_eq]
    rw [if_neg (by omega)]
    by_cases h : i.natAbs ≤ 9223372036854775808
    · rw [if_pos h, if_pos (by omega)]; congr 1; omega
    · rw [if_neg h, if_neg (by omega)]
  · next hi =>
    have h2 := head_ne_minus _ (natTok_dig i.natAbs)
    unfold asI64
    simp only [h1, Bool.not_true, Bool.false_eq_true, if_false]
    split
    · next ds heq => rw [heq] at h2; simp at h2
    · simp only [natOfDigits_natTok]
      by_cases h : i.natAbs < 9223372036854775808
      · rw [if_pos h, if_pos (by omega)]; congr 1; omega
      · rw [if_neg h, if_neg (by omega)]

theorem tokOk_natTok (v : Nat) : tokOk (natTok v) := tokOk_int false _ (toDigits_ok v)

theorem tokOk_intTok (i : Int) : tokOk (intTok i) := by
  unfold intTok; split
  · exact tokOk_int true _ (toDigits_ok _)
  · exact tokOk_int false _ (toDigits_ok _)

end Zarrs.NumTok
