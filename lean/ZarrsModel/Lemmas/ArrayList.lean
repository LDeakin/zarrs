import ZarrsModel.Model.Array
import ZarrsModel.Lemmas.Index
import ZarrsModel.Lemmas.ListBasic
/- List-level facts under the array refinement (C01/C04): positional lookup in `boxIndices` and `Subset.indices`, reads
of an abstract array, `updateRuns` as a fold of `List.set` over the linear indices of the region
(`updateRuns_eq_foldl_set`: a pasted run is its elements set one by one), and from it the pointwise meaning of `updateRuns`;
the pointwise meaning of `extract`. -/
namespace Zarrs
open Subset

theorem boxIndices_getElem?_ravel (i : Idx) (sh : Shape) (h : inB i sh = true) :
    (boxIndices sh)[ravel i sh]? = some i := by
  rw [← range_map_unravel]
  have hlt := ravel_lt i sh h
  rw [List.getElem?_map, List.getElem?_range hlt]
  simp only [Option.map_some]
  rw [unravel_ravel i sh h]

theorem boxIndices_getElem?_lt (q : Nat) (sh : Shape) (h : q < prod sh) :
    (boxIndices sh)[q]? = some (unravel q sh) := by
  rw [← range_map_unravel, List.getElem?_map, List.getElem?_range h]
  rfl

theorem zipIdx_boxIndices (sh : Shape) : ∀ p ∈ (boxIndices sh).zipIdx, inB p.1 sh = true ∧ p.2 = ravel p.1 sh := by
  intro p hp
  rw [List.mem_zipIdx_iff_getElem?] at hp
  have hlt : p.2 < prod sh := by
    have := (List.getElem?_eq_some_iff.mp hp).1
    rwa [boxIndices_length] at this
  rw [boxIndices_getElem?_lt p.2 sh hlt] at hp
  have : unravel p.2 sh = p.1 := Option.some.inj hp
  rw [← this]
  exact ⟨unravel_inB _ _ hlt, (ravel_unravel _ _ hlt).symm⟩

theorem Subset.indices_getElem?_ravel (s : Subset) (i : Idx) (h : s.contains i = true) :
    s.indices[ravel (zipSub i s.start) s.shape]? = some i := by
  obtain ⟨h1, h2⟩ := mem_zipSub i s.start s.shape h
  simp only [Subset.indices, List.getElem?_map, boxIndices_getElem?_ravel _ _ h1, Option.map_some, h2]

theorem Subset.indices_getElem?_box (s : Subset) (j : Idx) (h : inB j s.shape = true) :
    s.indices[ravel j s.shape]? = some (addIdx j s.start) := by
  simp only [Subset.indices, List.getElem?_map, boxIndices_getElem?_ravel _ _ h, Option.map_some]

namespace AArr
variable {α : Type}

theorem read_length (a : AArr α) (s : Subset) : (a.read s).length = s.numElements := by
  simp [AArr.read, Subset.indices_length]

theorem read_getElem?_ravel (a : AArr α) (s : Subset) (i : Idx) (h : s.contains i = true) :
    (a.read s)[ravel (zipSub i s.start) s.shape]? = some (a i) := by
  simp only [AArr.read, List.getElem?_map, s.indices_getElem?_ravel i h, Option.map_some]

theorem read_getElem?_box (a : AArr α) (s : Subset) (j : Idx) (h : inB j s.shape = true) :
    (a.read s)[ravel j s.shape]? = some (a (addIdx j s.start)) := by
  simp only [AArr.read, List.getElem?_map, s.indices_getElem?_box j h, Option.map_some]

end AArr

def runStep {α} (w : Nat) (ys : List α) (acc : List α) (p : Nat × Nat) : List α :=
  acc.take p.1 ++ (ys.drop (p.2 * w)).take w ++ acc.drop (p.1 + w)

theorem paste_eq_foldl_set {α} : ∀ (b acc : List α) (p : Nat), (∀ q ∈ List.range' p b.length, q < acc.length) →
    acc.take p ++ b ++ acc.drop (p + b.length) =
      ((List.range' p b.length).zip b).foldl (fun a q => a.set q.1 q.2) acc
  | [], acc, p, _ => by
    rw [List.append_nil]; exact List.take_append_drop p acc
  | y :: b, acc, p, h => by
    have hp : p < acc.length := h p (List.mem_range'_1.mpr ⟨Nat.le_refl _, Nat.lt_add_of_pos_right (Nat.succ_pos _)⟩)
    -- set position `p`, paste `b` from `p + 1` on into the result, and take that apart around position `p`
    rw [List.length_cons, List.range'_succ, List.zip_cons_cons, List.foldl_cons,
      ← paste_eq_foldl_set b (acc.set p y) (p + 1) (fun q hq => by
        rw [List.length_set]
        have := List.mem_range'_1.mp hq
        exact h q (List.mem_range'_1.mpr ⟨by omega, by rw [List.length_cons]; omega⟩)),
      List.drop_set_of_lt (by omega), List.take_set, List.take_succ_eq_append_getElem hp,
      List.set_append, if_neg (by rw [List.length_take_of_le (Nat.le_of_lt hp)]; exact Nat.lt_irrefl p),
      List.length_take_of_le (Nat.le_of_lt hp), Nat.sub_self, List.set_cons_zero, List.append_assoc, List.append_assoc,
      Nat.add_assoc, Nat.add_comm 1, List.append_assoc]
    rfl

theorem foldl_runStep_eq {α} (w : Nat) (ys : List α) : ∀ (ps : List Nat) (k₀ : Nat) (acc : List α),
    (∀ q ∈ ps.flatMap (fun p => List.range' p w), q < acc.length) →
    k₀ * w + (ps.flatMap (fun p => List.range' p w)).length ≤ ys.length →
    (ps.zipIdx k₀).foldl (runStep w ys) acc =
      ((ps.flatMap (fun p => List.range' p w)).zip (ys.drop (k₀ * w))).foldl (fun a q => a.set q.1 q.2) acc
  | [], _, _, _, _ => rfl
  | p :: ps, k₀, acc, hlt, hlen => by
    rw [List.flatMap_cons, List.length_append, List.length_range'] at hlen
    have hw : ((ys.drop (k₀ * w)).take w).length = w :=
      List.length_take_of_le (by rw [List.length_drop]; omega)
    have hstep : runStep w ys acc (p, k₀) =
        ((List.range' p w).zip ((ys.drop (k₀ * w)).take w)).foldl (fun a q => a.set q.1 q.2) acc := by
      have := paste_eq_foldl_set ((ys.drop (k₀ * w)).take w) acc p
        (by rw [hw]; exact fun q hq => hlt q (List.mem_flatMap.mpr ⟨p, List.mem_cons_self, hq⟩))
      rwa [hw] at this
    rw [List.zipIdx_cons, List.foldl_cons, List.flatMap_cons,
      foldl_runStep_eq w ys ps (k₀ + 1) _
        (fun q hq => by
          rw [hstep, length_foldl_set]
          obtain ⟨p', hp', hq'⟩ := List.mem_flatMap.mp hq
          exact hlt q (List.mem_flatMap.mpr ⟨p', List.mem_cons_of_mem _ hp', hq'⟩))
        (by rw [Nat.succ_mul]; omega),
      hstep, ← List.foldl_append, ← List.zip_append (by rw [List.length_range', hw]), Nat.succ_mul, ← List.drop_drop,
      List.take_append_drop]

theorem linearised_length (r : Subset) (sh : Shape) : (r.linearised sh).length = r.numElements := by
  rw [r.linearised_eq sh, List.length_map, Subset.indices_length]

theorem Subset.numElements_runs (r : Subset) (sh : Shape) (hr : r.wf = true) (hb : r.inboundsShape sh = true) :
    r.numElements = (r.contiguousLinearised sh).length * (r.contiguous sh).run := by
  rw [← linearised_length r sh, ← r.contiguous_tiles sh (Subset.wf_iff.mp hr) (Subset.inboundsShape_iff_allLe.mp hb).1]
  exact length_flatMap_of_all _ _ _ fun _ _ => List.length_range'

theorem mem_linearised (W : Subset) (out : Shape) (hw : W.wf = true) (k : Nat) :
    k ∈ W.linearised out ↔ ∃ i, W.contains i = true ∧ ravel i out = k := by
  rw [W.linearised_eq out, List.mem_map]
  constructor
  · rintro ⟨i, hi, rfl⟩; exact ⟨i, (W.mem_indices hw i).mp hi, rfl⟩
  · rintro ⟨i, hi, rfl⟩; exact ⟨i, (W.mem_indices hw i).mpr hi, rfl⟩

theorem linearised_lt (r : Subset) (sh : Shape) (hr : r.wf = true) (hb : r.inboundsShape sh = true) :
    ∀ k ∈ r.linearised sh, k < prod sh := by
  intro k hk
  obtain ⟨i, hi, rfl⟩ := (mem_linearised r sh hr k).mp hk
  exact ravel_lt i sh (Subset.inB_of_inboundsShape hb hi)

theorem updateRuns_eq_foldl_set {α} (sh : Shape) (r : Subset) (xs ys : List α) (hr : r.wf = true)
    (hb : r.inboundsShape sh = true) (hx : xs.length = prod sh) (hy : ys.length = r.numElements) :
    updateRuns sh r xs ys = ((r.linearised sh).zip ys).foldl (fun acc p => acc.set p.1 p.2) xs := by
  have ht := r.contiguous_tiles sh (wf_iff.mp hr) (inboundsShape_iff_allLe.mp hb).1
  have := foldl_runStep_eq (r.contiguous sh).run ys (r.contiguousLinearised sh) 0 xs
    (by rw [ht, hx]; exact linearised_lt r sh hr hb)
    (by rw [ht, linearised_length r sh, hy, Nat.zero_mul, Nat.zero_add]; exact Nat.le_refl _)
  rwa [ht, Nat.zero_mul, List.drop_zero] at this

theorem updateRuns_spec {α} (sh : Shape) (r : Subset) (xs ys : List α) (hr : r.wf = true)
    (hb : r.inboundsShape sh = true) (hx : xs.length = prod sh) (hy : ys.length = r.numElements) :
    (updateRuns sh r xs ys).length = prod sh ∧
    ∀ j, inB j sh = true → (updateRuns sh r xs ys)[ravel j sh]? =
      if r.contains j = true then ys[ravel (zipSub j r.start) r.shape]? else xs[ravel j sh]? := by
  have hkeys : ((r.linearised sh).zip ys).map Prod.fst = r.linearised sh :=
    List.map_fst_zip (by rw [linearised_length r sh, hy]; exact Nat.le_refl _)
  obtain ⟨h1, h2, h3⟩ := foldl_set_spec ((r.linearised sh).zip ys) xs
    (by rw [hkeys]; exact (r.linearised_sorted sh hr hb).imp (fun h => Nat.ne_of_lt h))
    (by rw [hkeys, hx]; exact linearised_lt r sh hr hb)
  rw [updateRuns_eq_foldl_set sh r xs ys hr hb hx hy]
  refine ⟨h1.trans hx, fun j hj => ?_⟩
  by_cases hc : r.contains j = true
  · have hq : ravel (zipSub j r.start) r.shape < ys.length := by
      rw [hy]; exact ravel_lt _ _ (mem_zipSub j r.start r.shape hc).1
    have hmem : (ravel j sh, ys[ravel (zipSub j r.start) r.shape]) ∈ (r.linearised sh).zip ys := by
      apply List.mem_of_getElem? (i := ravel (zipSub j r.start) r.shape)
      rw [List.getElem?_zip_eq_some, r.linearised_eq sh, List.getElem?_map, r.indices_getElem?_ravel j hc]
      exact ⟨rfl, List.getElem?_eq_getElem hq⟩
    rw [if_pos hc, h2 _ hmem, List.getElem?_eq_getElem hq]
  · rw [if_neg hc]
    apply h3
    rw [hkeys, mem_linearised r sh hr]
    rintro ⟨i, hi, he⟩
    exact hc (ravel_inj i j sh (Subset.inB_of_inboundsShape hb hi) hj he ▸ hi)

theorem updateRuns_length {α} (sh : Shape) (r : Subset) (xs ys : List α) (hr : r.wf = true)
    (hb : r.inboundsShape sh = true) (hx : xs.length = prod sh) (hy : ys.length = r.numElements) :
    (updateRuns sh r xs ys).length = prod sh :=
  (updateRuns_spec sh r xs ys hr hb hx hy).1

theorem list_ext_box {α} (sh : Shape) (l1 l2 : List α) (h1 : l1.length = prod sh) (h2 : l2.length = prod sh)
    (h : ∀ j, inB j sh = true → l1[ravel j sh]? = l2[ravel j sh]?) : l1 = l2 := by
  apply List.ext_getElem?
  intro q
  by_cases hq : q < prod sh
  · have := h (unravel q sh) (unravel_inB q sh hq)
    rwa [ravel_unravel q sh hq] at this
  · rw [List.getElem?_eq_none (h1 ▸ Nat.le_of_not_lt hq), List.getElem?_eq_none (h2 ▸ Nat.le_of_not_lt hq)]

theorem updateRuns_scatter {α} (sh : Shape) (r : Subset) (xs ys : List α) (hr : r.wf = true)
    (hb : r.inboundsShape sh = true) (hx : xs.length = prod sh) (hy : ys.length = r.numElements) :
    (updateRuns sh r xs ys).map some = scatter sh r xs ys := by
  obtain ⟨hl, hp⟩ := updateRuns_spec sh r xs ys hr hb hx hy
  refine list_ext_box sh _ _ (by rw [List.length_map, hl]) (by rw [scatter, List.length_map, boxIndices_length])
    fun j hj => ?_
  have hlt : ravel j sh < (updateRuns sh r xs ys).length := hl ▸ ravel_lt j sh hj
  simp only [scatter, List.getElem?_map, boxIndices_getElem?_ravel j sh hj, Option.map_some, ← hp j hj,
    List.getElem?_eq_getElem hlt]

theorem mem_extract {α} (r : Subset) (sh : Shape) (xs : List α) (y : α) (h : y ∈ r.extract sh xs) : y ∈ xs := by
  simp only [Subset.extract, List.mem_flatMap] at h
  obtain ⟨i, _, hy⟩ := h
  exact List.mem_of_mem_drop (List.mem_of_mem_take hy)

theorem extract_spec {α} (r : Subset) (sh : Shape) (xs : List α) (hr : r.wf = true)
    (hb : r.inboundsShape sh = true) (hx : xs.length = prod sh) :
    (r.extract sh xs).length = r.numElements ∧
    ∀ j, inB j r.shape = true → (r.extract sh xs)[ravel j r.shape]? = xs[ravel (addIdx j r.start) sh]? := by
  have he := r.extract_exact sh xs hr hb hx
  have hlen : (r.extract sh xs).length = r.numElements := by
    have := congrArg List.length he
    simpa [Subset.gather, Subset.indices_length] using this
  refine ⟨hlen, ?_⟩
  intro j hj
  have := congrArg (fun l => l[ravel j r.shape]?) he
  simp only [Subset.gather, List.getElem?_map, r.indices_getElem?_box j hj, Option.map_some] at this
  have hlt : ravel j r.shape < (r.extract sh xs).length := by
    rw [hlen]; exact ravel_lt j r.shape hj
  rw [List.getElem?_eq_getElem hlt] at this ⊢
  simp only [Option.map_some, Option.some.injEq] at this
  exact this

theorem updateRuns_mem {α} (sh : Shape) (r : Subset) (xs ys : List α) (hr : r.wf = true)
    (hb : r.inboundsShape sh = true) (hx : xs.length = prod sh) (hy : ys.length = r.numElements) :
    ∀ z ∈ updateRuns sh r xs ys, z ∈ xs ∨ z ∈ ys := by
  obtain ⟨hl, hp⟩ := updateRuns_spec sh r xs ys hr hb hx hy
  intro z hz
  obtain ⟨q, hq, rfl⟩ := List.mem_iff_getElem.mp hz
  rw [hl] at hq
  have := hp (unravel q sh) (unravel_inB q sh hq)
  rw [ravel_unravel q sh hq, List.getElem?_eq_getElem (by rw [hl]; exact hq)] at this
  split at this
  · exact Or.inr (List.mem_of_getElem? this.symm)
  · exact Or.inl (List.mem_of_getElem? this.symm)

end Zarrs
