import ZarrsModel.Lemmas.VlenArr
/-
`merge_chunks_vlen` against the element-level gather (`updateRuns` folded over the chunks, as in
`ArrCfg.retrieveArraySubset`).  Both sides become one `foldl` of `List.set` over the (linear index, element) pairs of all
chunks (`partKV`): the size loop of the Rust function is that fold under `List.length`, and its write loop, which works
on one flat buffer, is that fold on a list of place holders with the final element lengths (`write_loop`).  The keys are
distinct for disjoint chunks (`keys_nodup`), so every element written is the merged one (`foldl_set_spec`); the start of
such a fold matters only where nothing is written (`foldl_set_congr`).
-/
namespace Zarrs.VlenArr
open Zarrs Zarrs.Codec Zarrs.Vlen Zarrs.Partial

theorem mem_linearised_inB (r : Subset) (sh : Shape) (hr : r.wf = true) (hb : r.inboundsShape sh = true) (k : Nat) :
    k ∈ r.linearised sh ↔ ∃ i, r.contains i = true ∧ inB i sh = true ∧ ravel i sh = k := by
  rw [Zarrs.mem_linearised r sh hr]
  exact ⟨fun ⟨i, hi, he⟩ => ⟨i, hi, Subset.inB_of_inboundsShape hb hi, he⟩, fun ⟨i, hi, _, he⟩ => ⟨i, hi, he⟩⟩

structure PartOk (sh : Shape) (p : VArr × Subset) : Prop where
  wf : p.2.wf = true
  inb : p.2.inboundsShape sh = true
  valid : p.1.valid p.2.numElements = true

def PartsDisjoint (parts : List (VArr × Subset)) : Prop :=
  parts.Pairwise (fun p q => ∀ i, ¬ (p.2.contains i = true ∧ q.2.contains i = true))

def partKV (sh : Shape) (p : VArr × Subset) : List (Nat × Bytes) := (p.2.linearised sh).zip p.1.elems

theorem partKV_keys (sh : Shape) (p : VArr × Subset) (h : PartOk sh p) :
    (partKV sh p).map Prod.fst = p.2.linearised sh :=
  List.map_fst_zip (by rw [linearised_length, elems_length _ _ h.valid]; exact Nat.le_refl _)

theorem merged_eq_foldl_set (sh : Shape) : ∀ (parts : List (VArr × Subset)) (init : List Bytes),
    (∀ p ∈ parts, PartOk sh p) → init.length = prod sh →
    parts.foldl (fun out p => updateRuns sh p.2 out p.1.elems) init =
      (parts.flatMap (partKV sh)).foldl (fun acc p => acc.set p.1 p.2) init := by
  intro parts
  induction parts with
  | nil => intro init _ _; rfl
  | cons p rest ih =>
    intro init hok hlen
    have hp := hok p (by simp)
    rw [List.foldl_cons, List.flatMap_cons, List.foldl_append,
      updateRuns_eq_foldl_set sh p.2 init p.1.elems hp.wf hp.inb hlen (elems_length _ _ hp.valid)]
    apply ih _ (fun q hq => hok q (by simp [hq]))
    exact (length_foldl_set _ _).trans hlen

theorem mem_keys (sh : Shape) (parts : List (VArr × Subset)) (hok : ∀ p ∈ parts, PartOk sh p) (k : Nat)
    (hk : k ∈ (parts.flatMap (partKV sh)).map Prod.fst) : ∃ p ∈ parts, k ∈ p.2.linearised sh := by
  obtain ⟨kv, hkv, rfl⟩ := List.mem_map.mp hk
  obtain ⟨p, hp, hkvp⟩ := List.mem_flatMap.mp hkv
  exact ⟨p, hp, partKV_keys sh p (hok p hp) ▸ List.mem_map_of_mem hkvp⟩

theorem keys_lt (sh : Shape) (parts : List (VArr × Subset)) (hok : ∀ p ∈ parts, PartOk sh p) :
    ∀ k ∈ (parts.flatMap (partKV sh)).map Prod.fst, k < prod sh := by
  intro k hk
  obtain ⟨p, hp, h⟩ := mem_keys sh parts hok k hk
  exact linearised_lt p.2 sh (hok p hp).wf (hok p hp).inb k h

theorem keys_nodup (sh : Shape) : ∀ (parts : List (VArr × Subset)), (∀ p ∈ parts, PartOk sh p) → PartsDisjoint parts →
    ((parts.flatMap (partKV sh)).map Prod.fst).Nodup := by
  intro parts
  induction parts with
  | nil => intro _ _; simp
  | cons p rest ih =>
    intro hok hd
    have hp := hok p (by simp)
    have hrest : ∀ q ∈ rest, PartOk sh q := fun q hq => hok q (by simp [hq])
    unfold PartsDisjoint at hd
    rw [List.pairwise_cons] at hd
    rw [List.flatMap_cons, List.map_append, partKV_keys sh p hp, List.nodup_append]
    refine ⟨(p.2.linearised_sorted sh hp.wf hp.inb).imp (fun h => Nat.ne_of_lt h), ih hrest hd.2, ?_⟩
    -- a key of `p` and of a later chunk `q` would be an index in both subsets
    intro a ha b hb' hab
    subst hab
    obtain ⟨q, hq, hbq⟩ := mem_keys sh rest hrest a hb'
    obtain ⟨i, hi, hib, he⟩ := (mem_linearised_inB p.2 sh hp.wf hp.inb a).mp ha
    obtain ⟨i', hi', hib', he'⟩ := (mem_linearised_inB q.2 sh (hrest q hq).wf (hrest q hq).inb a).mp hbq
    have : i = i' := ravel_inj i i' sh hib hib' (he.trans he'.symm)
    subst this
    exact hd.1 q hq i ⟨hi, hi'⟩

theorem partKV_eq_map (sh : Shape) (p : VArr × Subset) :
    partKV sh p = ((p.2.linearised sh).zip (windows p.1.offsets)).map (fun q => (q.1, slice p.1.data q.2.1 q.2.2)) := by
  unfold partKV VArr.elems
  rw [List.zip_map_right]
  apply List.map_congr_left
  intro q _; rfl

theorem mem_zip_windows (sh : Shape) (p : VArr × Subset) (h : PartOk sh p) :
    ∀ q ∈ (p.2.linearised sh).zip (windows p.1.offsets), q.2.1 ≤ q.2.2 ∧ q.2.2 ≤ p.1.data.length := by
  intro q hq
  exact windows_le _ _ h.valid q.2 (List.of_mem_zip hq).2

theorem items_sizes (sh : Shape) (p : VArr × Subset) (h : PartOk sh p) :
    (partItems sh p).map (fun it => (it.1, it.2.2.2 - it.2.2.1)) = (partKV sh p).map (fun kv => (kv.1, kv.2.length)) := by
  rw [partKV_eq_map, partItems, List.map_map, List.map_map]
  apply List.map_congr_left
  intro q hq
  obtain ⟨h1, h2⟩ := mem_zip_windows sh p h q hq
  simp only [Function.comp, slice_length _ _ _ h2]

theorem items_kv (sh : Shape) (p : VArr × Subset) :
    (partItems sh p).map (fun it => (it.1, slice it.2.1 it.2.2.1 it.2.2.2)) = partKV sh p := by
  rw [partKV_eq_map, partItems, List.map_map]
  rfl

theorem items_src (sh : Shape) (p : VArr × Subset) (h : PartOk sh p) :
    ∀ it ∈ partItems sh p, getRange it.2.1 it.2.2.1 it.2.2.2 = some (slice it.2.1 it.2.2.1 it.2.2.2) := by
  intro it hit
  rw [partItems, List.mem_map] at hit
  obtain ⟨q, hq, rfl⟩ := hit
  obtain ⟨h1, h2⟩ := mem_zip_windows sh p h q hq
  exact getRange_eq_slice _ _ _ h1 h2

theorem cumOffsets_map_length : ∀ (E : List Bytes) (s : Nat), cumOffsets s (E.map List.length) = offsetsFrom s E := by
  intro E
  induction E with
  | nil => intro s; rfl
  | cons x xs ih => intro s; simp only [List.map_cons, cumOffsets, offsetsFrom, ih]

theorem writeItem_flatten (E F : List Bytes) (hF : F.map List.length = E.map List.length)
    (it : Nat × Bytes × Nat × Nat) (x : Bytes) (hx : E[it.1]? = some x)
    (hsrc : getRange it.2.1 it.2.2.1 it.2.2.2 = some x) :
    writeItem (offsetsFrom 0 E) F.flatten it = some (F.set it.1 x).flatten := by
  obtain ⟨hk, rfl⟩ := List.getElem?_eq_some_iff.mp hx
  have hkF : it.1 < F.length := by
    have := congrArg List.length hF
    rw [List.length_map, List.length_map] at this
    rw [this]; exact hk
  have hy : F[it.1].length = E[it.1].length := by
    have := congrArg (·[it.1]?) hF
    simpa [List.getElem?_map, List.getElem?_eq_getElem hk, List.getElem?_eq_getElem hkF] using this
  have ha := offsetsFrom_getElem? E 0 it.1 (Nat.le_of_lt hk)
  have he := offsetsFrom_getElem? E 0 (it.1 + 1) hk
  -- `F` has the element lengths of `E`, hence the same offsets
  have hoff : ∀ k, (F.take k).flatten.length = (E.take k).flatten.length := fun k => by
    rw [List.length_flatten, List.length_flatten, List.map_take, List.map_take, hF]
  rw [Nat.zero_add, ← hoff] at ha he
  rw [List.take_succ_eq_append_getElem hkF, List.flatten_append, List.length_append, List.flatten_singleton] at he
  have hsplit : F.flatten = (F.take it.1).flatten ++ (F[it.1] ++ (F.drop (it.1 + 1)).flatten) := by
    conv => lhs; rw [← List.take_append_drop it.1 F, List.drop_eq_getElem_cons hkF]
    rw [List.flatten_append, List.flatten_cons]
  rw [writeItem, hsrc, ha, he]
  simp only [writeSlice]
  rw [if_pos ⟨Nat.le_add_right _ _, by rw [hsplit]; simp, by rw [Nat.add_sub_cancel_left, hy]⟩,
    List.set_eq_take_append_cons_drop, if_pos hkF, List.flatten_append, List.flatten_cons]
  congr 1
  rw [hsplit, List.take_left, ← List.append_assoc, List.drop_left' (by rw [List.length_append]), List.append_assoc]

/-- the option fold of `Model/Array`, written out again in `Model/VlenArr`: the `ArrCfg.foldOpt_*` facts hold of it -/
theorem foldOptB_eq_foldOpt {σ β} (f : σ → β → Option σ) : ∀ (s : σ) (l : List β), foldOptB f s l = ArrCfg.foldOpt f s l
  | _, [] => rfl
  | s, b :: bs => by
    rw [foldOptB, ArrCfg.foldOpt]
    cases f s b with
    | none => rfl
    | some s' => exact foldOptB_eq_foldOpt f s' bs

theorem write_loop (E : List Bytes) : ∀ (L : List (Nat × Bytes × Nat × Nat)) (F : List Bytes),
    F.map List.length = E.map List.length →
    (∀ it ∈ L, E[it.1]? = some (slice it.2.1 it.2.2.1 it.2.2.2) ∧
      getRange it.2.1 it.2.2.1 it.2.2.2 = some (slice it.2.1 it.2.2.1 it.2.2.2)) →
    foldOptB (writeItem (offsetsFrom 0 E)) F.flatten L =
      some ((L.map fun it => (it.1, slice it.2.1 it.2.2.1 it.2.2.2)).foldl (fun acc p => acc.set p.1 p.2) F).flatten
  | [], _, _, _ => rfl
  | it :: L, F, hF, hsrc => by
    obtain ⟨hx, hget⟩ := hsrc it List.mem_cons_self
    rw [foldOptB, writeItem_flatten E F hF it _ hx hget]
    refine write_loop E L _ ?_ fun it' h => hsrc it' (List.mem_cons_of_mem _ h)
    obtain ⟨hk, hxe⟩ := List.getElem?_eq_some_iff.mp hx
    rw [List.map_set, hF, ← hxe, ← List.getElem_map List.length (h := by rw [List.length_map]; exact hk),
      List.set_getElem_self]

theorem mergeChunksVlen_spec (parts : List (VArr × Subset)) (sh : Shape) (hok : ∀ p ∈ parts, PartOk sh p)
    (hd : PartsDisjoint parts) :
    mergeChunksVlen parts sh =
      some (VArr.ofElems (parts.foldl (fun out p => updateRuns sh p.2 out p.1.elems) (List.replicate (prod sh) []))) := by
  have hE := merged_eq_foldl_set sh parts (List.replicate (prod sh) []) hok (by simp)
  obtain ⟨h1, h2, h3⟩ := foldl_set_spec (parts.flatMap (partKV sh)) (List.replicate (prod sh) [])
    (keys_nodup sh parts hok hd) (by rw [List.length_replicate]; exact keys_lt sh parts hok)
  generalize parts.foldl (fun out p => updateRuns sh p.2 out p.1.elems) (List.replicate (prod sh) []) = E at hE ⊢
  rw [← hE] at h1 h2 h3
  -- the sizes the first loop records are the lengths of the merged elements
  have hmap : (parts.flatMap (partItems sh)).map (fun it => (it.1, it.2.2.2 - it.2.2.1)) =
      (parts.flatMap (partKV sh)).map (fun kv => (kv.1, kv.2.length)) := by
    rw [List.map_flatMap, List.map_flatMap]
    exact flatMap_congr' fun p hp => items_sizes sh p (hok p hp)
  have hsizes : (parts.flatMap (partItems sh)).foldl (fun (acc : List Nat) it => acc.set it.1 (it.2.2.2 - it.2.2.1))
      (List.replicate (prod sh) 0) = E.map List.length := by
    have hz : List.replicate (prod sh) 0 = (List.replicate (prod sh) ([] : Bytes)).map List.length := by simp
    have := foldl_set_map (List.length (α := Nat)) (parts.flatMap (partKV sh)) (List.replicate (prod sh) [])
    rw [← hmap, ← hz, List.foldl_map, ← hE] at this
    exact this
  have hall : parts.all (fun p => p.2.inboundsShape sh) = true :=
    List.all_eq_true.mpr fun p hp => (hok p hp).inb
  have hlast : (offsetsFrom 0 E).getLastD 0 = E.flatten.length := by
    rw [List.getLastD_eq_getLast?, offsetsFrom_getLast]; simp
  -- the write loop starts from zero elements of these lengths; where no item writes, the merged element is empty too
  have hw := write_loop E (parts.flatMap (partItems sh)) (E.map fun e => List.replicate e.length 0)
    (by simp [Function.comp_def]) (by
      intro it hit
      obtain ⟨p, hp, hitp⟩ := List.mem_flatMap.mp hit
      refine ⟨h2 (it.1, _) (List.mem_flatMap.mpr ⟨p, hp, ?_⟩), items_src sh p (hok p hp) it hitp⟩
      rw [← items_kv]
      exact List.mem_map_of_mem hitp)
  rw [List.map_flatMap, flatMap_congr' (fun p _ => items_kv sh p),
    foldl_set_congr _ _ (List.replicate (prod sh) []) (by rw [List.length_map, h1]) (fun k => by
      by_cases hmem : k ∈ (parts.flatMap (partKV sh)).map Prod.fst
      · exact Or.inl hmem
      · right
        rw [List.getElem?_map, h3 k hmem, List.getElem?_replicate]
        split <;> rfl), ← hE] at hw
  simp only [mergeChunksVlen, hall, Bool.not_true, Bool.false_eq_true, if_false]
  rw [hsizes, cumOffsets_map_length, hlast, ← flatten_map_replicate, hw]
  rfl

/-- the array model starts from the fill value, `merge_chunks_vlen` from empty elements -/
theorem merged_init_irrelevant (sh : Shape) (parts : List (VArr × Subset)) (hok : ∀ p ∈ parts, PartOk sh p)
    (hcover : ∀ i, inB i sh = true → ∃ p ∈ parts, p.2.contains i = true)
    (init1 init2 : List Bytes) (hl1 : init1.length = prod sh) (hl2 : init2.length = prod sh) :
    parts.foldl (fun out p => updateRuns sh p.2 out p.1.elems) init1 =
      parts.foldl (fun out p => updateRuns sh p.2 out p.1.elems) init2 := by
  rw [merged_eq_foldl_set sh parts init1 hok hl1, merged_eq_foldl_set sh parts init2 hok hl2]
  refine foldl_set_congr _ _ _ (hl1.trans hl2.symm) fun k => ?_
  by_cases hk : k < prod sh
  · left
    have hi := unravel_inB k sh hk
    obtain ⟨p, hp, hc⟩ := hcover _ hi
    rw [List.map_flatMap]
    refine List.mem_flatMap.mpr ⟨p, hp, ?_⟩
    rw [partKV_keys sh p (hok p hp)]
    exact (mem_linearised_inB p.2 sh (hok p hp).wf (hok p hp).inb k).mpr ⟨_, hc, hi, ravel_unravel k sh hk⟩
  · right
    rw [List.getElem?_eq_none (by omega), List.getElem?_eq_none (by omega)]

end Zarrs.VlenArr
