import ZarrsModel.Model.FsConc
import ZarrsModel.Lemmas.MemConcStep
import ZarrsModel.Lemmas.ListBasic
/- The per-key RwLock protocol of `FilesystemStore`: the current operation of a thread, the equations of `history.go` by kind
of step (as for `MemConc`), and the steps of the repaired protocol by case (`step_cases`): fetching the lock, the truncation
of a `set`, and the response step of any operation, which is the atomic register's step. -/
namespace Zarrs.FsConc
open Zarrs.MemConc (Op Res Protocol Done specStep readRes invOf)

theorem curOp_respond_ne (ps : Progs) (s : State) (t t' : Nat) (r : Res) (hne : t ≠ t') :
    curOp ps (respond s t r) t' = curOp ps s t' := by
  unfold curOp respond
  simp only [List.getElem?_set, if_neg hne]

theorem curOp_noPartial {ps : Progs} (hnp : noPartial ps = true) (s : State) (t : Nat) (o : Nat) (v : Bytes) :
    curOp ps s t ≠ some (.setPartial o v) := by
  intro h
  unfold curOp at h
  split at h
  · rename_i p k hp hk
    cases List.all_eq_true.mp (List.all_eq_true.mp hnp p (List.mem_of_getElem? hp)) _ (List.mem_of_getElem? h)
  · cases h

theorem curOp_none_of_allFinished {ps : Progs} {s : State} (h : allFinished ps s = true) (t : Nat) :
    curOp ps s t = none := by
  by_cases ht : t < ps.length
  · exact Option.isNone_iff_eq_none.mp (List.all_eq_true.mp h t (List.mem_range.mpr ht))
  · unfold curOp
    rw [List.getElem?_eq_none (by omega)]

theorem respond_pc {s : State} {t : Nat} (r : Res) (ht : t < s.pc.length) :
    (respond s t r).pc.getD t 0 = s.pc.getD t 0 + 1 :=
  (getD_set ht _ _ _).trans (if_pos rfl)

theorem respond_out {s : State} {t : Nat} (r : Res) (ht : t < s.out.length) :
    ((respond s t r).out.getD t []).getLast? = some r := by
  rw [respond, getD_set ht, if_pos rfl, List.getLast?_append, List.getLast?_singleton]
  rfl

section
variable {pr : Protocol} {ps : Progs} {s : State} {time : Nat} {invs : List (Option Nat)} {acc : List Done}
  {t : Nat} {rest : List Nat}

theorem go_disabled (hen : enabled pr ps s t = false) : history.go pr ps s time invs acc (t :: rest) = none := by
  simp only [history.go, hen, Bool.not_false, if_true]

theorem go_noresp (hen : enabled pr ps s t = true) (hpc : (step pr ps s t).pc.getD t 0 = s.pc.getD t 0) :
    history.go pr ps s time invs acc (t :: rest) =
      history.go pr ps (step pr ps s t) (time + 1) (invs.set t (some (invOf invs t time))) acc rest := by
  simp only [history.go, hen, hpc, Bool.not_true, bne_self_eq_false, invOf]
  rfl

theorem go_resp {op : Op} {r : Res} (hen : enabled pr ps s t = true)
    (hpc : (step pr ps s t).pc.getD t 0 = s.pc.getD t 0 + 1) (hop : curOp ps s t = some op)
    (hout : ((step pr ps s t).out.getD t []).getLast? = some r) :
    history.go pr ps s time invs acc (t :: rest) =
      history.go pr ps (step pr ps s t) (time + 1) (invs.set t none)
        (acc ++ [⟨t, s.pc.getD t 0, op, r, invOf invs t time, time⟩]) rest := by
  have hne : ((s.pc.getD t 0 + 1) != s.pc.getD t 0) = true := bne_iff_ne.mpr (Nat.succ_ne_self _)
  simp only [history.go, hen, hpc, hne, hop, hout, Bool.not_true, invOf]
  rfl

end

theorem step_cases {ps : Progs} (hnp : noPartial ps = true) {s : State} {t : Nat}
    (hen : enabled .fixed ps s t = true)
    (hwr : ∀ t, s.ts.getD t .idle = .writing → s.writer = some t ∧ ∃ v, curOp ps s t = some (.set v)) :
    -- M: fetch the key's lock from the registry
    (s.ts.getD t .idle = .idle ∧ step .fixed ps s t = { s with ts := s.ts.set t TS.haveMutex }) ∨
    -- L1 of a set: take the write lock, truncate
    (s.ts.getD t .idle = .haveMutex ∧ s.writer = none ∧ (∃ v, curOp ps s t = some (.set v)) ∧
      step .fixed ps s t = { s with writer := some t, file := some [], ts := s.ts.set t TS.writing }) ∨
    -- the response step of any operation: it is the atomic register's step on the abstract value
    (∃ op, curOp ps s t = some op ∧ (∀ t', s.writer = some t' → t' = t) ∧
      ∀ A, (s.writer = none → A = s.file) →
        step .fixed ps s t = respond { s with file := (specStep A op).1, writer := none } t (specStep A op).2) := by
  unfold enabled at hen
  unfold step
  cases hop : curOp ps s t with
  | none => simp [hop] at hen
  | some op =>
    cases hts : s.ts.getD t TS.idle with
    | idle =>
      left
      refine ⟨rfl, ?_⟩
      cases op <;> rfl
    | haveMutex =>
      have hfree : s.writer = none := by
        rw [hop, hts] at hen
        simpa [lockFree] using hen
      have hwt : ∀ t', s.writer = some t' → t' = t := fun t' h' => by rw [hfree] at h'; cases h'
      have hfile : ∀ A, (s.writer = none → A = s.file) → A = s.file := fun A hA => hA hfree
      obtain ⟨file, writer, pc, ts, out⟩ := s
      cases hfree
      cases op with
      | set v => right; left; exact ⟨rfl, rfl, ⟨v, rfl⟩, rfl⟩
      | setPartial o v => exact absurd hop (curOp_noPartial hnp _ t o v)
      | get => right; right; exact ⟨_, rfl, hwt, fun A hA => by cases hfile A hA; cases file <;> rfl⟩
      | getRange o n => right; right; exact ⟨_, rfl, hwt, fun A hA => by cases hfile A hA; cases file <;> rfl⟩
      | size => right; right; exact ⟨_, rfl, hwt, fun A hA => by cases hfile A hA; rfl⟩
      | erase => right; right; exact ⟨_, rfl, hwt, fun A _ => rfl⟩
    | writing =>
      obtain ⟨hw, v, hv⟩ := hwr t hts
      rw [hop] at hv
      cases hv
      right; right
      refine ⟨_, rfl, fun t' h' => (by rw [hw] at h'; cases h'; rfl), fun A _ => rfl⟩

end Zarrs.FsConc
