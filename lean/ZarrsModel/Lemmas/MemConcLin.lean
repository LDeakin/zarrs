import ZarrsModel.Lemmas.MemConcHist
/- Induction over the schedule of `history`: the ghost linearization list of a complete execution -/
namespace Zarrs.MemConc

theorem go_inv {ps : Progs} {i0 : Option Bytes} {sched : List Nat} (hs : ∀ t ∈ sched, t < ps.length)
    {s : State} {time : Nat} {invs : List (Option Nat)} {acc : List Done} {lin : List LinE}
    (hw : WF ps s) (g : GInv ps i0 (view s) lin)
    (hh : HInv ps (view s) lin time invs acc) {s' : State} {h : List Done}
    (hgo : history.go .fixed ps s time invs acc sched = some (s', h)) :
    ∃ lin' time' invs', WF ps s' ∧ GInv ps i0 (view s') lin' ∧ HInv ps (view s') lin' time' invs' h := by
  induction sched generalizing s time invs acc lin with
  | nil =>
    cases hgo
    exact ⟨lin, time, invs, hw, g, hh⟩
  | cons t rest ih =>
    have ht : t < ps.length := hs t List.mem_cons_self
    have ih := @ih (fun t' ht' => hs t' (List.mem_cons_of_mem _ ht'))
    cases hen : enabled .fixed ps s t with
    | false => rw [go_disabled hen] at hgo; cases hgo
    | true =>
      obtain ⟨hw', lin', r, hst, hout⟩ := step_view hw ht hen time lin
      obtain ⟨new, hnew, ns⟩ := hst.new_spec hw.vwf
      subst hnew
      have g' := ginv_step hw.vwf g hst ns
      cases hr : r with
      | none =>
        obtain ⟨hpc, hidle, _⟩ := hst.pc_silent hr
        rw [go_noresp hen hpc, show invOf invs t time = time by unfold invOf; rw [hh.inv_idle t hidle]] at hgo
        exact ih hw' g' (hinv_step_none g hh ht hst ns hr) hgo
      | some res =>
        obtain ⟨op, hop⟩ := hst.op_self
        rw [go_resp hen (hst.pc_resp hr).1 ((curOp_eq ps s hw.lwf.lpc t).trans hop) (hout res hr)] at hgo
        exact ih hw' g' (hinv_step_some g g' hh ht hst ns hr hop) hgo

theorem ginv_init (ps : Progs) (i0 : Option Bytes) : GInv ps i0 (view (init ps i0)) [] := by
  have hts : ∀ t, (view (init ps i0)).ts t = .idle := tsOf_init ps i0
  refine ⟨?_, (fun _ h => nomatch h), (fun _ h => nomatch h), (fun _ h => nomatch h), ?_, ?_, .nil⟩
  · cases i0 with
    | none => rfl
    | some b =>
      show some (some b) = some (some (logical ps (view (init ps (some b))) 0))
      rw [logical_free (wl_init ps (some b) 0)]
      rfl
  · intro t c h; rw [hts] at h; cases h
  · intro t c h; rw [hts] at h; cases h

theorem hinv_init (ps : Progs) (i0 : Option Bytes) :
    HInv ps (view (init ps i0)) [] 0 (ps.map (fun _ => none)) [] := by
  have hts : ∀ t, (view (init ps i0)).ts t = .idle := tsOf_init ps i0
  refine ⟨.nil, (fun _ h => nomatch h), (fun _ h => nomatch h), (fun _ h => nomatch h), .nil, List.length_map _, ?_, ?_⟩
  · exact fun t _ => getD_map_const ps _ t
  · intro t h; exact absurd (hts t) h

theorem history_ghost (ps : Progs) (i0 : Option Bytes) (sched : List Nat) (hs : ∀ t ∈ sched, t < ps.length)
    (s : State) (h : List Done) (hrun : history .fixed ps i0 sched = some (s, h))
    (hfin : allFinished ps s = true) : ∃ lin, Ghost ps i0 (finalValue s) h lin := by
  obtain ⟨lin, time, invs, ⟨hl, hv⟩, g, hh⟩ := go_inv hs (wf_init ps i0) (ginv_init ps i0) (hinv_init ps i0) hrun
  -- a thread that is not idle has a current operation, but every thread has finished
  have hidle : ∀ t, (view s).ts t = .idle := by
    intro t
    by_cases hts : (view s).ts t = .idle
    · exact hts
    · have hop : ∃ op, opAt ps t (pcOf s t) = some op := by
        cases h : (view s).ts t with
        | idle => exact absurd h hts
        | setGot c => exact absurd h (hv.no_got t c)
        | setHold c => exact (hv.hold_op t c h).imp (fun _ h => h.1)
        | getHold c => exact (hv.get_op t c h).2.imp (fun _ h => h.1)
      obtain ⟨op, hop⟩ := hop
      have := List.all_eq_true.mp hfin t (List.mem_range.mpr (hv.ts_lt t hts))
      rw [curOp_eq ps s hl.lpc, hop] at this
      cases this
  have hfree : ∀ c, (view s).wl c = none := by
    intro c
    cases hw : (view s).wl c with
    | none => rfl
    | some t => have := (hv.lock_iff t c).mp hw; rw [hidle] at this; cases this
  have hfinal : (view s).cur.map (logical ps (view s)) = finalValue s := by
    show s.cur.map _ = s.cur.map _
    cases s.cur with
    | none => rfl
    | some c => simp only [Option.map_some, logical_free (hfree c)]; rfl
  have hdone : ∀ e ∈ lin, e.k < (view s).pc e.t := fun e he =>
    Nat.lt_of_le_of_ne (g.k_le e he) (fun h => (g.pend e he h).busy (hidle e.t))
  exact ⟨lin, by rw [g.legal, hfinal], hh.acc_nodup, g.nodup, hh.sorted, fun d => hh.matches,
    fun e he => hh.lin_acc e he (hdone e he), g.op_ok⟩

theorem opAt_mem {ps : Progs} {t k : Nat} {op : Op} (h : opAt ps t k = some op) : ∃ p ∈ ps, op ∈ p := by
  obtain ⟨p, hp, hk⟩ := Option.bind_eq_some_iff.mp h
  exact ⟨p, List.mem_of_getElem? hp, List.mem_of_getElem? hk⟩

theorem specStep_value {a : Option Bytes} {op : Op} {b : Bytes} (hnp : ∀ o v, op ≠ .setPartial o v)
    (h : (specStep a op).1 = some b) : some b = a ∨ op = .set b := by
  cases op with
  | set v => exact .inr (congrArg Op.set (Option.some.inj h))
  | setPartial o v => exact absurd rfl (hnp o v)
  | erase => cases h
  | _ => exact .inl h.symm

theorem legalG_get_written {l : List LinE} {a0 af : Option Bytes} (hleg : legalG a0 l = some af)
    (hnp : ∀ e ∈ l, ∀ o v, e.op ≠ .setPartial o v) {e : LinE} (he : e ∈ l) {b : Bytes} (hop : e.op = .get)
    (hres : e.res = .bytes (some b)) : some b = a0 ∨ ∃ e' ∈ l, e'.op = .set b := by
  induction l generalizing a0 with
  | nil => cases he
  | cons e0 es ih =>
    rw [legalG_cons] at hleg
    split at hleg
    · rename_i hr0
      rcases List.mem_cons.mp he with rfl | he'
      · rw [hop, hres] at hr0
        exact .inl (Res.bytes.inj hr0).symm
      · rcases ih hleg (fun e' he' => hnp e' (List.mem_cons_of_mem _ he')) he' with h | ⟨e', he', h⟩
        · exact (specStep_value (hnp e0 List.mem_cons_self) h.symm).imp id (fun h => ⟨e0, List.mem_cons_self, h⟩)
        · exact .inr ⟨e', List.mem_cons_of_mem _ he', h⟩
    · cases hleg

end Zarrs.MemConc
