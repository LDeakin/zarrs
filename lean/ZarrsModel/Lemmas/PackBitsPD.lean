import ZarrsModel.Model.PackBitsPD
import ZarrsModel.Lemmas.PackBits
import ZarrsModel.Lemmas.Slice
import ZarrsModel.Lemmas.ListBasic
import ZarrsModel.Lemmas.Partial
/- the packbits partial decoder (C02): the full decoder as a list of components; the loops over the components of a run and
over the runs of a region as invariants on a partly filled output; the requested byte ranges; the stacking of a chain -/
namespace Zarrs.PackBitsPD
open Zarrs Zarrs.Codec Zarrs.Partial Zarrs.PackBits

theorem readBits_slice (body : Bytes) (a e s n : Nat) (he : e ≤ body.length) (hb : 8 * a + s + n ≤ 8 * e) :
    readBits (slice body a e) s n = some (((allBits body).drop (8 * a + s)).take n) := by
  unfold readBits
  have hl : (slice body a e).length = e - a := slice_length body a e he
  have h1 : s + n ≤ 8 * (e - a) := by
    rw [Nat.mul_sub]; exact Nat.le_sub_of_add_le' (Nat.add_assoc .. ▸ hb)
  rw [hl, if_pos h1, slice, allBits_take, allBits_drop, List.drop_take, List.take_take, List.drop_drop,
    Nat.min_eq_left (Nat.le_sub_of_add_le' h1)]

def bodyOf (c : Cfg) (v : Bytes) : Bytes :=
  match c.pad with
  | .none => v
  | .firstByte => v.drop 1
  | .lastByte => v.dropLast

def compAt (c : Cfg) (bits : List Bool) (j : Nat) : Nat := place c (natOfBits ((bits.drop (j * c.n)).take c.n))

def compsOf (c : Cfg) (count : Nat) (v : Bytes) : List Nat := (List.range count).map (compAt c (allBits (bodyOf c v)))

theorem compsOf_length (c : Cfg) (count : Nat) (v : Bytes) : (compsOf c count v).length = count := by
  simp [compsOf]

theorem bodyOf_length (c : Cfg) (v : Bytes) : (bodyOf c v).length = v.length - (if c.pad == .none then 0 else 1) := by
  unfold bodyOf
  cases c.pad
  · rfl
  · exact List.length_drop
  · exact List.length_dropLast

theorem offset_le (c : Cfg) : offset c ≤ (if c.pad == .none then 0 else 1) := by
  unfold offset; cases c.pad <;> decide

theorem bodyOf_eq_slice (c : Cfg) (v : Bytes) : bodyOf c v = slice v (offset c) (offset c + (bodyOf c v).length) := by
  unfold bodyOf offset slice
  cases c.pad
  · simp
  · simp [List.take_of_length_le]
  · simp [List.dropLast_eq_take]

theorem slice_bodyOf (c : Cfg) (v : Bytes) (a e : Nat) (he : e ≤ (bodyOf c v).length) :
    slice v (offset c + a) (offset c + e) = slice (bodyOf c v) a e := by
  have := slice_slice v (offset c) (bodyOf c v).length a e he
  rw [← bodyOf_eq_slice] at this
  exact this.symm

/-- the slow path of `decode` in terms of `bodyOf` / `compsOf`: the components, the length of the packed part, and that
the packed part with its padding byte lies in `v` -/
theorem decode_slow (c : Cfg) (count : Nat) (v d : Bytes) (hf : fast c = false) (h : decode c count v = some d) :
    d = (compsOf c count v).flatMap (toLE c.cb) ∧
    (bodyOf c v).length = (count * c.n + 7) / 8 ∧
    offset c + (bodyOf c v).length ≤ v.length := by
  unfold decode at h
  rw [if_neg (Bool.eq_false_iff.mp hf)] at h
  split at h
  · cases h
  · rename_i hne
    have hlen := (by simpa using hne : v.length = encodedSize c count).trans (encodedSize_slow c count hf)
    obtain ⟨body, hb, hd⟩ := Option.map_eq_some_iff.mp h
    have hbody : body = bodyOf c v := by
      unfold bodyOf
      cases hp : c.pad <;> rw [hp] at hb <;> dsimp only at hb ⊢
      · exact (Option.some.inj hb).symm
      · split at hb
        · exact (Option.some.inj hb).symm
        · cases hb
      · split at hb
        · exact (Option.some.inj hb).symm
        · cases hb
    have hbl : (bodyOf c v).length = (count * c.n + 7) / 8 := by rw [bodyOf_length, hlen, Nat.add_sub_cancel]
    refine ⟨?_, hbl, ?_⟩
    · rw [← hd, hbody, takeBits_eq_range, List.map_map, compsOf, List.flatMap_def, List.map_map]
      rfl
    · rw [hbl, hlen, Nat.add_comm]; exact Nat.add_le_add_left (offset_le c) _

theorem place_of_lt (c : Cfg) (hfl : c.first ≤ c.last) (hl : c.last < c.w) (v : Nat) (hv : v < 2 ^ c.n) :
    (let x := 0 ||| (v * 2 ^ c.first)
     if c.sign && x / 2 ^ c.last % 2 == 1 then x ||| (2 ^ c.w - 2 ^ (c.last + 1)) else x) = place c v := by
  have hpos : 0 < 2 ^ c.first := Nat.pow_pos (by decide)
  have hdiv : v * 2 ^ c.first / 2 ^ c.last = v / 2 ^ (c.n - 1) := by
    rw [two_pow_last c hfl, Nat.mul_div_mul_right _ _ hpos]
  have hx : v * 2 ^ c.first < 2 ^ (c.last + 1) := by
    rw [two_pow_last_succ c hfl]
    exact Nat.mul_lt_mul_of_lt_of_le hv (Nat.le_refl _) hpos
  have hmask : 2 ^ c.w - 2 ^ (c.last + 1) = 2 ^ (c.last + 1) * (2 ^ (c.w - (c.last + 1)) - 1) := by
    rw [Nat.mul_sub, Nat.mul_one, ← two_pow_w c hl]
  simp only [Nat.zero_or, place, hdiv]
  split
  · rw [hmask, Nat.or_comm, ← Nat.two_pow_add_eq_or_of_lt hx, Nat.add_comm]
  · rfl

theorem writeComp_zero (c : Cfg) (hfl : c.first ≤ c.last) (hl : c.last < c.w) (done : List Nat) (z v : Nat)
    (hv : v < 2 ^ c.n) :
    writeComp c (done ++ List.replicate (z + 1) 0) done.length v = some (done ++ [place c v] ++ List.replicate z 0) := by
  unfold writeComp
  have hget : (done ++ List.replicate (z + 1) 0)[done.length]? = some 0 := by
    rw [List.getElem?_append_right (Nat.le_refl _)]
    simp [List.replicate_succ]
  rw [hget]
  simp only
  rw [place_of_lt c hfl hl v hv, List.set_append_right _ _ (Nat.le_refl _)]
  simp [List.replicate_succ]

/-- `z`: the zero slots of the later runs, left alone, so that `runsLoop_spec` can chain the runs -/
theorem runLoop_spec (c : Cfg) (hfl : c.first ≤ c.last) (hl : c.last < c.w) (packed : Bytes) (bitOff outer base : Nat)
    (X : List Bool) (M : Nat)
    (hread : ∀ k, k < M → readBits packed (k * c.n + bitOff) c.n = some ((X.drop ((base + k) * c.n)).take c.n)) :
    ∀ (m s z : Nat) (done : List Nat), done.length = outer + s → s + m ≤ M →
      runLoop c packed bitOff outer (List.range' s m) (done ++ List.replicate (m + z) 0) =
        some (done ++ (List.range' s m).map (fun k => compAt c X (base + k)) ++ List.replicate z 0) := by
  intro m
  induction m with
  | zero =>
    intro s z done _ _
    simp [runLoop]
  | succ m ih =>
    intro s z done hd hs
    rw [List.range'_succ, runLoop, hread s (Nat.lt_of_lt_of_le (Nat.lt_add_of_pos_right (Nat.succ_pos m)) hs)]
    simp only
    have e : m + 1 + z = (m + z) + 1 := Nat.add_right_comm m 1 z
    rw [e, ← hd, writeComp_zero c hfl hl done (m + z) _ (natOfBits_take_lt _ _)]
    simp only
    have hd' : (done ++ [place c (natOfBits ((X.drop ((base + s) * c.n)).take c.n))]).length = outer + (s + 1) := by
      rw [List.length_append, hd]; rfl
    rw [ih (s + 1) z _ hd' (by rw [Nat.add_assoc, Nat.add_comm 1]; exact hs)]
    simp only [List.map_cons, List.append_assoc, List.cons_append, List.nil_append, compAt]

theorem readBits_run (body : Bytes) (E R K n : Nat) (hK : K + n ≤ R) (he : (E + R + 7) / 8 ≤ body.length) :
    readBits (slice body (E / 8) ((E + R + 7) / 8)) (K + (E - 8 * (E / 8))) n =
      some (((allBits body).drop (E + K)).take n) := by
  rw [readBits_slice _ _ _ _ _ he (by omega)]
  congr 3
  omega

theorem run_bits (c : Cfg) (nc i k : Nat) : i * ebits c nc + k * c.n = (i * nc + k) * c.n := by
  rw [Nat.add_mul, ebits, Nat.mul_comm c.n nc, Nat.mul_assoc]

theorem run_end_le (c : Cfg) (nc N i run : Nat) (hi : i + run ≤ N) :
    (i * ebits c nc + run * ebits c nc + 7) / 8 ≤ (N * nc * c.n + 7) / 8 := by
  apply Nat.div_le_div_right
  have := Nat.mul_le_mul_right (ebits c nc) hi
  rw [Nat.add_mul] at this
  rw [Nat.mul_assoc, Nat.mul_comm nc c.n]
  exact Nat.add_le_add_right this 7

/-- `P i`: the bytes handed back for the run from element `i` on; kept abstract, since the caller has them as slices of the
whole value, not of the body -/
theorem runsLoop_spec (c : Cfg) (hfl : c.first ≤ c.last) (hl : c.last < c.w) (nc : Nat) (hnc : 0 < nc)
    (count : Nat) (v : Bytes) (N run : Nat) (hcount : count = N * nc)
    (hbody : (bodyOf c v).length = (count * c.n + 7) / 8)
    (P : Nat → Bytes)
    (hP : ∀ i, i + run ≤ N → P i = slice (bodyOf c v) (i * ebits c nc / 8) ((i * ebits c nc + run * ebits c nc + 7) / 8)) :
    ∀ (is : List Nat) (outer z : Nat) (done : List Nat), (∀ i ∈ is, i + run ≤ N) → done.length = outer →
      runsLoop c nc nc (is.map (fun i => (P i, (i * ebits c nc, run * ebits c nc)))) outer
          (done ++ List.replicate (is.length * (run * nc) + z) 0) =
        some (done ++ is.flatMap (fun i => ((compsOf c count v).drop (i * nc)).take (run * nc)) ++ List.replicate z 0) := by
  have hE : 0 < ebits c nc := Nat.mul_pos (Nat.succ_pos _) hnc
  intro is
  induction is with
  | nil =>
    intro outer z done _ _
    simp [runsLoop]
  | cons i is ih =>
    intro outer z done hall hd
    have hi : i + run ≤ N := hall i (by simp)
    have hseg : i * nc + run * nc ≤ count := by
      rw [hcount, ← Nat.add_mul]; exact Nat.mul_le_mul_right nc hi
    rw [List.map_cons, runsLoop, if_neg (by rw [beq_iff_eq]; exact Nat.ne_of_gt hE), Nat.mul_div_cancel _ hE]
    have hread : ∀ k, k < run * nc →
        readBits (P i) (k * c.n + (i * ebits c nc - 8 * (i * ebits c nc / 8))) c.n =
          some (((allBits (bodyOf c v)).drop ((i * nc + k) * c.n)).take c.n) := by
      intro k hk
      have hk1 : k * c.n + c.n ≤ run * ebits c nc := by
        rw [← Nat.succ_mul, ebits, Nat.mul_comm c.n nc, ← Nat.mul_assoc]
        exact Nat.mul_le_mul_right c.n hk
      rw [hP i hi, readBits_run _ _ _ _ _ hk1 (by rw [hbody, hcount]; exact run_end_le c nc N i run hi), run_bits]
    have hz : (i :: is).length * (run * nc) + z = run * nc + (is.length * (run * nc) + z) := by
      rw [List.length_cons, Nat.succ_mul, Nat.add_comm _ (run * nc), Nat.add_assoc]
    dsimp only
    rw [hz, List.range_eq_range']
    have hrun := runLoop_spec c hfl hl (P i) (i * ebits c nc - 8 * (i * ebits c nc / 8)) outer (i * nc)
      (allBits (bodyOf c v)) (run * nc) hread (run * nc) 0 (is.length * (run * nc) + z) done hd
      (Nat.le_of_eq (Nat.zero_add _))
    rw [hrun]
    simp only
    have hsegm : (List.range' 0 (run * nc)).map (fun k => compAt c (allBits (bodyOf c v)) (i * nc + k)) =
        ((compsOf c count v).drop (i * nc)).take (run * nc) := by
      rw [← List.range_eq_range', compsOf, range_map_drop_take _ count (i * nc) (run * nc) hseg]
    rw [hsegm]
    have hd' : (done ++ ((compsOf c count v).drop (i * nc)).take (run * nc)).length = outer + run * nc := by
      rw [List.length_append, hd, List.length_take, List.length_drop, compsOf_length,
        Nat.min_eq_left (Nat.le_sub_of_add_le' hseg)]
    rw [ih (outer + run * nc) z _ (fun j hj => hall j (by simp [hj])) hd']
    simp only [List.flatMap_cons, List.append_assoc]

theorem groups_comps (nc cb : Nat) (hnc : 0 < nc) (hcb : 0 < cb) (G : List (List Nat)) (hG : ∀ g ∈ G, g.length = nc) :
    groups (nc * cb) (G.flatten.flatMap (toLE cb)) = G.map (fun e => e.flatMap (toLE cb)) := by
  rw [flatMap_flatten]
  refine groups_of_flatten (nc * cb) (Nat.mul_pos hnc hcb) _ (List.forall_mem_map.mpr fun g hg => ?_)
  rw [length_flatMap_of_all cb _ g (fun v _ => toLE_length cb v), hG g hg]

theorem bitRanges_eq (c : Cfg) (nc : Nat) (sh : Shape) (r : Subset) :
    bitRanges c nc sh r =
      (r.contiguousLinearised sh).map (fun i => (i * ebits c nc, (r.contiguous sh).run * ebits c nc)) := rfl

theorem requests_eq (c : Cfg) (nc : Nat) (sh : Shape) (r : Subset) :
    requests c nc sh r =
      (r.contiguousLinearised sh).map (fun i => byteRangeOf c (i * ebits c nc, (r.contiguous sh).run * ebits c nc)) := by
  unfold requests
  rw [bitRanges_eq, List.map_map]
  rfl

theorem byteRangeOf_start_le (c : Cfg) (p : Nat × Nat) : offset c + p.1 / 8 ≤ offset c + (p.1 + p.2 + 7) / 8 :=
  Nat.add_le_add_left (Nat.div_le_div_right (by omega)) _

theorem byteRangeOf_valid (c : Cfg) (p : Nat × Nat) (len : Nat) (h : offset c + (p.1 + p.2 + 7) / 8 ≤ len) :
    (byteRangeOf c p).valid len = true := by
  simp only [byteRangeOf, ByteRange.valid, Option.getD_some, decide_eq_true_eq]
  rwa [Nat.add_sub_cancel' (byteRangeOf_start_le c p)]

theorem byteRangeOf_extract (c : Cfg) (p : Nat × Nat) (v : Bytes) :
    (byteRangeOf c p).extract v = slice v (offset c + p.1 / 8) (offset c + (p.1 + p.2 + 7) / 8) := by
  simp only [byteRangeOf, ByteRange.extract, ByteRange.start, ByteRange.stop]
  rw [Nat.add_sub_cancel' (byteRangeOf_start_le c p)]

theorem requests_valid (c : Cfg) (nc : Nat) (sh : Shape) (r : Subset) (hr : r.wf = true) (hb : r.inboundsShape sh = true)
    (len bodyLen : Nat) (hbody : bodyLen = (prod sh * nc * c.n + 7) / 8) (hoff : offset c + bodyLen ≤ len) :
    ∀ q ∈ requests c nc sh r, q.valid len = true := by
  rw [requests_eq]
  refine List.forall_mem_map.mpr fun i hi => ?_
  have h2 := run_end_le c nc (prod sh) i (r.contiguous sh).run (contiguous_bound r sh hr hb i hi)
  exact byteRangeOf_valid c _ len (Nat.le_trans (Nat.add_le_add_left (hbody ▸ h2) _) hoff)

theorem parts_zip (c : Cfg) (nc : Nat) (sh : Shape) (r : Subset) (v : Bytes) :
    ((requests c nc sh r).map (·.extract v)).zip (bitRanges c nc sh r) =
      (r.contiguousLinearised sh).map (fun i =>
        (slice v (offset c + i * ebits c nc / 8) (offset c + (i * ebits c nc + (r.contiguous sh).run * ebits c nc + 7) / 8),
          (i * ebits c nc, (r.contiguous sh).run * ebits c nc))) := by
  rw [requests_eq, bitRanges_eq, List.map_map, List.zip_map']
  exact List.map_congr_left fun i _ => congrArg (·, _) (byteRangeOf_extract c _ v)

theorem comps_flatten (c : Cfg) (hw : 0 < c.w) (ys : List Bytes) (h : ∀ y ∈ ys, y.length % c.cb = 0) :
    comps c ys.flatten = ys.flatMap (comps c) := by
  rw [comps_eq c hw]
  show (groups c.cb ys.flatten).map ofLE = ys.flatMap (fun y => (groups c.cb y).map ofLE)
  rw [groups_flatten c.cb (cb_pos c hw) ys h, List.map_flatMap]

theorem chainP_partialDecoder_eq (c : ChainP) (sh : Shape) (fill : Elem) (input : BHandle) :
    c.partialDecoder sh fill input =
      aPD c.a2a sh (partialDecoder c.cfg c.nc (shapesOf c.a2a sh) fill (c.b2b.foldr (fun st h => st.pd h) input)) :=
  stack_eq_aPD c.a2a sh fun s => partialDecoder c.cfg c.nc s fill _

end Zarrs.PackBitsPD
