import ZarrsModel.Model.DeflateSpec
import ZarrsModel.Lemmas.ListBasic
/-
What a copy means, independent of the byte-by-byte recursion of `copyFrom`: the output grows by `len` bytes, the earlier
output is untouched, and every new byte equals the byte `dist` positions before it (RFC 1951 §3.2.3) — also when
`dist < len`, where the source runs into the bytes being written (`copyFrom_spec`; `copyFrom_eq` gives the bytes).
Around it: `render` one token at a time (`render_lit`, `render_copy`, `render_lits`), the inversions of `renderTok`,
`render` and `renderBlocks` on `some`, and rendered data are bytes (`copyFrom_wf`, `render_wf`).
-/
namespace Zarrs.DeflateSpec
open Zarrs Zarrs.Inflate

theorem copyFrom_spec (n d : Nat) (out : Bytes) (h1 : 1 ≤ d) (h2 : d ≤ out.length) :
    (copyFrom n d out).length = out.length + n ∧ (copyFrom n d out).take out.length = out ∧
    ∀ i, i < n → (copyFrom n d out).getD (out.length + i) 0 = (copyFrom n d out).getD (out.length + i - d) 0 := by
  induction n generalizing out with
  | zero => simp [copyFrom]
  | succ n ih =>
    simp only [copyFrom]
    generalize hx : out.getD (out.length - d) 0 = x
    obtain ⟨l1, l2, l3⟩ := ih (out ++ [x]) (by simp only [List.length_append, List.length_cons, List.length_nil]; omega)
    generalize copyFrom n d (out ++ [x]) = R at l1 l2 l3
    simp only [List.length_append, List.length_cons, List.length_nil] at l1 l2 l3
    have hpre : R.take out.length = out := by
      have := congrArg (List.take out.length) l2
      rw [List.take_take] at this
      simpa [Nat.min_eq_left (Nat.le_succ _)] using this
    refine ⟨by omega, hpre, ?_⟩
    intro i hi
    cases i with
    | zero =>
      rw [Nat.add_zero, getD_of_take R _ _ _ l2 (by omega), getD_of_take R _ _ _ hpre (by omega), hx]
      simp [List.getD_eq_getElem?_getD]
    | succ j =>
      have := l3 j (by omega)
      have e1 : out.length + (j + 1) = out.length + (0 + 1) + j := by omega
      rw [e1]
      exact this

theorem copyFrom_eq (n d : Nat) (out : Bytes) (h1 : 1 ≤ d) (h2 : d ≤ out.length) :
    copyFrom n d out = out ++ (List.range n).map (fun i => out.getD (out.length - d + i % d) 0) := by
  obtain ⟨l1, l2, l3⟩ := copyFrom_spec n d out h1 h2
  generalize copyFrom n d out = R at l1 l2 l3
  have key : ∀ i, i < n → R.getD (out.length + i) 0 = out.getD (out.length - d + i % d) 0 := by
    intro i
    induction i using Nat.strongRecOn with
    | _ i ih =>
      intro hi
      rw [l3 i hi]
      by_cases hd : i < d
      · rw [getD_of_take R out _ _ l2 (by omega), Nat.mod_eq_of_lt hd]
        congr 1; omega
      · rw [show out.length + i - d = out.length + (i - d) by omega, ih (i - d) (by omega) (by omega),
          ← Nat.mod_eq_sub_mod (show i ≥ d by omega)]
  rw [← List.take_append_drop out.length R, l2]
  congr 1
  apply List.ext_getElem
  · simp [l1]
  · intro i hi1 hi2
    simp only [List.length_map, List.length_range] at hi2
    rw [List.getElem_drop, List.getElem_map, List.getElem_range, ← key i hi2, List.getD_eq_getElem?_getD,
      List.getElem?_eq_getElem]
    rfl

theorem renderTok_lit_eq_some {out res : Bytes} {b : Nat} (h : renderTok out (.lit b) = some res) :
    b < 256 ∧ res = out ++ [b] := by
  simp only [renderTok] at h
  split at h
  · exact ⟨‹_›, (Option.some.inj h).symm⟩
  · cases h

theorem renderTok_copy_eq_some {out res : Bytes} {len dist : Nat} (h : renderTok out (.copy len dist) = some res) :
    (3 ≤ len ∧ len ≤ 258 ∧ 1 ≤ dist ∧ dist ≤ 32768 ∧ dist ≤ out.length) ∧ res = copyFrom len dist out := by
  simp only [renderTok] at h
  split at h
  · exact ⟨‹_›, (Option.some.inj h).symm⟩
  · cases h

theorem render_cons_eq_some {t : Token} {ts : List Token} {out res : Bytes} (h : render (t :: ts) out = some res) :
    ∃ mid, renderTok out t = some mid ∧ render ts mid = some res := by
  simp only [render] at h
  split at h
  · exact ⟨_, ‹_›, h⟩
  · cases h

theorem renderBlocks_cons_eq_some {b : Block} {bs : List Block} {out res : Bytes}
    (h : renderBlocks (b :: bs) out = some res) :
    ∃ mid, renderBlock out b = some mid ∧ renderBlocks bs mid = some res := by
  simp only [renderBlocks] at h
  split at h
  · exact ⟨_, ‹_›, h⟩
  · cases h

theorem render_lit (b : Nat) (ts : List Token) (out : Bytes) (hb : b < 256) :
    render (.lit b :: ts) out = render ts (out ++ [b]) := by
  simp only [render, renderTok, if_pos hb]

theorem render_copy (len dist : Nat) (ts : List Token) (out : Bytes)
    (h : 3 ≤ len ∧ len ≤ 258 ∧ 1 ≤ dist ∧ dist ≤ 32768 ∧ dist ≤ out.length) :
    render (.copy len dist :: ts) out =
      render ts (out ++ (List.range len).map (fun i => out.getD (out.length - dist + i % dist) 0)) := by
  have ⟨_, _, hdist1, _, hdistOut⟩ := h
  simp only [render, renderTok, if_pos h, copyFrom_eq len dist out hdist1 hdistOut]

theorem render_lits (bs out : Bytes) (hb : ∀ x ∈ bs, x < 256) : render (bs.map .lit) out = some (out ++ bs) := by
  induction bs generalizing out with
  | nil => simp [render]
  | cons b bs ih =>
    rw [List.map_cons, render_lit _ _ _ (hb b (by simp)), ih _ (fun x hx => hb x (List.mem_cons_of_mem _ hx))]
    simp

theorem copyFrom_wf (n dist : Nat) (out : Bytes) (h : ∀ x ∈ out, x < 256) : ∀ x ∈ copyFrom n dist out, x < 256 := by
  induction n generalizing out with
  | zero => exact h
  | succ n ih =>
    simp only [copyFrom]
    apply ih
    intro x hx
    rcases List.mem_append.1 hx with hx | hx
    · exact h x hx
    · simp only [List.mem_singleton] at hx
      subst hx
      by_cases hl : out.length - dist < out.length
      · exact h _ (getD_mem out _ hl)
      · rw [List.getD_eq_getElem?_getD, List.getElem?_eq_none (by omega)]; simp

theorem render_wf (toks : List Token) (out res : Bytes) (h : ∀ x ∈ out, x < 256) (hr : render toks out = some res) :
    ∀ x ∈ res, x < 256 := by
  induction toks generalizing out with
  | nil => simp only [render, Option.some.injEq] at hr; subst hr; exact h
  | cons t ts ih =>
    obtain ⟨mid, ht, hr⟩ := render_cons_eq_some hr
    refine ih mid ?_ hr
    cases t with
    | lit b =>
      obtain ⟨hb, rfl⟩ := renderTok_lit_eq_some ht
      intro x hx
      rcases List.mem_append.1 hx with hx | hx
      · exact h x hx
      · simp only [List.mem_singleton] at hx; omega
    | copy len dist =>
      obtain ⟨_, rfl⟩ := renderTok_copy_eq_some ht
      exact copyFrom_wf _ _ _ h

end Zarrs.DeflateSpec
