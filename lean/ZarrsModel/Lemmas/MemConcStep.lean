import ZarrsModel.Model.MemConc
/- Accessors of `MemConc.State`, the equations of `step .fixed` by kind of instruction and of `history.go` by kind of
step, the function-level view of the state and the view-level step instrumented with ghost linearization points -/
namespace Zarrs.MemConc

def tsOf (s : State) (t : Nat) : TS := s.ts.getD t .idle
def pcOf (s : State) (t : Nat) : Nat := s.pc.getD t 0
def wl (s : State) (c : Nat) : Option Nat := s.wlock.getD c none
def cell (s : State) (c : Nat) : Bytes := s.cells.getD c []
def opAt (ps : Progs) (t k : Nat) : Option Op := (ps[t]?).bind (·[k]?)

def isRead : Op → Bool
  | .get => true
  | .getRange _ _ => true
  | _ => false

def upd {α} (f : Nat → α) (a : Nat) (b : α) : Nat → α := fun x => if x = a then b else f x

@[simp] theorem upd_apply {α} (f : Nat → α) (a : Nat) (b : α) (x : Nat) : upd f a b x = if x = a then b else f x := rfl

theorem curOp_eq (ps : Progs) (s : State) (hl : s.pc.length = ps.length) (t : Nat) :
    curOp ps s t = opAt ps t (pcOf s t) := by
  unfold curOp opAt pcOf
  rw [List.getD_eq_getElem?_getD]
  cases hp : ps[t]? with
  | none => rfl
  | some p =>
    have ht : t < s.pc.length := hl ▸ (List.getElem?_eq_some_iff.mp hp).1
    rw [List.getElem?_eq_getElem ht]; rfl

theorem Op.kind (op : Op) : isWrite op = true ∨ isRead op = true ∨ op = .size ∨ op = .erase := by
  cases op <;> simp [isWrite, isRead]

section
variable {ps : Progs} {s : State} {t : Nat} {op : Op}

/-- what an enabled thread finds: S1 and SZ the current cell unlocked, G2 the cell whose Arc it holds -/
theorem enabled_free {c : Nat} (hop : curOp ps s t = some op) (hen : enabled .fixed ps s t = true) :
    (tsOf s t = .idle → isWrite op = true ∨ op = .size → s.cur = some c → wl s c = none) ∧
    (tsOf s t = .getHold c → wl s c = none) := by
  unfold enabled at hen
  rw [hop] at hen
  refine ⟨fun hts hk hcur => ?_, fun hts => ?_⟩
  · rw [show s.ts.getD t .idle = .idle from hts] at hen
    rcases hk with hw | rfl
    · simp only [hw, if_true, hcur] at hen
      exact Option.isNone_iff_eq_none.mp hen
    · simp only [isWrite, hcur] at hen
      exact Option.isNone_iff_eq_none.mp hen
  · rw [show s.ts.getD t .idle = .getHold c from hts] at hen
    exact Option.isNone_iff_eq_none.mp hen

/-- S1 (the steps are named at the head of `Model/MemConc.lean`) -/
theorem step_write (hop : curOp ps s t = some op) (hts : tsOf s t = .idle) (hw : isWrite op = true) :
    step .fixed ps s t = match s.cur with
      | some c => { s with wlock := s.wlock.set c (some t), ts := s.ts.set t (.setHold c) }
      | none => { s with cells := s.cells ++ [[]], wlock := (s.wlock ++ [none]).set s.cells.length (some t),
                         cur := some s.cells.length, ts := s.ts.set t (.setHold s.cells.length) } := by
  unfold step; rw [hop, show s.ts.getD t .idle = .idle from hts]
  simp only [hw, if_true]
  obtain ⟨_, _, cur, _, _, _⟩ := s
  cases cur <;> rfl

/-- G1 -/
theorem step_read (hop : curOp ps s t = some op) (hts : tsOf s t = .idle) (hrd : isRead op = true) :
    step .fixed ps s t = match s.cur with
      | none => respond s t (.bytes none)
      | some c => { s with ts := s.ts.set t (.getHold c) } := by
  unfold step; rw [hop, show s.ts.getD t .idle = .idle from hts]
  cases op <;> first | rfl | cases hrd

theorem step_size (hop : curOp ps s t = some .size) (hts : tsOf s t = .idle) :
    step .fixed ps s t = respond s t (.size (s.cur.map (fun c => (cell s c).length))) := by
  unfold step; rw [hop, show s.ts.getD t .idle = .idle from hts]; rfl

theorem step_erase (hop : curOp ps s t = some .erase) (hts : tsOf s t = .idle) :
    step .fixed ps s t = respond { s with cur := none } t .unit := by
  unfold step; rw [hop, show s.ts.getD t .idle = .idle from hts]; rfl

/-- S2 -/
theorem step_setHold {c : Nat} (hop : curOp ps s t = some op) (hts : tsOf s t = .setHold c) :
    step .fixed ps s t =
      respond { s with cells := s.cells.set c (applyWrite (cell s c) op), wlock := s.wlock.set c none } t .unit := by
  unfold step; rw [hop, show s.ts.getD t .idle = .setHold c from hts]; rfl

/-- G2 -/
theorem step_getHold {c : Nat} (hop : curOp ps s t = some op) (hts : tsOf s t = .getHold c) :
    step .fixed ps s t = respond s t (readRes op (cell s c)) := by
  unfold step; rw [hop, show s.ts.getD t .idle = .getHold c from hts]; rfl

end

/-- the invocation time `history.go` attributes to the operation thread `t` is executing at step `time` -/
def invOf (invs : List (Option Nat)) (t time : Nat) : Nat :=
  match invs.getD t none with | some i => i | none => time

theorem invOf_le {invs : List (Option Nat)} {t time : Nat} (h : ∀ i, invs.getD t none = some i → i < time) :
    invOf invs t time ≤ time := by
  unfold invOf
  split
  · rename_i i hi; exact Nat.le_of_lt (h i hi)
  · exact Nat.le_refl _

section
variable {pr : Protocol} {ps : Progs} {s : State} {time : Nat} {invs : List (Option Nat)} {acc : List Done}
  {t : Nat} {rest : List Nat}

theorem go_disabled (hen : enabled pr ps s t = false) : history.go pr ps s time invs acc (t :: rest) = none := by
  simp only [history.go, hen, Bool.not_false, if_true]

theorem go_noresp (hen : enabled pr ps s t = true) (hpc : (step pr ps s t).pc.getD t 0 = s.pc.getD t 0) :
    history.go pr ps s time invs acc (t :: rest) =
      history.go pr ps (step pr ps s t) (time + 1) (invs.set t (some (invOf invs t time))) acc rest := by
  simp only [history.go, hen, hpc, Bool.not_true, bne_self_eq_false, invOf]
  rfl

theorem go_resp {op : Op} {r : Res} (hen : enabled pr ps s t = true)
    (hpc : (step pr ps s t).pc.getD t 0 = s.pc.getD t 0 + 1) (hop : curOp ps s t = some op)
    (hout : ((step pr ps s t).out.getD t []).getLast? = some r) :
    history.go pr ps s time invs acc (t :: rest) =
      history.go pr ps (step pr ps s t) (time + 1) (invs.set t none)
        (acc ++ [⟨t, s.pc.getD t 0, op, r, invOf invs t time, time⟩]) rest := by
  have hne : ((s.pc.getD t 0 + 1) != s.pc.getD t 0) = true := bne_iff_ne.mpr (Nat.succ_ne_self _)
  simp only [history.go, hen, hpc, hne, hop, hout, Bool.not_true, invOf]
  rfl

end

structure LWF (ps : Progs) (s : State) : Prop where
  lpc : s.pc.length = ps.length
  lts : s.ts.length = ps.length
  lout : s.out.length = ps.length
  lwl : s.wlock.length = s.cells.length

structure VState where
  ncells : Nat
  cell : Nat → Bytes
  wl : Nat → Option Nat
  cur : Option Nat
  pc : Nat → Nat
  ts : Nat → TS

def view (s : State) : VState := ⟨s.cells.length, cell s, wl s, s.cur, pcOf s, tsOf s⟩

theorem view_eq {s : State} {v : VState} (h1 : s.cells.length = v.ncells) (h2 : ∀ x, s.cells.getD x [] = v.cell x)
    (h3 : ∀ x, s.wlock.getD x none = v.wl x) (h4 : s.cur = v.cur) (h5 : ∀ x, s.pc.getD x 0 = v.pc x)
    (h6 : ∀ x, s.ts.getD x .idle = v.ts x) : view s = v := by
  cases v
  simp only at h1 h4
  simp only [view, VState.mk.injEq]
  exact ⟨h1, funext h2, funext h3, h4, funext h5, funext h6⟩

/-- the value a cell will have once the pending write of its lock holder (if any) has been performed -/
def logical (ps : Progs) (v : VState) (c : Nat) : Bytes :=
  match v.wl c with
  | none => v.cell c
  | some t => match opAt ps t (v.pc t) with
    | some op => applyWrite (v.cell c) op
    | none => v.cell c

/-- a ghost linearization record: thread, operation index, operation, ghost response, linearization time -/
structure LinE where
  t : Nat
  k : Nat
  op : Op
  res : Res
  lt : Nat
deriving DecidableEq, Repr

/-- readers holding the Arc of cell `c`, linearized ("helped") by an erase that orphans `c` -/
def helpers (ps : Progs) (v : VState) (c time : Nat) : List LinE :=
  (List.range ps.length).filterMap (fun t' =>
    if v.ts t' = .getHold c then
      (opAt ps t' (v.pc t')).map (fun op => ⟨t', v.pc t', op, readRes op (logical ps v c), time⟩)
    else none)

/-- One step of thread `t` on the view with the ghost update of the linearization list: a write is linearized at S1, where
it takes the cell lock; a read at G1 if it misses, at G2 if its cell is still the current one, and otherwise by the erase
that orphaned its cell (`helpers`); `size` and `erase` at their one step.  The constructors are named after the steps of
`Model/MemConc.lean`; S1 on an existing cell of the key (`s1e`) or on a new one (`s1n`), G1 missing (`g1m`) or hitting
(`g1h`). -/
inductive VStep (ps : Progs) (time : Nat) (v : VState) (lin : List LinE) (t : Nat) (v' : VState)
    (lin' : List LinE) (r : Option Res) : Prop
  | s1e (op : Op) (c : Nat) (hop : opAt ps t (v.pc t) = some op) (hw : isWrite op = true)
      (hts : v.ts t = .idle) (hcur : v.cur = some c) (hfree : v.wl c = none)
      (hv : v' = { v with wl := upd v.wl c (some t), ts := upd v.ts t (.setHold c) })
      (hl : lin' = lin ++ [⟨t, v.pc t, op, .unit, time⟩]) (hr : r = none)
  | s1n (op : Op) (hop : opAt ps t (v.pc t) = some op) (hw : isWrite op = true)
      (hts : v.ts t = .idle) (hcur : v.cur = none)
      (hv : v' = { v with ncells := v.ncells + 1, wl := upd v.wl v.ncells (some t),
                          cur := some v.ncells, ts := upd v.ts t (.setHold v.ncells) })
      (hl : lin' = lin ++ [⟨t, v.pc t, op, .unit, time⟩]) (hr : r = none)
  | s2 (op : Op) (c : Nat) (hop : opAt ps t (v.pc t) = some op) (hts : v.ts t = .setHold c)
      (hv : v' = { v with cell := upd v.cell c (applyWrite (v.cell c) op), wl := upd v.wl c none,
                          pc := upd v.pc t (v.pc t + 1), ts := upd v.ts t .idle })
      (hl : lin' = lin) (hr : r = some .unit)
  | g1m (op : Op) (hop : opAt ps t (v.pc t) = some op) (hrd : isRead op = true)
      (hts : v.ts t = .idle) (hcur : v.cur = none)
      (hv : v' = { v with pc := upd v.pc t (v.pc t + 1), ts := upd v.ts t .idle })
      (hl : lin' = lin ++ [⟨t, v.pc t, op, .bytes none, time⟩]) (hr : r = some (.bytes none))
  | g1h (op : Op) (c : Nat) (hop : opAt ps t (v.pc t) = some op) (hrd : isRead op = true)
      (hts : v.ts t = .idle) (hcur : v.cur = some c)
      (hv : v' = { v with ts := upd v.ts t (.getHold c) })
      (hl : lin' = lin) (hr : r = none)
  | g2 (op : Op) (c : Nat) (hop : opAt ps t (v.pc t) = some op) (hts : v.ts t = .getHold c)
      (hfree : v.wl c = none)
      (hv : v' = { v with pc := upd v.pc t (v.pc t + 1), ts := upd v.ts t .idle })
      (hl : lin' = if v.cur = some c then lin ++ [⟨t, v.pc t, op, readRes op (v.cell c), time⟩] else lin)
      (hr : r = some (readRes op (v.cell c)))
  | sz (hop : opAt ps t (v.pc t) = some .size) (hts : v.ts t = .idle)
      (hfree : ∀ c, v.cur = some c → v.wl c = none)
      (hv : v' = { v with pc := upd v.pc t (v.pc t + 1), ts := upd v.ts t .idle })
      (hl : lin' = lin ++ [⟨t, v.pc t, .size, .size (v.cur.map (fun c => (v.cell c).length)), time⟩])
      (hr : r = some (.size (v.cur.map (fun c => (v.cell c).length))))
  | e1 (hop : opAt ps t (v.pc t) = some .erase) (hts : v.ts t = .idle)
      (hv : v' = { v with cur := none, pc := upd v.pc t (v.pc t + 1), ts := upd v.ts t .idle })
      (hl : lin' = lin ++ (match v.cur with | some c => helpers ps v c time | none => []) ++
              [⟨t, v.pc t, .erase, .unit, time⟩])
      (hr : r = some .unit)

theorem tsOf_mk (a b c d e f) (t : Nat) : tsOf ⟨a, b, c, d, e, f⟩ t = e.getD t .idle := rfl
theorem pcOf_mk (a b c d e f) (t : Nat) : pcOf ⟨a, b, c, d, e, f⟩ t = d.getD t 0 := rfl
theorem wl_mk (a b c d e f) (x : Nat) : wl ⟨a, b, c, d, e, f⟩ x = b.getD x none := rfl
theorem cell_mk (a b c d e f) (x : Nat) : cell ⟨a, b, c, d, e, f⟩ x = a.getD x [] := rfl
theorem ts_getD (s : State) (t : Nat) : s.ts.getD t .idle = tsOf s t := rfl
theorem pc_getD (s : State) (t : Nat) : s.pc.getD t 0 = pcOf s t := rfl
theorem wl_getD (s : State) (c : Nat) : s.wlock.getD c none = wl s c := rfl
theorem cell_getD (s : State) (c : Nat) : s.cells.getD c [] = cell s c := rfl

theorem wl_none_of_ge (s : State) (hl : s.wlock.length = s.cells.length) (c : Nat) (h : s.cells.length ≤ c) :
    wl s c = none := by
  unfold wl; rw [List.getD_eq_getElem?_getD, List.getElem?_eq_none (by omega)]; rfl

theorem cell_nil_of_ge (s : State) (c : Nat) (h : s.cells.length ≤ c) : cell s c = [] := by
  unfold cell; rw [List.getD_eq_getElem?_getD, List.getElem?_eq_none (by omega)]; rfl

theorem tsOf_idle_of_ge (s : State) (t : Nat) (h : s.ts.length ≤ t) : tsOf s t = .idle := by
  unfold tsOf; rw [List.getD_eq_getElem?_getD, List.getElem?_eq_none (by omega)]; rfl

end Zarrs.MemConc
