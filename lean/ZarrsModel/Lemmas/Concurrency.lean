import ZarrsModel.Model.Concurrency
/-
Lemmas for `Props/C16Conc.lean`: `usize::div_ceil` as a Galois connection, and the closed form of
`calc_concurrency_outer_inner` on well-formed recommendations.
-/
namespace Zarrs.Concurrency

/-- the inner limit `calcOuterInner` settles on (`calcOuterInner_eq`) -/
def innerOf (t : Nat) (o i : RecConc) : Nat :=
  if i.min * o.min < t then capMax (divCeil t o.min) i.max else i.min

def outerOf (t : Nat) (o i : RecConc) : Nat :=
  if innerOf t o i * o.min < t then capMax (divCeil t (innerOf t o i)) o.max else o.min

def maxProduct (o i : RecConc) : Option Nat :=
  match o.max, i.max with
  | some a, some b => some (a * b)
  | _, _ => none

theorem divCeil_le_iff {a b k : Nat} (hb : 0 < b) : divCeil a b ≤ k ↔ a ≤ k * b := by
  unfold divCeil
  split
  · next hr =>
    -- a remainder: `a / b < k ↔ a < k * b`, and `a` is not the multiple `k * b`
    have hne : a ≠ k * b := fun e => by rw [e, Nat.mul_mod_left] at hr; exact Nat.lt_irrefl 0 hr
    exact (Nat.div_lt_iff_lt_mul hb).trans ⟨Nat.le_of_lt, fun h => Nat.lt_of_le_of_ne h hne⟩
  · next hr =>
    exact Nat.div_le_iff_le_mul_of_dvd (Nat.ne_of_gt hb) (Nat.dvd_of_mod_eq_zero (Nat.eq_zero_of_not_pos hr))

theorem le_divCeil_mul {a b : Nat} (hb : 0 < b) : a ≤ divCeil a b * b :=
  (divCeil_le_iff hb).1 (Nat.le_refl _)

theorem lt_divCeil_iff {a b k : Nat} (hb : 0 < b) : k < divCeil a b ↔ k * b < a := by
  rw [← Nat.not_le, divCeil_le_iff hb, Nat.not_le]

theorem divCeil_pos {a b : Nat} (ha : 0 < a) (hb : 0 < b) : 1 ≤ divCeil a b :=
  (lt_divCeil_iff hb).2 (by rwa [Nat.zero_mul])

/-- `divCeil` is the ceiling quotient that the grids and `subdivideChunkSize` spell `(a + b - 1) / b`: both are the least
`k` with `a ≤ k * b` (`divCeil_le_iff`, `Nat.le_mul_iff_le_left`) -/
theorem divCeil_eq {a b : Nat} (hb : 0 < b) : divCeil a b = (a + b - 1) / b :=
  Nat.le_antisymm ((divCeil_le_iff hb).2 ((Nat.le_mul_iff_le_left hb).2 (Nat.le_refl _)))
    ((Nat.le_mul_iff_le_left hb).1 (le_divCeil_mul hb))

theorem pred_divCeil_mul_lt {a b : Nat} (ha : 0 < a) (hb : 0 < b) : (divCeil a b - 1) * b < a :=
  (lt_divCeil_iff hb).1 (Nat.sub_lt (divCeil_pos ha hb) Nat.one_pos)

theorem leB_none (n : Nat) : LeB n none := fun _ h => nomatch h

theorem leB_some {n m : Nat} : LeB n (some m) ↔ n ≤ m :=
  ⟨fun h => h m rfl, fun h _ e => by cases e; exact h⟩

theorem LeB.trans {k n : Nat} {b : Option Nat} (h1 : k ≤ n) (h2 : LeB n b) : LeB k b :=
  fun m e => Nat.le_trans h1 (h2 m e)

theorem le_capMax_iff {k n : Nat} {b : Option Nat} : k ≤ capMax n b ↔ k ≤ n ∧ LeB k b := by
  cases b with
  | none => exact ⟨fun h => ⟨h, leB_none k⟩, fun h => h.1⟩
  | some m => exact Nat.le_min.trans (and_congr_right' leB_some.symm)

theorem capMax_le_left (n : Nat) (b : Option Nat) : capMax n b ≤ n :=
  (le_capMax_iff.1 (Nat.le_refl _)).1

theorem capMax_leB (n : Nat) (b : Option Nat) : LeB (capMax n b) b :=
  (le_capMax_iff.1 (Nat.le_refl _)).2

theorem capMax_eq_of_leB {n : Nat} {b : Option Nat} (h : LeB n b) : capMax n b = n :=
  Nat.le_antisymm (capMax_le_left n b) (le_capMax_iff.2 ⟨Nat.le_refl n, h⟩)

theorem eq_some_of_capMax_ne {n : Nat} {b : Option Nat} (h : capMax n b ≠ n) : b = some (capMax n b) := by
  cases b with
  | none => exact absurd rfl h
  | some m =>
    rcases Nat.le_total n m with hnm | hmn
    · exact absurd (Nat.min_eq_left hnm) h
    · exact congrArg some (Nat.min_eq_right hmn).symm

theorem ofBounds_wf (s e : Bound) : (RecConc.ofBounds s e).WF := by
  refine ⟨Nat.le_max_right _ _, ?_⟩
  cases e with
  | unbounded => exact leB_none 1
  | _ => exact leB_some.2 (Nat.le_max_right _ _)

theorem new_ordered {lo hi : Nat} (h : lo ≤ hi) : (RecConc.new lo hi).Ordered :=
  leB_some.2 (Nat.max_le.2 ⟨Nat.le_trans h (Nat.le_max_left _ _), Nat.le_max_right _ _⟩)

theorem chunksRec_wf (ccm n : Nat) : (chunksRec ccm n).WF := ofBounds_wf (.included _) (.excluded _)

theorem chunksRec_ordered (ccm n : Nat) : (chunksRec ccm n).Ordered :=
  new_ordered (Nat.le_trans (Nat.min_le_left _ _) (Nat.le_max_left _ _))

/-- `if cur * other < target { cur = min(target.div_ceil(other), rec.max()) }`: the limit `lo` is raised to what the
    target `t` needs beside the other limit `m`, up to `cap`; `p` is the product `cur * other`, in either order. -/
def raise (t p m : Nat) (cap : Option Nat) (lo : Nat) : Nat :=
  if p < t then capMax (divCeil t m) cap else lo

section
variable {t t' p m lo : Nat} {cap : Option Nat}

theorem raise_of_lt (h : p < t) : raise t p m cap lo = capMax (divCeil t m) cap := if_pos h

theorem raise_of_not_lt (h : ¬ p < t) : raise t p m cap lo = lo := if_neg h

/-- one `if` of `calcOuterInner`, with its `div_ceil` that may panic, is `raise` when the divisor is positive -/
theorem raise_step_eq (hm : 0 < m) :
    (if p < t then (divCeil? t m).map (fun c => capMax c cap) else some lo) = some (raise t p m cap lo) := by
  rewrite [divCeil?, if_neg (Nat.ne_of_gt hm)]
  exact (apply_ite some (p < t) _ lo).symm

theorem raise_pos (hm : 0 < m) (hlo : 1 ≤ lo) (hcap : LeB 1 cap) : 1 ≤ raise t p m cap lo := by
  by_cases h : p < t
  · rw [raise_of_lt h]
    exact le_capMax_iff.2 ⟨divCeil_pos (Nat.zero_lt_of_lt h) hm, hcap⟩
  · rw [raise_of_not_lt h]
    exact hlo

theorem raise_ge (hm : 0 < m) (hp : lo * m ≤ p) (hcap : LeB lo cap) : lo ≤ raise t p m cap lo := by
  by_cases h : p < t
  · rw [raise_of_lt h]
    exact le_capMax_iff.2 ⟨Nat.le_of_lt ((lt_divCeil_iff hm).2 (Nat.lt_of_le_of_lt hp h)), hcap⟩
  · rw [raise_of_not_lt h]
    exact Nat.le_refl _

theorem raise_leB (hcap : LeB lo cap) : LeB (raise t p m cap lo) cap := by
  by_cases h : p < t
  · rw [raise_of_lt h]
    exact capMax_leB _ _
  · rw [raise_of_not_lt h]
    exact hcap

theorem raise_tight (hm : 0 < m) (h : lo < raise t p m cap lo) : (raise t p m cap lo - 1) * m < t := by
  by_cases hs : p < t
  · rw [raise_of_lt hs] at h ⊢
    have h1 := Nat.sub_lt (Nat.zero_lt_of_lt h) Nat.one_pos
    exact (lt_divCeil_iff hm).1 (Nat.lt_of_lt_of_le h1 (capMax_le_left _ _))
  · rw [raise_of_not_lt hs] at h
    exact absurd h (Nat.lt_irrefl lo)

theorem raise_mono (hm : 0 < m) (hp : lo * m ≤ p) (hcap : LeB lo cap) (h : t ≤ t') :
    raise t p m cap lo ≤ raise t' p m cap lo := by
  by_cases hs : p < t
  · rw [raise_of_lt hs, raise_of_lt (Nat.lt_of_lt_of_le hs h)]
    have hdc : divCeil t m ≤ divCeil t' m := (divCeil_le_iff hm).2 (Nat.le_trans h (le_divCeil_mul hm))
    exact le_capMax_iff.2 ⟨Nat.le_trans (capMax_le_left _ _) hdc, capMax_leB _ _⟩
  · rw [raise_of_not_lt hs]
    exact raise_ge hm hp hcap

end

theorem innerOf_eq_raise (t : Nat) (o i : RecConc) :
    innerOf t o i = raise t (i.min * o.min) o.min i.max i.min := rfl

theorem outerOf_eq_raise (t : Nat) (o i : RecConc) :
    outerOf t o i = raise t (innerOf t o i * o.min) (innerOf t o i) o.max o.min := rfl

section
variable {t t' : Nat} {o i : RecConc}

theorem innerOf_pos (ho : o.WF) (hi : i.WF) : 1 ≤ innerOf t o i := by
  rw [innerOf_eq_raise]
  exact raise_pos ho.1 hi.1 hi.2

theorem outerOf_pos (ho : o.WF) (hi : i.WF) : 1 ≤ outerOf t o i := by
  rw [outerOf_eq_raise]
  exact raise_pos (innerOf_pos ho hi) ho.1 ho.2

theorem calcOuterInner_eq (ho : o.WF) (hi : i.WF) : calcOuterInner t o i = some (outerOf t o i, innerOf t o i) := by
  have hi1 : 0 < innerOf t o i := innerOf_pos ho hi
  rw [outerOf_eq_raise]
  rw [innerOf_eq_raise] at hi1 ⊢
  simp only [calcOuterInner, raise_step_eq ho.1, raise_step_eq hi1]

theorem innerOf_ge_min (ho : o.WF) (hio : i.Ordered) : i.min ≤ innerOf t o i := by
  rw [innerOf_eq_raise]
  exact raise_ge ho.1 (Nat.le_refl _) hio

theorem innerOf_le_max (hio : i.Ordered) : LeB (innerOf t o i) i.max := by
  rw [innerOf_eq_raise]
  exact raise_leB hio

theorem outerOf_ge_min (ho : o.WF) (hi : i.WF) (hoo : o.Ordered) : o.min ≤ outerOf t o i := by
  rw [outerOf_eq_raise]
  exact raise_ge (innerOf_pos ho hi) (Nat.le_of_eq (Nat.mul_comm _ _)) hoo

theorem outerOf_le_max (hoo : o.Ordered) : LeB (outerOf t o i) o.max := by
  rw [outerOf_eq_raise]
  exact raise_leB hoo

theorem innerOf_mono (ho : o.WF) (hio : i.Ordered) (h : t ≤ t') : innerOf t o i ≤ innerOf t' o i := by
  rw [innerOf_eq_raise, innerOf_eq_raise]
  exact raise_mono ho.1 (Nat.le_refl _) hio h

theorem innerOf_eq_max {mi : Nat} (ho : o.WF) (him : i.max = some mi) (hlt : i.min * o.min < t)
    (h : mi * o.min < t) : innerOf t o i = mi := by
  rw [innerOf_eq_raise, raise_of_lt hlt, him]
  exact Nat.min_eq_right (Nat.le_of_lt ((lt_divCeil_iff ho.1).2 h))

/-- the outer limit is raised only when the inner limit sits at its (finite) maximum and still falls short -/
theorem innerOf_saturated (ho : o.WF) (h : innerOf t o i * o.min < t) :
    i.max = some (innerOf t o i) ∧ i.min * o.min < t := by
  have hdc := (lt_divCeil_iff ho.1).2 h
  by_cases hs : i.min * o.min < t
  · rw [innerOf_eq_raise, raise_of_lt hs] at hdc ⊢
    exact ⟨eq_some_of_capMax_ne (Nat.ne_of_lt hdc), hs⟩
  · rw [innerOf_eq_raise, raise_of_not_lt hs] at h
    exact absurd h hs

theorem outerOf_mono (ho : o.WF) (hi : i.WF) (hoo : o.Ordered) (h : t ≤ t') : outerOf t o i ≤ outerOf t' o i := by
  have hpos := innerOf_pos (t := t) ho hi
  by_cases hs : innerOf t o i * o.min < t
  · obtain ⟨hm, hlt⟩ := innerOf_saturated ho hs
    -- the inner limit stays at its maximum, so only the target changes in the step for the outer limit
    have hi' := innerOf_eq_max ho hm (Nat.lt_of_lt_of_le hlt h) (Nat.lt_of_lt_of_le hs h)
    rw [outerOf_eq_raise, outerOf_eq_raise, hi']
    exact raise_mono hpos (Nat.le_of_eq (Nat.mul_comm _ _)) hoo h
  · rw [outerOf_eq_raise t, raise_of_not_lt hs]
    exact outerOf_ge_min ho hi hoo

theorem product_reaches_iff (ho : o.WF) (hi : i.WF) (hoo : o.Ordered) (hio : i.Ordered) :
    t ≤ outerOf t o i * innerOf t o i ↔ LeB t (maxProduct o i) := by
  constructor
  · intro h m hm
    unfold maxProduct at hm
    split at hm
    · next mo mi hom him =>
      cases hm
      exact Nat.le_trans h (Nat.mul_le_mul (outerOf_le_max hoo mo hom) (innerOf_le_max hio mi him))
    · cases hm
  · intro h
    have hpos := innerOf_pos (t := t) ho hi
    by_cases hs : innerOf t o i * o.min < t
    · have hm := (innerOf_saturated ho hs).1
      have hle : LeB (divCeil t (innerOf t o i)) o.max := fun mo hom =>
        (divCeil_le_iff hpos).2 (h _ (by rw [maxProduct, hom, hm]))
      rw [outerOf_eq_raise, raise_of_lt hs, capMax_eq_of_leB hle]
      exact le_divCeil_mul hpos
    · rw [outerOf_eq_raise, raise_of_not_lt hs, Nat.mul_comm]
      exact Nat.not_lt.1 hs

end

theorem product_saturates {t mo mi : Nat} {o i : RecConc} (ho : o.WF) (hi : i.WF) (hoo : o.Ordered) (hio : i.Ordered)
    (hom : o.max = some mo) (him : i.max = some mi) (h : mo * mi < t) :
    outerOf t o i = mo ∧ innerOf t o i = mi := by
  have hmo : mi * o.min < t := Nat.lt_of_le_of_lt (Nat.mul_comm mo mi ▸ Nat.mul_le_mul_left mi (hoo mo hom)) h
  have hlt : i.min * o.min < t := Nat.lt_of_le_of_lt (Nat.mul_le_mul_right _ (hio mi him)) hmo
  have e1 := innerOf_eq_max ho him hlt hmo
  refine ⟨?_, e1⟩
  rw [outerOf_eq_raise, e1, raise_of_lt hmo, hom]
  exact Nat.min_eq_right (Nat.le_of_lt ((lt_divCeil_iff (hi.2 mi him)).2 h))

theorem subdivideChunkSize_pos (limit len : Nat) : 1 ≤ subdivideChunkSize limit len := by
  unfold subdivideChunkSize
  split
  · exact Nat.le_refl _
  · exact Nat.le_max_right _ _

theorem le_subdivide_mul {limit len : Nat} (hl : 1 ≤ limit) : len ≤ limit * subdivideChunkSize limit len := by
  rw [subdivideChunkSize, if_neg (Nat.ne_of_gt hl), ← divCeil_eq hl, Nat.mul_comm]
  exact Nat.le_trans (le_divCeil_mul hl) (Nat.mul_le_mul_right _ (Nat.le_max_left _ _))

theorem foldl_min_le (others : List RecConc) (a : Nat) :
    others.foldl (fun a r => Nat.min a r.min) a ≤ a := by
  induction others generalizing a with
  | nil => exact Nat.le_refl _
  | cons r rs ih => exact Nat.le_trans (ih _) (Nat.min_le_left _ _)

theorem le_foldl_min {k : Nat} (others : List RecConc) (a : Nat) (ha : k ≤ a) (hall : ∀ r ∈ others, k ≤ r.min) :
    k ≤ others.foldl (fun a r => Nat.min a r.min) a := by
  induction others generalizing a with
  | nil => exact ha
  | cons r rs ih =>
    exact ih _ (Nat.le_min.2 ⟨ha, hall r (List.mem_cons_self ..)⟩) (fun r' h => hall r' (List.mem_cons_of_mem _ h))

end Zarrs.Concurrency
