import ZarrsModel.Model.Hier
import ZarrsModel.Lemmas.Store
import ZarrsModel.Lemmas.ListBasic
/- Hierarchy discovery (C13).  Where no metadata is unreadable, the non-recursive listing of a prefix gives the nodes one
path component below it (`children_false`), the recursive one the nodes reachable from it through groups (`Below`,
`children_true`): `childList_spec` for one list of child prefixes, `below_iff` for the step of the recursion; `depthBound` is
fuel enough because every node has a key that extends its prefix (`node_has_key`). -/
namespace Zarrs.Hier
open Zarrs

theorem getMeta_congr (r : Reader) (m m' : KV) (pre pre' : Key)
    (h : ∀ s ∈ [kZarrJson, kZattrs, kZarray, kZgroup], m.get (pre ++ s) = m'.get (pre' ++ s)) :
    getMeta r m pre = getMeta r m' pre' := by
  unfold getMeta
  rw [h kZarrJson (by simp), h kZattrs (by simp), h kZarray (by simp), h kZgroup (by simp)]

def attrsOk (r : Reader) (m : KV) (pre : Key) : Bool :=
  match m.get (pre ++ kZattrs) with | some a => r.okAttrs a | none => true

theorem getMeta_eq (r : Reader) (m : KV) (pre : Key) : getMeta r m pre =
    match m.get (pre ++ kZarrJson) with
    | some v => (match r.cls v with
      | some true => .node .group3
      | some false => .node .array3
      | none => .invalid)
    | none =>
      match m.get (pre ++ kZarray) with
      | some v => if r.okA v && attrsOk r m pre then .node .array2 else .invalid
      | none => match m.get (pre ++ kZgroup) with
        | some v => if r.okG v && attrsOk r m pre then .node .group2 else .invalid
        | none => .missing := by
  unfold getMeta attrsOk; rfl

theorem getMeta_missing_iff (r : Reader) (m : KV) (pre : Key) :
    getMeta r m pre = .missing ↔ nodeExists m pre = false := by
  rw [getMeta_eq]; unfold nodeExists
  cases m.get (pre ++ kZarrJson) with
  | some v => rcases hc : r.cls v with _ | _ | _ <;> simp [hc]
  | none =>
    cases m.get (pre ++ kZarray) with
    | some v => by_cases hb : (r.okA v && attrsOk r m pre) = true <;> simp [hb]
    | none =>
      cases m.get (pre ++ kZgroup) with
      | some v => by_cases hb : (r.okG v && attrsOk r m pre) = true <;> simp [hb]
      | none => simp

theorem nodeExists_iff_node (r : Reader) (m : KV) (pre : Key) (hr : getMeta r m pre ≠ .invalid) :
    nodeExists m pre = true ↔ ∃ k, getMeta r m pre = .node k := by
  rw [← Bool.not_eq_false, ← getMeta_missing_iff]
  cases h : getMeta r m pre with
  | node k => simp
  | missing => simp
  | invalid => exact absurd h hr

theorem prefix_of_append_noSlash (p q s : Key) (hp : p.getLast? = some '/') (hs : '/' ∉ s) (h : p <+: q ++ s) :
    p <+: q := by
  by_cases hl : p.length ≤ q.length
  · exact List.prefix_of_prefix_length_le h (List.prefix_append q s) hl
  · have hq : q <+: p := List.prefix_of_prefix_length_le (List.prefix_append q s) h (by omega)
    obtain ⟨t, rfl⟩ := hq
    have ht : t <+: s := (List.prefix_append_right_inj q).1 h
    exfalso
    apply hs
    rw [Keys.getLast?_append_right q (l' := t) (by intro e; subst e; simp at hl)] at hp
    exact ht.subset (List.mem_of_getLast? hp)

theorem slash_notin_suffixes : ∀ s ∈ [kZarrJson, kZattrs, kZarray, kZgroup], '/' ∉ s := by decide +kernel

def subNodes (r : Reader) (m : KV) (recursive : Bool) (fuel : Nat) (q : Key) (k : Kind) : Option (List Tree) :=
  if recursive && k.isGroup then childNodes r m true fuel q else some []

theorem childList_nil (r : Reader) (m : KV) (rec : Bool) (fuel : Nat) : childList r m rec fuel [] = some [] := by
  rw [childList]

theorem childList_cons_invalid (r : Reader) (m : KV) (rec : Bool) (fuel : Nat) (q : Key) (rest : List Key)
    (h : getMeta r m q = .invalid) : childList r m rec fuel (q :: rest) = none := by
  cases fuel <;> simp [childList, h]

theorem childList_cons_missing (r : Reader) (m : KV) (rec : Bool) (fuel : Nat) (q : Key) (rest : List Key)
    (h : getMeta r m q = .missing) : childList r m rec fuel (q :: rest) = childList r m rec fuel rest := by
  cases fuel <;> simp [childList, h]

theorem childList_cons_node (r : Reader) (m : KV) (rec : Bool) (fuel : Nat) (q : Key) (rest : List Key) (k : Kind)
    (h : getMeta r m q = .node k) : childList r m rec fuel (q :: rest) =
      (subNodes r m rec fuel q k).bind (fun cs => (childList r m rec fuel rest).map (fun ts => Tree.mk q k cs :: ts)) := by
  cases fuel with
  | zero =>
    simp only [childList, h, subNodes, childNodes]
    cases childList r m rec 0 rest <;> simp
  | succ f =>
    by_cases hg : (rec && k.isGroup) = true
    · simp only [childList, h, subNodes, hg, if_true]
      cases childNodes r m true (f + 1) q <;> cases childList r m rec (f + 1) rest <;> simp
    · simp only [childList, h, subNodes, hg]
      cases childList r m rec (f + 1) rest <;> simp

theorem flattenList_nil : flattenList [] = [] := by rw [flattenList]
theorem flattenList_cons (q : Key) (k : Kind) (cs ts : List Tree) :
    flattenList (Tree.mk q k cs :: ts) = (q, k) :: (flattenList cs ++ flattenList ts) := by
  rw [flattenList, Tree.flatten]; rfl

/-- one list of child prefixes: the nodes among them and, under the groups of a recursive listing, what `T` lists -/
theorem childList_spec (r : Reader) (m : KV) (rec : Bool) (fuel : Nat) (T : Key → Key × Kind → Prop) (qs : List Key)
    (hr : ∀ q ∈ qs, getMeta r m q ≠ .invalid)
    (hsub : ∀ q ∈ qs, ∀ k, getMeta r m q = .node k → (rec && k.isGroup) = true →
      ∃ cs, childNodes r m true fuel q = some cs ∧ ∀ x, x ∈ flattenList cs ↔ T q x) :
    ∃ ts, childList r m rec fuel qs = some ts ∧
      ∀ x, x ∈ flattenList ts ↔
        ∃ q ∈ qs, ∃ k, getMeta r m q = .node k ∧ (x = (q, k) ∨ ((rec && k.isGroup) = true ∧ T q x)) := by
  induction qs with
  | nil => exact ⟨[], childList_nil .., by simp [flattenList_nil]⟩
  | cons q rest ih =>
    obtain ⟨ts, hts, hmem⟩ := ih (fun q' hq' => hr q' (List.mem_cons_of_mem _ hq'))
      (fun q' hq' => hsub q' (List.mem_cons_of_mem _ hq'))
    cases hq : getMeta r m q with
    | invalid => exact absurd hq (hr q (List.mem_cons_self ..))
    | missing =>
      refine ⟨ts, by rw [childList_cons_missing _ _ _ _ _ _ hq, hts], ?_⟩
      intro x
      rw [hmem]
      constructor
      · rintro ⟨q', hq', k, hk, hx⟩; exact ⟨q', List.mem_cons_of_mem _ hq', k, hk, hx⟩
      · rintro ⟨q', hq', k, hk, hx⟩
        rcases List.mem_cons.1 hq' with rfl | hq'
        · rw [hq] at hk; cases hk
        · exact ⟨q', hq', k, hk, hx⟩
    | node k =>
      obtain ⟨cs, hcs, hcmem⟩ : ∃ cs, subNodes r m rec fuel q k = some cs ∧
          ∀ x, x ∈ flattenList cs ↔ (rec && k.isGroup) = true ∧ T q x := by
        unfold subNodes
        by_cases hg : (rec && k.isGroup) = true
        · obtain ⟨cs, hcs, hmem⟩ := hsub q (List.mem_cons_self ..) k hq hg
          exact ⟨cs, by rw [if_pos hg, hcs], fun x => by rw [hmem]; exact (and_iff_right hg).symm⟩
        · exact ⟨[], by rw [if_neg hg], fun x => by
            rw [flattenList_nil]; exact ⟨fun h => (nomatch h), fun h => absurd h.1 hg⟩⟩
      refine ⟨Tree.mk q k cs :: ts, by rw [childList_cons_node _ _ _ _ _ _ _ hq, hcs, hts]; rfl, ?_⟩
      intro x
      rw [flattenList_cons, List.mem_cons, List.mem_append, hmem, hcmem]
      constructor
      · rintro (rfl | h | ⟨q', hq', k', hk', hx⟩)
        · exact ⟨q, List.mem_cons_self .., k, hq, Or.inl rfl⟩
        · exact ⟨q, List.mem_cons_self .., k, hq, Or.inr h⟩
        · exact ⟨q', List.mem_cons_of_mem _ hq', k', hk', hx⟩
      · rintro ⟨q', hq', k', hk', hx⟩
        rcases List.mem_cons.1 hq' with rfl | hq'
        · rw [hq] at hk'; cases hk'
          exact hx.imp id Or.inl
        · exact Or.inr (Or.inr ⟨q', hq', k', hk', hx⟩)

theorem isChildPrefix_iff (pre q : Key) : isChildPrefix pre q = true ↔ oneBelow pre q := by
  unfold isChildPrefix oneBelow
  simp only [Bool.and_eq_true, decide_eq_true_eq, beq_iff_eq, Bool.not_eq_true', List.isPrefixOf_iff_prefix]
  constructor
  · rintro ⟨⟨s, rfl⟩, ⟨h1, h2⟩, h3⟩
    rw [List.drop_left] at h1 h2 h3
    obtain ⟨c, rfl⟩ := List.getLast?_eq_some_iff.1 h2
    rw [List.dropLast_concat] at h3
    refine ⟨c, ?_, ?_, by simp⟩
    · intro e; subst e; simp at h1
    · intro hc; simp [hc] at h3
  · rintro ⟨c, hc1, hc2, rfl⟩
    refine ⟨⟨c ++ ['/'], by simp⟩, ?_⟩
    have : List.drop pre.length (pre ++ c ++ ['/']) = c ++ ['/'] := by
      rw [List.append_assoc, List.drop_left]
    rw [this, List.dropLast_concat]
    refine ⟨⟨?_, List.getLast?_concat ..⟩, by simpa using hc2⟩
    cases c with
    | nil => exact absurd rfl hc1
    | cons x xs => simp

theorem mem_discover (m : KV) (pre : Key) (hp : dirShaped pre) (hv : ∀ k ∈ m.keys, validKeyB k = true) (q : Key) :
    q ∈ discover m pre ↔
      (oneBelow pre q ∧ ∃ k ∈ m.keys, q <+: k) ∧ ¬ "__".toList <+: q := by
  unfold discover
  rw [List.mem_filter, Spec.listDir_prefixes m pre hp hv q]
  simp only [Bool.not_eq_true', ← Bool.not_eq_true, List.isPrefixOf_iff_prefix]

theorem node_has_key (r : Reader) (m : KV) (q : Key) (k : Kind) (h : getMeta r m q = .node k) :
    ∃ key ∈ m.keys, q <+: key := by
  have hne : ¬ nodeExists m q = false := by rw [← getMeta_missing_iff, h]; simp
  -- one of the three metadata keys of `q` is stored
  have key : ∀ s, (m.get (q ++ s)).isSome = true → ∃ key ∈ m.keys, q <+: key := fun s hs =>
    ⟨_, (KV.mem_keys_iff_get m _).2 (fun e => by rw [e] at hs; cases hs), List.prefix_append q s⟩
  simp only [nodeExists, Bool.not_eq_false, Bool.or_eq_true] at hne
  rcases hne with (h | h) | h <;> exact key _ h

theorem children_false (r : Reader) (m : KV) (hv : ∀ k ∈ m.keys, validKeyB k = true) (hr : ∀ q, getMeta r m q ≠ .invalid)
    (pre : Key) (hp : dirShaped pre) :
    ∃ ns, children r m false pre = some ns ∧
      ∀ q k, (q, k) ∈ ns ↔ (oneBelow pre q ∧ ¬ ("__".toList.isPrefixOf q = true) ∧ getMeta r m q = .node k) := by
  obtain ⟨n, hn⟩ : ∃ n, depthBound m = n + 1 := ⟨_, rfl⟩
  unfold children
  rw [hn, childNodes]
  obtain ⟨ts, hts, hmem⟩ := childList_spec r m false n (fun _ _ => False) (discover m pre) (fun q _ => hr q)
    (fun _ _ _ _ h => nomatch h)
  refine ⟨flattenList ts, by rw [hts]; rfl, ?_⟩
  intro q k
  rw [hmem, List.isPrefixOf_iff_prefix]
  constructor
  · rintro ⟨q', hq', k', hk', hx | hx⟩
    · cases hx
      rw [mem_discover m pre hp hv] at hq'
      exact ⟨hq'.1.1, hq'.2, hk'⟩
    · exact absurd hx.2 id
  · rintro ⟨h1, h2, h3⟩
    exact ⟨q, (mem_discover m pre hp hv q).2 ⟨⟨h1, node_has_key r m q k h3⟩, h2⟩, k, h3, Or.inl rfl⟩

theorem validPrefixB_of_key (x : Key) (key : Key) (hk : validKeyB key = true) (hp : (x ++ ['/']) <+: key) : validPrefixB (x ++ ['/']) = true := by
  obtain ⟨t, rfl⟩ := hp
  exact (validPrefixB_iff _).2 (.inr ⟨x, rfl, validKeyB_of_prefix_slash x t (by simpa using hk)⟩)

theorem reserved_iff_of_prefix (q q' : Key) (h : q <+: q') (hl : 2 ≤ q.length) :
    "__".toList <+: q ↔ "__".toList <+: q' :=
  ⟨fun h1 => h1.trans h, fun h1 => List.prefix_of_prefix_length_le h1 h (by simpa using hl)⟩

theorem oneBelow_length (pre q : Key) (h : oneBelow pre q) : pre.length + 2 ≤ q.length := by
  obtain ⟨c, hc, _, rfl⟩ := h
  cases c with
  | nil => exact absurd rfl hc
  | cons a as => simp

theorem oneBelow_prefix (pre q : Key) (h : oneBelow pre q) : pre <+: q := by
  obtain ⟨c, _, _, rfl⟩ := h
  exact ⟨c ++ ['/'], by simp⟩

theorem oneBelow_dirShaped (pre q : Key) (h : oneBelow pre q) : dirShaped q := by
  obtain ⟨c, _, _, rfl⟩ := h
  exact Or.inr ⟨_, rfl⟩

theorem oneBelow_getLast (pre q : Key) (h : oneBelow pre q) : q.getLast? = some '/' := by
  obtain ⟨c, _, _, rfl⟩ := h
  exact List.getLast?_concat ..

theorem oneBelow_mid (pre q mid : Key) (h : oneBelow pre q) (h1 : pre <+: mid) (h2 : mid <+: q)
    (h3 : pre.length < mid.length) (h4 : mid.getLast? = some '/') : mid = q := by
  obtain ⟨c, _, hc, rfl⟩ := h
  obtain ⟨t, rfl⟩ := h1
  rw [List.append_assoc] at h2 ⊢
  have ht : t <+: c ++ ['/'] := (List.prefix_append_right_inj pre).1 h2
  have htl : t.getLast? = some '/' := by
    rwa [Keys.getLast?_append_right pre (l' := t) (by intro e; subst e; simp at h3)] at h4
  by_cases hl : t.length ≤ c.length
  · have : t <+: c := List.prefix_of_prefix_length_le ht (List.prefix_append c _) hl
    exact absurd (this.subset (List.mem_of_getLast? htl)) hc
  · have hle := ht.length_le
    simp only [List.length_append, List.length_singleton] at hle
    rw [ht.eq_of_length (by simp; omega)]

/-- `q` is a node of kind `k` reachable from `pre` through groups: every prefix strictly between `pre` and `q` holds group
    metadata (`groups`) -/
structure Below (r : Reader) (m : KV) (pre q : Key) (k : Kind) : Prop where
  pfx : pre <+: q
  ne : q ≠ pre
  valid : validPrefixB q = true
  node : getMeta r m q = .node k
  groups : ∀ mid : Key, pre <+: mid → mid <+: q → mid ≠ q → pre.length < mid.length → mid.getLast? = some '/' →
    ∃ k, getMeta r m mid = .node k ∧ k.isGroup = true
  notReserved : ¬ "__".toList <+: q

/-- the same with the Boolean prefix test, as `Props/C13` spells it -/
theorem below_iff_tuple (r : Reader) (m : KV) (pre q : Key) (k : Kind) : Below r m pre q k ↔
    (pre.isPrefixOf q = true ∧ q ≠ pre ∧ validPrefixB q = true ∧ getMeta r m q = .node k ∧
      (∀ mid : Key, pre.isPrefixOf mid = true → mid.isPrefixOf q = true → mid ≠ q → mid.length > pre.length →
        mid.getLast? = some '/' → ∃ k, getMeta r m mid = .node k ∧ k.isGroup = true) ∧
      ¬ ("__".toList.isPrefixOf q = true)) := by
  simp only [List.isPrefixOf_iff_prefix, gt_iff_lt]
  exact ⟨fun h => ⟨h.pfx, h.ne, h.valid, h.node, h.groups, h.notReserved⟩,
    fun ⟨h1, h2, h3, h4, h5, h6⟩ => ⟨h1, h2, h3, h4, h5, h6⟩⟩

theorem Below.getLast {r : Reader} {m : KV} {pre q : Key} {k : Kind} (h : Below r m pre q k) : q.getLast? = some '/' := by
  rcases (validPrefixB_iff q).1 h.valid with rfl | ⟨x, rfl, _⟩
  · exact absurd (List.prefix_nil.1 h.pfx).symm h.ne
  · exact List.getLast?_concat ..

theorem exists_oneBelow_prefix (m : KV) (hv : ∀ k ∈ m.keys, validKeyB k = true) (pre : Key) (hp : dirShaped pre) (q' : Key)
    (h1 : pre <+: q') (h2 : q' ≠ pre) (h3 : q'.getLast? = some '/')
    (hkey : ∃ key ∈ m.keys, q' <+: key) :
    ∃ q t, oneBelow pre q ∧ q' = q ++ t := by
  obtain ⟨s, rfl⟩ := h1
  have hsne : s ≠ [] := by intro e; subst e; simp at h2
  obtain ⟨key, hkey, ⟨u, rfl⟩⟩ := hkey
  have hval := hv _ hkey
  rw [List.append_assoc] at hval
  have hhead := validKey_rest pre (s ++ u) hp hval
  have hshead : s.head? ≠ some '/' := by
    cases s with
    | nil => exact absurd rfl hsne
    | cons a as => simpa using hhead
  have hsl : s.getLast? = some '/' := by rwa [Keys.getLast?_append_right pre (l' := s) hsne] at h3
  rcases cut_first s hshead with h | ⟨c, t, hc1, hc2, rfl⟩
  · exact absurd (List.mem_of_getLast? hsl) h
  · exact ⟨pre ++ c ++ ['/'], t, ⟨c, hc1, hc2, rfl⟩, by simp⟩

theorem below_iff (r : Reader) (m : KV) (hv : ∀ k ∈ m.keys, validKeyB k = true) (pre : Key) (hp : dirShaped pre)
    (x : Key × Kind) :
    Below r m pre x.1 x.2 ↔
      ∃ q ∈ discover m pre, ∃ k, getMeta r m q = .node k ∧ (x = (q, k) ∨ (k.isGroup = true ∧ Below r m q x.1 x.2)) := by
  obtain ⟨q', k'⟩ := x
  dsimp only
  constructor
  · intro h
    obtain ⟨key, hkey, hqk⟩ := node_has_key r m q' k' h.node
    obtain ⟨q, t, hob, rfl⟩ := exists_oneBelow_prefix m hv pre hp q' h.pfx h.ne h.getLast ⟨key, hkey, hqk⟩
    have hqq' : q <+: q ++ t := List.prefix_append q t
    have hlen := oneBelow_length pre q hob
    have hdisc : q ∈ discover m pre := (mem_discover m pre hp hv q).2
      ⟨⟨hob, key, hkey, hqq'.trans hqk⟩,
        fun hr => h.notReserved ((reserved_iff_of_prefix q (q ++ t) hqq' (by omega)).1 hr)⟩
    by_cases ht : t = []
    · subst ht
      rw [List.append_nil] at h ⊢
      exact ⟨q, hdisc, k', h.node, Or.inl rfl⟩
    · have hne : q ≠ q ++ t := fun e => ht (List.self_eq_append_right.1 e)
      obtain ⟨k, hk, hg⟩ := h.groups q (oneBelow_prefix pre q hob) hqq' hne (by omega) (oneBelow_getLast pre q hob)
      exact ⟨q, hdisc, k, hk, Or.inr ⟨hg,
        { h with
          pfx := hqq'
          ne := fun e => hne e.symm
          groups := fun mid g1 g2 g3 g4 g5 => h.groups mid ((oneBelow_prefix pre q hob).trans g1) g2 g3 (by omega) g5 }⟩⟩
  · rintro ⟨q, hq, k, hk, hx⟩
    obtain ⟨⟨hob, key, hkey, hqk⟩, hres⟩ := (mem_discover m pre hp hv q).1 hq
    have hlen := oneBelow_length pre q hob
    have hpq := oneBelow_prefix pre q hob
    rcases hx with hx | ⟨hg, g⟩
    · cases hx
      refine { pfx := hpq, ne := ?_, valid := ?_, node := hk, groups := ?_, notReserved := hres }
      · intro e; rw [e] at hlen; omega
      · obtain ⟨c, _, _, rfl⟩ := hob
        exact validPrefixB_of_key (pre ++ c) key (hv _ hkey) hqk
      · exact fun mid g1 g2 g3 g4 g5 => absurd (oneBelow_mid pre q' mid hob g1 g2 g4 g5) g3
    · have hlen' := g.pfx.length_le
      refine { g with pfx := hpq.trans g.pfx, ne := ?_, groups := ?_ }
      · intro e; rw [e] at hlen'; omega
      · intro mid f1 f2 f3 f4 f5
        by_cases hl : mid.length ≤ q.length
        · rw [oneBelow_mid pre q mid hob f1 (List.prefix_of_prefix_length_le f2 g.pfx hl) f4 f5]
          exact ⟨k, hk, hg⟩
        · exact g.groups mid (List.prefix_of_prefix_length_le g.pfx f2 (by omega)) f2 f3 (by omega) f5

theorem length_lt_depthBound (m : KV) : ∀ k ∈ m.keys, k.length < depthBound m := by
  intro k hk
  unfold depthBound
  have := ((foldl_max_le_iff id (m.keys.map List.length) 0 _).mp (Nat.le_refl _)).2 k.length (List.mem_map_of_mem hk)
  exact Nat.lt_succ_of_le this

/-- the recursive listing, for any fuel that covers the keys below the prefix -/
theorem childNodes_true (r : Reader) (m : KV) (hv : ∀ k ∈ m.keys, validKeyB k = true)
    (hr : ∀ q, getMeta r m q ≠ .invalid) (L : Nat) (hL : ∀ k ∈ m.keys, k.length < L) (fuel : Nat) :
    ∀ pre, dirShaped pre → L ≤ fuel + pre.length →
      ∃ ts, childNodes r m true fuel pre = some ts ∧ ∀ x, x ∈ flattenList ts ↔ Below r m pre x.1 x.2 := by
  induction fuel with
  | zero =>
    intro pre _ hl
    refine ⟨[], by rw [childNodes], ?_⟩
    intro x
    rw [flattenList_nil]
    simp only [List.not_mem_nil, false_iff]
    intro h
    obtain ⟨key, hkey, hqk⟩ := node_has_key r m x.1 x.2 h.node
    have := hL key hkey
    have := h.pfx.length_le
    have := hqk.length_le
    have : x.1.length ≠ pre.length := fun e => h.ne (h.pfx.eq_of_length e.symm).symm
    omega
  | succ f ih =>
    intro pre hp hl
    rw [childNodes]
    obtain ⟨ts, hts, hmem⟩ := childList_spec r m true f (fun q x => Below r m q x.1 x.2) (discover m pre)
      (fun q _ => hr q) (fun q hq _ _ _ => by
        have hob := ((mem_discover m pre hp hv q).1 hq).1.1
        have hlen := oneBelow_length pre q hob
        exact ih q (oneBelow_dirShaped pre q hob) (by omega))
    refine ⟨ts, hts, fun x => ?_⟩
    rw [hmem, below_iff r m hv pre hp x]
    simp only [Bool.true_and]

theorem children_true (r : Reader) (m : KV) (hv : ∀ k ∈ m.keys, validKeyB k = true) (hr : ∀ q, getMeta r m q ≠ .invalid)
    (pre : Key) (hp : dirShaped pre) :
    ∃ ns, children r m true pre = some ns ∧ ∀ q k, (q, k) ∈ ns ↔ Below r m pre q k := by
  obtain ⟨ts, hts, hmem⟩ := childNodes_true r m hv hr (depthBound m) (length_lt_depthBound m) (depthBound m) pre hp
    (by omega)
  refine ⟨flattenList ts, by unfold children; rw [hts]; rfl, ?_⟩
  intro q k
  exact hmem (q, k)

/-! ### a sufficient condition for readability (used for the non-vacuity examples) -/

/-- if every value stored under a metadata key reads as what that key must hold, no prefix has unreadable metadata
    (other values - chunks, stray files - do not matter) -/
theorem readable_of_metaValues (r : Reader) (m : KV)
    (h : ∀ kv ∈ m, (kZarrJson.isSuffixOf kv.1 = true → r.cls kv.2 ≠ none) ∧ (kZarray.isSuffixOf kv.1 = true → r.okA kv.2 = true) ∧
      (kZgroup.isSuffixOf kv.1 = true → r.okG kv.2 = true) ∧ (kZattrs.isSuffixOf kv.1 = true → r.okAttrs kv.2 = true)) :
    ∀ pre, getMeta r m pre ≠ .invalid := by
  intro pre
  have hsuf : ∀ s : Key, s.isSuffixOf (pre ++ s) = true := fun s => by
    rw [List.isSuffixOf_iff_suffix]; exact List.suffix_append pre s
  rw [getMeta_eq]
  have hao : attrsOk r m pre = true := by
    unfold attrsOk
    split
    · rename_i a ha; exact (h _ (KV.get_mem m _ a ha)).2.2.2 (hsuf _)
    · rfl
  rw [hao]
  cases h1 : m.get (pre ++ kZarrJson) with
  | some v =>
    have := (h _ (KV.get_mem m _ v h1)).1 (hsuf _)
    simp only at this ⊢
    cases hc : r.cls v with
    | none => exact absurd hc this
    | some b => cases b <;> simp
  | none =>
    cases h2 : m.get (pre ++ kZarray) with
    | some v => simp [(h _ (KV.get_mem m _ v h2)).2.1 (hsuf _)]
    | none =>
      cases h3 : m.get (pre ++ kZgroup) with
      | some v => simp [(h _ (KV.get_mem m _ v h3)).2.2.1 (hsuf _)]
      | none => simp

end Zarrs.Hier
