import ZarrsModel.Lemmas.Index
/- Boxes (`Subset`s) by their corners.  `q.SubBox b`: `q` is a non-empty box inside `b`; seen from the origin of `b` it
is a box inside the shape of `b` (`SubBox.rel_wf`, `rel_inbounds`) that, put back, is `q` (`rel_abs`).  The other way
round a box inside the shape of `s`, put at the origin of `s`, lies in `s` (`Subset.abs_sub`, `contains_abs`).  The
overlap of two boxes that share an index is a `SubBox` of both.  The laws of `addIdx`, `zipSub`, `allLe` and
`Subset.mem` used here, coordinate by coordinate, are those of `IndexAlg`. -/
namespace Zarrs
open Subset

theorem Subset.wf_of_contains (b : Subset) (c : Idx) (h : b.contains c = true) : b.wf = true :=
  Subset.wf_iff.mpr (mem_length h).2

theorem Subset.nonempty_of_contains (b : Subset) (i : Idx) (h : b.contains i = true) : b.isEmpty = false := by
  cases he : b.isEmpty with
  | false => rfl
  | true =>
    have := mem_of_any_zero i b.start b.shape he
    simp only [Subset.contains] at h
    rw [h] at this; cases this

structure Subset.SubBox (q b : Subset) : Prop where
  wf : q.wf = true
  ne : q.isEmpty = false
  sub : ∀ i, q.contains i = true → b.contains i = true

namespace Subset.SubBox
variable {q b : Subset}

theorem of_contains {i : Idx} (hi : q.contains i = true) (hsub : ∀ i, q.contains i = true → b.contains i = true) :
    q.SubBox b :=
  ⟨q.wf_of_contains i hi, q.nonempty_of_contains i hi, hsub⟩

theorem start_mem (h : q.SubBox b) : b.contains q.start = true :=
  h.sub _ (mem_start q.start q.shape (wf_iff.mp h.wf) h.ne)

theorem rank (h : q.SubBox b) : q.rank = b.rank := (mem_length h.start_mem).1

theorem outer_wf (h : q.SubBox b) : b.wf = true := b.wf_of_contains _ h.start_mem

theorem start_le (h : q.SubBox b) : allLe b.start q.start = true := allLe_of_mem _ _ _ h.start_mem

theorem rel_wf (h : q.SubBox b) : (q.relativeTo b.start).wf = true :=
  wf_iff.mpr ((zipSub_length_eq q.start b.start h.rank).trans (wf_iff.mp h.wf))

theorem rel_inbounds (h : q.SubBox b) : (q.relativeTo b.start).inboundsShape b.shape = true := by
  have hr : q.start.length = b.start.length := h.rank
  -- the last index of `q` lies in `b`
  obtain ⟨_, _, hlast⟩ := mem_iff.mp (h.sub _ (mem_last q.start q.shape (wf_iff.mp h.wf) h.ne))
  exact inboundsShape_iff_allLe.mpr ⟨(zipSub_length_eq q.start b.start hr).trans (hr.trans (wf_iff.mp h.outer_wf)),
    allLe_rel _ _ _ _ hr h.start_le (allLe_end_of_inB_last _ _ _ h.ne hlast)⟩

theorem rel_abs (h : q.SubBox b) :
    (⟨addIdx (q.relativeTo b.start).start b.start, (q.relativeTo b.start).shape⟩ : Subset) = q := by
  show (⟨addIdx (zipSub q.start b.start) b.start, q.shape⟩ : Subset) = q
  rw [addIdx_zipSub_cancel _ _ (Nat.le_of_eq h.rank) h.start_le]

end Subset.SubBox

theorem Subset.abs_sub (s r : Subset) (hs : s.wf = true) (hrb : r.inboundsShape s.shape = true) :
    ∀ i, (Subset.mk (addIdx r.start s.start) r.shape).contains i = true → s.contains i = true := by
  rw [Subset.wf_iff] at hs
  rw [Subset.inboundsShape_iff_allLe] at hrb
  have hl : r.start.length = s.start.length := hrb.1.trans hs.symm
  exact fun i => mem_of_allLe i _ r.shape s.start s.shape hs ((addIdx_length_eq _ _ hl).trans hl)
    (allLe_addIdx_left _ _) (allLe_shift _ _ _ _ (Nat.le_of_eq hl) hrb.2)

theorem Subset.contains_abs (s r : Subset) (hs : s.wf = true) (hrb : r.inboundsShape s.shape = true) {i : Idx}
    (hi : s.contains i = true) :
    (Subset.mk (addIdx r.start s.start) r.shape).contains i = r.contains (zipSub i s.start) := by
  rw [Subset.wf_iff] at hs
  have hl : r.start.length = s.start.length := (Subset.inboundsShape_iff_allLe.mp hrb).1.trans hs.symm
  have hla : s.start.length = (addIdx r.start s.start).length := ((addIdx_length_eq _ _ hl).trans hl).symm
  obtain ⟨hj, hadd⟩ := mem_zipSub i s.start s.shape hi
  have := mem_relativeTo (zipSub i s.start) (addIdx r.start s.start) r.shape s.start hla
    (zipUnderflow_of_allLe _ _ (allLe_addIdx_left _ _)) (Nat.le_of_eq ((inB_length hj).trans (hs.symm.trans hla)))
  rw [zipSub_addIdx_cancel _ _ (Nat.le_of_eq hl), hadd] at this
  exact this.symm

theorem Subset.isEmpty_of_numElements_zero (b : Subset) (h : b.numElements = 0) : b.isEmpty = true :=
  (prod_eq_zero_iff _).mp h

theorem Subset.rank_pos_of_empty (b : Subset) (hb : b.wf = true) (he : b.isEmpty = true) : 0 < b.rank := by
  rw [Subset.wf_iff] at hb
  simp only [Subset.isEmpty] at he
  simp only [Subset.rank, hb]
  cases hs : b.shape with
  | nil => rw [hs] at he; simp at he
  | cons _ _ => simp

theorem newEmpty_contains (k : Nat) (hk : 0 < k) (i : Idx) : (Subset.newEmpty k).contains i = false := by
  apply mem_of_any_zero
  cases k with
  | zero => cases hk
  | succ n => simp [Subset.newEmpty, List.replicate_succ]

theorem newEmpty_numElements (k : Nat) (hk : 0 < k) : (Subset.newEmpty k).numElements = 0 :=
  prod_replicate_zero k hk

theorem newEmpty_indices (k : Nat) (hk : 0 < k) : (Subset.newEmpty k).indices = [] := by
  apply List.eq_nil_of_length_eq_zero
  rw [Subset.indices_length, newEmpty_numElements k hk]

theorem Subset.contains_overlap {x y : Subset} {i0 : Idx} (hx : x.contains i0 = true) (hy : y.contains i0 = true)
    (i : Idx) : (x.overlap y).contains i = (x.contains i && y.contains i) :=
  mem_overlap i x.start x.shape y.start y.shape (mem_length hx).2 (mem_length hy).2
    ((mem_length hx).1.symm.trans (mem_length hy).1)

theorem Subset.overlap_subBox_left {x y : Subset} {i0 : Idx} (hx : x.contains i0 = true) (hy : y.contains i0 = true) :
    (x.overlap y).SubBox x :=
  .of_contains (i := i0) (by rw [contains_overlap hx hy, hx, hy]; rfl)
    fun i hi => ((Bool.and_eq_true _ _).mp (contains_overlap hx hy i ▸ hi)).1

theorem Subset.overlap_subBox_right {x y : Subset} {i0 : Idx} (hx : x.contains i0 = true) (hy : y.contains i0 = true) :
    (x.overlap y).SubBox y :=
  .of_contains (i := i0) (by rw [contains_overlap hx hy, hx, hy]; rfl)
    fun i hi => ((Bool.and_eq_true _ _).mp (contains_overlap hx hy i ▸ hi)).2

/-- `store_array_subset` and the sharding partial decoder cut a chunk out of a region by `region.overlap(chunk)`,
`retrieve_array_subset` and the byte-range maps by `chunk.overlap(region)` -/
theorem overlap_comm (a b : Subset) : a.overlap b = b.overlap a := by
  simp only [Subset.overlap, zipMax_comm a.start b.start, zipMin_comm a.endExc b.endExc]

theorem Subset.beq_iff (a b : Subset) : (a == b) = true ↔ a = b := by
  cases a with | mk s1 h1 =>
  cases b with | mk s2 h2 =>
  show ((s1 == s2) && (h1 == h2)) = true ↔ _
  simp

theorem Subset.ofStartEndExc_self (cs : Subset) (h : cs.wf = true) :
    Subset.ofStartEndExc cs.start cs.endExc = cs := by
  rw [Subset.wf_iff] at h
  cases cs with
  | mk o s =>
    simp only [Subset.ofStartEndExc, Subset.endExc] at h ⊢
    rw [addIdx_comm, zipSub_addIdx_cancel s o (Nat.le_of_eq h.symm)]

end Zarrs
