import ZarrsModel.Model.FixedScaleOffset
import ZarrsModel.Lemmas.ListBasic
/- `fixedscaleoffset` (Props/C03Fso.lean).  Under the exactness predicates (`encExact`, `decExact`, `castExact`) the float
code path computes the exact `encodeQ` / `decodeQ` (decoding up to the final cast); rounding to `p` significant bits (`rnd`)
leaves the integers below `2^p` alone, so with scale 1 and an integer offset every step on such integers is exact; a
saturation moves a value toward zero (`Tow`), so a chain of them gives its input back only if none changes it. -/
namespace Zarrs.Fso

theorem floor_spec (y : Rat) (f : Int) : y.floor = f ↔ (f : Rat) ≤ y ∧ y < (f : Rat) + 1 := by
  constructor
  · intro h; subst h
    refine ⟨Rat.floor_le y, ?_⟩
    have := Rat.lt_floor_add_one y
    rw [Rat.intCast_add] at this; simpa using this
  · intro ⟨h1, h2⟩
    have a := Rat.le_floor_iff.mpr h1
    have h2' : y < ((f + 1 : Int) : Rat) := by rw [Rat.intCast_add]; simpa using h2
    have b := Rat.floor_lt_iff.mpr h2'
    omega

theorem floor_int_add_half (k : Int) : ((k : Rat) + 1 / 2).floor = k := by
  rw [floor_spec]; grind

theorem roundHalfAway_intCast (k : Int) : roundHalfAway (k : Rat) = k := by
  unfold roundHalfAway
  split
  · exact floor_int_add_half k
  · rw [← Rat.intCast_neg, floor_int_add_half]; omega

theorem roundHalfEven_intCast (k : Int) : roundHalfEven (k : Rat) = k := by
  unfold roundHalfEven
  simp only [Rat.floor_intCast]
  have : (k : Rat) - (k : Rat) < 1/2 := by grind
  simp [this]

theorem roundHalfAway_near (y : Rat) :
    -(1 / 2) ≤ (roundHalfAway y : Rat) - y ∧ (roundHalfAway y : Rat) - y ≤ 1 / 2 := by
  unfold roundHalfAway
  split
  · have := (floor_spec (y + 1/2) _).mp rfl
    grind
  · have := (floor_spec (-y + 1/2) _).mp rfl
    rw [Rat.intCast_neg]
    grind

theorem isTie_iff (y : Rat) : isTie y ↔ ∃ k : Int, y = k + 1 / 2 := by
  unfold isTie
  constructor
  · intro h; exact ⟨y.floor, by grind⟩
  · rintro ⟨k, rfl⟩
    rw [floor_int_add_half]; grind

theorem roundHalfAway_half (k : Int) :
    roundHalfAway ((k : Rat) + 1 / 2) = if 0 ≤ (k : Rat) + 1 / 2 then k + 1 else k := by
  unfold roundHalfAway
  split
  · rw [show (k : Rat) + 1 / 2 + 1 / 2 = ((k + 1 : Int) : Rat) by rw [Rat.intCast_add]; grind, Rat.floor_intCast]
  · rw [show -((k : Rat) + 1 / 2) + 1 / 2 = ((-k : Int) : Rat) by rw [Rat.intCast_neg]; grind, Rat.floor_intCast,
      Int.neg_neg]

theorem roundHalfAway_tie_iff (y : Rat) :
    ((roundHalfAway y : Rat) - y = 1 / 2 ∨ (roundHalfAway y : Rat) - y = -(1 / 2)) ↔ isTie y := by
  rw [isTie_iff]
  constructor
  · rintro (h | h)
    · exact ⟨roundHalfAway y - 1, by rw [Rat.intCast_sub]; grind⟩
    · exact ⟨roundHalfAway y, by grind⟩
  · rintro ⟨k, rfl⟩
    rw [roundHalfAway_half]
    split
    · left; rw [Rat.intCast_add]; grind
    · right; grind

theorem roundHalfAway_tie_away (y : Rat) (h : isTie y) :
    (0 ≤ y → (roundHalfAway y : Rat) = y + 1 / 2) ∧ (y < 0 → (roundHalfAway y : Rat) = y - 1 / 2) := by
  obtain ⟨k, rfl⟩ := (isTie_iff y).1 h
  rw [roundHalfAway_half]
  constructor
  · intro h0; rw [if_pos h0, Rat.intCast_add]; grind
  · intro h0; rw [if_neg (Rat.not_le.mpr h0)]; grind

theorem mul_right_inj_pos (a b t : Rat) (ht : 0 < t) : a * t = b * t ↔ a = b :=
  ⟨fun h => by rw [← Rat.mul_div_cancel (Rat.ne_of_gt ht) (a := a), h, Rat.mul_div_cancel (Rat.ne_of_gt ht)],
   fun h => by rw [h]⟩

theorem abs_le_of (a b : Rat) (h1 : -b ≤ a) (h2 : a ≤ b) : a.abs ≤ b := by
  unfold Rat.abs; split <;> grind

theorem abs_eq_iff (a b : Rat) (hb : 0 < b) : a.abs = b ↔ (a = b ∨ a = -b) := by
  unfold Rat.abs; split <;> grind

theorem ilog2_le (q : Rat) : ilog2 q ≤ (Nat.log2 q.num.natAbs : Int) - (Nat.log2 q.den : Int) := by
  simp only [ilog2]
  split <;> omega

theorem ilog2_intCast_lt (k : Int) (p : Nat) (hk : k ≠ 0) (h : k.natAbs < 2 ^ p) : ilog2 (k : Rat) < p := by
  have h0 : k.natAbs ≠ 0 := by omega
  have h1 : Nat.log2 k.natAbs < p := (Nat.log2_lt h0).mpr h
  have := ilog2_le (k : Rat)
  simp only [Rat.num_intCast, Rat.den_intCast] at this
  have h2 : Nat.log2 1 = 0 := by decide
  omega

/-- a value that is an integer multiple of its own unit in the last place is left alone -/
theorem rnd_of_quot_int (p : Nat) (q : Rat) (j : Int)
    (h : q / (2 : Rat) ^ (ilog2 q - ((p : Int) - 1)) = j) : rnd p q = q := by
  unfold rnd
  split
  · rename_i h0; exact h0.symm
  · simp only [h, roundHalfEven_intCast]
    have hu : (0 : Rat) < (2 : Rat) ^ (ilog2 q - ((p : Int) - 1)) := Rat.zpow_pos (by decide)
    rw [← h]
    exact Rat.div_mul_cancel (Rat.ne_of_gt hu)

/-- **integers below `2^p` in magnitude are exactly representable with `p` significant bits** (`2^24` for `f32`,
`2^53` for `f64`) -/
theorem rnd_intCast (p : Nat) (k : Int) (h1 : -(2 : Int) ^ p < k) (h2 : k < (2 : Int) ^ p) :
    rnd p (k : Rat) = k := by
  have h : k.natAbs < 2 ^ p := by
    have : ((2 ^ p : Nat) : Int) = (2 : Int) ^ p := by simp
    omega
  by_cases hk : k = 0
  · subst hk; simp [rnd]
  · have he := ilog2_intCast_lt k p hk h
    generalize hz : ilog2 (k : Rat) - ((p : Int) - 1) = z at *
    have hz0 : z ≤ 0 := by omega
    obtain ⟨m, hm⟩ : ∃ m : Nat, z = -(m : Int) := ⟨(-z).toNat, by omega⟩
    apply rnd_of_quot_int p (k : Rat) (k * 2 ^ m)
    rw [hz, hm, Rat.zpow_neg, Rat.zpow_natCast]
    have ht : (0 : Rat) < (2 : Rat) ^ m := Rat.pow_pos (by decide)
    rw [Rat.intCast_mul, Rat.intCast_pow]
    have h2 : ((2 : Int) : Rat) = 2 := by simp
    rw [h2]
    generalize (2 : Rat) ^ m = t at *
    grind

theorem rnd_intCast_mono (p p' : Nat) (hp : p ≤ p') (k : Int) (h1 : -(2 : Int) ^ p < k) (h2 : k < (2 : Int) ^ p) :
    rnd p' (k : Rat) = k := by
  have := int_two_pow_le hp
  exact rnd_intCast p' k (by omega) (by omega)

theorem Ty.range_zero (T : Ty) : T.lo ≤ 0 ∧ 0 ≤ T.hi := by
  cases T with
  | int s b =>
    have : (0 : Int) < 2 ^ (b - 1) := Int.pow_pos (by decide)
    have : (0 : Int) < 2 ^ b := Int.pow_pos (by decide)
    cases s <;> simp only [Ty.lo, Ty.hi] <;> omega
  | _ => exact ⟨Int.le_refl 0, Int.le_refl 0⟩

theorem truncSat_intCast (lo hi k : Int) : truncSat lo hi (k : Rat) = clamp lo hi k := by
  unfold truncSat trunc
  split
  · rw [Rat.floor_intCast]
  · rw [← Rat.intCast_neg, Rat.floor_intCast, Int.neg_neg]

theorem clamp_mem (lo hi v : Int) (h : lo ≤ hi) : lo ≤ clamp lo hi v ∧ clamp lo hi v ≤ hi := by
  unfold clamp; split
  · omega
  · split <;> omega

theorem clamp_eq_self_iff (lo hi v : Int) : clamp lo hi v = v ↔ lo ≤ v ∧ v ≤ hi := by
  unfold clamp; split
  · omega
  · split <;> omega

theorem clamp_eq_iff (lo hi v x : Int) (h1 : lo ≤ x) (h2 : x ≤ hi) :
    clamp lo hi v = x ↔ v = x ∨ (x = lo ∧ v < lo) ∨ (x = hi ∧ hi < v) := by
  unfold clamp; split
  · omega
  · split <;> omega

theorem Ty.int_range (s : Bool) (b : Nat) : -(2 : Int) ^ b ≤ (Ty.int s b).lo ∧ (Ty.int s b).hi < 2 ^ b := by
  have := int_two_pow_le (Nat.sub_le b 1)
  have : (0 : Int) < 2 ^ (b - 1) := Int.pow_pos (by decide)
  cases s <;> simp only [Ty.lo, Ty.hi] <;> omega

theorem Ty.range_lt_prec (s : Bool) (b : Nat) (hb : b ≤ 32) : 2 * (2 : Int) ^ b ≤ 2 ^ (Ty.int s b).prec := by
  rw [Int.mul_comm, ← Int.pow_succ]
  apply int_two_pow_le
  simp only [Ty.prec]
  split <;> omega

theorem castElem_exact (S D : Ty) (n : Int) (h : castExact S D n = true) : castElem S D (n : Rat) = n := by
  unfold castExact at h
  simp only [Bool.and_eq_true] at h
  obtain ⟨hS, hD⟩ := h
  have e1 : toF64 S (n : Rat) = n := by
    cases S with
    | int s b => exact of_decide_eq_true hS
    | _ => rfl
  unfold castElem
  rw [e1]
  cases D with
  | int s b =>
    simp only [Bool.and_eq_true, decide_eq_true_eq] at hD
    simp only [fromF64, truncSat_intCast, (clamp_eq_self_iff _ _ _).2 hD]
  | flt b =>
    simp only [fromF64]
    split
    · rename_i hb; simp only [hb, if_true, decide_eq_true_eq] at hD; exact hD
    · rfl
  | unsupported => rfl

theorem fromF_int (s : Bool) (b : Nat) (n : Int) : fromF (.int s b) (n : Rat) = (satT (.int s b) n : Int) := by
  simp only [fromF, truncSat_intCast, satT]

/-- a float element type carries every value; an integer one those the float type of its macros represents -/
theorem toF_of_exact (T : Ty) (x : Rat) (h : ∀ s b, T = .int s b → Rep T.prec x) : toF T x = x := by
  cases T with
  | int s b => exact h s b rfl
  | _ => rfl

theorem fromF_of_exact (T : Ty) (n : Int) (h : ∀ s b, T = .int s b → T.lo ≤ n ∧ n ≤ T.hi) :
    fromF T (n : Rat) = n := by
  cases T with
  | int s b => rw [fromF_int, satT, (clamp_eq_self_iff _ _ _).2 (h s b rfl)]
  | _ => rfl

theorem encodeElem_exact (c : Cfg) (x : Rat) (h : encExact c x = true) :
    encodeElem c x = (encodeQ c.off c.sc x : Rat) := by
  obtain ⟨off, sc, T, A⟩ := c
  unfold encExact at h
  simp only [Bool.and_eq_true, decide_eq_true_eq] at h
  obtain ⟨⟨⟨⟨hx, h1⟩, h2⟩, hr⟩, ha⟩ := h
  have hs : scaleElem T off sc x = (encodeQ off sc x : Rat) := by
    unfold scaleElem
    simp only [toF_of_exact T x (by rintro s b rfl; exact of_decide_eq_true hx)]
    rw [h1, h2]
    exact fromF_of_exact T (encodeQ off sc x) (by rintro s b rfl; simpa using hr)
  unfold encodeElem
  simp only [hs]
  cases A with
  | none => rfl
  | some A => exact castElem_exact _ _ _ ha

theorem decodeElem_exact (c : Cfg) (n : Int) (h : decExact c n = true) :
    decodeElem c (n : Rat) = fromF c.dtype (decodeQ c.off c.sc n) := by
  obtain ⟨off, sc, T, A⟩ := c
  unfold decExact at h
  simp only [Bool.and_eq_true, decide_eq_true_eq] at h
  obtain ⟨⟨⟨ha, hx⟩, h1⟩, h2⟩ := h
  have hy : decodeElem ⟨off, sc, T, A⟩ (n : Rat) = unscaleElem T off sc (n : Rat) := by
    cases A with
    | none => rfl
    | some A =>
      simp only [decodeElem]
      rw [castElem_exact _ _ _ ha]
  rw [hy]
  unfold unscaleElem decodeQ
  simp only [toF_of_exact T _ (by rintro s b rfl; exact of_decide_eq_true hx)]
  rw [h1, h2]

theorem prec_le_53 (T : Ty) : T.prec ≤ 53 := by
  unfold Ty.prec; split
  · split <;> omega
  · split <;> omega
  · omega

theorem toF_intCast (T : Ty) (k : Int) (h : -(2 : Int) ^ T.prec < k ∧ k < (2 : Int) ^ T.prec) : toF T (k : Rat) = k := by
  cases T with
  | int s b => exact rnd_intCast _ k h.1 h.2
  | _ => rfl

/-- scale 1, integer offset, integer element: every float operation is exact -/
theorem scaleElem_scale1 (T : Ty) (o k : Int) (hk : -(2 : Int) ^ T.prec < k ∧ k < (2 : Int) ^ T.prec)
    (h : -(2 : Int) ^ T.prec < k - o ∧ k - o < (2 : Int) ^ T.prec) :
    scaleElem T (o : Rat) 1 (k : Rat) = fromF T ((k - o : Int) : Rat) := by
  unfold scaleElem
  simp only [toF_intCast T k hk, ← Rat.intCast_sub, rnd_intCast _ (k - o) h.1 h.2, Rat.mul_one, roundHalfAway_intCast]

theorem unscaleElem_scale1 (T : Ty) (o k : Int) (hk : -(2 : Int) ^ T.prec < k ∧ k < (2 : Int) ^ T.prec)
    (h : -(2 : Int) ^ T.prec < k + o ∧ k + o < (2 : Int) ^ T.prec) :
    unscaleElem T (o : Rat) 1 (k : Rat) = fromF T ((k + o : Int) : Rat) := by
  unfold unscaleElem
  have : ((k : Rat) / 1) = k := by grind
  simp only [toF_intCast T k hk, this, rnd_intCast _ k hk.1 hk.2, ← Rat.intCast_add, rnd_intCast _ (k + o) h.1 h.2]

theorem castElem_int (s : Bool) (b : Nat) (s' : Bool) (b' : Nat) (k : Int)
    (h1 : -(2 : Int) ^ 53 < k) (h2 : k < (2 : Int) ^ 53) :
    castElem (.int s b) (.int s' b') (k : Rat) = (satT (.int s' b') k : Int) := by
  unfold castElem toF64 fromF64 satT
  simp only [rnd_intCast _ k h1 h2, truncSat_intCast]

def Tow (v m : Int) : Prop := (0 ≤ v → 0 ≤ m ∧ m ≤ v) ∧ (v ≤ 0 → v ≤ m ∧ m ≤ 0)

theorem Tow.refl (v : Int) : Tow v v := by unfold Tow; omega
theorem Tow.trans {v m m' : Int} (h1 : Tow v m) (h2 : Tow m m') : Tow v m' := by unfold Tow at *; omega
theorem satT_idem (T : Ty) (v : Int) : satT T (satT T v) = satT T v := by
  have := clamp_mem T.lo T.hi v (Int.le_trans T.range_zero.1 T.range_zero.2)
  exact (clamp_eq_self_iff _ _ _).2 this

theorem Tow.antisymm {v m : Int} (h1 : Tow v m) (h2 : Tow m v) : m = v := by unfold Tow at *; omega
/-- saturation at bounds around zero moves a value toward zero, never across it -/
theorem tow_satT (T : Ty) (v : Int) : Tow v (satT T v) := by
  have := T.range_zero
  unfold Tow satT clamp
  split
  · omega
  · split <;> omega
theorem Tow.bound {v m B : Int} (h : Tow v m) (h1 : -B < v) (h2 : v < B) : -B < m ∧ m < B := by
  unfold Tow at h; omega
theorem Tow.bound_add {x o m B : Int} (h : Tow (x - o) m) (hx : -B < x ∧ x < B) (ho : -B < o ∧ o < B) :
    -B < m + o ∧ m + o < B := by
  unfold Tow at h; omega

theorem tow_satA (A : Option (Bool × Nat)) (v : Int) : Tow v (satA A v) := by
  cases A with
  | none => exact Tow.refl v
  | some a => exact tow_satT _ v

theorem satA_eq_self_iff (A : Option (Bool × Nat)) (v : Int) : satA A v = v ↔ fitsA A v := by
  cases A with
  | none => simp [satA, fitsA]
  | some a => exact clamp_eq_self_iff _ _ v

/-- a chain of saturations gives its input back only if none of them changes it: each moves toward zero -/
theorem sat_chain_eq_iff (T : Ty) (A : Option (Bool × Nat)) (v : Int) :
    satT T (satA A (satT T v)) = v ↔ (T.lo ≤ v ∧ v ≤ T.hi) ∧ fitsA A v := by
  rw [← clamp_eq_self_iff, ← satA_eq_self_iff]
  constructor
  · intro h
    have t1 := tow_satT T v
    have t2 := tow_satA A (satT T v)
    have t3 := tow_satT T (satA A (satT T v))
    rw [h] at t3
    have e1 : satT T v = v := t1.antisymm (t2.trans t3)
    rw [e1] at t2 t3
    exact ⟨e1, t2.antisymm t3⟩
  · rintro ⟨h1, h2⟩
    show satT T _ = v
    rw [show satT T v = v from h1, h2, show satT T v = v from h1]

theorem encodeElem_inTy (c : Cfg) (x : Rat) : inTy (encodedDataType c c.dtype) (encodeElem c x) := by
  obtain ⟨off, sc, T, A⟩ := c
  cases A with
  | some A =>
    cases A with
    | int s b =>
      simp only [encodedDataType, Option.getD, encodeElem, castElem, fromF64, inTy]
      exact ⟨_, rfl, clamp_mem _ _ _ (Int.le_trans (Ty.range_zero _).1 (Ty.range_zero _).2)⟩
    | _ => trivial
  | none =>
    cases T with
    | int s b =>
      simp only [encodedDataType, Option.getD, encodeElem, scaleElem, fromF, inTy]
      exact ⟨_, rfl, clamp_mem _ _ _ (Int.le_trans (Ty.range_zero _).1 (Ty.range_zero _).2)⟩
    | _ => trivial

theorem decodeQ_sub (off sc x : Rat) (hs : 0 < sc) :
    decodeQ off sc (encodeQ off sc x) - x = ((encodeQ off sc x : Rat) - (x - off) * sc) / sc := by
  unfold decodeQ
  have : sc ≠ 0 := Rat.ne_of_gt hs
  grind

end Zarrs.Fso
