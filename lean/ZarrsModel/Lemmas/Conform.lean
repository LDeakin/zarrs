import ZarrsModel.Model.Conform
import ZarrsModel.Lemmas.CodecBasic
import ZarrsModel.Lemmas.CodecTranspose
import ZarrsModel.Lemmas.ListBasic
import ZarrsModel.Lemmas.DeflateSimpleWriters
/- C12, stage by stage: whatever the `Layout`, the reader's stage inverts the writer's (bytes-to-bytes chain, element
serialisation, transposes, inner chunk) and what is written are bytes (`Bytes` is `List Nat`; `Deflates` asks `< 256` of
the payload); the sub-boxes of the grid assemble to the box; `Store.get` on a store built by `filterMap` over items with
distinct keys -/
namespace Zarrs.Conform
open Zarrs Zarrs.Codec Zarrs.Inflate

theorem deflateOf_deflates (l : Layout) {bs : Bytes} (hb : ∀ x ∈ bs, x < 256) :
    DeflateSpec.Deflates (deflateOf l bs) bs := by
  unfold deflateOf
  split
  · exact deflateStored_deflates hb
  · exact deflateFixed_deflates hb

theorem deflateOf_wf (l : Layout) {bs : Bytes} (hb : ∀ x ∈ bs, x < 256) : ∀ x ∈ deflateOf l bs, x < 256 := by
  unfold deflateOf
  split
  · exact deflateStored_wf bs hb
  · exact deflateFixed_wf bs

theorem b2bDec1_enc1 (l : Layout) (c : B2BK) (b : Bytes) (hb : ∀ x ∈ b, x < 256) :
    b2bDec1 c (b2bEnc1 l c b) = some b ∧ ∀ x ∈ b2bEnc1 l c b, x < 256 := by
  cases c with
  | gzip => exact ⟨gunzip_gzipWith _ _ (deflateOf_deflates l hb), gzipWith_wf _ _ _ (deflateOf_wf l hb)⟩
  | crc32c =>
    refine ⟨?_, ?_⟩
    · have hlen : (b ++ Codec.le32 (crc32c b)).length = b.length + 4 := by simp [Codec.le32]
      simp only [b2bDec1, b2bEnc1, hlen]
      rw [if_neg (by omega)]
      simp only [Nat.add_sub_cancel, List.take_left', List.drop_left', beq_self_eq_true, if_true]
    · intro x hx
      simp only [b2bEnc1, List.mem_append] at hx
      rcases hx with hx | hx
      · exact hb x hx
      · exact Codec.le32_wf _ x hx

theorem b2bEnc_cons (l : Layout) (c : B2BK) (cs : List B2BK) (b : Bytes) :
    b2bEnc l (c :: cs) b = b2bEnc l cs (b2bEnc1 l c b) := rfl

theorem b2bDec_cons (c : B2BK) (cs : List B2BK) (v : Bytes) :
    b2bDec (c :: cs) v = (b2bDec cs v).bind (b2bDec1 c) := by
  simp [b2bDec, List.foldl_append]

theorem b2b_roundtrip' (l : Layout) (cs : List B2BK) : ∀ (b : Bytes), (∀ x ∈ b, x < 256) →
    b2bDec cs (b2bEnc l cs b) = some b ∧ ∀ x ∈ b2bEnc l cs b, x < 256 := by
  induction cs with
  | nil => intro b hb; exact ⟨rfl, hb⟩
  | cons c cs ih =>
    intro b hb
    obtain ⟨h1, h2⟩ := b2bDec1_enc1 l c b hb
    obtain ⟨h3, h4⟩ := ih _ h2
    rw [b2bEnc_cons, b2bDec_cons, h3]
    exact ⟨h1, h4⟩

theorem forall_endian (big : Bool) (xs : List Elem) (P : Elem → Prop) (hP : ∀ x, P x → P x.reverse)
    (h : ∀ x ∈ xs, P x) : ∀ x ∈ (if big then xs.map List.reverse else xs), P x := by
  cases big with
  | false => exact h
  | true =>
    intro x hx
    simp only [if_true, List.mem_map] at hx
    obtain ⟨x', hx', rfl⟩ := hx
    exact hP x' (h x' hx')

theorem bytesEncElems_wf (big : Bool) (xs : List Elem) (h : ∀ x ∈ xs, ∀ y ∈ x, y < 256) :
    ∀ y ∈ bytesEncElems big xs, y < 256 := by
  intro y hy
  obtain ⟨x, hx, hyx⟩ := List.mem_flatten.1 hy
  exact forall_endian big xs (fun x => ∀ y ∈ x, y < 256) (fun x h y hy => h y (List.mem_reverse.1 hy)) h x hx y hyx

theorem bytesDecElems_enc (big : Bool) (es : Nat) (hes : 0 < es) (xs : List Elem) (h : ∀ x ∈ xs, x.length = es) :
    bytesDecElems big es (bytesEncElems big xs) = some xs := by
  have hg := forall_endian big xs (·.length = es) (fun x hx => by simpa using hx) h
  have hl := flatten_length_of_all es _ hg
  unfold bytesDecElems bytesEncElems splitElems
  rw [if_neg (by simp [hl]; omega), chunksOf_of_flatten es hes _ _ hg (by omega)]
  cases big <;> simp [List.map_map, Function.comp_def]

theorem bytesEncElems_length (big : Bool) (es : Nat) (xs : List Elem) (h : ∀ x ∈ xs, x.length = es) :
    (bytesEncElems big xs).length = xs.length * es := by
  rw [bytesEncElems, flatten_length_of_all es _ (forall_endian big xs (·.length = es) (fun x hx => by simpa using hx) h)]
  cases big <;> simp

theorem transposeEnc_mem {order : List Nat} {shape : Shape} {xs : List Elem}
    (ho : validOrder order shape.length = true) (hx : xs.length = prod shape) :
    ∀ y ∈ transposeEnc order shape xs, y ∈ xs :=
  mem_transposeEnc order shape xs ho hx

theorem shapesThrough_ne_nil (s0 : Shape) (ts : List (List Nat)) : shapesThrough s0 ts ≠ [] := by
  cases ts <;> simp [shapesThrough]

theorem getLastD_of_ne_nil {α} : ∀ (l : List α) (a b : α), l ≠ [] → l.getLastD a = l.getLastD b
  | [], _, _, h => absurd rfl h
  | _ :: _, _, _, _ => by simp [List.getLastD]

theorem encodedShape_nil (s0 : Shape) : encodedShape s0 [] = s0 := rfl

theorem encodedShape_cons (s0 : Shape) (o : List Nat) (os : List (List Nat)) :
    encodedShape s0 (o :: os) = encodedShape (permute s0 o) os := by
  unfold encodedShape
  rw [shapesThrough, List.getLastD_cons]
  exact getLastD_of_ne_nil _ _ _ (shapesThrough_ne_nil _ _)

theorem dotranspose_cons (s0 : Shape) (o : List Nat) (os : List (List Nat)) (xs : List Elem) :
    dotranspose s0 (o :: os) xs = dotranspose (permute s0 o) os (transposeEnc o s0 xs) := by
  simp [dotranspose, shapesThrough]

theorem untranspose_cons (s0 : Shape) (o : List Nat) (os : List (List Nat)) (ys : List Elem) :
    untranspose s0 (o :: os) ys = transposeDec o s0 (untranspose (permute s0 o) os ys) := by
  simp [untranspose, shapesThrough, List.foldl_append]

/-- what `dotranspose` does to a list of the right length, and that `untranspose` undoes it -/
structure Transposed (s0 : Shape) (ts : List (List Nat)) (xs : List Elem) : Prop where
  back : untranspose s0 ts (dotranspose s0 ts xs) = xs
  len : (dotranspose s0 ts xs).length = prod (encodedShape s0 ts)
  prodEq : prod (encodedShape s0 ts) = prod s0
  rank : (encodedShape s0 ts).length = s0.length
  mem : ∀ y ∈ dotranspose s0 ts xs, y ∈ xs

theorem untranspose_dotranspose (ts : List (List Nat)) : ∀ (s0 : Shape) (xs : List Elem),
    (∀ o ∈ ts, validOrder o s0.length = true) → xs.length = prod s0 → Transposed s0 ts xs := by
  induction ts with
  | nil =>
    intro s0 xs _ hx
    exact ⟨rfl, hx, rfl, rfl, fun y hy => hy⟩
  | cons o os ih =>
    intro s0 xs ho hx
    have ho1 : validOrder o s0.length = true := ho o (by simp)
    obtain ⟨h1, h2, h3, _⟩ := transpose_dec_enc' o s0 xs ho1 hx
    have hlen : (permute s0 o).length = s0.length := by
      rw [permute_length]; exact (validOrder_cover ho1).1
    have i := ih (permute s0 o) (transposeEnc o s0 xs)
      (fun o' ho' => by rw [hlen]; exact ho o' (by simp [ho'])) h2
    refine ⟨?_, ?_, ?_, ?_, fun y hy => ?_⟩
    · rw [dotranspose_cons, untranspose_cons, i.back, h1]
    · rw [dotranspose_cons, encodedShape_cons]; exact i.len
    · rw [encodedShape_cons]; exact i.prodEq.trans h3
    · rw [encodedShape_cons]; exact i.rank.trans hlen
    · rw [dotranspose_cons] at hy
      exact transposeEnc_mem ho1 hx y (i.mem y hy)

theorem innerDec_enc (l : Layout) (es : Nat) (hes : 0 < es) (shape : Shape) (c : Inner)
    (ho : ∀ o ∈ c.transposes, validOrder o shape.length = true) (xs : List Elem) (hx : xs.length = prod shape)
    (hxe : ∀ x ∈ xs, x.length = es ∧ ∀ y ∈ x, y < 256) :
    innerDec es shape c (innerEnc l shape c xs) = some xs ∧ ∀ y ∈ innerEnc l shape c xs, y < 256 := by
  have t := untranspose_dotranspose c.transposes shape xs ho hx
  have hye : ∀ x ∈ dotranspose shape c.transposes xs, x.length = es ∧ ∀ y ∈ x, y < 256 :=
    fun x hx' => hxe x (t.mem x hx')
  have hwf := bytesEncElems_wf c.big _ (fun x hx' => (hye x hx').2)
  obtain ⟨b1, b2⟩ := b2b_roundtrip' l c.b2b _ hwf
  refine ⟨?_, b2⟩
  unfold innerDec innerEnc
  rw [b1]
  simp only [Option.bind_some]
  rw [bytesDecElems_enc c.big es hes _ (fun x hx' => (hye x hx').1)]
  simp only [t.len, t.prodEq, beq_self_eq_true, if_true, t.back]

theorem div_lt_ceilDiv {j n s : Nat} (hs : 0 < s) (h : j < n) : j / s < ceilDiv n s := by
  unfold ceilDiv
  rw [Nat.div_lt_iff_lt_mul hs]
  have h1 := Nat.div_add_mod (n + s - 1) s
  have h2 := Nat.mod_lt (n + s - 1) hs
  rw [Nat.mul_comm]
  generalize (n + s - 1) / s = q at *
  generalize (n + s - 1) % s = r at *
  omega

theorem div_mod_inB : ∀ (j shape sub : List Nat), sub.length = shape.length → (∀ d ∈ sub, 0 < d) →
    inB j shape = true →
    inB (List.zipWith (· / ·) j sub) (gridOf shape sub) = true ∧ inB (List.zipWith (· % ·) j sub) sub = true ∧
    List.zipWith (fun (cw : Nat × Nat) s => cw.1 * s + cw.2)
      ((List.zipWith (· / ·) j sub).zip (List.zipWith (· % ·) j sub)) sub = j
  | [], [], [], _, _, _ => ⟨rfl, rfl, rfl⟩
  | [], [], _ :: _, hl, _, _ => by simp at hl
  | [], _ :: _, _, _, _, h => by simp [inB] at h
  | _ :: _, [], _, _, _, h => by simp [inB] at h
  | _ :: _, _ :: _, [], hl, _, _ => by simp at hl
  | a :: j, n :: shape, s :: sub, hl, hp, h => by
    simp only [inB, Bool.and_eq_true, decide_eq_true_eq] at h
    obtain ⟨i1, i2, i3⟩ := div_mod_inB j shape sub (by simpa using hl) (fun d hd => hp d (by simp [hd])) h.2
    have hs : 0 < s := hp s (by simp)
    simp only [gridOf, List.zipWith_cons_cons, List.zip_cons_cons, inB, Bool.and_eq_true, decide_eq_true_eq,
      List.cons.injEq]
    exact ⟨⟨div_lt_ceilDiv hs h.1, i1⟩, ⟨Nat.mod_lt _ hs, i2⟩, by rw [Nat.mul_comm]; exact Nat.div_add_mod a s, i3⟩

theorem subBox_length (shape sub : Shape) (xs : List Elem) (c : Idx) (fill : Elem) :
    (subBox shape sub xs c fill).length = prod sub := by
  simp [subBox, boxIndices_length]

theorem subBox_mem (shape sub : Shape) (xs : List Elem) (c : Idx) (fill : Elem) :
    ∀ y ∈ subBox shape sub xs c fill, y ∈ xs ∨ y = fill := by
  intro y hy
  simp only [subBox, List.mem_map] at hy
  obtain ⟨w, _, rfl⟩ := hy
  split
  · rw [List.getD_eq_getElem?_getD]
    cases hq : xs[ravel (List.zipWith (fun (cw : Nat × Nat) s => cw.1 * s + cw.2) (c.zip w) sub) shape]? with
    | none => right; rfl
    | some v => left; exact List.mem_of_getElem? hq
  · right; rfl

theorem subBox_getD (shape sub : Shape) (xs : List Elem) (c w : Idx) (fill : Elem) (hw : inB w sub = true) :
    (subBox shape sub xs c fill).getD (ravel w sub) fill =
      (let i := List.zipWith (fun (cw : Nat × Nat) s => cw.1 * s + cw.2) (c.zip w) sub
       if inB i shape then xs.getD (ravel i shape) fill else fill) := by
  simp only [subBox, List.getD_eq_getElem?_getD, List.getElem?_map, boxIndices_getElem?_ravel w sub hw,
    Option.map_some, Option.getD_some]

theorem map_getD_ravel {β} (grid : Shape) (f : Idx → β) (d : β) (c : Idx) (hc : inB c grid = true) :
    ((boxIndices grid).map f).getD (ravel c grid) d = f c := by
  simp only [List.getD_eq_getElem?_getD, List.getElem?_map, boxIndices_getElem?_ravel c grid hc, Option.map_some,
    Option.getD_some]

theorem assemble_subBox (shape sub : Shape) (hl : sub.length = shape.length) (hpos : ∀ d ∈ sub, 0 < d)
    (xs : List Elem) (hx : xs.length = prod shape) (fill : Elem) :
    assemble shape sub ((boxIndices (gridOf shape sub)).map (fun c => subBox shape sub xs c fill)) fill = xs := by
  apply list_ext_box shape _ _ (by simp [assemble, boxIndices_length]) hx
  intro j hj
  obtain ⟨hc, hw, hr⟩ := div_mod_inB j shape sub hl hpos hj
  have hlt : ravel j shape < xs.length := by rw [hx]; exact ravel_lt j shape hj
  simp only [assemble, List.getElem?_map, boxIndices_getElem?_ravel j shape hj, Option.map_some]
  rw [map_getD_ravel _ _ _ _ hc, subBox_getD _ _ _ _ _ _ hw]
  simp only [hr, hj, if_true]
  rw [List.getD_eq_getElem?_getD, List.getElem?_eq_getElem hlt]
  rfl

theorem get_filterMap_cons {α} (key : α → List Char) (p : α → Bool) (val : α → Bytes) (a : α) (l : List α)
    (k : List Char) :
    Store.get ((a :: l).filterMap (fun a => if p a then none else some (key a, val a))) k =
      if (!p a && key a == k) = true then some (val a)
      else Store.get (l.filterMap (fun a => if p a then none else some (key a, val a))) k := by
  cases hp : p a
  · by_cases hk : key a = k <;> simp [Store.get, hp, hk]
  · simp [hp]

theorem get_filterMap_none {α} (key : α → List Char) (p : α → Bool) (val : α → Bytes) (k : List Char) :
    ∀ (l : List α), (∀ a ∈ l, key a ≠ k) →
      Store.get (l.filterMap (fun a => if p a then none else some (key a, val a))) k = none
  | [], _ => rfl
  | a :: l, h => by
    have hk : (key a == k) = false := by simpa using h a (by simp)
    rw [get_filterMap_cons, hk, Bool.and_false, if_neg (by simp)]
    exact get_filterMap_none key p val k l (fun b hb => h b (by simp [hb]))

theorem get_filterMap {α} (key : α → List Char) (p : α → Bool) (val : α → Bytes) : ∀ (l : List α) (c : α),
    (∀ a ∈ l, key a = key c → a = c) → c ∈ l →
    Store.get (l.filterMap (fun a => if p a then none else some (key a, val a))) (key c) =
      if p c then none else some (val c)
  | [], c, _, hc => by simp at hc
  | a :: l, c, hinj, hc => by
    have hinj' : ∀ b ∈ l, key b = key c → b = c := fun b hb => hinj b (by simp [hb])
    rw [get_filterMap_cons]
    by_cases hk : key a = key c
    · have hac := hinj a (by simp) hk
      subst hac
      cases hp : p a
      · simp
      · simp only [Bool.not_true, Bool.false_and, Bool.false_eq_true, if_false, if_true]
        by_cases hcl : a ∈ l
        · rw [get_filterMap key p val l a hinj' hcl, hp]
          rfl
        · exact get_filterMap_none key p val _ l (fun b hb h => hcl (hinj' b hb h ▸ hb))
    · have hcl : c ∈ l := by
        rcases List.mem_cons.1 hc with h | h
        · exact absurd (h ▸ rfl) hk
        · exact h
      rw [show (key a == key c) = false by simpa using hk, Bool.and_false, if_neg (by simp)]
      exact get_filterMap key p val l c hinj' hcl

end Zarrs.Conform
