import ZarrsModel.Lemmas.ChainSDec
import ZarrsModel.Lemmas.ShardPDMain
/- (nested) sharded chains, read by C02 (`ChainSStores`), C03 and C05 (`ChainSPEElems`, `ChainSPETop`): the stored inner
chunks of a shard against the pieces of a chunk (`ChunksDecode`, `ChunksHold`: what the encoder stores holds them);
`ShardingCodec::decode` on any value `Shard.decode` accepts, one sharding level of `ChainS.decode`; the declared size
bounds every encoding (`chainS_size'`; that a fixed size is met exactly is `chainS_encode_length` in `ShardPDMain`) -/
namespace Zarrs.Partial
open Zarrs Zarrs.Codec Zarrs.Subset

def ChunksDecode (es : Nat) (fill : Elem) (inner : Shape) (innerDec : Bytes → Option (List Elem))
    (chunks : List (Option Bytes)) (xss : List (List Elem)) : Prop :=
  chunks.length = xss.length ∧ ∀ i (h1 : i < chunks.length) (h2 : i < xss.length),
    match chunks[i] with
    | none => xss[i] = List.replicate (prod inner) fill
    | some b => innerDec b = some xss[i] ∧ xss[i].length = prod inner ∧ ∀ x ∈ xss[i], x.length = es

section
variable {es : Nat} {fill : Elem} {inner : Shape} {innerDec : Bytes → Option (List Elem)}
  {chunks : List (Option Bytes)} {xss : List (List Elem)}

theorem ChunksDecode.of_none (h : ChunksDecode es fill inner innerDec chunks xss) {i : Nat} {h1 : i < chunks.length}
    (h2 : i < xss.length) (hc : chunks[i] = none) : xss[i] = List.replicate (prod inner) fill := by
  have := h.2 i h1 h2
  rw [hc] at this
  exact this

theorem ChunksDecode.of_some (h : ChunksDecode es fill inner innerDec chunks xss) {i : Nat} {h1 : i < chunks.length}
    (h2 : i < xss.length) {b : Bytes} (hc : chunks[i] = some b) :
    innerDec b = some xss[i] ∧ xss[i].length = prod inner ∧ ∀ x ∈ xss[i], x.length = es := by
  have := h.2 i h1 h2
  rw [hc] at this
  exact this

theorem ChunksDecode.intro (hl : chunks.length = xss.length)
    (hnone : ∀ i (h1 : i < chunks.length) (h2 : i < xss.length), chunks[i] = none →
      xss[i] = List.replicate (prod inner) fill)
    (hsome : ∀ i (h1 : i < chunks.length) (h2 : i < xss.length) b, chunks[i] = some b →
      innerDec b = some xss[i] ∧ xss[i].length = prod inner ∧ ∀ x ∈ xss[i], x.length = es) :
    ChunksDecode es fill inner innerDec chunks xss := by
  refine ⟨hl, fun i h1 h2 => ?_⟩
  cases hc : chunks[i] with
  | none => exact hnone i h1 h2 hc
  | some b => exact hsome i h1 h2 b hc

theorem ChunksDecode.piece_length (h : ChunksDecode es fill inner innerDec chunks xss) :
    ∀ xs ∈ xss, xs.length = prod inner := by
  intro xs hxs
  obtain ⟨i, hi, rfl⟩ := List.mem_iff_getElem.mp hxs
  have h1 : i < chunks.length := by rw [h.1]; exact hi
  cases hc : chunks[i] with
  | none => rw [h.of_none hi hc]; simp
  | some b => exact (h.of_some hi hc).2.1

end

/-- the shard clause of `ChainS.Stores` with the recursive occurrence abstracted as `R` (`stores_shard_iff`) -/
def ChunksHold (fill : Elem) (ish : Shape) (R : Bytes → List Elem → Prop) (chunks : List (Option Bytes))
    (pieces : List (List Elem)) : Prop :=
  chunks.length = pieces.length ∧ ∀ i (h1 : i < chunks.length) (h2 : i < pieces.length),
    match chunks[i] with
    | none => pieces[i] = List.replicate (prod ish) fill
    | some b => pieces[i] ≠ List.replicate (prod ish) fill ∧ R b pieces[i]

section
variable {fill : Elem} {ish : Shape} {R R' : Bytes → List Elem → Prop} {chunks : List (Option Bytes)}
  {pieces : List (List Elem)} (h : ChunksHold fill ish R chunks pieces)
include h

theorem ChunksHold.of_none {i : Nat} {h1 : i < chunks.length} (h2 : i < pieces.length) (hc : chunks[i] = none) :
    pieces[i] = List.replicate (prod ish) fill := by
  have := h.2 i h1 h2
  rw [hc] at this
  exact this

theorem ChunksHold.of_some {i : Nat} {h1 : i < chunks.length} (h2 : i < pieces.length) {b : Bytes}
    (hc : chunks[i] = some b) : pieces[i] ≠ List.replicate (prod ish) fill ∧ R b pieces[i] := by
  have := h.2 i h1 h2
  rw [hc] at this
  exact this

theorem ChunksHold.imp (hR : ∀ p ∈ pieces, ∀ b, R b p → R' b p) : ChunksHold fill ish R' chunks pieces := by
  refine ⟨h.1, fun i h1 h2 => ?_⟩
  cases hc : chunks[i] with
  | none => exact h.of_none h2 hc
  | some b => exact ⟨(h.of_some h2 hc).1, hR _ (List.getElem_mem h2) b (h.of_some h2 hc).2⟩

/-- the form in which `served_of_decode` (and `C02S.shardPD_ok`) ask for the stored chunks -/
theorem ChunksHold.encodes {P : List Elem → Prop} (hp : ∀ p ∈ pieces, P p) :
    ∀ i (h1 : i < chunks.length) (h2 : i < pieces.length),
      match chunks[i] with
      | some b => R b pieces[i] ∧ P pieces[i]
      | none => pieces[i] = List.replicate (prod ish) fill := by
  intro i h1 h2
  cases hc : chunks[i] with
  | none => exact h.of_none h2 hc
  | some b => exact ⟨(h.of_some h2 hc).2, hp _ (List.getElem_mem h2)⟩

end

theorem ChunksHold.decode {es : Nat} {fill : Elem} {ish : Shape} {R : Bytes → List Elem → Prop}
    {innerDec : Bytes → Option (List Elem)}
    {chunks : List (Option Bytes)} {pieces : List (List Elem)} (h : ChunksHold fill ish R chunks pieces)
    (hR : ∀ b p, R b p → innerDec b = some p)
    (hp : ∀ p ∈ pieces, p.length = prod ish ∧ ∀ x ∈ p, x.length = es) :
    ChunksDecode es fill ish innerDec chunks pieces :=
  ChunksDecode.intro h.1 (fun _ _ h2 hc => h.of_none h2 hc)
    fun _ _ h2 _ hc => ⟨hR _ _ (h.of_some h2 hc).2, hp _ (List.getElem_mem h2)⟩

theorem shardChunks_hold (R : Bytes → List Elem → Prop) (enc : List Elem → Bytes) (fill : Elem) {shard ish : Shape}
    (ys : List Elem) (ht : tiles ish shard = true) (hyl : ys.length = prod shard)
    (hR : ∀ p ∈ splitShard shard ish ys, R (enc p) p) :
    ChunksHold fill ish R (shardChunks enc fill shard ish ys) (splitShard shard ish ys) := by
  refine ⟨by simp [shardChunks], fun i h1 h2 => ?_⟩
  have hpm : (splitShard shard ish ys)[i] ∈ splitShard shard ish ys := List.getElem_mem h2
  obtain ⟨hpl, _⟩ := splitShard_piece ht ys hyl _ hpm
  simp only [shardChunks, List.getElem_map]
  by_cases hall : (splitShard shard ish ys)[i].all (· == fill) = true
  · rw [if_pos hall]
    exact (all_beq_iff_replicate fill _ _ hpl).mp hall
  · rw [if_neg hall]
    exact ⟨fun h => hall (by rw [h]; exact replicate_all_beq fill _), hR _ hpm⟩

theorem ChunksHold.all_none_iff {fill : Elem} {ish sh : Shape} {R : Bytes → List Elem → Prop}
    {chunks : List (Option Bytes)} {ys : List Elem} (h : ChunksHold fill ish R chunks (splitShard sh ish ys))
    (ht : tiles ish sh = true) (hyl : ys.length = prod sh) :
    (∀ ch ∈ chunks, ch = none) ↔ ys.all (· == fill) = true := by
  rw [← pieces_fill_iff ht fill ys hyl]
  constructor
  · intro hall i hi
    exact h.of_none hi (hall _ (List.getElem_mem (h.1 ▸ hi)))
  · intro hall ch hch
    obtain ⟨i, hi, rfl⟩ := List.mem_iff_getElem.mp hch
    cases hc : chunks[i] with
    | none => rfl
    | some b => exact absurd (hall i (h.1 ▸ hi)) (h.of_some (h.1 ▸ hi) hc).1

theorem shardChunks_decode (es : Nat) (fill : Elem) (shard ish : Shape) (ys : List Elem)
    (enc : List Elem → Bytes) (dec : Bytes → Option (List Elem))
    (ht : tiles ish shard = true) (hyl : ys.length = prod shard) (hye : ∀ y ∈ ys, y.length = es)
    (hinv : ∀ p ∈ splitShard shard ish ys, p.length = prod ish → (∀ x ∈ p, x.length = es) → dec (enc p) = some p) :
    ChunksDecode es fill ish dec (shardChunks enc fill shard ish ys) (splitShard shard ish ys) :=
  have hp := splitShard_chunkOk ht hyl hye
  (shardChunks_hold (fun b p => dec b = some p) enc fill ys ht hyl
    (fun p hm => hinv p hm (hp p hm).1 (hp p hm).2)).decode (fun _ _ h => h) hp

theorem mapM_shardChunkDec {es : Nat} {fill : Elem} {inner : Shape} {innerDec : Bytes → Option (List Elem)}
    {chunks : List (Option Bytes)} {xss : List (List Elem)} (hfill : fill.length = es)
    (h : ChunksDecode es fill inner innerDec chunks xss) :
    chunks.mapM (shardChunkDec es fill inner innerDec) = some xss := by
  apply mapM_some_pointwise _ _ _ h.1
  intro i h1 h2
  cases hc : chunks[i] with
  | none =>
    rw [h.of_none h2 hc]
    simp [shardChunkDec, hfill]
  | some b =>
    have hb := h.of_some h2 hc
    simp only [shardChunkDec, hb.1, Option.bind_some]
    exact validated_some _ _ _ hb.2.1 hb.2.2

theorem assemble_of_prod_zero (shard inner : Shape) (xss : List (List Elem)) (h : prod shard = 0) :
    assemble shard inner xss = [] := by
  apply List.eq_nil_of_length_eq_zero
  simp [assemble, boxIndices_length, h]

/-- `ShardingCodec::decode` on any value `Shard.decode` accepts, whatever its layout (any offsets, order, gaps; index
at either end, either byte order, with or without crc32c): a legal one (`Shard.legal_decodes`), a partially
encoded one (`ShardPE.St`) -/
theorem shardDecode_ok (cfg : Shard.Cfg) (shard inner : Shape) (es : Nat) (fill : Elem)
    (innerDec : Bytes → Option (List Elem)) (v : Bytes) (chunks : List (Option Bytes)) (xss : List (List Elem))
    (ht : tiles inner shard = true) (hes : 0 < es) (hfill : fill.length = es)
    (hdec : Shard.decode { cfg with nChunks := prod (zipDiv shard inner) } true v = .ok chunks)
    (hcd : ChunksDecode es fill inner innerDec chunks xss) (hn : chunks.length = prod (zipDiv shard inner)) :
    shardDecode cfg shard inner es fill innerDec v = some (assemble shard inner xss) := by
  obtain ⟨ib, entries, hib, hdi, _⟩ := (Shard.decode_ok_iff _ true v chunks).mp hdec
  unfold shardDecode
  simp only [chunksPerShard_of_tiles ht, hib, hdi]
  by_cases hz : prod shard = 0
  · rw [if_pos (by simp [hz]), assemble_of_prod_zero shard inner xss hz, hz]
    rfl
  · rw [if_neg (by
      simp only [beq_iff_eq]
      intro h0
      rcases Nat.mul_eq_zero.mp h0 with h | h <;> omega)]
    simp only [hdec, mapM_shardChunkDec hfill hcd, Option.map_some]
    congr 1
    apply assembleScatter_eq ht xss _ hcd.piece_length _ (by simp)
    rw [← hcd.1, hn]

theorem chainS_shard_decode {a2a : List AStage} {cfg : Shard.Cfg} {ish : Shape} {es : Nat} {inner : ChainS}
    {b2b : List BStage} {sh : Shape} {fill : Elem}
    (hok : (ChainS.shard a2a cfg ish es inner b2b).okWith aOk BLawful sh fill) (xs : List Elem) (v : Bytes)
    (chunks : List (Option Bytes)) (hxl : xs.length = prod sh) (hxe : ∀ x ∈ xs, x.length = es)
    (hdec : Shard.decode { cfg with nChunks := prod (zipDiv (shapesOf a2a sh) ish) } true v = .ok chunks)
    (hcd : ChunksDecode es fill ish (inner.decode ish fill) chunks
      (splitShard (shapesOf a2a sh) ish (aEnc a2a sh xs))) :
    (ChainS.shard a2a cfg ish es inner b2b).decode sh fill (encB b2b v) = some xs := by
  have ha := hok.a2a
  have ht := hok.tiles
  have hes : 0 < es := hok.es_pos
  have hfill := hok.fill_length
  obtain ⟨hyl, _⟩ := aEnc_chunk es a2a sh xs ha hxl hxe
  simp only [ChainS.decode]
  rw [decodeB2B_enc b2b fun st h => (hok.b2b st h).dec]
  simp only [Option.bind_some]
  rw [shardDecode_ok cfg _ ish es fill _ v chunks _ ht hes hfill hdec hcd (by rw [hcd.1, splitShard_length]),
    assemble_split ht _ hyl]
  simp only [Option.bind_some]
  rw [decodeA2A_enc a2a es sh xs ha hxl hxe]
  exact validated_some _ _ _ hxl hxe

/-- the final `bytes.validate(num_elements, size)` of `CodecChain::decode` -/
theorem ChainS.decode_valid (c : ChainS) (sh : Shape) (fill : Elem) (b : Bytes) (xs : List Elem)
    (h : c.decode sh fill b = some xs) : xs.length = prod sh ∧ ∀ x ∈ xs, x.length = c.es := by
  -- both kinds of chain end in `… .bind (fun ys => (decodeA2A … ys).bind (validated es (prod sh)))`
  have hv : ∀ {es : Nat} {o : Option (List Elem)} {g : List Elem → Option (List Elem)},
      o.bind (fun ys => (g ys).bind (validated es (prod sh))) = some xs →
      xs.length = prod sh ∧ ∀ x ∈ xs, x.length = es := by
    intro es o g h
    obtain ⟨ys, _, h⟩ := Option.bind_eq_some_iff.mp h
    obtain ⟨zs, _, h⟩ := Option.bind_eq_some_iff.mp h
    obtain ⟨rfl, hl, he⟩ := validated_eq_some h
    exact ⟨hl, he⟩
  cases c with
  | leaf c keep => exact hv h
  | shard a2a cfg ish es inner b2b => exact hv h

theorem bBound_eq_bFixed (stages : List BStage) : ∀ s, bBound stages s = bFixed stages [] s := by
  induction stages with
  | nil => intro _; rfl
  | cons st rest ih =>
    intro s
    cases st <;> simp [bBound, bFixed, BStage.fixedSize, ih, bFixed_none]

theorem keepOk_nil (stages : List BStage) : keepOk stages [] := by
  induction stages with
  | nil => trivial
  | cons st rest ih => cases st <;> exact ⟨by simp, ih⟩

/-- `encoded_shard_bounded_size` -/
theorem shardEncode_length_le (cfg : Shard.Cfg) (enc : List Elem → Bytes) (fill : Elem) (sh ish : Shape)
    (ys : List Elem) (m : Nat) (hm : ∀ p ∈ splitShard sh ish ys, (enc p).length ≤ m) :
    (Shard.encode { cfg with nChunks := prod (zipDiv sh ish) } (shardChunks enc fill sh ish ys)).length ≤
      prod (zipDiv sh ish) * m + Shard.indexSize { cfg with nChunks := prod (zipDiv sh ish) } := by
  have hclen : (shardChunks enc fill sh ish ys).length = prod (zipDiv sh ish) := by
    simp [shardChunks, splitShard_length]
  rw [Shard.encode_length _ _ hclen]
  have := Shard.dataOf_length_le (shardChunks enc fill sh ish ys) m (by
    intro ch hch b hb
    subst hb
    simp only [shardChunks, List.mem_map] at hch
    obtain ⟨p, hp, hpe⟩ := hch
    split at hpe
    · cases hpe
    · simp only [Option.some.injEq] at hpe
      subst hpe
      exact hm p hp)
  rw [hclen] at this
  omega

/-- `CodecChain::encoded_representation` with `ShardingCodec::encoded_representation` -/
theorem chainS_size' {B : BStage → Prop} : ∀ (c : ChainS) (sh : Shape) (fill : Elem) (xs : List Elem) (n : Nat),
    c.okWith aOk B sh fill → xs.length = prod sh → (∀ x ∈ xs, x.length = c.es) → c.bound sh = some n →
    (c.encode sh fill xs).length ≤ n := by
  intro c
  induction c with
  | leaf c keep =>
    intro sh fill xs n hok hxl hxe hb
    exact Nat.le_of_eq (chain_encode_length c keep sh xs n hok.es_mod_unit hxl hxe hok.leaf_a2a hok.keepOk hb)
  | shard a2a cfg ish es inner b2b ih =>
    intro sh fill xs n hok hxl hxe hb
    simp only [ChainS.es] at hxe
    obtain ⟨hyl, hye⟩ := aEnc_chunk es a2a sh xs hok.a2a hxl hxe
    simp only [ChainS.bound] at hb
    cases hm : inner.bound ish with
    | none => rw [hm] at hb; simp only [Option.map_none, bBound_eq_bFixed, bFixed_none] at hb; cases hb
    | some m =>
      rw [hm] at hb
      simp only [Option.map_some] at hb
      simp only [ChainS.encode, encodeA2A_eq]
      rw [bBound_eq_bFixed] at hb
      apply bFixed_length (· ≤ ·) (fun _ _ h => Nat.add_le_add_right h 4) b2b [] _ _ n (keepOk_nil b2b) hb
      apply shardEncode_length_le
      intro p hp
      obtain ⟨hpl, hpe⟩ := splitShard_chunkOk hok.tiles hyl hye p hp
      exact ih ish fill p m hok.inner hpl (by rw [hok.inner_es]; exact hpe) hm

end Zarrs.Partial
