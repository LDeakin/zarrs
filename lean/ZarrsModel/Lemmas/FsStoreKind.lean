import ZarrsModel.Lemmas.FsStoreOps
import ZarrsModel.Lemmas.FsStoreAbs
/- what a path resolves to in the store (`kindAt`): the view of the directory tree through which `FsStoreRefine` and
`FsStoreList` reason.  The files that resolve are the map `absFs`; the three writes are known by their effect on
resolution (`SetAt`, `RemovedAt`), the listings as sets of resolved files. -/
namespace Zarrs.Fs
open Zarrs

/-- what a path resolves to in the store, without the content of a directory -/
def FsState.kindAt (s : FsState) (p : List Name) : Kind := (s.stat p).kind

/-- `statFree` read off the kind of what a path resolves to (`statFree_kindAt`) -/
def freeKind : Kind → Bool
  | .noent | .file _ => true
  | _ => false

/-- `s'` is `s` with the file `v` at `path`: every path that is neither above nor below it resolves as before (above
a file there are directories, below it ENOTDIR, in any state: `kindAt_below`) -/
def SetAt (path : List Name) (v : Bytes) (s s' : FsState) : Prop :=
  s'.kindAt path = .file v ∧
    ∀ p, ¬ p <+: path → ¬ path <+: p → s'.kindAt p = s.kindAt p

/-- `s'` is `s` without what was at `path` (a file, or a directory with all beneath) -/
def RemovedAt (path : List Name) (s s' : FsState) : Prop :=
  ∀ p, s'.kindAt p = if path <+: p then .noent else s.kindAt p

theorem kindAt_content (s : FsState) (p : List Name) (hp : p ≠ []) : (FsState.content s).kindAt p = s.kindAt p := by
  rw [FsState.kindAt, stat_content s p hp]; rfl

theorem stat_eq_file_iff (s : FsState) (p : List Name) (b : Bytes) : s.stat p = .file b ↔ s.kindAt p = .file b :=
  (Tree.kind_file_iff _ b).symm

theorem stat_eq_noent_iff (s : FsState) (p : List Name) : s.stat p = .noent ↔ s.kindAt p = .noent := by
  unfold FsState.kindAt
  cases s.stat p <;> simp [Stat.kind]

theorem statFree_kindAt (s : FsState) (path : List Name) : statFree s path = freeKind (s.kindAt path) := by
  unfold statFree FsState.kindAt
  cases s.stat path <;> rfl

theorem statFree_iff (s : FsState) (path : List Name) :
    statFree s path = true ↔ (s.kindAt path = .noent ∨ ∃ b, s.kindAt path = .file b) := by
  rw [statFree_kindAt]
  cases s.kindAt path <;> simp [freeKind]

theorem dirFree_iff (s : FsState) (path : List Name) :
    dirFree s path = true ↔ (s.kindAt path = .noent ∨ s.kindAt path = .dir) := by
  unfold dirFree FsState.kindAt
  cases s.stat path <;> simp [Stat.kind]

theorem not_dir_of_free {s : FsState} {path : List Name} (h : statFree s path = true) : s.kindAt path ≠ .dir :=
  fun e => by rw [statFree_kindAt, e] at h; cases h

theorem kindAt_below (s : FsState) (p q : List Name) (hq : q ≠ []) (h : s.kindAt p ≠ .dir) :
    s.kindAt (p ++ q) = if s.kindAt p = .noent then .noent else .notdir := by
  cases s with
  | none => rfl
  | some t => exact Tree.kindAt_below t p q hq h

theorem kindAt_below_file (s : FsState) (p q : List Name) (b : Bytes) (hq : q ≠ []) (h : s.kindAt p = .file b) :
    s.kindAt (p ++ q) = .notdir := by
  rw [kindAt_below s p q hq (by rw [h]; exact fun e => nomatch e), h]
  rfl

theorem fileOf_below (s : FsState) (p q : List Name) (hq : q ≠ []) (h : s.kindAt p ≠ .dir) :
    (s.kindAt (p ++ q)).fileOf = none := by
  rw [kindAt_below s p q hq h]
  split <;> rfl

theorem kindAt_notdir (s : FsState) (path : List Name) (h : s.kindAt path = .notdir) :
    ∃ pp rest b, path = pp ++ rest ∧ rest ≠ [] ∧ s.kindAt pp = .file b := by
  cases s with
  | none => cases h
  | some t =>
    have hs : t.stat path = .notdir := by
      change (t.stat path).kind = .notdir at h
      cases hs : t.stat path <;> rw [hs] at h <;> first | rfl | cases h
    obtain ⟨pp, rest, b, h1, h2, h3⟩ := Tree.stat_notdir t path hs
    exact ⟨pp, rest, b, h1, h2, (stat_eq_file_iff (some t) pp b).1 ((Tree.fileAt_eq_some t pp b).1 h3)⟩

theorem absFs_get_kind (s : FsState) (hi : FsInv s) (k : Key) :
    (absFs s).get k = (s.kindAt (splitPath k)).fileOf := by
  rw [absFs_get s hi, Tree.fileAt_eq_kindAt, kindAt_content s _ (splitPath_ne_nil k)]

theorem kindAt_file_plain (s : FsState) (hi : FsInv s) (p : List Name) (b : Bytes) (h : s.kindAt p = .file b) :
    p ≠ [] ∧ ∀ n ∈ p, plainName n = true := by
  cases s with
  | none => cases h
  | some t =>
    have hf : t.fileAt p = some b := (Tree.fileAt_eq_some t p b).2 ((stat_eq_file_iff (some t) p b).2 h)
    refine ⟨?_, Tree.fileAt_plain t hi p b hf⟩
    rintro rfl
    rw [Tree.fileAt_nil] at hf
    cases hf

theorem mem_absFs_keys (s : FsState) (hi : FsInv s) (k : Key) :
    k ∈ (absFs s).keys ↔ ∃ b, s.kindAt (splitPath k) = .file b := by
  rw [KV.mem_keys_iff_get, absFs_get_kind s hi]
  cases s.kindAt (splitPath k) <;> simp [Kind.fileOf]

theorem file_key (s : FsState) (hi : FsInv s) (pp : List Name) (b : Bytes) (h : s.kindAt pp = .file b) :
    joinPath pp ∈ (absFs s).keys ∧ keyPath (joinPath pp) = some pp := by
  obtain ⟨hne, hpl⟩ := kindAt_file_plain s hi pp b h
  refine ⟨?_, keyPath_joinPath pp hne hpl⟩
  rw [mem_absFs_keys s hi, split_join pp hne (plain_noSlash hpl)]
  exact ⟨b, h⟩

theorem absFs_keys_valid (s : FsState) (hi : FsInv s) (k : Key) (hk : k ∈ (absFs s).keys) : validKeyB k = true := by
  obtain ⟨b, hb⟩ := (mem_absFs_keys s hi k).1 hk
  rw [← join_split k]
  exact validKeyB_joinPath _ (splitPath_ne_nil k) (kindAt_file_plain s hi _ b hb).2

theorem absFs_eq (s : FsState) (hi : FsInv s) (m : KV) (hs : m.sorted)
    (h : ∀ k, m.get k = (s.kindAt (splitPath k)).fileOf) : absFs s = m :=
  KV.ext_sorted _ _ (absFs_sorted s) hs fun k => (absFs_get_kind s hi k).trans (h k).symm

theorem setImpl_inv (s : FsState) (hi : FsInv s) (path : List Name) (hpl : ∀ n ∈ path, plainName n = true)
    (v : Bytes) (off : Nat) (tr : Bool) (s' : FsState) (h : s.setImpl path v off tr = .ok s') : FsInv s' := by
  have hd : ∀ n ∈ path.dropLast, plainName n = true := fun n hn' => hpl n (List.dropLast_subset _ hn')
  unfold FsState.setImpl at h
  simp only at h
  split at h
  · cases h
  · next name hlast =>
    split at h
    · cases h
    · cases h
    · next t hx =>
      -- the parent directories exist or have been created
      have ht : t.Inv := by
        split at hx
        · cases hx; exact hi
        · unfold FsState.createDirAll at hx
          split at hx
          · next t1 hm => cases hx; exact Tree.mkdirAll_inv _ _ _ hi.content hd hm
          · cases hx
      split at h
      · next t' hw => cases h; exact Tree.openWrite_inv t ht _ name (hpl name (List.mem_of_getLast? hlast)) _ t' hw
      · cases h

theorem eraseKey_inv (s : FsState) (hi : FsInv s) (path : List Name) (s' : FsState) (h : s.eraseKey path = .ok s') :
    FsInv s' := by
  unfold FsState.eraseKey at h
  split at h
  · cases h
  · cases h; trivial
  · split at h
    · next t' hr => cases h; exact Tree.atDir_inv _ _ _ t' hi (Tree.unlinkIf_inv false _) (Tree.removeFile_eq .. ▸ hr)
    · cases h; exact hi
    · cases h

theorem erasePrefix_inv (s : FsState) (hi : FsInv s) (path : List Name) (s' : FsState)
    (h : s.erasePrefix path = .ok s') : FsInv s' := by
  unfold FsState.erasePrefix at h
  split at h
  · cases h; trivial
  · cases h; trivial
  · split at h
    · next t' hr => cases h; exact Tree.atDir_inv _ _ _ t' hi (Tree.unlinkIf_inv true _) (Tree.removeDirAll_eq .. ▸ hr)
    · cases h; exact hi
    · split at h
      · cases h
      · cases h; exact hi

theorem setImpl_ok (s : FsState) (hi : FsInv s) (path : List Name) (hp : path ≠ [])
    (hfree : statFree s path = true) (v : Bytes) (off : Nat) (tr : Bool) :
    ∃ s', s.setImpl path v off tr = .ok s' ∧
      SetAt path (specSetPartial (if tr then [] else (s.kindAt path).fileOf.getD []) off v) s s' := by
  obtain ⟨name, hlast, hsplit⟩ := path_snoc path hp
  have hfree' := (statFree_iff s path).1 hfree
  rw [← kindAt_content s path hp, hsplit] at hfree'
  obtain ⟨t1, t', h1, h2, h3, h4⟩ := Tree.set_spec (FsState.content s) path.dropLast name
    (fun old => specSetPartial (if tr then [] else old.getD []) off v) hfree'
  rw [← hsplit] at h3 h4
  rw [Tree.fileAt_eq_kindAt, kindAt_content s path hp] at h3
  refine ⟨some t', ?_, h3, fun p hp1 hp2 => (h4 p hp1 hp2).trans (kindAt_content s p fun e => hp1 (e ▸ List.nil_prefix))⟩
  have hprep : (if s.pathExists path.dropLast then .ok s else s.createDirAll path.dropLast : Except IoErr FsState)
      = .ok (some t1) := by
    by_cases hex : s.pathExists path.dropLast = true
    · rw [if_pos hex]
      unfold FsState.pathExists at hex
      cases s with
      | none => simp [FsState.stat] at hex
      | some t =>
        have hc : FsState.content (some t) = t := rfl
        rw [hc] at h1 hfree'
        simp only [FsState.stat] at hex
        cases hs : t.stat path.dropLast with
        | noent => rw [hs] at hex; cases hex
        | notdir => rw [hs] at hex; cases hex
        | file b =>
          rw [Tree.kindAt, Tree.stat_append, hs] at hfree'
          rcases hfree' with h | ⟨b', h⟩ <;> cases h
        | dir d =>
          rw [Tree.mkdirAll_of_dir t hi _ d hs] at h1
          simp only [Except.ok.injEq] at h1
          rw [h1]
    · rw [if_neg hex]
      unfold FsState.createDirAll
      have : s.getD .nil = FsState.content s := rfl
      rw [this, h1]
  unfold FsState.setImpl
  simp only [hlast, hprep]
  rw [h2]

theorem RemovedAt.none (path : List Name) : RemovedAt path none none := fun _ => (ite_self _).symm

theorem eraseKey_ok (s : FsState) (path : List Name) (hp : path ≠ [])
    (hfree : statFree s path = true) : ∃ s', s.eraseKey path = .ok s' ∧ RemovedAt path s s' := by
  obtain ⟨name, hlast, hsplit⟩ := path_snoc path hp
  cases s with
  | none => exact ⟨none, by simp [FsState.eraseKey, hlast], .none path⟩
  | some t =>
    have hfree' := (statFree_iff (some t) path).1 hfree
    rw [hsplit] at hfree'
    obtain ⟨t', ht', hspec⟩ := Tree.unlink_spec t path.dropLast name false
      (hfree'.imp_right fun h => .inr ⟨rfl, h⟩)
    rw [← hsplit] at hspec
    refine ⟨some t', ?_, hspec⟩
    unfold FsState.eraseKey
    simp only [hlast]
    rw [Tree.removeFile_eq]
    rcases ht' with h | ⟨h, rfl⟩ <;> rw [h]

theorem erasePrefix_ok (s : FsState) (path : List Name) (hfree : dirFree s path = true) :
    ∃ s', s.erasePrefix path = .ok s' ∧ RemovedAt path s s' := by
  cases s with
  | none => exact ⟨none, by simp [FsState.erasePrefix], .none path⟩
  | some t =>
    by_cases hp : path = []
    · subst hp
      exact ⟨none, by simp [FsState.erasePrefix], fun _ => rfl⟩
    · obtain ⟨name, hlast, hsplit⟩ := path_snoc path hp
      have hfree' := (dirFree_iff (some t) path).1 hfree
      rw [hsplit] at hfree'
      obtain ⟨t', ht', hspec⟩ := Tree.unlink_spec t path.dropLast name true
        (hfree'.imp_right fun h => .inl ⟨rfl, h⟩)
      rw [← hsplit] at hspec
      refine ⟨some t', ?_, hspec⟩
      unfold FsState.erasePrefix
      simp only [hlast]
      rw [Tree.removeDirAll_eq]
      rcases ht' with h | ⟨h, rfl⟩ <;> rw [h]

/-- the repaired `erase_prefix`: a prefix that names a file or lies below one is not a directory - nothing is
erased and the outcome is `Ok` -/
theorem erasePrefix_blocked (s : FsState) (path : List Name) (hp : path ≠ [])
    (hnd : s.kindAt path ≠ .dir) : s.erasePrefix path = .ok s := by
  obtain ⟨name, hlast, hsplit⟩ := path_snoc path hp
  cases s with
  | none => rfl
  | some t =>
    -- in this shape `split` uses it to reduce the inner `match` on `t.stat path` to its `| _` alternative
    have hnd' : ∀ c, t.stat path ≠ .dir c := fun c hc => hnd (show (t.stat path).kind = .dir by rw [hc]; rfl)
    unfold FsState.erasePrefix
    simp only [hlast]
    split
    · next t' hr =>
      -- a successful removal means the path was a directory
      exfalso
      rw [Tree.removeDirAll_eq] at hr
      obtain ⟨d, d', h1, h2, _, _⟩ := Tree.atDir_ok t _ _ t' hr
      unfold Tree.unlinkIf at h2
      split at h2
      · cases h2
      · next c hl =>
        refine hnd' c ?_
        rw [hsplit, Tree.stat_append_dir t _ [name] d h1, Tree.stat_cons, hl]
        rfl
      · cases h2
    · rfl
    · rfl

theorem SetAt.fileOf {path : List Name} {v : Bytes} {s s' : FsState} (h : SetAt path v s s')
    (hfree : statFree s path = true) (p : List Name) :
    (s'.kindAt p).fileOf = if p = path then some v else (s.kindAt p).fileOf := by
  by_cases h1 : p = path
  · rw [if_pos h1, h1, h.1]; rfl
  · rw [if_neg h1]
    by_cases h2 : p <+: path
    · -- a file above `path` would leave ENOTDIR at `path`, before and after
      obtain ⟨q, rfl⟩ := h2
      have hq : q ≠ [] := fun e => h1 (by rw [e, List.append_nil])
      have above : ∀ σ : FsState, freeKind (σ.kindAt (p ++ q)) = true → (σ.kindAt p).fileOf = none := fun σ hσ => by
        cases hk : σ.kindAt p with
        | file b => rw [kindAt_below_file σ p q b hq hk] at hσ; cases hσ
        | _ => rfl
      rw [above s' (by rw [h.1]; rfl), above s (by rw [← statFree_kindAt]; exact hfree)]
    · by_cases h3 : path <+: p
      · obtain ⟨q, rfl⟩ := h3
        have hq : q ≠ [] := fun e => h1 (by rw [e, List.append_nil])
        rw [fileOf_below s' path q hq (by rw [h.1]; exact fun e => nomatch e),
          fileOf_below s path q hq (not_dir_of_free hfree)]
      · rw [h.2 p h2 h3]

theorem RemovedAt.fileOf {path : List Name} {s s' : FsState} (h : RemovedAt path s s') (p : List Name) :
    (s'.kindAt p).fileOf = if path <+: p then Option.none else (s.kindAt p).fileOf := by
  rw [h p]
  split <;> rfl

theorem stat_dir_inv (s : FsState) (hi : FsInv s) (path : List Name) (c : Tree) (h : s.stat path = .dir c) : c.Inv := by
  cases s with
  | none => cases h
  | some t => exact Tree.stat_inv t hi path c h

theorem kindAt_in_dir {s : FsState} {path : List Name} {c : Tree} (hs : s.stat path = .dir c) (q : List Name) (v : Bytes) :
    s.kindAt (path ++ q) = .file v ↔ c.fileAt q = some v := by
  cases s with
  | none => cases hs
  | some t =>
    rw [← stat_eq_file_iff, Tree.fileAt_eq_some]
    show t.stat (path ++ q) = .file v ↔ _
    rw [Tree.stat_append_dir t path q c hs]

theorem no_file_below {s : FsState} {path : List Name} (hs : s.kindAt path ≠ .dir) {q : List Name} {v : Bytes}
    (hq : q ≠ []) : s.kindAt (path ++ q) ≠ .file v :=
  fun h => by
    have := fileOf_below s path q hq hs
    rw [h] at this
    cases this

theorem mem_listPrefix (s : FsState) (hi : FsInv s) (p : Key) (path : List Name) (k : Key) (v : Bytes) :
    (k, v) ∈ s.listPrefix p path ↔ ∃ q, q ≠ [] ∧ k = p ++ joinPath q ∧ s.kindAt (path ++ q) = .file v := by
  unfold FsState.listPrefix
  cases hs : s.stat path with
  | dir c =>
    rw [Tree.mem_walk c (stat_dir_inv s hi path c hs) p k v]
    exact exists_congr fun q => and_congr_right fun _ => and_congr_right fun _ => (kindAt_in_dir hs q v).symm
  | _ =>
    exact ⟨fun h => (nomatch h), fun ⟨q, hq, _, h⟩ =>
      (no_file_below (fun e => by rw [FsState.kindAt, hs] at e; cases e) hq h).elim⟩

theorem nodup_listPrefix (s : FsState) (hi : FsInv s) (p : Key) (path : List Name) : (s.listPrefix p path).Nodup := by
  unfold FsState.listPrefix
  cases hs : s.stat path with
  | dir c => exact Tree.walk_nodup c (stat_dir_inv s hi path c hs) p
  | _ => exact List.nodup_nil

theorem list_keys_abs (s : FsState) : FsState.sortKeys ((s.listPrefix [] []).map (·.1)) = (absFs s).keys := by
  unfold absFs
  rw [KV.ofList_keys]
  cases s with
  | none => rfl
  | some t =>
    show FsState.sortKeys ((match t.stat [] with | .dir c => c.walk [] | _ => []).map Prod.fst) = _
    rw [Tree.stat_nil]
    rfl

theorem listDir_eq (s : FsState) (p : Key) (path : List Name) :
    s.listDir p path = match s.stat path with
      | .dir c => (FsState.sortKeys (c.dirEntries p).1, FsState.sortKeys (c.dirEntries p).2)
      | _ => ([], []) := rfl

theorem listDir_sorted (s : FsState) (p : Key) (path : List Name) :
    (s.listDir p path).1.Pairwise (fun a b => keyLt a b = true) ∧
    (s.listDir p path).2.Pairwise (fun a b => keyLt a b = true) := by
  rw [listDir_eq]
  cases s.stat path with
  | dir c => exact ⟨sortKeys_sorted _, sortKeys_sorted _⟩
  | _ => exact ⟨List.Pairwise.nil, List.Pairwise.nil⟩

theorem mem_listDir_keys (s : FsState) (hi : FsInv s) (p : Key) (path : List Name) (k : Key) :
    k ∈ (s.listDir p path).1 ↔ ∃ n b, k = p ++ n ∧ s.kindAt (path ++ [n]) = .file b := by
  rw [listDir_eq]
  cases hs : s.stat path with
  | dir c =>
    show k ∈ FsState.sortKeys (c.dirEntries p).1 ↔ _
    rw [mem_sortKeys, Tree.mem_dirEntries_keys c (stat_dir_inv s hi path c hs)]
    refine exists_congr fun n => exists_congr fun b => and_congr_right fun _ => ?_
    rw [kindAt_in_dir hs [n] b, Tree.fileAt_single]
  | _ =>
    exact ⟨fun h => (nomatch h), fun ⟨n, b, _, h⟩ =>
      (no_file_below (fun e => by rw [FsState.kindAt, hs] at e; cases e) (List.cons_ne_nil _ _) h).elim⟩

theorem mem_listDir_prefixes (s : FsState) (hi : FsInv s) (p : Key) (path : List Name) (q : Key) :
    q ∈ (s.listDir p path).2 ↔
      ∃ n r v, r ≠ [] ∧ q = p ++ n ++ ['/'] ∧ s.kindAt (path ++ n :: r) = .file v := by
  rw [listDir_eq]
  cases hs : s.stat path with
  | dir c =>
    have hci := stat_dir_inv s hi path c hs
    show q ∈ FsState.sortKeys (c.dirEntries p).2 ↔ _
    rw [mem_sortKeys, Tree.mem_dirEntries_prefixes c hci]
    constructor
    · rintro ⟨n, c', hq, hl, hf⟩
      obtain ⟨r, v, hfr⟩ := (Tree.hasFile_iff c' (Tree.inv_lookup1 c hci n _ hl).1).1 hf
      have hr : r ≠ [] := by rintro rfl; rw [Tree.fileAt_nil] at hfr; cases hfr
      refine ⟨n, r, v, hr, hq, (kindAt_in_dir hs _ v).2 ?_⟩
      rw [Tree.fileAt_cons, hl]
      exact hfr
    · rintro ⟨n, r, v, hr, hq, h⟩
      have hf := (kindAt_in_dir hs _ v).1 h
      rw [Tree.fileAt_cons] at hf
      cases hl : c.lookup1 n with
      | none => rw [hl] at hf; cases hf
      | some e =>
        rw [hl] at hf
        cases e with
        | file b' => simp only [hr, if_false] at hf; cases hf
        | dir c' => exact ⟨n, c', hq, hl, (Tree.hasFile_iff c' (Tree.inv_lookup1 c hci n _ hl).1).2 ⟨r, v, hf⟩⟩
  | _ =>
    exact ⟨fun h => (nomatch h), fun ⟨n, r, v, _, _, h⟩ =>
      (no_file_below (fun e => by rw [FsState.kindAt, hs] at e; cases e) (List.cons_ne_nil _ _) h).elim⟩

end Zarrs.Fs
