import ZarrsModel.Lemmas.ArrayList
import ZarrsModel.Lemmas.Box
set_option linter.unusedSectionVars false
/- Reads of boxes of an abstract array, in coordinates relative to an enclosing box (as the operations take them) and
absolute.  Extracting a region from the read of a box is reading the region (`extract_read`, `read_subBox`).  Data laid out
over a box is the read of that box from the array the data is written to (`read_write`), so pasting data into the read of an
enclosing box is reading after writing (`updateRuns_read`, `paste_read`): a multi-chunk operation works towards a target
array `t`, laid over the array tile by tile (`a.overlay P t`: `t` on `P`, `a` elsewhere).  Folds that may fail
(`foldOpt_*`). -/
namespace Zarrs
open Subset

namespace AArr
variable {α : Type}

theorem read_congr (a b : AArr α) (s : Subset) (hs : s.wf = true)
    (h : ∀ i, s.contains i = true → a i = b i) : a.read s = b.read s := by
  simp only [read]
  apply List.map_congr_left
  intro i hi
  exact h i ((s.mem_indices hs i).mp hi)

theorem read_of_getElem (a : AArr α) (s : Subset) (data : List α) (hs : s.wf = true)
    (hl : data.length = s.numElements)
    (h : ∀ i, s.contains i = true → data[ravel (zipSub i s.start) s.shape]? = some (a i)) :
    a.read s = data := by
  rw [Subset.wf_iff] at hs
  apply list_ext_box s.shape _ _ (a.read_length s) hl
  intro j hj
  rw [a.read_getElem?_box s j hj]
  have := h (addIdx j s.start) (mem_addIdx j s.start s.shape hs hj)
  rw [zipSub_addIdx_cancel j s.start (by rw [inB_length hj, hs]; exact Nat.le_refl _)] at this
  exact this.symm

theorem extract_read (a : AArr α) (s r : Subset) (hr : r.wf = true) (hrb : r.inboundsShape s.shape = true) :
    r.extract s.shape (a.read s) = a.read ⟨addIdx r.start s.start, r.shape⟩ := by
  obtain ⟨hel, hep⟩ := extract_spec r s.shape (a.read s) hr hrb (a.read_length s)
  apply list_ext_box r.shape _ _ hel (a.read_length ⟨addIdx r.start s.start, r.shape⟩)
  intro j hj
  rw [Subset.wf_iff] at hr
  rw [Subset.inboundsShape_iff_allLe] at hrb
  rw [hep j hj, a.read_getElem?_box ⟨addIdx r.start s.start, r.shape⟩ j hj, a.read_getElem?_box s _
    (inB_of_allLe_end _ r.start r.shape s.shape hrb.1 hrb.2 (mem_addIdx j r.start r.shape hr hj)), addIdx_assoc]

def overlay (a : AArr α) (P : Idx → Bool) (v : Idx → α) : AArr α := fun i => if P i = true then v i else a i

theorem fillRegion_eq_overlay (a : AArr α) (r : Subset) (d : α) :
    a.fillRegion r d = a.overlay r.contains (fun _ => d) := rfl

theorem overlay_overlay (a : AArr α) (P Q : Idx → Bool) (v : Idx → α) :
    (a.overlay P v).overlay Q v = a.overlay (fun i => P i || Q i) v := by
  funext i
  simp only [overlay]
  by_cases hP : P i = true <;> by_cases hQ : Q i = true <;> simp [hP, hQ]

theorem overlay_of_not (a : AArr α) {P : Idx → Bool} (v : Idx → α) (h : ∀ i, P i = false) : a.overlay P v = a := by
  funext i
  simp only [overlay, h i, Bool.false_eq_true, if_false]

theorem overlay_congr (a : AArr α) {P Q : Idx → Bool} (v : Idx → α) (hP : ∀ i, P i = Q i) :
    a.overlay P v = a.overlay Q v := by
  rw [funext hP]

theorem read_write (a : AArr α) (r : Subset) (data : List α) (d : α) (hr : r.wf = true)
    (hl : data.length = r.numElements) : (a.write r data d).read r = data := by
  refine read_of_getElem _ r data hr hl fun i hi => ?_
  have hlt : ravel (zipSub i r.start) r.shape < data.length := by
    rw [hl]; exact ravel_lt _ _ (mem_zipSub i r.start r.shape hi).1
  simp [write, hi, List.getD, List.getElem?_eq_getElem hlt]

theorem overlay_write (a : AArr α) {P : Idx → Bool} (r : Subset) (data : List α) (d : α)
    (h : ∀ i, r.contains i = true → P i = true) : a.overlay P (a.write r data d) = a.write r data d := by
  funext i
  simp only [overlay, write]
  split
  · rfl
  · rw [if_neg fun hi => ‹¬ P i = true› (h i hi)]

theorem write_read (a t : AArr α) (q : Subset) (d : α) : a.write q (t.read q) d = a.overlay q.contains t := by
  funext i
  simp only [write, overlay]
  split
  · rename_i hi
    simp [List.getD, t.read_getElem?_ravel q i hi]
  · rfl

theorem updateRuns_read (a : AArr α) (s r : Subset) (hs : s.wf = true) (hr : r.wf = true)
    (hrb : r.inboundsShape s.shape = true) (data : List α) (hlen : data.length = r.numElements) (d : α) :
    updateRuns s.shape r (a.read s) data = (a.write ⟨addIdx r.start s.start, r.shape⟩ data d).read s := by
  obtain ⟨hul, hup⟩ := updateRuns_spec s.shape r (a.read s) data hr hrb (a.read_length s) hlen
  refine (read_of_getElem _ s _ hs hul fun i hi => ?_).symm
  rw [hup _ (mem_zipSub i s.start s.shape hi).1]
  simp only [write, s.contains_abs r hs hrb hi]
  split
  · rename_i hrc
    have hlt : ravel (zipSub (zipSub i s.start) r.start) r.shape < data.length := by
      rw [hlen]; exact ravel_lt _ _ (mem_zipSub _ r.start r.shape hrc).1
    simp [zipSub_addIdx_right, List.getD, List.getElem?_eq_getElem hlt]
  · exact a.read_getElem?_ravel s i hi

theorem read_subBox (a : AArr α) {q b : Subset} (h : q.SubBox b) :
    a.read q = (q.relativeTo b.start).extract b.shape (a.read b) := by
  rw [a.extract_read b (q.relativeTo b.start) h.rel_wf h.rel_inbounds, h.rel_abs]

theorem paste_read (o a : AArr α) {R q : Subset} (h : q.SubBox R) :
    updateRuns R.shape (q.relativeTo R.start) (o.read R) (a.read q) = (o.overlay q.contains a).read R := by
  rw [o.updateRuns_read R _ h.outer_wf h.rel_wf h.rel_inbounds _ (a.read_length q) (a []), h.rel_abs, write_read]

end AArr

theorem Subset.SubBox.extract_spec {α} {q b : Subset} (h : q.SubBox b) (data : List α)
    (hlen : data.length = b.numElements) :
    ((q.relativeTo b.start).extract b.shape data).length = q.numElements ∧
    ∀ i, q.contains i = true →
      ((q.relativeTo b.start).extract b.shape data)[ravel (zipSub i q.start) q.shape]? =
        data[ravel (zipSub i b.start) b.shape]? := by
  obtain ⟨h1, h2⟩ := Zarrs.extract_spec (q.relativeTo b.start) b.shape data h.rel_wf h.rel_inbounds hlen
  refine ⟨h1, fun i hi => (h2 (zipSub i q.start) (mem_zipSub i q.start q.shape hi).1).trans ?_⟩
  show data[ravel (addIdx (zipSub i q.start) (zipSub q.start b.start)) b.shape]? = _
  rw [zipSub_chain i q.start b.start h.start_le (allLe_of_mem i q.start q.shape hi) (mem_length hi).1 h.rank]

namespace ArrCfg
variable {α : Type} [DecidableEq α]

theorem foldOpt_some_foldl {σ β} (f : σ → β → σ) (s : σ) (l : List β) :
    foldOpt (fun s b => some (f s b)) s l = some (l.foldl f s) := by
  induction l generalizing s with
  | nil => rfl
  | cons b bs ih => simp only [foldOpt, List.foldl_cons, ih]

theorem foldOpt_append {σ β} (f : σ → β → Option σ) (s : σ) (l1 l2 : List β) :
    foldOpt f s (l1 ++ l2) = match foldOpt f s l1 with
      | some s' => foldOpt f s' l2
      | none => none := by
  induction l1 generalizing s with
  | nil => rfl
  | cons b bs ih =>
    simp only [List.cons_append, foldOpt]
    cases f s b with
    | none => rfl
    | some s' => exact ih s'

theorem foldOpt_congr {σ β} (f g : σ → β → Option σ) (l : List β) (h : ∀ s, ∀ b ∈ l, f s b = g s b) (s : σ) :
    foldOpt f s l = foldOpt g s l := by
  induction l generalizing s with
  | nil => rfl
  | cons b bs ih =>
    simp only [foldOpt]
    rw [h s b List.mem_cons_self]
    cases g s b with
    | none => rfl
    | some s' => exact ih (fun s b hb => h s b (List.mem_cons_of_mem _ hb)) s'

theorem foldOpt_invariant {σ β} (f : σ → β → Option σ) (I : σ → Prop) (l : List β)
    (h : ∀ s s', ∀ b ∈ l, I s → f s b = some s' → I s') (s s' : σ) (hs : I s) (hf : foldOpt f s l = some s') :
    I s' := by
  induction l generalizing s with
  | nil => cases hf; exact hs
  | cons b bs ih =>
    rw [foldOpt] at hf
    split at hf
    next s1 hb =>
      exact ih (fun s s' b hb => h s s' b (List.mem_cons_of_mem _ hb)) s1 (h s s1 b List.mem_cons_self hs hb) hf
    next => cases hf

/-- a fold whose step on `b` sets entry `key b`, given that entry alone, to `val b`: with distinct keys every step meets the
ORIGINAL entry at its key -/
theorem foldOpt_setKeys {α β} (key : β → Nat) (val : β → α) (f : List (Option α) → β → Option (List (Option α))) :
    ∀ (L : List β) (st : List (Option α)), (L.map key).Nodup → (∀ b ∈ L, key b < st.length) →
      (∀ st' b, b ∈ L → st'.length = st.length → st'.getD (key b) none = st.getD (key b) none →
        f st' b = some (st'.set (key b) (some (val b)))) →
      ∃ st', foldOpt f st L = some st' ∧ st'.length = st.length ∧
        (∀ b ∈ L, st'.getD (key b) none = some (val b)) ∧
        (∀ i, i ∉ L.map key → st'.getD i none = st.getD i none) := by
  intro L
  induction L with
  | nil => intro st _ _ _; exact ⟨st, rfl, rfl, fun _ h => by simp at h, fun _ _ => rfl⟩
  | cons b bs ih =>
    intro st hnd hlt hf
    simp only [List.map_cons, List.nodup_cons] at hnd
    have hfb := hf st b (by simp) rfl rfl
    have hother : ∀ b' ∈ bs, (st.set (key b) (some (val b))).getD (key b') none = st.getD (key b') none := by
      intro b' hb'
      have hne : key b ≠ key b' := fun he => hnd.1 (by rw [he]; exact List.mem_map.mpr ⟨b', hb', rfl⟩)
      simp only [List.getD_eq_getElem?_getD, List.getElem?_set_ne hne]
    obtain ⟨st', h1, h2, h3, h4⟩ := ih (st.set (key b) (some (val b))) hnd.2
      (fun b' hb' => by rw [List.length_set]; exact hlt b' (by simp [hb']))
      (fun st' b' hb' hl hg => hf st' b' (by simp [hb']) (by rw [hl, List.length_set]) (by rw [hg, hother b' hb']))
    refine ⟨st', by simp only [foldOpt, hfb, h1], by rw [h2, List.length_set], ?_, ?_⟩
    · intro b' hb'
      rcases List.mem_cons.mp hb' with rfl | hb''
      · rw [h4 _ hnd.1]
        simp only [List.getD_eq_getElem?_getD, List.getElem?_set_self (hlt b' (by simp)), Option.getD_some]
      · exact h3 b' hb''
    · intro i hi
      simp only [List.map_cons, List.mem_cons, not_or] at hi
      rw [h4 i hi.2]
      simp only [List.getD_eq_getElem?_getD, List.getElem?_set_ne (Ne.symm hi.1)]

end ArrCfg
end Zarrs
