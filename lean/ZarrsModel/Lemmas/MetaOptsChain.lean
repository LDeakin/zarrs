import ZarrsModel.Model.MetaOpts
import ZarrsModel.Lemmas.MetaOptsAlias
/- helper lemmas for `Props/C13Opts.lean`: what is assumed of the codec plugins (`PlugOk`); the codec chain (`chainOf`)
   as a stable partition of the created codecs by kind; renaming by a function that keeps identifiers (`chainOf_rn`),
   of which the option `convert_aliased_extension_names` is an instance (`Opts.conv`); the chain of the metadata a
   chain writes (`chainOf_metadatas`) -/
namespace Zarrs.MetaOpts
open Zarrs.Json Zarrs.Meta Zarrs.MetaV2

/-- what the theorems assume of the codec plugins (facts about the codecs, outside this model): a codec created from
    the configuration it writes is the same codec; an array-to-bytes codec always writes its metadata (the only
    encode-only codec, `bitround`, is an array-to-array codec); a well-formed configuration is answered by a
    well-formed one -/
structure PlugOk (plug : Plug) : Prop where
  recreate : ∀ i c x, plug i c = some x → plug i (some x.config) = some x
  a2bWritten : ∀ i c x, plug i c = some x → x.kind = .a2b → x.encodeOnly = false
  wf : ∀ i c x, plug i c = some x → (∀ ob, c = some ob → wfKVs ob ∧ keysDistinct ob) → wfKVs x.config ∧ keysDistinct x.config

def created (plug : Plug) (m : MetaV3) : Option Named :=
  (plug (codecV3.identifier m.name) m.config).map (fun c => ⟨m.name, c⟩)

def createdOf (plug : Plug) (ms : List MetaV3) : List Named := ms.filterMap (created plug)

def ofKind (k : Kind) (ns : List Named) : List Named := ns.filter (fun n => n.codec.kind == k)

/-- every entry that is not created need not be understood -/
def skipOk (plug : Plug) (ms : List MetaV3) : Bool := ms.all (fun m => (created plug m).isSome || !m.mu)

theorem createdOf_cons_none (plug : Plug) (m : MetaV3) (ms : List MetaV3) (h : created plug m = none) :
    createdOf plug (m :: ms) = createdOf plug ms := by
  simp [createdOf, h]

theorem createdOf_cons_some (plug : Plug) (m : MetaV3) (ms : List MetaV3) (n : Named) (h : created plug m = some n) :
    createdOf plug (m :: ms) = n :: createdOf plug ms := by
  simp [createdOf, h]

theorem ofKind_cons (k : Kind) (n : Named) (ns : List Named) :
    ofKind k (n :: ns) = if n.codec.kind = k then n :: ofKind k ns else ofKind k ns := by
  unfold ofKind
  rw [List.filter_cons]
  by_cases h : n.codec.kind = k <;> simp [h]

theorem chainFold_eq (plug : Plug) (ms : List MetaV3) : ∀ acc : Acc, chainFold plug acc ms =
    if skipOk plug ms = true ∧ (acc.a2b.toList ++ ofKind .a2b (createdOf plug ms)).length ≤ 1 then
      some ⟨acc.a2a ++ ofKind .a2a (createdOf plug ms), (acc.a2b.toList ++ ofKind .a2b (createdOf plug ms)).head?,
            acc.b2b ++ ofKind .b2b (createdOf plug ms)⟩
    else none := by
  induction ms with
  | nil =>
    intro acc
    obtain ⟨a, b, c⟩ := acc
    cases b <;> simp [chainFold, skipOk, createdOf, ofKind]
  | cons m ms ih =>
    intro acc
    obtain ⟨a, b, c⟩ := acc
    unfold chainFold chainStep
    cases hp : plug (codecV3.identifier m.name) m.config with
    | none =>
      have hc : created plug m = none := by simp [created, hp]
      have hs : skipOk plug (m :: ms) = (!m.mu && skipOk plug ms) := by simp [skipOk, hc]
      rw [createdOf_cons_none plug m ms hc, hs]
      cases hmu : m.mu with
      | true => simp
      | false => simp only [Bool.false_eq_true, if_false, ih]; simp
    | some x =>
      have hc : created plug m = some ⟨m.name, x⟩ := by simp [created, hp]
      have hs : skipOk plug (m :: ms) = skipOk plug ms := by simp [skipOk, hc]
      rw [createdOf_cons_some plug m ms _ hc, hs]
      simp only [ofKind_cons]
      cases hk : x.kind with
      | a2a =>
        simp only [ih, reduceCtorEq, if_false, if_true, List.append_assoc, List.singleton_append]
      | b2b =>
        simp only [ih, reduceCtorEq, if_false, if_true, List.append_assoc, List.singleton_append]
      | a2b =>
        simp only [if_true]
        cases b with
        | some b0 =>
          have hn : ¬ (skipOk plug ms = true ∧
              ((some b0).toList ++ ({ name := m.name, codec := x } : Named) :: ofKind Kind.a2b (createdOf plug ms)).length ≤ 1) := by
            rintro ⟨_, h⟩
            simp at h
          simp only [Option.isSome_some, if_true]
          rw [if_neg hn]
        | none =>
          simp only [Option.isSome_none, Bool.false_eq_true, if_false, ih, Option.toList_some, Option.toList_none,
            List.nil_append, List.singleton_append, reduceCtorEq]
          rfl

theorem chainOf_eq (plug : Plug) (ms : List MetaV3) : chainOf plug ms =
    if skipOk plug ms = true then
      match ofKind .a2b (createdOf plug ms) with
      | [b] => some ⟨ofKind .a2a (createdOf plug ms), b, ofKind .b2b (createdOf plug ms)⟩
      | _ => none
    else none := by
  unfold chainOf
  rw [chainFold_eq]
  simp only [Option.toList_none, List.nil_append]
  by_cases hs : skipOk plug ms = true
  · simp only [hs, true_and, if_true]
    cases hb : ofKind .a2b (createdOf plug ms) with
    | nil => simp
    | cons b rest =>
      cases rest with
      | nil => simp
      | cons b' rest' => simp
  · simp [hs]

structure Chain.IsOf (plug : Plug) (ms : List MetaV3) (ch : Chain) : Prop where
  skip : skipOk plug ms = true
  a2b : ofKind .a2b (createdOf plug ms) = [ch.a2b]
  a2a : ch.a2a = ofKind .a2a (createdOf plug ms)
  b2b : ch.b2b = ofKind .b2b (createdOf plug ms)

theorem chainOf_inv (plug : Plug) (ms : List MetaV3) (ch : Chain) (h : chainOf plug ms = some ch) : ch.IsOf plug ms := by
  rw [chainOf_eq] at h
  by_cases hs : skipOk plug ms = true
  · simp only [hs, if_true] at h
    split at h
    · rename_i b hb
      cases h
      exact ⟨hs, hb, rfl, rfl⟩
    · cases h
  · simp [hs] at h

theorem chainOf_intro (plug : Plug) (ms : List MetaV3) (b : Named) (hs : skipOk plug ms = true)
    (hb : ofKind .a2b (createdOf plug ms) = [b]) :
    chainOf plug ms = some ⟨ofKind .a2a (createdOf plug ms), b, ofKind .b2b (createdOf plug ms)⟩ := by
  rw [chainOf_eq, if_pos hs, hb]

theorem chainOf_of_created (plug : Plug) (ms : List MetaV3) (ns : List Named) (h : ms.map (created plug) = ns.map some)
    (b : Named) (hb : ofKind .a2b ns = [b]) : chainOf plug ms = some ⟨ofKind .a2a ns, b, ofKind .b2b ns⟩ := by
  have hc : createdOf plug ms = ns := by
    have : (ms.map (created plug)).filterMap id = createdOf plug ms := by rw [List.filterMap_map]; rfl
    rw [← this, h, List.filterMap_map]
    exact List.filterMap_some
  have hs : skipOk plug ms = true := by
    unfold skipOk
    rw [List.all_eq_true]
    intro m hm
    have : created plug m ∈ ns.map some := h ▸ List.mem_map_of_mem hm
    obtain ⟨n, _, hn⟩ := List.mem_map.1 this
    simp [← hn]
  rw [← hc] at hb ⊢
  exact chainOf_intro plug ms b hs hb

structure Chain.wellKinded (ch : Chain) : Prop where
  a2a : ∀ n ∈ ch.a2a, n.codec.kind = .a2a
  a2b : ch.a2b.codec.kind = .a2b
  b2b : ∀ n ∈ ch.b2b, n.codec.kind = .b2b

def Chain.fromPlug (plug : Plug) (ch : Chain) : Prop :=
  ∀ n ∈ ch.all, ∃ cfg, plug (codecV3.identifier n.name) cfg = some n.codec

theorem mem_createdOf (plug : Plug) (ms : List MetaV3) (n : Named) (h : n ∈ createdOf plug ms) :
    ∃ m ∈ ms, n.name = m.name ∧ plug (codecV3.identifier m.name) m.config = some n.codec := by
  unfold createdOf at h
  rw [List.mem_filterMap] at h
  obtain ⟨m, hm, hc⟩ := h
  unfold created at hc
  cases hp : plug (codecV3.identifier m.name) m.config with
  | none => rw [hp] at hc; cases hc
  | some x =>
    rw [hp] at hc
    simp only [Option.map_some, Option.some.injEq] at hc
    subst hc
    exact ⟨m, hm, rfl, hp⟩

theorem mem_ofKind (k : Kind) (ns : List Named) (n : Named) : n ∈ ofKind k ns ↔ n ∈ ns ∧ n.codec.kind = k := by
  simp [ofKind, List.mem_filter]

theorem Chain.IsOf.a2b_mem {plug : Plug} {ms : List MetaV3} {ch : Chain} (h : ch.IsOf plug ms) :
    ch.a2b ∈ ofKind .a2b (createdOf plug ms) := h.a2b ▸ List.mem_singleton_self _

theorem chainOf_wellKinded (plug : Plug) (ms : List MetaV3) (ch : Chain) (h : chainOf plug ms = some ch) : ch.wellKinded := by
  have hi := chainOf_inv plug ms ch h
  refine ⟨?_, ((mem_ofKind _ _ _).1 hi.a2b_mem).2, ?_⟩
  · intro n hn; rw [hi.a2a] at hn; exact ((mem_ofKind _ _ _).1 hn).2
  · intro n hn; rw [hi.b2b] at hn; exact ((mem_ofKind _ _ _).1 hn).2

theorem chainOf_mem (plug : Plug) (ms : List MetaV3) (ch : Chain) (h : chainOf plug ms = some ch) :
    ∀ n ∈ ch.all, ∃ m ∈ ms, n.name = m.name ∧ plug (codecV3.identifier m.name) m.config = some n.codec := by
  have hi := chainOf_inv plug ms ch h
  intro n hn
  apply mem_createdOf plug ms n
  simp only [Chain.all, List.mem_append, List.mem_cons, List.not_mem_nil, or_false] at hn
  rcases hn with (hn | hn) | hn
  · rw [hi.a2a] at hn; exact ((mem_ofKind _ _ _).1 hn).1
  · rw [hn]; exact ((mem_ofKind _ _ _).1 hi.a2b_mem).1
  · rw [hi.b2b] at hn; exact ((mem_ofKind _ _ _).1 hn).1

theorem chainOf_fromPlug (plug : Plug) (ms : List MetaV3) (ch : Chain) (h : chainOf plug ms = some ch) : ch.fromPlug plug := by
  intro n hn
  obtain ⟨m, _, hname, hp⟩ := chainOf_mem plug ms ch h n hn
  exact ⟨m.config, hname ▸ hp⟩

theorem ofKind_filter (k : Kind) (p : Named → Bool) (ns : List Named) : ofKind k (ns.filter p) = (ofKind k ns).filter p := by
  unfold ofKind
  rw [List.filter_filter, List.filter_filter]
  congr 1
  funext n
  exact Bool.and_comm _ _

theorem ofKind_map (k : Kind) (f : Named → Named) (hf : ∀ n, (f n).codec = n.codec) (ns : List Named) :
    ofKind k (ns.map f) = (ofKind k ns).map f := by
  unfold ofKind
  rw [List.filter_map]
  congr 1
  apply List.filter_congr
  intro n _
  simp [Function.comp, hf]

theorem ofKind_append (k : Kind) (a b : List Named) : ofKind k (a ++ b) = ofKind k a ++ ofKind k b := by
  simp [ofKind]

theorem ofKind_uniform (k k' : Kind) (ns : List Named) (h : ∀ n ∈ ns, n.codec.kind = k') :
    ofKind k ns = if k' = k then ns else [] := by
  unfold ofKind
  split
  · rename_i e
    exact List.filter_eq_self.2 fun n hn => by simp [h n hn, e]
  · rename_i e
    exact List.filter_eq_nil_iff.2 fun n hn => by simp [h n hn, e]

theorem Chain.ofKind_all (ch : Chain) (h : ch.wellKinded) :
    ofKind .a2a ch.all = ch.a2a ∧ ofKind .a2b ch.all = [ch.a2b] ∧ ofKind .b2b ch.all = ch.b2b := by
  simp [Chain.all, ofKind_append, ofKind_cons, h.a2b, ofKind_uniform _ _ _ h.a2a, ofKind_uniform _ _ _ h.b2b]

theorem createdOf_toMeta (plug : Plug) (ns : List Named)
    (h : ∀ n ∈ ns, plug (codecV3.identifier n.name) (some n.codec.config) = some n.codec) :
    createdOf plug (ns.map Named.toMeta) = ns ∧ skipOk plug (ns.map Named.toMeta) = true := by
  induction ns with
  | nil => exact ⟨rfl, rfl⟩
  | cons n ns ih =>
    have hn := h n (List.mem_cons_self ..)
    have hc : created plug n.toMeta = some n := by
      simp only [created, Named.toMeta, hn, Option.map_some]
    obtain ⟨i1, i2⟩ := ih (fun x hx => h x (List.mem_cons_of_mem _ hx))
    refine ⟨?_, ?_⟩
    · rw [List.map_cons, createdOf_cons_some plug _ _ n hc, i1]
    · simp only [skipOk, List.map_cons, List.all_cons, hc, Option.isSome_some, Bool.true_or, Bool.true_and]
      exact i2

def rnV3 (f : Str → Str) (m : MetaV3) : MetaV3 := { m with name := f m.name }

def Named.rn (f : Str → Str) (n : Named) : Named := { n with name := f n.name }

def Chain.rn (f : Str → Str) (ch : Chain) : Chain := ⟨ch.a2a.map (Named.rn f), ch.a2b.rn f, ch.b2b.map (Named.rn f)⟩

/-- the plugins are found by identifier, and the chain is made of what they create -/
theorem chainOf_rn (plug : Plug) (f : Str → Str) (hf : ∀ n, codecV3.identifier (f n) = codecV3.identifier n)
    (ms : List MetaV3) : chainOf plug (ms.map (rnV3 f)) = (chainOf plug ms).map (Chain.rn f) := by
  have hm : ∀ m : MetaV3, created plug (rnV3 f m) = (created plug m).map (Named.rn f) := fun m => by
    simp only [created, rnV3, hf, Option.map_map]
    rfl
  have hc : createdOf plug (ms.map (rnV3 f)) = (createdOf plug ms).map (Named.rn f) := by
    unfold createdOf
    rw [List.filterMap_map, List.map_filterMap]
    exact congrArg (List.filterMap · ms) (funext hm)
  have hs : skipOk plug (ms.map (rnV3 f)) = skipOk plug ms := by
    unfold skipOk
    rw [List.all_map]
    exact congrArg (List.all ms) (funext fun m => by simp only [Function.comp, hm, Option.isSome_map]; rfl)
  have e := fun k => ofKind_map k (Named.rn f) (fun _ => rfl) (createdOf plug ms)
  rw [chainOf_eq, chainOf_eq, hs, hc, e, e, e]
  split
  · rcases ofKind .a2b (createdOf plug ms) with _ | ⟨b, _ | _⟩ <;> rfl
  · rfl

def Chain.converted (ch : Chain) : Chain :=
  ⟨ch.a2a.map (fun n => { n with name := codecV3.convert n.name }), { ch.a2b with name := codecV3.convert ch.a2b.name },
   ch.b2b.map (fun n => { n with name := codecV3.convert n.name })⟩

theorem Chain.rn_all (f : Str → Str) (ch : Chain) : (ch.rn f).all = ch.all.map (Named.rn f) := by
  simp [Chain.rn, Chain.all]

theorem Chain.metadatas_rn (o : Opts) (f : Str → Str) (ch : Chain) : (ch.rn f).metadatas o = (ch.metadatas o).map (rnV3 f) := by
  unfold Chain.metadatas
  rw [Chain.rn_all, List.filter_map, List.map_map, List.map_map]
  rfl

/-! ### the option `convert_aliased_extension_names` as a renaming function

What the theorems use of it are its laws (`conv_ident`, `conv_idem`, `conv_strOk` in `MetaOptsDoc`), each by
`conv_ind` from the law of `Aliases.convert`; the `if` of the model is met once per shape in which it occurs. -/

def Opts.conv (o : Opts) (a : Aliases) (n : Str) : Str := if o.convertAliased then a.convert n else n

theorem Opts.conv_ind {P : (Str → Str) → Prop} (o : Opts) (a : Aliases) (h1 : P a.convert) (h0 : P fun n => n) : P (o.conv a) := by
  unfold Opts.conv
  cases o.convertAliased
  · exact h0
  · exact h1

theorem Opts.conv_ident (o : Opts) (a : Aliases) (h : a.Ok) (n : Str) : a.identifier (o.conv a n) = a.identifier n :=
  o.conv_ind a (P := fun f => a.identifier (f n) = a.identifier n) (a.identifier_convert h n) rfl

theorem Opts.conv_idem (o : Opts) (a : Aliases) (h : a.Ok) (n : Str) : o.conv a (o.conv a n) = o.conv a n :=
  o.conv_ind a (P := fun f => f (f n) = f n) (a.convert_idem h n) rfl

theorem Chain.converted_eq (o : Opts) (ch : Chain) : (if o.convertAliased then ch.converted else ch) = ch.rn (o.conv codecV3) := by
  unfold Opts.conv
  cases o.convertAliased
  · show ch = ⟨ch.a2a.map fun n => n, ch.a2b, ch.b2b.map fun n => n⟩
    simp only [List.map_id']
  · rfl

def Named.rename (o : Opts) (n : Named) : Named := if o.convertAliased then { n with name := codecV3.convert n.name } else n

theorem Named.rename_eq (o : Opts) : Named.rename o = Named.rn (o.conv codecV3) := by
  funext n
  unfold Named.rename Named.rn Opts.conv
  cases o.convertAliased <;> rfl

def Chain.written (o : Opts) (ch : Chain) : Chain := ⟨ch.a2a.filter (Named.written o), ch.a2b, ch.b2b.filter (Named.written o)⟩

theorem Chain.written_all (o : Opts) (ch : Chain) (hb : ch.a2b.written o = true) :
    (ch.written o).all = ch.all.filter (Named.written o) := by
  simp [Chain.written, Chain.all, List.filter_append, hb]

/-- the chain of the array that the stored metadata denotes: the written codecs under the names they were written with -/
def Chain.stored (o : Opts) (ch : Chain) : Chain :=
  ⟨(ch.a2a.filter (Named.written o)).map (Named.rename o), ch.a2b.rename o, (ch.b2b.filter (Named.written o)).map (Named.rename o)⟩

theorem Chain.stored_eq (o : Opts) (ch : Chain) : ch.stored o = (ch.written o).rn (o.conv codecV3) := by
  unfold Chain.stored
  rw [Named.rename_eq]
  rfl

theorem Chain.stored_all (o : Opts) (ch : Chain) (hb : ch.a2b.written o = true) :
    (ch.stored o).all = (ch.all.filter (Named.written o)).map (Named.rename o) := by
  rw [Chain.stored_eq, Chain.rn_all, Chain.written_all o ch hb, Named.rename_eq]

theorem Chain.stored_wellKinded (o : Opts) (ch : Chain) (hk : ch.wellKinded) : (ch.stored o).wellKinded := by
  rw [Chain.stored_eq]
  refine ⟨?_, hk.a2b, ?_⟩
  · intro n hn
    obtain ⟨n0, hn0, rfl⟩ := List.mem_map.1 hn
    exact hk.a2a n0 (List.mem_filter.1 hn0).1
  · intro n hn
    obtain ⟨n0, hn0, rfl⟩ := List.mem_map.1 hn
    exact hk.b2b n0 (List.mem_filter.1 hn0).1

theorem chainOf_metadatas (plug : Plug) (o : Opts) (ch : Chain) (hk : ch.wellKinded) (hf : ch.fromPlug plug)
    (hp : PlugOk plug) (hb : ch.a2b.written o = true) :
    chainOf plug (ch.metadatas o) = some (ch.written o) := by
  have hall : ∀ n ∈ ch.all.filter (Named.written o), plug (codecV3.identifier n.name) (some n.codec.config) = some n.codec :=
    fun n hn => let ⟨_, hc⟩ := hf n (List.mem_filter.1 hn).1; hp.recreate _ _ _ hc
  obtain ⟨h1, h2⟩ := createdOf_toMeta plug _ hall
  obtain ⟨ka, kb, kc⟩ := ch.ofKind_all hk
  have hb' : ofKind .a2b (createdOf plug (ch.metadatas o)) = [ch.a2b] := by
    unfold Chain.metadatas
    rw [h1, ofKind_filter, kb]
    simp [hb]
  unfold Chain.metadatas at hb' ⊢
  rw [chainOf_intro plug _ _ h2 hb', h1, ofKind_filter, ofKind_filter, ka, kc]
  rfl

/-- the codec list `metadata_opt` produces for a V3 array -/
def outCodecs (o : Opts) (ch : Chain) : List MetaV3 := (ch.metadatas o).map (rnV3 (o.conv codecV3))

theorem outCodecs_eq (o : Opts) (ch : Chain) :
    outCodecs o ch = ((ch.all.filter (Named.written o)).map (Named.rename o)).map Named.toMeta := by
  rw [Named.rename_eq]
  simp only [outCodecs, Chain.metadatas, List.map_map]
  rfl

theorem outCodecs_names (o : Opts) (ch : Chain) : (outCodecs o ch).map (·.name) =
    (ch.all.filter (Named.written o)).map (fun n => if o.convertAliased then codecV3.convert n.name else n.name) := by
  simp only [outCodecs, Chain.metadatas, List.map_map]
  rfl

theorem outCodecs_stored (o : Opts) (ch : Chain) (hb : ch.a2b.written o = true) :
    outCodecs o (ch.stored o) = outCodecs o ch := by
  have hw : (ch.written o).metadatas o = ch.metadatas o := by
    unfold Chain.metadatas
    rw [Chain.written_all o ch hb, List.filter_filter]
    simp only [Bool.and_self]
  unfold outCodecs
  rw [Chain.stored_eq, Chain.metadatas_rn, hw, List.map_map]
  exact List.map_congr_left fun m _ => congrArg (fun n => ({ m with name := n } : MetaV3)) (o.conv_idem codecV3 codecV3_ok m.name)

end Zarrs.MetaOpts
